import Lox.Dec.OpPrec
/-! The operator-precedence machine computes the precedence-climbing tree: `run_eq_unwind`, for
`Lox.Props.C05.op_machine_climb`.

Idea: the machine's stack is the recursion stack of `climbLoop`. A frame `(l, o)` stands for an
activation that has consumed `l o` and waits for the right operand of `o`, which is being parsed
with minimal precedence `nextMin o`. `unwind st r` says what the pending activations do once the
innermost one returns `r`. The stack invariant `Inv` is "each operator was accepted by the loop
below it", i.e. precedences strictly increase towards the top, or stay equal only across
right-associative operators.
-/
namespace Lox.Dec.OpPrec

variable {Op Atom : Type}

theorem climbLoop_length (table : Op → Nat × Bool) :
    ∀ (fuel m : Nat) (lhs : Tree Op Atom) (ws : List (Op × Atom)),
      (climbLoop table fuel m lhs ws).2.length ≤ ws.length := by
  intro fuel
  induction fuel with
  | zero => intro m lhs ws; simp [climbLoop]
  | succ f ih =>
    intro m lhs ws
    cases ws with
    | nil => simp [climbLoop]
    | cons w rest =>
      obtain ⟨op, a⟩ := w
      simp only [climbLoop]
      split
      · exact Nat.le_refl _
      · have h1 := ih (nextMin table op) (.leaf a) rest
        have h2 := ih m (.node op lhs (climbLoop table f (nextMin table op) (.leaf a) rest).1)
          (climbLoop table f (nextMin table op) (.leaf a) rest).2
        simp only [List.length_cons]
        omega

theorem climbLoop_fuel (table : Op → Nat × Bool) :
    ∀ (fuel fuel' m : Nat) (lhs : Tree Op Atom) (ws : List (Op × Atom)),
      ws.length < fuel → fuel ≤ fuel' →
      climbLoop table fuel' m lhs ws = climbLoop table fuel m lhs ws := by
  intro fuel
  induction fuel with
  | zero => intro fuel' m lhs ws h; omega
  | succ f ih =>
    intro fuel' m lhs ws hlen hle
    cases fuel' with
    | zero => exact absurd hle (Nat.not_succ_le_zero f)
    | succ f' =>
      have hle' := Nat.le_of_succ_le_succ hle
      cases ws with
      | nil => simp [climbLoop]
      | cons w rest =>
        obtain ⟨op, a⟩ := w
        have hlen' : rest.length < f := Nat.lt_of_succ_lt_succ hlen
        simp only [climbLoop]
        split
        · rfl
        · rw [ih f' (nextMin table op) (.leaf a) rest hlen' hle']
          exact ih f' m _ _
            (Nat.lt_of_le_of_lt (climbLoop_length table f (nextMin table op) (.leaf a) rest) hlen') hle'

/-- `climbLoop` with enough fuel. -/
def climbFrom (table : Op → Nat × Bool) (m : Nat) (lhs : Tree Op Atom) (ws : List (Op × Atom)) :
    Tree Op Atom × List (Op × Atom) :=
  climbLoop table (ws.length + 1) m lhs ws

theorem climbFrom_nil (table : Op → Nat × Bool) (m : Nat) (lhs : Tree Op Atom) :
    climbFrom table m lhs [] = (lhs, []) := by
  simp [climbFrom, climbLoop]

/-- The recursion equation of precedence climbing, free of fuel. -/
theorem climbFrom_cons (table : Op → Nat × Bool) (m : Nat) (lhs : Tree Op Atom) (op : Op) (a : Atom)
    (rest : List (Op × Atom)) :
    climbFrom table m lhs ((op, a) :: rest) =
      if (table op).1 < m then (lhs, (op, a) :: rest)
      else
        climbFrom table m (.node op lhs (climbFrom table (nextMin table op) (.leaf a) rest).1)
          (climbFrom table (nextMin table op) (.leaf a) rest).2 := by
  simp only [climbFrom, List.length_cons, climbLoop]
  split
  · rfl
  · have hl := climbLoop_length table (rest.length + 1) (nextMin table op) (.leaf a) rest
    exact climbLoop_fuel table _ _ m _ _ (by omega) (by omega)

/-- Minimal precedence of the innermost pending activation. -/
def level (table : Op → Nat × Bool) : Stack Op Atom → Nat
  | [] => 0
  | (_, o) :: _ => nextMin table o

def Inv (table : Op → Nat × Bool) : Stack Op Atom → Prop
  | [] => True
  | (_, o) :: st => level table st ≤ (table o).1 ∧ Inv table st

def unwind (table : Op → Nat × Bool) :
    Stack Op Atom → Tree Op Atom × List (Op × Atom) → Tree Op Atom
  | [], r => r.1
  | (l, o) :: st, r => unwind table st (climbFrom table (level table st) (.node o l r.1) r.2)

theorem unwind_end (table : Op → Nat × Bool) :
    ∀ (st : Stack Op Atom) (t : Tree Op Atom), unwind table st (t, []) = reduceAll st t := by
  intro st
  induction st with
  | nil => intro t; rfl
  | cons f st ih =>
    intro t
    obtain ⟨l, o⟩ := f
    simp only [unwind, reduceAll, climbFrom_nil]
    exact ih _

/-- The documented relation in the terms of precedence climbing: reduce `o` iff the incoming
operator does not reach the minimal precedence of `o`'s right operand. -/
theorem DocumentedDecision.iff_lt_nextMin {table : Op → Nat × Bool} {dec : Op → Op → Bool}
    (hdec : DocumentedDecision table dec) (o op : Op) :
    dec o op = true ↔ (table op).1 < nextMin table o := by
  rw [hdec, nextMin]
  cases (table o).2 <;> simp <;> omega

/-- One input pair: the reductions the machine performs before shifting `op` are exactly the
returns of the activations whose minimal precedence `op` does not reach. -/
theorem unwind_step (table : Op → Nat × Bool) (dec : Op → Op → Bool)
    (hdec : DocumentedDecision table dec) (op : Op) (a : Atom) (rest : List (Op × Atom)) :
    ∀ (st : Stack Op Atom) (t : Tree Op Atom), Inv table st →
      unwind table st (climbFrom table (level table st) t ((op, a) :: rest)) =
        unwind table (((reduceWhile dec op st t).2, op) :: (reduceWhile dec op st t).1)
          (climbFrom table (nextMin table op) (.leaf a) rest) ∧
      Inv table (((reduceWhile dec op st t).2, op) :: (reduceWhile dec op st t).1) := by
  intro st
  induction st with
  | nil =>
    intro t _
    simp only [level, climbFrom_cons, Nat.not_lt_zero, if_false, reduceWhile, unwind, Inv,
      Nat.zero_le, and_self]
  | cons f st ih =>
    intro t hinv
    obtain ⟨l, o⟩ := f
    obtain ⟨hlo, hinv'⟩ := hinv
    by_cases hlt : (table op).1 < nextMin table o
    · -- `op` does not reach the level of the activation waiting for `o`'s operand: it returns
      have hd : dec o op = true := (hdec.iff_lt_nextMin o op).mpr hlt
      have hrw : reduceWhile dec op ((l, o) :: st) t = reduceWhile dec op st (.node o l t) := by
        simp [reduceWhile, hd]
      rw [hrw]
      have := ih (.node o l t) hinv'
      simpa only [level, climbFrom_cons, hlt, if_true, unwind] using this
    · -- `op` is accepted by the innermost loop: shift
      have hd : dec o op = false :=
        Bool.eq_false_iff.mpr fun h => hlt ((hdec.iff_lt_nextMin o op).mp h)
      have hrw : reduceWhile dec op ((l, o) :: st) t = ((l, o) :: st, t) := by
        simp [reduceWhile, hd]
      rw [hrw]
      refine ⟨?_, ?_⟩
      · simp only [level, climbFrom_cons, hlt, if_false, unwind]
      · exact ⟨by simpa only [level] using Nat.le_of_not_lt hlt, hlo, hinv'⟩

/-- The machine started in any configuration satisfying the invariant finishes the pending
precedence-climbing activations. -/
theorem run_eq_unwind (table : Op → Nat × Bool) (dec : Op → Op → Bool)
    (hdec : DocumentedDecision table dec) :
    ∀ (ws : List (Op × Atom)) (st : Stack Op Atom) (t : Tree Op Atom), Inv table st →
      run dec st t ws = unwind table st (climbFrom table (level table st) t ws) := by
  intro ws
  induction ws with
  | nil =>
    intro st t _
    simp only [run, climbFrom_nil, unwind_end]
  | cons w rest ih =>
    intro st t hinv
    obtain ⟨op, a⟩ := w
    obtain ⟨hstep, hinv'⟩ := unwind_step table dec hdec op a rest st t hinv
    simp only [run]
    rw [ih _ _ hinv', hstep]
    rfl

end Lox.Dec.OpPrec
