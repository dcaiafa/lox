/-! Association lists (`List (κ × β)` read through `List.lookup`), as the container specifications, the
environment of `Lox.Dec.AnalyzeNames` and the import table of `Lox.Dec.Order` use them. -/
namespace List

variable {κ β γ : Type}

theorem lookup_map_snd [BEq κ] (g : List (κ × β)) (f : β → γ) (k : κ) :
    (g.map fun e => (e.1, f e.2)).lookup k = (g.lookup k).map f := by
  induction g with
  | nil => rfl
  | cons e g ih =>
    obtain ⟨k', v⟩ := e
    simp only [map_cons, lookup_cons, ih]
    cases k == k' <;> rfl

section BEq
variable [BEq κ] [LawfulBEq κ]

theorem lookup_eq_none_iff_forall_ne {g : List (κ × β)} {k : κ} :
    g.lookup k = none ↔ ∀ e ∈ g, e.1 ≠ k := by
  rw [lookup_eq_none_iff]
  exact forall₂_congr fun e _ => by rw [bne_iff_ne, ne_comm]

theorem not_mem_keys_of_lookup_eq_none {g : List (κ × β)} {k : κ} (h : g.lookup k = none) :
    k ∉ g.map (·.1) := by
  rintro hm
  obtain ⟨e, he, rfl⟩ := mem_map.mp hm
  exact lookup_eq_none_iff_forall_ne.mp h e he rfl

theorem lookup_eq_some_iff_mem {g : List (κ × β)} (hn : (g.map (·.1)).Nodup) (k : κ) (v : β) :
    g.lookup k = some v ↔ (k, v) ∈ g := by
  induction g with
  | nil => simp
  | cons e g ih =>
    obtain ⟨k', v'⟩ := e
    rw [map_cons, nodup_cons] at hn
    rw [lookup_cons, mem_cons, Prod.mk.injEq]
    by_cases hk : k = k'
    · subst hk
      have : (k, v) ∉ g := fun h => hn.1 (mem_map.mpr ⟨_, h, rfl⟩)
      simp [this, eq_comm]
    · have : (k == k') = false := beq_false_of_ne hk
      simp only [this, hk, false_and, false_or]
      exact ih hn.2

theorem lookup_perm {g₁ g₂ : List (κ × β)} (hp : g₁.Perm g₂) (hn : (g₁.map (·.1)).Nodup) (k : κ) :
    g₁.lookup k = g₂.lookup k := by
  have hn₂ : (g₂.map (·.1)).Nodup := (hp.map _).nodup_iff.mp hn
  apply Option.ext
  intro v
  rw [lookup_eq_some_iff_mem hn, lookup_eq_some_iff_mem hn₂, hp.mem_iff]

end BEq

/-- The test `Has` of the list specifications, through `lookup`. -/
theorem any_fst_eq [DecidableEq κ] (g : List (κ × β)) (k : κ) :
    g.any (fun e => decide (e.1 = k)) = (g.lookup k).isSome := by
  induction g with
  | nil => rfl
  | cons e g ih =>
    obtain ⟨k', v⟩ := e
    rw [any_cons, lookup_cons, ih]
    by_cases h : k = k'
    · simp [h]
    · simp [beq_false_of_ne h, Ne.symm h]

theorem any_fst_eq_true [DecidableEq κ] {g : List (κ × β)} {k : κ} :
    g.any (fun e => decide (e.1 = k)) = true ↔ k ∈ g.map (·.1) := by
  simp only [any_eq_true, decide_eq_true_eq, mem_map]

theorem eq_of_map_eq {α : Type} {f : α → β} {g : List α} (h : (g.map f).Nodup) {e e' : α}
    (he : e ∈ g) (he' : e' ∈ g) (heq : f e = f e') : e = e' := by
  induction g with
  | nil => cases he
  | cons x g ih =>
    rw [map_cons, nodup_cons] at h
    rcases mem_cons.mp he with rfl | h1 <;> rcases mem_cons.mp he' with rfl | h2
    · rfl
    · exact absurd (mem_map.mpr ⟨e', h2, heq.symm⟩) h.1
    · exact absurd (mem_map.mpr ⟨e, h1, heq⟩) h.1
    · exact ih h.2 h1 h2

end List
