import Lox.Dec.AnalyzeCheck
/-! # C17 — `WellFormed` item by item

The vocabulary of `WellFormed` in the terms the passes and `wellFormedB` compute with: the naming rules as the
Boolean tests, `Spec.IsToken` and its like as a test on an entry of `Spec.declared`. The clauses about names, leaves,
actions and atoms are then gathered per entry of the name table, per leaf, per action, per atom
(`wellFormed_iff_items`): that is how both the passes and `wellFormedB` go about them. -/
namespace Lox.Dec.Analyze

theorem hasDoubleUnderscore_iff (cs : List Char) :
    hasDoubleUnderscore cs = true ↔ ∃ pre post, cs = pre ++ '_' :: '_' :: post := by
  fun_induction hasDoubleUnderscore cs with
  | case1 rest => simp; exact ⟨[], rest, rfl⟩
  | case2 c cs' hne ih =>
    rw [ih]
    constructor
    · rintro ⟨pre, post, h⟩; exact ⟨c :: pre, post, by simp [h]⟩
    · rintro ⟨pre, post, h⟩
      cases pre with
      | nil =>
        simp only [List.nil_append, List.cons.injEq] at h
        obtain ⟨rfl, rfl⟩ := h
        exact (hne post rfl rfl).elim
      | cons p pre' => exact ⟨pre', post, (List.cons.inj h).2⟩
  | case3 => simp

theorem endsWithUnderscore_iff (cs : List Char) : endsWithUnderscore cs = true ↔ ∃ pre, cs = pre ++ ['_'] := by
  simp [endsWithUnderscore, List.getLast?_eq_some_iff]

theorem matchesTokenRegex_iff (cs : List Char) :
    matchesTokenRegex cs = true ↔ ∃ c rest, cs = c :: rest ∧ c.isUpper = true ∧
      ∀ x ∈ rest, x.isUpper = true ∨ x.isDigit = true ∨ x = '_' := by
  cases cs with
  | nil => simp [matchesTokenRegex]
  | cons c rest =>
    simp only [matchesTokenRegex, isNameChar, Bool.and_eq_true, List.all_eq_true, Bool.or_eq_true, beq_iff_eq,
      or_assoc, List.cons.injEq]
    exact ⟨fun ⟨h1, h2⟩ => ⟨c, rest, ⟨rfl, rfl⟩, h1, h2⟩, fun ⟨_, _, ⟨rfl, rfl⟩, h1, h2⟩ => ⟨h1, h2⟩⟩

theorem isReserved_iff (n : Name) : isReserved n = true ↔ n = "EOF" ∨ n = "ERROR" := by
  simp [isReserved]

theorem validTokenNameB_iff (n : Name) : validTokenNameB n = true ↔ ValidTokenName n := by
  simp only [validTokenNameB, tokenNameShapeOk, Bool.and_eq_true, Bool.not_eq_true', ValidTokenName,
    matchesTokenRegex_iff, ← Bool.not_eq_true, endsWithUnderscore_iff, hasDoubleUnderscore_iff, isReserved_iff, not_or,
    and_assoc, ne_eq]

theorem validRuleNameB_iff (n : Name) : validRuleNameB n = true ↔ ValidRuleName n := by
  simp only [validRuleNameB, ruleNameOk, Bool.and_eq_true, Bool.not_eq_true', ValidRuleName, ← Bool.not_eq_true,
    hasDoubleUnderscore_iff, isReserved_iff, not_or, ne_eq]

theorem validate_eq_nil (ev : Ev) : ev.validate = [] ↔
    (ev.check = .lexical → ValidTokenName ev.name) ∧ (ev.check = .rule → ValidRuleName ev.name) := by
  rw [← validTokenNameB_iff, ← validRuleNameB_iff]
  unfold Ev.validate validTokenNameB validRuleNameB
  cases ev.check
  · cases tokenNameShapeOk ev.name <;> cases isReserved ev.name <;> simp
  · cases ruleNameOk ev.name <;> cases isReserved ev.name <;> simp
  · simp

theorem Spec.isToken_iff (s : Spec) (n : Name) : s.IsToken n ↔ ∃ e, (n, e) ∈ s.declared ∧ e.isToken = true := by
  simp only [Spec.IsToken, Ent.isToken_iff]
  exact ⟨fun ⟨a, h⟩ => ⟨_, h, a, rfl⟩, fun ⟨_, h, a, e⟩ => ⟨a, e ▸ h⟩⟩

theorem Spec.isMacro_iff (s : Spec) (n : Name) : s.IsMacro n ↔ ∃ e, (n, e) ∈ s.declared ∧ e.isMacro = true := by
  simp only [Spec.IsMacro, Ent.isMacro_iff]
  exact ⟨fun ⟨id, l, ex, h⟩ => ⟨_, h, id, l, ex, rfl⟩, fun ⟨_, h, id, l, ex, e⟩ => ⟨id, l, ex, e ▸ h⟩⟩

theorem Spec.isRule_iff (s : Spec) (n : Name) : s.IsRule n ↔ ∃ e, (n, e) ∈ s.declared ∧ e.isRule = true := by
  simp only [Spec.IsRule, Ent.isRule_iff]
  exact ⟨fun ⟨a, h⟩ => ⟨_, h, a, rfl⟩, fun ⟨_, h, a, e⟩ => ⟨a, e ▸ h⟩⟩

theorem Spec.isExternal_iff (s : Spec) (n : Name) : s.IsExternal n ↔ ∃ e, (n, e) ∈ s.declared ∧ e.isExt = true := by
  simp only [Spec.IsExternal, Ent.isExt_iff]
  exact ⟨fun h => ⟨_, h, rfl⟩, fun ⟨_, h, e⟩ => e ▸ h⟩

theorem Spec.isMode_iff (s : Spec) (n : Name) : s.IsMode n ↔ ∃ e, (n, e) ∈ s.declared ∧ e.isMode = true := by
  simp only [Spec.IsMode, Ent.isMode_iff]
  exact ⟨fun h => ⟨_, h, rfl⟩, fun ⟨_, h, e⟩ => e ▸ h⟩

def EntryOk (p : Name × Ent) : Prop :=
  ((p.2.isToken = true ∨ p.2.isMacro = true ∨ p.2.isExt = true) → ValidTokenName p.1) ∧
    (p.2.isRule = true → ValidRuleName p.1)

def Spec.LeafOk (s : Spec) : Leaf → Prop
  | .lit _ t _ => t ≠ ""
  | .ref _ n => s.IsMacro n
  | .cls c => c.ordered
  | .diff a b => a.ordered ∧ b.ordered
  | .dot _ => True

def Spec.ActionOk (s : Spec) : Action → Prop
  | .pushMode _ m => m = defaultMode ∨ s.IsMode m
  | .emit _ n => s.IsToken n ∨ s.IsExternal n
  | _ => True

def Spec.AtomOk (s : Spec) : PAtom → Prop
  | .name _ n => s.IsToken n ∨ s.IsRule n ∨ s.IsExternal n
  | .alias _ t _ => t ≠ "" ∧ s.declared.countP (·.2.hasAlias t) = 1
  | .error _ => True
  | .list _ e sp => e.isSimple = true ∧ sp.isSimple = true

theorem wellFormed_iff_items (s : Spec) : WellFormed s ↔
    SyntaxOk s ∧ (s.declared.map (·.1)).Nodup ∧ (∀ p ∈ s.declared, EntryOk p) ∧ (∀ l ∈ s.leaves, s.LeafOk l) ∧
    (∀ a ∈ s.actions, s.ActionOk a) ∧ (∀ x ∈ s.patoms, s.AtomOk x) ∧ (∀ m, ¬ s.MacroReach m m) ∧
    (s.prules ≠ [] → (s.prules.filter (·.isStart)).length = 1) ∧
    (∀ r ∈ s.lexRules, r.isToken = true → ∀ a ∈ r.actions, a.isDiscard = false ∧ a.isEmit = false) ∧
    (∀ r ∈ s.lexRules, r.isFrag = true →
      (r.actions.filter Action.isDiscard).length + (r.actions.filter Action.isEmit).length ≤ 1) := by
  constructor
  · intro w
    refine ⟨w.syntaxOk, w.namesUnique, fun ⟨n, e⟩ hp => ⟨fun hk => w.lexicalNames n ?_, fun hk =>
        w.ruleNames n ((Spec.isRule_iff s n).2 ⟨e, hp, hk⟩)⟩, fun l hl => ?_, fun a ha => ?_, fun x hx => ?_,
      w.noMacroCycle, w.oneStart, w.tokenActions, w.fragActions⟩
    · rw [Spec.isToken_iff, Spec.isMacro_iff, Spec.isExternal_iff]
      exact hk.imp (fun h => ⟨e, hp, h⟩) (Or.imp (fun h => ⟨e, hp, h⟩) fun h => ⟨e, hp, h⟩)
    · cases l with
      | lit ln t b => exact w.noEmptyLiteral _ hl ln t b rfl
      | ref ln n => exact w.macroRefs _ hl ln n rfl
      | cls c => exact w.rangesOrdered _ hl c List.mem_cons_self
      | diff a b =>
        exact ⟨w.rangesOrdered _ hl a List.mem_cons_self, w.rangesOrdered _ hl b (List.mem_cons_of_mem _ List.mem_cons_self)⟩
      | dot ln => trivial
    · cases a with
      | pushMode l m => exact w.modeRefs _ ha l m rfl
      | emit l n => exact w.emitRefs _ ha l n rfl
      | _ => trivial
    · cases x with
      | name l n => exact w.parserRefs _ hx l n rfl
      | alias l t b => exact w.aliasRefs _ hx l t b rfl
      | error l => trivial
      | list l e sp => exact w.listParams _ hx l e sp rfl
  · rintro ⟨hsyn, hnd, hent, hleaf, hact, hatom, hcyc, hstart, htok, hfrag⟩
    exact
      { syntaxOk := hsyn
        namesUnique := hnd
        lexicalNames := fun n hn => by
          rw [Spec.isToken_iff, Spec.isMacro_iff, Spec.isExternal_iff, ← exists_or, ← exists_or] at hn
          obtain ⟨e, hk⟩ := hn
          simp only [← and_or_left] at hk
          exact (hent (n, e) hk.1).1 hk.2
        ruleNames := fun n hn => let ⟨e, he, hk⟩ := (Spec.isRule_iff s n).1 hn; (hent (n, e) he).2 hk
        macroRefs := fun _ hl _ _ e => by subst e; exact hleaf _ hl
        modeRefs := fun _ ha _ _ e => by subst e; exact hact _ ha
        emitRefs := fun _ ha _ _ e => by subst e; exact hact _ ha
        parserRefs := fun _ hx _ _ e => by subst e; exact hatom _ hx
        aliasRefs := fun _ hx _ _ _ e => by subst e; exact hatom _ hx
        noMacroCycle := hcyc
        oneStart := hstart
        tokenActions := htok
        fragActions := hfrag
        noEmptyLiteral := fun _ hl _ _ _ e => by subst e; exact hleaf _ hl
        rangesOrdered := fun l hl c hc => by
          have h := hleaf l hl
          cases l with
          | cls c' => exact List.mem_singleton.1 hc ▸ h
          | diff a b =>
            exact (List.mem_cons.1 hc).elim (· ▸ h.1) fun hc => List.mem_singleton.1 hc ▸ h.2
          | _ => cases hc
        listParams := fun _ hx _ _ _ e => by subst e; exact hatom _ hx }

end Lox.Dec.Analyze
