import Lox.Util.List
/-! List combinatorics for `Lox.Dec.ContainersProofs`: paths of an abstract successor function
(`Chain f a l b`: `a → l₀ → l₁ → … → b` along `f`), and how they change when a node is spliced
in or out. Independent of the heap representation (used once for `next` and once, on the
reversed list, for `prev`). -/
namespace Lox.Dec.Containers

def Chain (f : Nat → Option Nat) : Nat → List Nat → Nat → Prop
  | a, [], b => f a = some b
  | a, x :: l, b => f a = some x ∧ Chain f x l b

theorem chain_append (f : Nat → Option Nat) (a : Nat) (l₁ : List Nat) (x : Nat) (l₂ : List Nat)
    (b : Nat) : Chain f a (l₁ ++ x :: l₂) b ↔ Chain f a l₁ x ∧ Chain f x l₂ b := by
  induction l₁ generalizing a with
  | nil => simp [Chain]
  | cons y l₁ ih => simp [Chain, ih, and_assoc]

theorem chain_congr {f f' : Nat → Option Nat} {a : Nat} {l : List Nat} {b : Nat}
    (h : ∀ i, i ∈ a :: l → f' i = f i) : Chain f' a l b ↔ Chain f a l b := by
  induction l generalizing a with
  | nil => simp [Chain, h a (by simp)]
  | cons y l ih =>
    simp only [Chain, h a (by simp)]
    rw [ih (fun i hi => h i (List.mem_cons_of_mem _ hi))]

theorem chain_head {f : Nat → Option Nat} {a : Nat} {l : List Nat} {b : Nat}
    (h : Chain f a l b) : f a = some (l.headD b) := by
  cases l with
  | nil => exact h
  | cons y l => exact h.1

theorem headD_reverse (l : List Nat) (a : Nat) : l.reverse.headD a = l.getLastD a := by
  rw [List.headD_eq_head?_getD, List.head?_reverse, List.getLastD_eq_getLast?]

theorem getLastD_reverse (l : List Nat) (a : Nat) : l.reverse.getLastD a = l.headD a := by
  rw [List.headD_eq_head?_getD, List.getLastD_eq_getLast?, List.getLast?_reverse]

theorem nodup_concat {α : Type} {l : List α} {x : α} (hl : l.Nodup) (hx : x ∉ l) :
    (l ++ [x]).Nodup :=
  Util.pairwise_snoc hl fun _ ha e => hx (e ▸ ha)

theorem getLastD_mem_append (l₁ l₂ : List Nat) (a : Nat) : l₁.getLastD a ∈ a :: (l₁ ++ l₂) :=
  List.cons_append ▸ List.mem_append_left l₂ List.getLastD_mem_cons

theorem headD_mem_append (l₁ l₂ : List Nat) (a : Nat) : l₂.headD a ∈ a :: (l₁ ++ l₂) := by
  cases l₂ <;> simp

/-- Splicing: `f'` is `f` with `n` linked in after `p`, the last node of `a :: l₁` (equivalently,
`f` is `f'` with `n` unlinked). Read left to right it inserts `n`, right to left it removes it. -/
theorem chain_splice {f f' : Nat → Option Nat} {a : Nat} {l₁ l₂ : List Nat} {b n p : Nat}
    (hnd : (a :: (l₁ ++ n :: l₂)).Nodup) (hp : p = l₁.getLastD a) (hfp : f' p = some n)
    (hfn : f' n = f p) (hrest : ∀ i, i ≠ p → i ≠ n → f' i = f i) :
    Chain f a (l₁ ++ l₂) b ↔ Chain f' a (l₁ ++ n :: l₂) b := by
  induction l₁ generalizing a with
  | nil =>
    subst hp
    simp only [List.nil_append, List.nodup_cons, List.mem_cons, not_or] at hnd
    simp only [List.nil_append, Chain, hfp, true_and]
    cases l₂ with
    | nil => simp only [Chain, hfn]
    | cons x r =>
      simp only [Chain, hfn]
      rw [chain_congr fun i hi => hrest i (fun e => hnd.1.2 (e ▸ hi)) (fun e => hnd.2.1 (e ▸ hi))]
  | cons y l₁ ih =>
    rw [List.getLastD_cons] at hp
    have hnd' := (List.nodup_cons.mp hnd).2
    have hap : a ≠ p := fun e =>
      (List.nodup_cons.mp hnd).1 (e ▸ hp ▸ getLastD_mem_append l₁ (n :: l₂) y)
    have han : a ≠ n := fun e => (List.nodup_cons.mp hnd).1 (e ▸ by simp)
    simp only [List.cons_append, Chain, hrest a hap han, ih hnd' hp]

theorem chain_last {f : Nat → Option Nat} {a : Nat} {l : List Nat} {b : Nat}
    (h : Chain f a l b) : f (l.getLastD a) = some b := by
  induction l generalizing a with
  | nil => exact h
  | cons y l ih =>
    rw [List.getLastD_cons]
    exact ih h.2

end Lox.Dec.Containers
