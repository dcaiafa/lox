import Lox.Dec.AssignShape
import Lox.Dec.AssignProofs
/-!
# C06 – the generated `_act`: what every action parameter receives

Model of the `_act` function that `emit_parser.go` writes (`parserTemplate`, `func (p *P) _act`)
and of `_cast[T]`, over an abstract universe of run-time values:

* a user production calls its bound method with `_cast[<Go type of term i>](stack slot i)`;
* the synthesised actions of helper rules build slices / pass values through, again reading the
  stack through `_cast`.

`_cast[T](v)` is `cv, _ := v.(T); return cv`: the value itself when the assertion succeeds, the
zero value of `T` otherwise – this is where a parameter could silently turn into a zero value.
-/
namespace Lox.Dec.Assign

/-- Run-time values as far as `_act` is concerned. -/
structure Values where
  Val : Type
  /-- dynamic type of the value once boxed into `any`; `none` for the nil interface value -/
  dyn : Val → Option Ty
  /-- `var zero T` -/
  zero : Ty → Val
  /-- the type assertion `.(T)` succeeds on a value of dynamic type `d`
  (`d` is `T` for a concrete `T`; `d` implements `T` for an interface type `T`) -/
  conforms : Ty → Ty → Bool
  /-- `[]T{e}` -/
  lit1 : Ty → Val → Val
  /-- `append(l, e)` for `l : []T` -/
  app : Ty → Val → Val → Val
  /-- `e.Discard()` (elements of `x*!`) -/
  discard : Val → Bool

/-- `_, ok := v.(T)` -/
def Values.passes (V : Values) (v : V.Val) (T : Ty) : Bool :=
  match V.dyn v with
  | some d => V.conforms d T
  | none => false

/-- `_cast[T](v)` of the generated parser. -/
def castTo (V : Values) (T : Ty) (v : V.Val) : V.Val := if V.passes v T then v else V.zero T

/-- What Go's static typing guarantees about a value of static type `T` that was boxed into
`any` (a stack slot): the assertion `.(T)` succeeds on it, or it is the zero value of `T`
(the nil value of an interface type, on which the assertion fails and `_cast` returns the same
nil value again). -/
def WellTyped (V : Values) (v : V.Val) (T : Ty) : Prop := V.passes v T = true ∨ v = V.zero T

/-- Facts about go/types and the Go run time that the statements below rely on. -/
structure Values.Lawful (V : Values) (c : Case) : Prop where
  /-- a slice literal / the result of `append` has the slice type as its dynamic type -/
  dyn_lit1 : ∀ T e, V.dyn (V.lit1 T e) = some (c.sliceOf T)
  dyn_app : ∀ T l e, V.dyn (V.app T l e) = some (c.sliceOf T)
  /-- slice types are concrete: a value whose dynamic type is `[]T` passes `.([]T)` -/
  conforms_slice : ∀ T, V.conforms (c.sliceOf T) (c.sliceOf T) = true
  /-- identical types are interchangeable in assertions and have the same zero value -/
  conforms_ident : ∀ d T T', c.identical T T' = true → V.conforms d T = V.conforms d T'
  zero_ident : ∀ T T', c.identical T T' = true → V.zero T = V.zero T'

theorem cast_of_wellTyped {V : Values} {v : V.Val} {T : Ty} (h : WellTyped V v T) :
    castTo V T v = v := by
  unfold castTo
  rcases h with h | h
  · rw [if_pos h]
  · rw [h, ite_self]

theorem cast_wellTyped (V : Values) (T : Ty) (v : V.Val) : WellTyped V (castTo V T v) T := by
  unfold castTo
  by_cases hp : V.passes v T = true
  · simp only [hp, ↓reduceIte]; exact Or.inl hp
  · simp only [hp, Bool.false_eq_true, ↓reduceIte]; exact Or.inr rfl

theorem wellTyped_ident {V : Values} {c : Case} (L : V.Lawful c) {v : V.Val} {T T' : Ty}
    (hi : c.identical T T' = true) (h : WellTyped V v T) : WellTyped V v T' := by
  rcases h with h | h
  · left
    unfold Values.passes at h ⊢
    cases hd : V.dyn v with
    | none => rw [hd] at h; cases h
    | some d => rw [hd] at h; simp only at h ⊢; rw [← L.conforms_ident d T T' hi]; exact h
  · right; rw [h, L.zero_ident T T' hi]

theorem wellTyped_slice {V : Values} {c : Case} (L : V.Lawful c) {v : V.Val} {T : Ty}
    (h : V.dyn v = some (c.sliceOf T)) : WellTyped V v (c.sliceOf T) := by
  left; unfold Values.passes; rw [h]; exact L.conforms_slice T

/-- The Go types of the terms of a production (`get_term_go_type` on every term). -/
def termTys (c : Case) (ty : List (Option Ty)) : List Term → Option (List Ty)
  | [] => some []
  | t :: ts =>
    match termTyF c ty t, termTys c ty ts with
    | some T, some Ts => some (T :: Ts)
    | _, _ => none

/-- `_act(prod)`: `args` are the symbols of the top `len(prod.Terms)` stack slots, first term
first; `call m vs` is the user's action method number `m` applied to `vs`; `cast` is `_cast`, i.e.
`castTo V` (with `fun _ v => v` in its place this is the parser one would like to have: no assertion at all).
`none`: the template has no case for such a production (it does not occur in well-formed
grammars). -/
def act (c : Case) (b : Binding) (V : Values) (call : Nat → List V.Val → V.Val)
    (cast : Ty → V.Val → V.Val) (p : Nat) (args : List V.Val) : Option V.Val :=
  match c.prods[p]? with
  | none => none
  | some pr =>
    match genOf c pr.rule with
    | some .user =>
      (match (b.method[p]?).join, termTys c b.ruleTy pr.terms with
       | some m, some tys =>
         if tys.length = args.length then some (call m (List.zipWith cast tys args)) else none
       | _, _ => none)
    | some .oneOrMore =>
      (match pr.terms, args with
       | [x], [a0] => (termTyF c b.ruleTy x).map fun T => V.lit1 T (cast T a0)
       | [_, x], [a0, a1] =>
         (termTyF c b.ruleTy x).map fun T => V.app T (cast (c.sliceOf T) a0) (cast T a1)
       | _, _ => none)
    | some .oneOrMoreF =>
      (match pr.terms, args with
       | [x], [a0] =>
         (termTyF c b.ruleTy x).map fun T =>
           if V.discard (cast T a0) then V.zero (c.sliceOf T)
           else V.app T (V.zero (c.sliceOf T)) (cast T a0)
       | [_, x], [a0, a1] =>
         (termTyF c b.ruleTy x).map fun T =>
           if V.discard (cast T a1) then cast (c.sliceOf T) a0
           else V.app T (cast (c.sliceOf T) a0) (cast T a1)
       | _, _ => none)
    | some .list =>
      (match pr.terms, args with
       | [x], [a0] => (termTyF c b.ruleTy x).map fun T => V.lit1 T (cast T a0)
       | [_, _, x], [a0, _, a2] =>
         (termTyF c b.ruleTy x).map fun T => V.app T (cast (c.sliceOf T) a0) (cast T a2)
       | _, _ => none)
    | some .zeroOrOne | some .zeroOrMore | some .zeroOrMoreF =>
      (match tyGet b.ruleTy pr.rule, pr.terms, args with
       | some T, [_], [a0] => some (cast T a0)
       | some T, [], [] => some (V.zero T)
       | _, _, _ => none)
    | _ => none

/-- Every stack value is well typed for the Go type lox derived for its symbol. -/
inductive ArgsOK (V : Values) (c : Case) (ty : List (Option Ty)) : List Term → List V.Val → Prop
  | nil : ArgsOK V c ty [] []
  | cons {t ts v vs T} : termTyF c ty t = some T → WellTyped V v T → ArgsOK V c ty ts vs →
      ArgsOK V c ty (t :: ts) (v :: vs)

theorem ArgsOK.head {V : Values} {c : Case} {ty : List (Option Ty)} {t : Term} {ts : List Term}
    {args : List V.Val} {T : Ty} (ha : ArgsOK V c ty (t :: ts) args) (hT : termTyF c ty t = some T) :
    ∃ a as, args = a :: as ∧ WellTyped V a T ∧ ArgsOK V c ty ts as := by
  obtain _ | @⟨_, _, a, as, _, g, w, ha⟩ := ha
  cases hT.symm.trans g
  exact ⟨a, as, rfl, w, ha⟩

theorem zipWith_cast_eq {V : Values} {c : Case} {ty : List (Option Ty)} {ts : List Term}
    {vs : List V.Val} (h : ArgsOK V c ty ts vs) :
    ∃ tys, termTys c ty ts = some tys ∧ tys.length = vs.length ∧
      ∀ cast : Ty → V.Val → V.Val, (∀ T v, WellTyped V v T → cast T v = v) →
        List.zipWith cast tys vs = vs := by
  induction h with
  | nil => exact ⟨[], rfl, rfl, fun _ _ => rfl⟩
  | @cons t ts v vs T hT hw _ ih =>
    obtain ⟨tys, h1, h2, h3⟩ := ih
    refine ⟨T :: tys, by simp only [termTys, hT, h1], by simp only [List.length_cons, h2], ?_⟩
    intro cast hc
    rw [List.zipWith_cons_cons, hc T v hw, h3 cast hc]

/-- What a successful `AssignActions` establishes (see `Lox.Props.C06.ok_facts`). -/
structure Facts (c : Case) (b : Binding) : Prop where
  wf : WF c
  ty : ∀ r, tyGet b.ruleTy r = specTy c r
  spec : Spec c
  bound : ∀ (k : Nat) p, c.prods[k]? = some p → UserProd c p →
    ∃ m, b.method[k]? = some (some m) ∧ Matches c p m

theorem slice_types_of {c : Case} {b : Binding} (F : Facts c b) {r p0 p1 : Nat} {x : Term}
    (hg : isSliceGen (genOf c r) = true) (hl : ruleProds c r = [p0, p1]) (h1 : termsOf c p1 = [x]) :
    ∃ T, termTyF c b.ruleTy x = some T ∧ tyGet b.ruleTy r = some (c.sliceOf T) := by
  obtain ⟨_, _, _, T, hl', h1', _, hT, hs⟩ := specTy_slice F.wf ((allTyped_iff F.wf).mpr F.spec.typed) hg
  rw [hl] at hl'; cases hl'
  rw [h1] at h1'; cases h1'
  exact ⟨T, by rw [termTyF_spec F.ty, hT], by rw [F.ty, specTy_eq_strip, hs]; rfl⟩

theorem pass_types {c : Case} {b : Binding} (F : Facts c b) {r : Nat} {ru : Rule}
    (hr : c.rules[r]? = some ru)
    (hg : ru.gen = .zeroOrOne ∨ ru.gen = .zeroOrMore ∨ ru.gen = .zeroOrMoreF) :
    ∃ p0 p1 x, ruleProds c r = [p0, p1] ∧ termsOf c p0 = [x] ∧ termsOf c p1 = [] ∧
      tyGet b.ruleTy r = termTyF c b.ruleTy x := by
  rcases hg with hg | hg
  · obtain ⟨p0, p1, x, hl, h0, h1, e⟩ := specTy_opt F.wf hr hg
    exact ⟨p0, p1, x, hl, h0, h1, by rw [F.ty, e, termTyF_spec F.ty]⟩
  · obtain ⟨p0, p1, h, hl, h0, h1, e⟩ := specTy_star F.wf hr hg
    exact ⟨p0, p1, _, hl, h0, h1, by rw [F.ty, e, termTyF_spec F.ty]⟩

theorem mem_two {p p0 p1 : Nat} (h : p ∈ [p0, p1]) : p = p0 ∨ p = p1 := by
  simpa using h

/-- The call a user production makes: the bound method applied to exactly the stack values. -/
theorem act_user {c : Case} {b : Binding} {V : Values} (call : Nat → List V.Val → V.Val) {p : Nat}
    {pr : Prod} (hp : c.prods[p]? = some pr) (hu : UserProd c pr) {m : Nat}
    (hm : b.method[p]? = some (some m)) {args : List V.Val} (ha : ArgsOK V c b.ruleTy pr.terms args)
    {cast : Ty → V.Val → V.Val} (hc : ∀ T v, WellTyped V v T → cast T v = v) :
    act c b V call cast p args = some (call m args) := by
  obtain ⟨tys, h1, h2, h3⟩ := zipWith_cast_eq ha
  have hu : genOf c pr.rule = some .user := hu
  simp only [act, hp, hu, h1, hm, Option.join_some, h2, ↓reduceIte, h3 cast hc]

theorem ruleTy_of_method {c : Case} {b : Binding} (F : Facts c b) {pr : Prod}
    (hu : UserProd c pr) {i : Nat} (hm : Matches c pr i) :
    ∃ m T, c.methods[i]? = some m ∧ tyGet b.ruleTy pr.rule = some T ∧ c.identical m.ret T = true := by
  obtain ⟨m, h1, h2, h3, h4, _⟩ := hm
  obtain ⟨ru, hr, hg⟩ := genOf_eq_some.1 hu
  have hname : ruleName c pr.rule = ru.name := by unfold ruleName; rw [hr]; rfl
  rw [hname] at h2
  have ha : (⟨i, ru.name, m⟩ : Action) ∈ actions c := mem_actions.mpr ⟨h1, h2, h3, h4⟩
  obtain ⟨f, rest, hl, hfa, hfr⟩ := head_actionsOf ha
  simp only at hl hfr
  refine ⟨m, f.m.ret, h1, ?_, ?_⟩
  · rw [F.ty, specTy_eq_strip, specTyR_user hr hg]
    unfold userTy; rw [hl]; rfl
  · exact F.spec.retAgree m (List.mem_of_getElem? h1) f.m (action_method_mem hfa) ru.name h2
      (by rw [(mem_actions.mp hfa).2.1, hfr])

/-- `x?`, `x*`, `x*!`: the value of the only term is passed through, or the zero value of the rule's
type is produced for the empty production. -/
theorem act_pass {c : Case} {b : Binding} {V : Values} (F : Facts c b)
    (call : Nat → List V.Val → V.Val) {p : Nat} {pr : Prod} (hp : c.prods[p]? = some pr) {ru : Rule}
    (hr : c.rules[pr.rule]? = some ru)
    (hg : ru.gen = .zeroOrOne ∨ ru.gen = .zeroOrMore ∨ ru.gen = .zeroOrMoreF)
    {args : List V.Val} (ha : ArgsOK V c b.ruleTy pr.terms args) :
    ∃ o : Option V.Val,
      (∀ cast : Ty → V.Val → V.Val, (∀ T v, WellTyped V v T → cast T v = v) →
        act c b V call cast p args = o) ∧
      ∀ res, o = some res → ∃ T, tyGet b.ruleTy pr.rule = some T ∧ WellTyped V res T := by
  have hmem : p ∈ ruleProds c pr.rule := mem_ruleProds.mpr ⟨pr, hp, rfl⟩
  obtain ⟨p0, p1, x, hl, h0, h1, e⟩ := pass_types F hr hg
  have hgen := genOf_eq hr
  obtain ⟨T, hT⟩ := F.spec.typed pr.rule ru hr (by rcases hg with e | e | e <;> simp [e])
  rw [← F.ty] at hT
  rw [hl] at hmem
  rcases mem_two hmem with rfl | rfl
  · rw [termsOf_eq hp] at h0; rw [h0] at ha
    obtain ⟨a0, _, rfl, w0, ⟨⟩⟩ := ha.head (e.symm.trans hT)
    refine ⟨some a0, fun cast hc => ?_, fun _ h => Option.some.inj h ▸ ⟨T, hT, w0⟩⟩
    rcases hg with hg | hg | hg
    all_goals simp only [act, hp, hgen, hg, hT, h0, hc _ _ w0]
  · rw [termsOf_eq hp] at h1; rw [h1] at ha
    cases ha
    refine ⟨some (V.zero T), fun cast _ => ?_, fun _ h => Option.some.inj h ▸ ⟨T, hT, Or.inr rfl⟩⟩
    rcases hg with hg | hg | hg
    all_goals simp only [act, hp, hgen, hg, h1, hT]

/-- On well-typed stack slots the outcome of an action does not depend on `_cast` – every cast it
applies returns the slot's value – and the value is well typed for the type of the production's rule,
provided the user's methods return values of their declared result types (`hcall`: Go's static
typing). -/
theorem act_spec {c : Case} {b : Binding} {V : Values} (L : V.Lawful c) (F : Facts c b)
    (call : Nat → List V.Val → V.Val)
    (hcall : ∀ (i : Nat) m vs, c.methods[i]? = some m → WellTyped V (call i vs) m.ret)
    {p : Nat} {pr : Prod} (hp : c.prods[p]? = some pr)
    {args : List V.Val} (ha : ArgsOK V c b.ruleTy pr.terms args) :
    ∃ o : Option V.Val,
      (∀ cast : Ty → V.Val → V.Val, (∀ T v, WellTyped V v T → cast T v = v) →
        act c b V call cast p args = o) ∧
      ∀ res, o = some res → ∃ T, tyGet b.ruleTy pr.rule = some T ∧ WellTyped V res T := by
  have hmem : p ∈ ruleProds c pr.rule := mem_ruleProds.mpr ⟨pr, hp, rfl⟩
  have hterms := termsOf_eq hp
  have hrl : pr.rule < c.rules.length := F.wf.prodRule pr (List.mem_of_getElem? hp)
  have hr : c.rules[pr.rule]? = some c.rules[pr.rule] := List.getElem?_eq_getElem hrl
  have hgen := genOf_eq hr
  cases hg : (c.rules[pr.rule]).gen with
  | user =>
    rw [hg] at hgen
    obtain ⟨m, hm, hmatch⟩ := F.bound p pr hp hgen
    refine ⟨_, fun cast hc => act_user call hp hgen hm ha hc, fun _ h => ?_⟩
    cases h
    obtain ⟨mm, T, h1, h2, h3⟩ := ruleTy_of_method F hgen hmatch
    exact ⟨T, h2, wellTyped_ident L h3 (hcall m mm args h1)⟩
  | sprime => exact ⟨none, fun cast _ => by simp only [act, hp, hgen, hg], fun _ h => nomatch h⟩
  | zeroOrOne | zeroOrMore | zeroOrMoreF => exact act_pass F call hp hr (by simp [hg]) ha
  | oneOrMore =>
    rw [hg] at hgen
    obtain ⟨p0, p1, x, hl, h0, h1, _⟩ := shape_plus F.wf (Or.inl hgen)
    obtain ⟨T, hT, hS⟩ := slice_types_of F (by rw [hgen]; rfl) hl h1
    rw [hl] at hmem
    rcases mem_two hmem with rfl | rfl
    · rw [hterms] at h0; rw [h0] at ha
      obtain ⟨a0, _, rfl, w0, ha⟩ := ha.head hS
      obtain ⟨a1, _, rfl, w1, ⟨⟩⟩ := ha.head hT
      refine ⟨some (V.app T a0 a1), fun cast hc => ?_,
        fun _ h => Option.some.inj h ▸ ⟨_, hS, wellTyped_slice L (L.dyn_app _ _ _)⟩⟩
      simp only [act, hp, hgen, h0, hT, Option.map_some, hc _ _ w0, hc _ _ w1]
    · rw [hterms] at h1; rw [h1] at ha
      obtain ⟨a0, _, rfl, w0, ⟨⟩⟩ := ha.head hT
      refine ⟨some (V.lit1 T a0), fun cast hc => ?_,
        fun _ h => Option.some.inj h ▸ ⟨_, hS, wellTyped_slice L (L.dyn_lit1 _ _)⟩⟩
      simp only [act, hp, hgen, h1, hT, Option.map_some, hc _ _ w0]
  | oneOrMoreF =>
    rw [hg] at hgen
    obtain ⟨p0, p1, x, hl, h0, h1, _⟩ := shape_plus F.wf (Or.inr hgen)
    obtain ⟨T, hT, hS⟩ := slice_types_of F (by rw [hgen]; rfl) hl h1
    rw [hl] at hmem
    rcases mem_two hmem with rfl | rfl
    · rw [hterms] at h0; rw [h0] at ha
      obtain ⟨a0, _, rfl, w0, ha⟩ := ha.head hS
      obtain ⟨a1, _, rfl, w1, ⟨⟩⟩ := ha.head hT
      refine ⟨some (if V.discard a1 then a0 else V.app T a0 a1), fun cast hc => ?_, fun _ h => ?_⟩
      · simp only [act, hp, hgen, h0, hT, Option.map_some, hc _ _ w0, hc _ _ w1]
      · refine Option.some.inj h ▸ ⟨_, hS, ?_⟩
        split
        · exact w0
        · exact wellTyped_slice L (L.dyn_app _ _ _)
    · rw [hterms] at h1; rw [h1] at ha
      obtain ⟨a0, _, rfl, w0, ⟨⟩⟩ := ha.head hT
      refine ⟨some (if V.discard a0 then V.zero (c.sliceOf T) else V.app T (V.zero (c.sliceOf T)) a0),
        fun cast hc => ?_, fun _ h => ?_⟩
      · simp only [act, hp, hgen, h1, hT, Option.map_some, hc _ _ w0]
      · refine Option.some.inj h ▸ ⟨_, hS, ?_⟩
        split
        · exact Or.inr rfl
        · exact wellTyped_slice L (L.dyn_app _ _ _)
  | list =>
    rw [hg] at hgen
    obtain ⟨p0, p1, s, x, hl, h0, h1, _⟩ := shape_list F.wf hgen
    obtain ⟨T, hT, hS⟩ := slice_types_of F (by rw [hgen]; rfl) hl h1
    rw [hl] at hmem
    rcases mem_two hmem with rfl | rfl
    · rw [hterms] at h0; rw [h0] at ha
      obtain ⟨a0, _, rfl, w0, _ | @⟨_, _, _, _, _, _, _, ha2⟩⟩ := ha.head hS
      obtain ⟨a2, _, rfl, w2, ⟨⟩⟩ := ha2.head hT
      refine ⟨some (V.app T a0 a2), fun cast hc => ?_,
        fun _ h => Option.some.inj h ▸ ⟨_, hS, wellTyped_slice L (L.dyn_app _ _ _)⟩⟩
      simp only [act, hp, hgen, h0, hT, Option.map_some, hc _ _ w0, hc _ _ w2]
    · rw [hterms] at h1; rw [h1] at ha
      obtain ⟨a0, _, rfl, w0, ⟨⟩⟩ := ha.head hT
      refine ⟨some (V.lit1 T a0), fun cast hc => ?_,
        fun _ h => Option.some.inj h ▸ ⟨_, hS, wellTyped_slice L (L.dyn_lit1 _ _)⟩⟩
      simp only [act, hp, hgen, h1, hT, Option.map_some, hc _ _ w0]

end Lox.Dec.Assign
