import Lox.Dec.AnalyzeProofs
import Lox.Dec.AnalyzeStages
/-! # C17 — single faults: adding one faulty declaration to a well-formed specification

The declaration may be put anywhere: between two statements of any file, into a new file, or
(lexer rules) between two rules of any `@mode` block (`AddedStmt`, `AddedInMode`). Either way the
lists of lexer rules, parser rules and registrations of the specification receive a segment
(`Ins`); what was clean stays clean, so the first stage at which the new declaration is faulty is
the stage that speaks. -/
namespace Lox.Dec.Analyze

theorem wf_clean {s : Spec} (w : WellFormed s) : Clean0 s ∧ Clean1 s ∧ Clean2 s s.declared ∧ Clean4 s s.declared :=
  (clean_iff_wellFormed s).2 w

/-- A diagnostic of the front end, as `single_fault` speaks of it. -/
theorem reported_of_mem {s : Spec} {k : Kind} {l : Line} {n : String} {i : Option DeclId}
    (h : (⟨k, l, n, i⟩ : Diag) ∈ analyze s) : ∃ d ∈ analyze s, d.kind = k ∧ d.decl = i ∧ d.line = l :=
  ⟨_, h, rfl, rfl, rfl⟩

theorem reported_of_forall {s : Spec} {ds : List Diag} {k : Kind} {i : Option DeclId} {l : Line} (hne : ds ≠ [])
    (hsub : ∀ d ∈ ds, d ∈ analyze s) (hall : ∀ d ∈ ds, d.line = l ∧ d.decl = i ∧ d.kind = k) :
    ∃ d ∈ analyze s, d.kind = k ∧ d.decl = i ∧ d.line = l :=
  let ⟨d, hd⟩ := List.exists_mem_of_ne_nil _ hne
  ⟨d, hsub d hd, (hall d hd).2.2, (hall d hd).2.1, (hall d hd).1⟩

/-- `s'` is `s` with the statement `st` put between two statements of a file, or alone into a new
file between two files. -/
inductive AddedStmt (st : Stmt) : Spec → Spec → Prop where
  | inUnit (U₁ U₂ : List Unit) (S₁ S₂ : List Stmt) :
      AddedStmt st ⟨U₁ ++ ⟨S₁ ++ S₂⟩ :: U₂⟩ ⟨U₁ ++ ⟨S₁ ++ st :: S₂⟩ :: U₂⟩
  | newUnit (U₁ U₂ : List Unit) : AddedStmt st ⟨U₁ ++ U₂⟩ ⟨U₁ ++ ⟨[st]⟩ :: U₂⟩

/-- `s'` is `s` with the lexer rule `r` put between two rules of a `@mode` block. -/
inductive AddedInMode (r : LexRule) : Spec → Spec → Prop where
  | mk (U₁ U₂ : List Unit) (S₁ S₂ : List Stmt) (id : DeclId) (l : Line) (n : Name) (R₁ R₂ : List LexRule) :
      AddedInMode r ⟨U₁ ++ ⟨S₁ ++ .mode id l n (R₁ ++ R₂) :: S₂⟩ :: U₂⟩
        ⟨U₁ ++ ⟨S₁ ++ .mode id l n (R₁ ++ r :: R₂) :: S₂⟩ :: U₂⟩

/-- What the proofs use of an insertion: the new lexer rules `nl`, parser rules `np` and registrations
`nev` appear inside the old lists, and the file that received them comes after untouched files. -/
structure Ins (s s' : Spec) (nl : List LexRule) (np : List PRule) (nev : List Ev) : Prop where
  lex : ∃ L₁ L₂, s.lexRules = L₁ ++ L₂ ∧ s'.lexRules = L₁ ++ nl ++ L₂
  par : ∃ P₁ P₂, s.prules = P₁ ++ P₂ ∧ s'.prules = P₁ ++ np ++ P₂
  evs : ∃ E₁ E₂, s.events = E₁ ++ E₂ ∧ s'.events = E₁ ++ nev ++ E₂
  syn : ∃ U₁ un U₂, s'.units = U₁ ++ un :: U₂ ∧ (∀ u ∈ U₁, u ∈ s.units) ∧
    (∀ r ∈ nl, ∀ d ∈ r.syntaxDiags, d ∈ un.syntaxDiags) ∧ (∀ r ∈ np, ∀ d ∈ r.syntaxDiags, d ∈ un.syntaxDiags)

theorem mem_of_ins {α : Type} {l l' N : List α} (h : ∃ A B, l = A ++ B ∧ l' = A ++ N ++ B) {x : α} :
    x ∈ l' ↔ x ∈ l ∨ x ∈ N := by
  obtain ⟨A, B, rfl, rfl⟩ := h
  simp only [List.mem_append]
  exact ⟨fun h => h.elim (fun h => h.elim (Or.inl ∘ Or.inl) Or.inr) (Or.inl ∘ Or.inr),
    fun h => h.elim (fun h => h.elim (Or.inl ∘ Or.inl) Or.inr) (Or.inl ∘ Or.inr)⟩

theorem ins_of_stmts {s s' : Spec} {A B : List Stmt} {st : Stmt} (h : s.stmts = A ++ B) (h' : s'.stmts = A ++ st :: B)
    (hsyn : ∃ U₁ un U₂, s'.units = U₁ ++ un :: U₂ ∧ (∀ u ∈ U₁, u ∈ s.units) ∧ st ∈ un.stmts) :
    Ins s s' st.lexRules st.prules st.events := by
  obtain ⟨U₁, un, U₂, hu, hsub, hst⟩ := hsyn
  have hsd : ∀ d, d ∈ st.syntaxDiags → d ∈ un.syntaxDiags := fun d hd => List.mem_flatMap.2 ⟨st, hst, hd⟩
  refine ⟨⟨A.flatMap Stmt.lexRules, B.flatMap Stmt.lexRules, ?_, ?_⟩,
    ⟨A.flatMap Stmt.prules, B.flatMap Stmt.prules, ?_, ?_⟩,
    ⟨A.flatMap Stmt.events, B.flatMap Stmt.events, ?_, ?_⟩, U₁, un, U₂, hu, hsub, ?_, ?_⟩
  · simp [Spec.lexRules, h]
  · simp [Spec.lexRules, h']
  · simp [Spec.prules, h]
  · simp [Spec.prules, h']
  · simp [Spec.events, h]
  · simp [Spec.events, h']
  · exact fun r hr d hd => hsd d (by
      rw [Stmt.syntaxDiags_eq]; exact List.mem_append_left _ (List.mem_flatMap.2 ⟨r, hr, hd⟩))
  · exact fun r hr d hd => hsd d (by
      rw [Stmt.syntaxDiags_eq]; exact List.mem_append_right _ (List.mem_flatMap.2 ⟨r, hr, hd⟩))

theorem AddedStmt.ins {st : Stmt} {s s' : Spec} (h : AddedStmt st s s') : Ins s s' st.lexRules st.prules st.events := by
  cases h with
  | inUnit U₁ U₂ S₁ S₂ =>
    exact ins_of_stmts (A := U₁.flatMap (·.stmts) ++ S₁) (B := S₂ ++ U₂.flatMap (·.stmts)) (by simp [Spec.stmts])
      (by simp [Spec.stmts]) ⟨U₁, ⟨S₁ ++ st :: S₂⟩, U₂, rfl, fun u hu => by simp [hu], by simp⟩
  | newUnit U₁ U₂ =>
    exact ins_of_stmts (A := U₁.flatMap (·.stmts)) (B := U₂.flatMap (·.stmts)) (by simp [Spec.stmts])
      (by simp [Spec.stmts]) ⟨U₁, ⟨[st]⟩, U₂, rfl, fun u hu => by simp [hu], by simp⟩

theorem AddedInMode.ins {r : LexRule} {s s' : Spec} (h : AddedInMode r s s') : Ins s s' [r] [] r.events := by
  cases h with
  | mk U₁ U₂ S₁ S₂ id l n R₁ R₂ =>
    refine ⟨⟨(U₁.flatMap (·.stmts) ++ S₁).flatMap Stmt.lexRules ++ R₁,
        R₂ ++ (S₂ ++ U₂.flatMap (·.stmts)).flatMap Stmt.lexRules, ?_, ?_⟩,
      ⟨(U₁.flatMap (·.stmts) ++ S₁).flatMap Stmt.prules, (S₂ ++ U₂.flatMap (·.stmts)).flatMap Stmt.prules, ?_, ?_⟩,
      ⟨(U₁.flatMap (·.stmts) ++ S₁).flatMap Stmt.events ++ modeEvent id l n :: R₁.flatMap LexRule.events,
        R₂.flatMap LexRule.events ++ (S₂ ++ U₂.flatMap (·.stmts)).flatMap Stmt.events, ?_, ?_⟩,
      ⟨U₁, ⟨S₁ ++ .mode id l n (R₁ ++ r :: R₂) :: S₂⟩, U₂, rfl, fun u hu => by simp [hu], ?_, by simp⟩⟩
    · simp [Spec.lexRules, Spec.stmts, Stmt.lexRules]
    · simp [Spec.lexRules, Spec.stmts, Stmt.lexRules]
    · simp [Spec.prules, Spec.stmts, Stmt.prules]
    · simp [Spec.prules, Spec.stmts, Stmt.prules]
    · simp [Spec.events, Spec.stmts, Stmt.events]
    · simp [Spec.events, Spec.stmts, Stmt.events]
    · intro r' hr d hd
      obtain rfl := List.mem_singleton.1 hr
      exact List.mem_flatMap.2 ⟨.mode id l n (R₁ ++ r' :: R₂), by simp, List.mem_flatMap.2 ⟨r', by simp, hd⟩⟩

theorem Ins.clean0 {s s' : Spec} {nl np nev} (h : Ins s s' nl np nev) (c : Clean0 s)
    (hl : ∀ r ∈ nl, ∀ l ∈ r.leaves, l.escOk = true) (hp : ∀ r ∈ np, r.Clean0) : Clean0 s' :=
  ⟨fun r hr => ((mem_of_ins h.lex).1 hr).elim (c.lex r) (hl r), fun r hr => ((mem_of_ins h.par).1 hr).elim (c.par r) (hp r)⟩

structure FreshEvents (s : Spec) (nev : List Ev) : Prop where
  valid : ∀ ev ∈ nev, ev.validate = []
  fresh : ∀ ev ∈ nev, ev.name ∉ s.declared.map (·.1)
  nodup : (nev.map (·.name)).Nodup
  noStart : ∀ ev ∈ nev, ev.ent.isStart = false

theorem Ins.clean1 {s s' : Spec} {nl np nev} (h : Ins s s' nl np nev) (c : Clean1 s) (hf : FreshEvents s nev)
    (hnp : ∀ r ∈ np, r.isStart = false) : Clean1 s' := by
  refine ⟨fun ev hev => ((mem_of_ins h.evs).1 hev).elim (c.valid ev) (hf.valid ev), ?_, ?_⟩
  · obtain ⟨E₁, E₂, h1, h2⟩ := h.evs
    have hn := c.nodup
    have hfr := hf.fresh
    simp only [declared_names, h1, h2, List.map_append, List.nodup_append, List.mem_append, not_or,
      List.mem_map] at hn hfr ⊢
    obtain ⟨hn1, hn2, hn12⟩ := hn
    refine ⟨⟨hn1, hf.nodup, ?_⟩, hn2, ?_⟩
    · rintro a ⟨x, hx, rfl⟩ b ⟨ev, hev, rfl⟩ hab
      exact (hfr ev hev).1 ⟨x, hx, hab⟩
    · rintro a (ha | ⟨ev, hev, rfl⟩) b hb hab
      · exact hn12 a ha b hb hab
      · obtain ⟨x, hx, rfl⟩ := hb
        exact (hfr ev hev).2 ⟨x, hx, hab.symm⟩
  · obtain ⟨P₁, P₂, h1, h2⟩ := h.par
    have hc := c.start
    have : np.filter (·.isStart) = [] := List.filter_eq_nil_iff.2 fun r hr => by simp [hnp r hr]
    rw [h1] at hc
    rw [h2]
    simp only [List.filter_append, List.length_append, this, List.length_nil] at hc ⊢
    omega

theorem Ins.aliasCount {s s' : Spec} {nl np nev} (h : Ins s s' nl np nev)
    (hna : ∀ ev ∈ nev, ∀ t, ev.ent.hasAlias t = false) (t : String) :
    s'.declared.countP (·.2.hasAlias t) = s.declared.countP (·.2.hasAlias t) := by
  obtain ⟨E₁, E₂, h1, h2⟩ := h.evs
  have : nev.countP ((fun x : Name × Ent => x.2.hasAlias t) ∘ fun ev => (ev.name, ev.ent)) = 0 :=
    List.countP_eq_zero.2 fun ev hev => by simp [hna ev hev t]
  simp only [Spec.declared, h1, h2, List.map_append, List.countP_append, List.countP_map, this]
  omega

/-- What pass `Check` accepted stays accepted: the old names keep their meaning and no literal gets a
second token. New rules must be accepted on their own. -/
theorem Ins.clean2 {s s' : Spec} {nl np nev} (h : Ins s s' nl np nev) (hnd : (s.declared.map (·.1)).Nodup)
    (hnd' : (s'.declared.map (·.1)).Nodup) (c : Clean2 s s.declared) (hna : ∀ ev ∈ nev, ∀ t, ev.ent.hasAlias t = false)
    (hl : ∀ r ∈ nl, r.check s'.declared = []) (hp : ∀ r ∈ np, r.check s'.declared = []) :
    Clean2 s' s'.declared := by
  have sub : ∀ {x}, x ∈ s.declared → x ∈ s'.declared := fun hx =>
    let ⟨ev, hev, e⟩ := List.mem_map.1 hx
    List.mem_map.2 ⟨ev, (mem_of_ins h.evs).2 (Or.inl hev), e⟩
  have tok : ∀ {n}, s.IsToken n → s'.IsToken n := fun ⟨a, hx⟩ => ⟨a, sub hx⟩
  have ext : ∀ {n}, s.IsExternal n → s'.IsExternal n := sub
  refine ⟨fun r hr l hl' => ?_, fun r hr a ha => ?_, fun r hr t ht x hx => ?_⟩
  · rcases (mem_of_ins h.lex).1 hr with hr | hr
    · have := (Leaf.checkOk_iff hnd l).1 (c.leaves r hr l hl')
      refine (Leaf.checkOk_iff hnd' l).2 ?_
      cases l with
      | ref ln n => exact let ⟨id, ln', ex, hx⟩ := this; ⟨id, ln', ex, sub hx⟩
      | _ => exact this
    · exact ((LexRule.check_eq_nil _ r).1 (hl r hr)).1 l hl'
  · rcases (mem_of_ins h.lex).1 hr with hr | hr
    · have := (Action.checkOk_iff hnd a).1 (c.actions r hr a ha)
      refine (Action.checkOk_iff hnd' a).2 ?_
      cases a with
      | pushMode l m => exact this.imp_right sub
      | emit l n => exact this.imp tok ext
      | _ => exact this
    · exact ((LexRule.check_eq_nil _ r).1 (hl r hr)).2 a ha
  · rcases (mem_of_ins h.par).1 hr with hr | hr
    · have := c.atoms r hr t ht x hx
      cases x with
      | name l n => exact let ⟨e, hx, hk⟩ := this; ⟨e, lookup_of_mem hnd' (sub (mem_of_lookup hx)), hk⟩
      | alias l tx b => exact this.imp_right fun h1 => (h.aliasCount hna tx).trans h1
      | _ => exact this
    · exact (PRule.check_eq_nil _ r).1 (hp r hr) t ht x hx

/-- The files before the one that received the declaration are files of `s`, hence clean: `firstNonEmpty`
stops at that file. -/
theorem Ins.fault_syntax {s s' : Spec} {nl np nev} (h : Ins s s' nl np nev) (w : WellFormed s) {d : Diag}
    (hd : (∃ r ∈ nl, d ∈ r.syntaxDiags) ∨ (∃ r ∈ np, d ∈ r.syntaxDiags)) : d ∈ analyze s' := by
  obtain ⟨U₁, un, U₂, hu, hsub, h1, h2⟩ := h.syn
  have hdu : d ∈ un.syntaxDiags := hd.elim (fun ⟨r, hr, hd⟩ => h1 r hr d hd) fun ⟨r, hr, hd⟩ => h2 r hr d hd
  have hU : ∀ l ∈ U₁.map Unit.syntaxDiags, l = [] := fun l hl =>
    let ⟨u, hu', e⟩ := List.mem_map.1 hl
    e ▸ (syntaxDiags_eq_nil_units s).1 ((syntaxDiags_eq_nil s).2 (wf_clean w).1) u (hsub u hu')
  refine mem_analyze.2 (Or.inl ?_)
  rw [syntaxDiags, hu, List.map_append, firstNonEmpty_append_of_nil hU, List.map_cons,
    firstNonEmpty_cons_of_ne (List.ne_nil_of_mem hdu)]
  exact hdu

/-- An insertion whose new declarations get through stage 0 and pass `CreateNames`. -/
structure Ins1 (s s' : Spec) (nl : List LexRule) (np : List PRule) (nev : List Ev) : Prop extends Ins s s' nl np nev where
  lexSyn : ∀ r ∈ nl, ∀ l ∈ r.leaves, l.escOk = true
  parSyn : ∀ r ∈ np, r.Clean0
  fresh : FreshEvents s nev
  notStart : ∀ r ∈ np, r.isStart = false

theorem Ins1.clean0 {s s' : Spec} {nl np nev} (h : Ins1 s s' nl np nev) (w : WellFormed s) : Clean0 s' :=
  h.toIns.clean0 (wf_clean w).1 h.lexSyn h.parSyn

theorem Ins1.clean1 {s s' : Spec} {nl np nev} (h : Ins1 s s' nl np nev) (w : WellFormed s) : Clean1 s' :=
  h.toIns.clean1 (wf_clean w).2.1 h.fresh h.notStart

theorem Ins1.fault_check {s s' : Spec} {nl np nev} (h : Ins1 s s' nl np nev) (w : WellFormed s) {d : Diag}
    (hd : d ∈ check s'.declared s') : d ∈ analyze s' :=
  mem_analyze.2 (Or.inr ⟨h.clean0 w, Or.inr ⟨h.clean1 w, Or.inl hd⟩⟩)

/-- … and through pass `Check`, without adding a literal alias. -/
structure Ins2 (s s' : Spec) (nl : List LexRule) (np : List PRule) (nev : List Ev) : Prop extends Ins1 s s' nl np nev where
  noAlias : ∀ ev ∈ nev, ∀ t, ev.ent.hasAlias t = false
  lexChecked : ∀ r ∈ nl, r.check s'.declared = []
  parChecked : ∀ r ∈ np, r.check s'.declared = []

theorem Ins2.clean2 {s s' : Spec} {nl np nev} (h : Ins2 s s' nl np nev) (w : WellFormed s) : Clean2 s' s'.declared :=
  h.toIns.clean2 w.namesUnique (h.clean1 w).nodup (wf_clean w).2.2.1 h.noAlias h.lexChecked h.parChecked

theorem Ins2.fault_generate {s s' : Spec} {nl np nev} (h : Ins2 s s' nl np nev) (w : WellFormed s) {d : Diag}
    (hd : d ∈ generate s'.declared s') : d ∈ analyze s' :=
  mem_analyze.2 (Or.inr ⟨h.clean0 w, Or.inr ⟨h.clean1 w, Or.inr ⟨h.clean2 w, hd⟩⟩⟩)

def LexPlaced (r : LexRule) (s s' : Spec) : Prop := AddedStmt (.rule r) s s' ∨ AddedInMode r s s'

theorem LexPlaced.ins {r : LexRule} {s s' : Spec} (h : LexPlaced r s s') : Ins s s' [r] [] r.events :=
  h.elim AddedStmt.ins AddedInMode.ins

/-- The added lexer rule declares valid new names and contains no invalid escape: it gets through
stage 0 and pass `CreateNames`. -/
structure LexCarrier (r : LexRule) (s s' : Spec) : Prop where
  placed : LexPlaced r s s'
  fresh : FreshEvents s r.events
  syn : ∀ l ∈ r.leaves, l.escOk = true

/-- … and also through pass `Check`, without adding a literal alias. -/
structure LexCarrier4 (r : LexRule) (s s' : Spec) : Prop extends LexCarrier r s s' where
  noAlias : ∀ ev ∈ r.events, ∀ t, ev.ent.hasAlias t = false
  checked : r.check s'.declared = []

/-- The added parser rule (not `@start`) has a valid new name and gets through stage 0. -/
structure ParCarrier (r : PRule) (s s' : Spec) : Prop where
  placed : AddedStmt (.prule r) s s'
  fresh : FreshEvents s [r.event]
  notStart : r.isStart = false
  syn : r.Clean0

theorem LexCarrier.ins1 {r : LexRule} {s s' : Spec} (c : LexCarrier r s s') : Ins1 s s' [r] [] r.events :=
  { c.placed.ins with
    lexSyn := fun _ hr => List.mem_singleton.1 hr ▸ c.syn
    parSyn := fun _ hr => nomatch hr
    fresh := c.fresh
    notStart := fun _ hr => nomatch hr }

theorem LexCarrier4.ins2 {r : LexRule} {s s' : Spec} (c : LexCarrier4 r s s') : Ins2 s s' [r] [] r.events :=
  { c.toLexCarrier.ins1 with
    noAlias := c.noAlias
    lexChecked := fun _ hr => List.mem_singleton.1 hr ▸ c.checked
    parChecked := fun _ hr => nomatch hr }

theorem ParCarrier.ins1 {r : PRule} {s s' : Spec} (c : ParCarrier r s s') : Ins1 s s' [] [r] [r.event] :=
  { c.placed.ins with
    lexSyn := fun _ hr => nomatch hr
    parSyn := fun _ hr => List.mem_singleton.1 hr ▸ c.syn
    fresh := c.fresh
    notStart := fun _ hr => List.mem_singleton.1 hr ▸ c.notStart }

theorem Ins.mem_new_lex {s s' : Spec} {r : LexRule} {np nev} (h : Ins s s' [r] np nev) : r ∈ s'.lexRules :=
  (mem_of_ins h.lex).2 (Or.inr (List.mem_singleton.2 rfl))

theorem Ins.mem_new_par {s s' : Spec} {r : PRule} {nl nev} (h : Ins s s' nl [r] nev) : r ∈ s'.prules :=
  (mem_of_ins h.par).2 (Or.inr (List.mem_singleton.2 rfl))

theorem LexCarrier.fault_leaf {r : LexRule} {s s' : Spec} (c : LexCarrier r s s') (w : WellFormed s) {l : Leaf}
    (hl : l ∈ r.leaves) {d : Diag} (hd : d ∈ l.check s'.declared r.id) : d ∈ analyze s' :=
  c.ins1.fault_check w (mem_check.2 (Or.inl ⟨r, c.placed.ins.mem_new_lex,
    LexRule.check_eq _ r ▸ List.mem_append_left _ (List.mem_flatMap.2 ⟨l, hl, hd⟩)⟩))

theorem LexCarrier.fault_action {r : LexRule} {s s' : Spec} (c : LexCarrier r s s') (w : WellFormed s) {a : Action}
    (ha : a ∈ r.actions) {d : Diag} (hd : d ∈ a.check s'.declared r.id) : d ∈ analyze s' :=
  c.ins1.fault_check w (mem_check.2 (Or.inl ⟨r, c.placed.ins.mem_new_lex,
    LexRule.check_eq _ r ▸ List.mem_append_right _ (List.mem_flatMap.2 ⟨a, ha, hd⟩)⟩))

theorem LexCarrier4.fault_generate {r : LexRule} {s s' : Spec} (c : LexCarrier4 r s s') (w : WellFormed s) {d : Diag}
    (hd : d ∈ r.generate s'.declared) : d ∈ analyze s' :=
  c.ins2.fault_generate w (mem_generate.2 (Or.inl ⟨r, c.placed.ins.mem_new_lex, hd⟩))

theorem ParCarrier.fault_atom {r : PRule} {s s' : Spec} (c : ParCarrier r s s') (w : WellFormed s) {x : PAtom}
    (hx : x ∈ r.atoms) {d : Diag} (hd : d ∈ x.checkSelf s'.declared r.id) : d ∈ analyze s' :=
  c.ins1.fault_check w (mem_check.2 (Or.inr ⟨r, c.placed.ins.mem_new_par, PRule.mem_check.2 ⟨x, hx, hd⟩⟩))

theorem LexPlaced.fault_syntax {r : LexRule} {s s' : Spec} (h : LexPlaced r s s') (w : WellFormed s) {d : Diag}
    (hd : d ∈ r.syntaxDiags) : d ∈ analyze s' :=
  h.ins.fault_syntax w (Or.inl ⟨r, List.mem_singleton.2 rfl, hd⟩)

theorem AddedStmt.fault_syntax {r : PRule} {s s' : Spec} (h : AddedStmt (.prule r) s s') (w : WellFormed s) {d : Diag}
    (hd : d ∈ r.syntaxDiags) : d ∈ analyze s' :=
  h.ins.fault_syntax w (Or.inr ⟨r, List.mem_singleton.2 rfl, hd⟩)

/-- `AddedStmt` together with the registrations that precede the insertion point. -/
inductive AddedStmtAt (st : Stmt) : List Ev → Spec → Spec → Prop where
  | inUnit (U₁ U₂ : List Unit) (S₁ S₂ : List Stmt) :
      AddedStmtAt st ((U₁.flatMap (·.stmts) ++ S₁).flatMap Stmt.events)
        ⟨U₁ ++ ⟨S₁ ++ S₂⟩ :: U₂⟩ ⟨U₁ ++ ⟨S₁ ++ st :: S₂⟩ :: U₂⟩
  | newUnit (U₁ U₂ : List Unit) :
      AddedStmtAt st ((U₁.flatMap (·.stmts)).flatMap Stmt.events) ⟨U₁ ++ U₂⟩ ⟨U₁ ++ ⟨[st]⟩ :: U₂⟩

theorem AddedStmtAt.added {st : Stmt} {E₁ : List Ev} {s s' : Spec} (h : AddedStmtAt st E₁ s s') : AddedStmt st s s' := by
  cases h with
  | inUnit U₁ U₂ S₁ S₂ => exact .inUnit U₁ U₂ S₁ S₂
  | newUnit U₁ U₂ => exact .newUnit U₁ U₂

theorem AddedStmtAt.stmts {st : Stmt} {E₁ : List Ev} {s s' : Spec} (h : AddedStmtAt st E₁ s s') :
    ∃ A B, E₁ = A.flatMap Stmt.events ∧ s.stmts = A ++ B ∧ s'.stmts = A ++ st :: B := by
  cases h with
  | inUnit U₁ U₂ S₁ S₂ => exact ⟨_, S₂ ++ U₂.flatMap (·.stmts), rfl, by simp [Spec.stmts], by simp [Spec.stmts]⟩
  | newUnit U₁ U₂ => exact ⟨_, U₂.flatMap (·.stmts), rfl, by simp [Spec.stmts], by simp [Spec.stmts]⟩

structure StmtSyntaxOk (st : Stmt) : Prop where
  lex : ∀ r ∈ st.lexRules, ∀ l ∈ r.leaves, l.escOk = true
  par : ∀ r ∈ st.prules, r.Clean0

/-- Whatever the first registration of the added statement reports is reported: the statements
before it are clean, so it meets the table of their registrations. -/
theorem fault_names {st : Stmt} {E₁ : List Ev} {s s' : Spec} (h : AddedStmtAt st E₁ s s') (w : WellFormed s)
    (hsyn : StmtSyntaxOk st) {ev : Ev} {rest : List Ev} (hev : st.events = ev :: rest) {d : Diag}
    (hd : d ∈ (regEv (E₁.map Ev.entry) ev).2) : d ∈ analyze s' := by
  obtain ⟨c0, c1, _, _⟩ := wf_clean w
  obtain ⟨A, B, rfl, hs, hs'⟩ := h.stmts
  have hA : (foldDiag cnStmt [] A).2 = [] := by
    have := (createNames_nil_iff s).2 c1
    rw [createNames, hs, foldDiag_append] at this
    exact (List.append_eq_nil_iff.1 this).1
  refine mem_analyze.2 (Or.inr ⟨h.added.ins.clean0 c0 hsyn.lex hsyn.par, Or.inl ?_⟩)
  rw [createNames, hs', foldDiag_append, foldCnStmt_env hA]
  exact List.mem_append_right _ (List.mem_append_left _ (cnStmt_head hev hd))

theorem Env.Reach.mono {env env' : Env}
    (h : ∀ a id l e, env'.lookup a = some (.macro id l e) → env.lookup a = some (.macro id l e)) {a b : Name}
    (hr : env'.Reach a b) : env.Reach a b := by
  have edge : ∀ {a b}, env'.Edge a b → env.Edge a b := fun ⟨id, l, e, hl, hb, id', l', e', hl'⟩ =>
    ⟨id, l, e, h _ _ _ _ hl, hb, id', l', e', h _ _ _ _ hl'⟩
  induction hr with
  | step e => exact .step (edge e)
  | trans e _ ih => exact .trans (edge e) ih

theorem fault_noStart {s s' : Spec} {r : PRule} (c : ParCarrier r s s') (w : WellFormed s)
    (hnone : s.prules = []) (hck : r.check s'.declared = []) : ⟨.startUndefined, 0, "", none⟩ ∈ analyze s' := by
  have hi : Ins2 s s' [] [r] [r.event] :=
    { c.ins1 with
      noAlias := fun _ hev _ => List.mem_singleton.1 hev ▸ rfl
      lexChecked := fun _ hr => nomatch hr
      parChecked := fun _ hr => List.mem_singleton.1 hr ▸ hck }
  obtain ⟨_, c1, _, c4⟩ := wf_clean w
  have c1' := hi.clean1 w
  apply hi.fault_generate w
  -- the lexer rules, hence the macros, are those of `s`
  have hlex : ∀ x, x ∈ s'.lexRules → x ∈ s.lexRules := fun x hx =>
    ((mem_of_ins hi.lex).1 hx).elim id fun h => nomatch h
  have hmac : ∀ a id l e, s'.declared.lookup a = some (.macro id l e) → s.declared.lookup a = some (.macro id l e) :=
    fun a id l e hl => lookup_of_mem c1.nodup (declared_of_macro_rule (hlex _ (macro_rule_of_declared (mem_of_lookup hl))))
  have hgen := (lexGenerate_nil_iff c1'.nodup (hi.clean2 w)).2
    ⟨fun x hx => c4.shape x (hlex x hx), fun x hx => c4.tokenActs x (hlex x hx), fun x hx => c4.fragActs x (hlex x hx),
      fun m hm => c4.acyclic m (hm.mono hmac)⟩
  have hrules : s'.declared.hasRules = true :=
    (declared_hasRules s').2 (List.ne_nil_of_mem hi.mem_new_par)
  have hstart : ¬ s'.declared.hasStart = true := fun hh => by
    have := (declared_hasStart s').1 hh
    obtain ⟨P₁, P₂, h1, h2⟩ := hi.par
    obtain ⟨rfl, rfl⟩ := List.append_eq_nil_iff.1 (hnone ▸ h1).symm
    simp [h2, c.notStart] at this
  exact mem_generate.2 (Or.inr ⟨hgen, hrules, Bool.eq_false_iff.2 hstart, rfl⟩)

/-- The single-fault variants of `s`: `s'` is `s` plus one declaration with one fault, put anywhere.
Indices: the expected diagnostic (kind, blamed declaration, line). -/
inductive Injection (s s' : Spec) : Kind → Option DeclId → Line → Prop where
  /-- a name that breaks a naming rule (any rule of `ValidTokenName`, a reserved name, `__` in a
  rule name): a token, macro, external, mode or parser rule statement whose first name is invalid -/
  | badName (st : Stmt) (E₁ : List Ev) (h : AddedStmtAt st E₁ s s') (hsyn : StmtSyntaxOk st) (ev : Ev) (rest : List Ev)
      (hev : st.events = ev :: rest) (d : Diag) (ds : List Diag) (hv : ev.validate = d :: ds) :
      Injection s s' d.kind d.decl d.line
  /-- a name declared earlier, duplicated into a declaration of any kind -/
  | dupName (st : Stmt) (E₁ : List Ev) (h : AddedStmtAt st E₁ s s') (hsyn : StmtSyntaxOk st) (ev : Ev) (rest : List Ev)
      (hev : st.events = ev :: rest) (hv : ev.validate = []) (hdup : ev.name ∈ E₁.map (·.name)) :
      Injection s s' .redefined (some ev.id) ev.line
  /-- a second `@start` after the first -/
  | secondStart (st : Stmt) (E₁ : List Ev) (h : AddedStmtAt st E₁ s s') (hsyn : StmtSyntaxOk st) (ev : Ev) (rest : List Ev)
      (hev : st.events = ev :: rest) (hv : ev.validate = []) (hnew : ev.name ∉ E₁.map (·.name))
      (hs : ev.ent.isStart = true) (hfirst : ∃ e ∈ E₁, e.ent.isStart = true) :
      Injection s s' .startRedefined (some ev.id) ev.line
  /-- an empty literal in a lexer expression -/
  | emptyLiteral (r : LexRule) (c : LexCarrier r s s') (ln : Line) (b : Nat) (h : Leaf.lit ln "" b ∈ r.leaves) :
      Injection s s' .emptyLiteral (some r.id) ln
  /-- a class range whose lower bound is above its upper bound -/
  | reversedRange (r : LexRule) (c : LexCarrier r s s') (l : Leaf) (hl : l ∈ r.leaves) (cl : CharClass)
      (hc : cl ∈ l.classes) (i : ClassItem) (hi : i ∈ cl.items) (hrev : i.hi < i.lo) :
      Injection s s' .reversedRange (some r.id) cl.line
  /-- a reference to a name nobody declares -/
  | undefinedRef (r : LexRule) (c : LexCarrier r s s') (ln : Line) (n : Name) (h : Leaf.ref ln n ∈ r.leaves)
      (hu : s'.declared.lookup n = none) : Injection s s' .undefined (some r.id) ln
  /-- a reference to something that is not a macro -/
  | refNotMacro (r : LexRule) (c : LexCarrier r s s') (ln : Line) (n : Name) (h : Leaf.ref ln n ∈ r.leaves) (e : Ent)
      (hu : s'.declared.lookup n = some e) (hk : e.isMacro = false) : Injection s s' .notMacro (some r.id) ln
  /-- `@push_mode` of an undefined mode -/
  | undefinedMode (r : LexRule) (c : LexCarrier r s s') (ln : Line) (m : Name) (h : Action.pushMode ln m ∈ r.actions)
      (hu : s'.declared.hasMode m = false) : Injection s s' .undefinedMode (some r.id) ln
  /-- `@emit` of an undefined name -/
  | emitUndefined (r : LexRule) (c : LexCarrier r s s') (ln : Line) (n : Name) (h : Action.emit ln n ∈ r.actions)
      (hu : s'.declared.lookup n = none) : Injection s s' .undefined (some r.id) ln
  /-- `@emit` of something that is not a token -/
  | emitNonToken (r : LexRule) (c : LexCarrier r s s') (ln : Line) (n : Name) (h : Action.emit ln n ∈ r.actions) (e : Ent)
      (hu : s'.declared.lookup n = some e) (hk : e.isToken = false ∧ e.isExt = false) :
      Injection s s' .notToken (some r.id) ln
  /-- an escape that names no code point, in a literal of a lexer expression -/
  | badEscapeLex (r : LexRule) (h : LexPlaced r s s') (ln : Line) (t : String) (b : Nat)
      (hl : Leaf.lit ln t (b + 1) ∈ r.leaves) : Injection s s' .badEscape (some r.id) ln
  /-- `@discard` on a token -/
  | tokenDiscard (id : DeclId) (l : Line) (n : Name) (e : LExpr) (acts : List Action)
      (c : LexCarrier4 (.token id l n e acts) s s') (h1 : ∃ a ∈ acts, a.isDiscard = true)
      (h2 : ∀ a ∈ acts, a.isEmit = false) : Injection s s' .tokenDiscard (some id) l
  /-- `@emit` on a token -/
  | tokenEmit (id : DeclId) (l : Line) (n : Name) (e : LExpr) (acts : List Action)
      (c : LexCarrier4 (.token id l n e acts) s s') (h1 : ∃ a ∈ acts, a.isEmit = true)
      (h2 : ∀ a ∈ acts, a.isDiscard = false) : Injection s s' .tokenEmit (some id) l
  /-- a second `@discard` on a fragment -/
  | fragTwoDiscard (id : DeclId) (l : Line) (e : LExpr) (acts : List Action) (c : LexCarrier4 (.frag id l e acts) s s')
      (h1 : 2 ≤ (acts.filter Action.isDiscard).length) (h2 : ∀ a ∈ acts, a.isEmit = false) :
      Injection s s' .fragTwoDiscard (some id) l
  /-- a second `@emit` on a fragment -/
  | fragTwoEmit (id : DeclId) (l : Line) (e : LExpr) (acts : List Action) (c : LexCarrier4 (.frag id l e acts) s s')
      (h1 : 2 ≤ (acts.filter Action.isEmit).length) (h2 : ∀ a ∈ acts, a.isDiscard = false) :
      Injection s s' .fragTwoEmit (some id) l
  /-- both `@discard` and `@emit` on a fragment -/
  | fragBoth (id : DeclId) (l : Line) (e : LExpr) (acts : List Action) (c : LexCarrier4 (.frag id l e acts) s s')
      (h1 : (acts.filter Action.isDiscard).length = 1) (h2 : (acts.filter Action.isEmit).length = 1) :
      Injection s s' .fragDiscardAndEmit (some id) l
  /-- a macro that mentions itself (nobody needs to use it) -/
  | macroCycle (id : DeclId) (l : Line) (n : Name) (e : LExpr) (c : LexCarrier4 (.macro id l n e) s s')
      (hsh : exprShapeOk e = true) (hn : n ∈ exprRefs e) : Injection s s' .macroCycle (some id) l
  /-- a production that mentions a name nobody declares -/
  | parserUndefined (r : PRule) (c : ParCarrier r s s') (ln : Line) (n : Name) (h : PAtom.name ln n ∈ r.atoms)
      (hu : s'.declared.lookup n = none) : Injection s s' .undefined (some r.id) ln
  /-- a production that mentions a macro or a mode -/
  | parserNotRuleOrToken (r : PRule) (c : ParCarrier r s s') (ln : Line) (n : Name) (h : PAtom.name ln n ∈ r.atoms)
      (e : Ent) (hu : s'.declared.lookup n = some e) (hk : e.isToken = false ∧ e.isRule = false ∧ e.isExt = false) :
      Injection s s' .notRuleOrToken (some r.id) ln
  /-- a literal no token is made of -/
  | unknownAlias (r : PRule) (c : ParCarrier r s s') (ln : Line) (t : String) (b : Nat)
      (h : PAtom.alias ln t b ∈ r.atoms) (ht : t ≠ "") (hu : s'.declared.aliasCount t = 0) :
      Injection s s' .unknownLiteral (some r.id) ln
  /-- a literal two tokens are made of -/
  | ambiguousAlias (r : PRule) (c : ParCarrier r s s') (ln : Line) (t : String) (b : Nat)
      (h : PAtom.alias ln t b ∈ r.atoms) (ht : t ≠ "") (hu : 2 ≤ s'.declared.aliasCount t) :
      Injection s s' .ambiguousLiteral (some r.id) ln
  /-- `@list` whose element is not a plain token or rule -/
  | listEntryNotSimple (r : PRule) (c : ParCarrier r s s') (ln : Line) (e sp : PAtom)
      (h : PAtom.list ln e sp ∈ r.atoms) (hk : e.isSimple = false) :
      Injection s s' .listEntryNotSimple (some r.id) e.line
  /-- `@list` whose separator is not a plain token or rule -/
  | listSepNotSimple (r : PRule) (c : ParCarrier r s s') (ln : Line) (e sp : PAtom)
      (h : PAtom.list ln e sp ∈ r.atoms) (hk : e.isSimple = true) (hk' : sp.isSimple = false) :
      Injection s s' .listSepNotSimple (some r.id) e.line
  /-- an empty literal in a production -/
  | emptyAlias (r : PRule) (h : AddedStmt (.prule r) s s') (ln : Line) (b : Nat) (ha : PAtom.alias ln "" b ∈ r.atoms) :
      Injection s s' .emptyLiteral (some r.id) ln
  /-- an escape that names no code point, in a literal of a production -/
  | badEscapePar (r : PRule) (h : AddedStmt (.prule r) s s') (ln : Line) (t : String) (b : Nat)
      (ha : PAtom.alias ln t (b + 1) ∈ r.atoms) : Injection s s' .badEscape (some r.id) ln
  /-- `@left(0)` or a precedence that does not fit -/
  | badPrecedence (r : PRule) (h : AddedStmt (.prule r) s s') (p : Prod) (hp : p ∈ r.prods) (q : Qual)
      (hq : p.qual = some q) (hb : q.bad = true) : Injection s s' .badPrecedence (some r.id) q.line
  /-- no `@start`: a first parser rule, not marked `@start`, in a specification without parser section -/
  | noStart (r : PRule) (c : ParCarrier r s s') (hnone : s.prules = []) (hck : r.check s'.declared = []) :
      Injection s s' .startUndefined none 0
  /-- a cardinality other than `?` on `@list` -/
  | listCard (r : PRule) (h : AddedStmt (.prule r) s s') (t : PTerm) (ht : t ∈ r.terms) (hb : t.badListCard = true) :
      Injection s s' .listCard (some r.id) t.atom.line

end Lox.Dec.Analyze
