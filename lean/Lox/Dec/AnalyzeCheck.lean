import Lox.Dec.AnalyzeTraverse
/-! # C17 — stage 0 and pass `Check`: what each asks of a leaf, an action, an atom

For every kind of node the diagnostics of the node itself are empty exactly when a condition on the
node holds (`escOk`, `synOk` for stage 0, `checkOk` for `Check`); a rule, and then the specification, is
clean when all its nodes are (`Clean0`, `Clean2`). -/
namespace Lox.Dec.Analyze

theorem rep_eq_nil (n : Nat) (d : Diag) : rep n d = [] ↔ n = 0 := by
  simp [rep]

theorem Leaf.syntaxDiags_eq_nil (id : DeclId) (l : Leaf) : l.syntaxDiags id = [] ↔ l.escOk = true := by
  cases l <;> simp [Leaf.syntaxDiags, Leaf.escOk, rep_eq_nil]

theorem LexRule.syntaxDiags_eq_nil (r : LexRule) : r.syntaxDiags = [] ↔ ∀ l ∈ r.leaves, l.escOk = true := by
  simp only [LexRule.syntaxDiags_eq, List.flatMap_eq_nil_iff, Leaf.syntaxDiags_eq_nil]

def PAtom.synOk : PAtom → Bool
  | .alias _ t b => b == 0 && !t.isEmpty
  | _ => true

theorem PAtom.syntaxSelf_eq_nil (id : DeclId) (x : PAtom) : x.syntaxSelf id = [] ↔ x.synOk = true := by
  cases x with
  | alias l t b => cases ht : t.isEmpty <;> simp [PAtom.syntaxSelf, PAtom.syntaxDiags, PAtom.synOk, rep_eq_nil, ht]
  | _ => simp [PAtom.syntaxSelf, PAtom.syntaxDiags, PAtom.synOk]

theorem PAtom.syntaxDiags_eq_nil (id : DeclId) (a : PAtom) :
    a.syntaxDiags id = [] ↔ ∀ x ∈ a.atoms, x.synOk = true :=
  (eq_nil_of_mem_iff fun _ => PAtom.mem_syntaxDiags).trans
    (forall₂_congr fun x _ => PAtom.syntaxSelf_eq_nil id x)

theorem Qual.syntaxDiags_eq_nil (id : DeclId) (q : Option Qual) :
    Qual.syntaxDiags id q = [] ↔ ∀ x, q = some x → x.bad = false := by
  cases q with
  | none => simp [Qual.syntaxDiags]
  | some x => cases h : x.bad <;> simp [Qual.syntaxDiags, h]

structure PRule.Clean0 (r : PRule) : Prop where
  atoms : ∀ p ∈ r.prods, ∀ t ∈ p.terms, ∀ x ∈ t.atom.atoms, x.synOk = true
  cards : ∀ p ∈ r.prods, ∀ t ∈ p.terms, t.badListCard = false
  quals : ∀ p ∈ r.prods, ∀ x, p.qual = some x → x.bad = false

theorem PRule.syntaxDiags_eq_nil (r : PRule) : r.syntaxDiags = [] ↔ r.Clean0 := by
  simp only [PRule.syntaxDiags, Prod.syntaxDiags, PTerm.syntaxDiags, List.flatMap_eq_nil_iff, List.append_eq_nil_iff,
    PAtom.syntaxDiags_eq_nil, Qual.syntaxDiags_eq_nil, ite_eq_right_iff, reduceCtorEq, imp_false, Bool.not_eq_true]
  exact ⟨fun h => ⟨fun p hp t ht => ((h p hp).1 t ht).1, fun p hp t ht => ((h p hp).1 t ht).2, fun p hp => (h p hp).2⟩,
    fun c p hp => ⟨fun t ht => ⟨c.atoms p hp t ht, c.cards p hp t ht⟩, c.quals p hp⟩⟩

/-- Stage 0 in terms of the declarations. -/
structure Clean0 (s : Spec) : Prop where
  lex : ∀ r ∈ s.lexRules, ∀ l ∈ r.leaves, l.escOk = true
  par : ∀ r ∈ s.prules, r.Clean0

theorem syntaxDiags_eq_nil_units (s : Spec) : syntaxDiags s = [] ↔ ∀ u ∈ s.units, u.syntaxDiags = [] := by
  simp [syntaxDiags, firstNonEmpty_eq_nil]

theorem syntaxDiags_eq_nil (s : Spec) : syntaxDiags s = [] ↔ Clean0 s := by
  have : (∀ u ∈ s.units, u.syntaxDiags = []) ↔ s.stmts.flatMap Stmt.syntaxDiags = [] := by
    simp only [Spec.stmts, Unit.syntaxDiags, List.flatMap_eq_nil_iff, List.mem_flatMap]
    exact ⟨fun h st ⟨u, hu, hst⟩ => h u hu st hst, fun h u hu st hst => h st ⟨u, hu, hst⟩⟩
  rw [syntaxDiags_eq_nil_units, this, flatMap_rules_eq_nil Stmt.syntaxDiags_eq]
  simp only [LexRule.syntaxDiags_eq_nil, PRule.syntaxDiags_eq_nil]
  exact ⟨fun ⟨a, b⟩ => ⟨a, b⟩, fun ⟨a, b⟩ => ⟨a, b⟩⟩

/-! References are looked up in the name table: an unknown name gets one diagnostic, a name of the wrong
kind another. `Leaf.check_ref`, `Action.check_emit`, `PAtom.checkSelf_name` bring the three look-ups into
that one shape. -/

theorem Ent.isToken_iff (e : Ent) : e.isToken = true ↔ ∃ a, e = .token a := by
  cases e <;> simp [Ent.isToken]

theorem Ent.isRule_iff (e : Ent) : e.isRule = true ↔ ∃ b, e = .rule b := by
  cases e <;> simp [Ent.isRule]

theorem Ent.isExt_iff (e : Ent) : e.isExt = true ↔ e = .ext := by
  cases e <;> simp [Ent.isExt]

theorem Ent.isMode_iff (e : Ent) : e.isMode = true ↔ e = .mode := by
  cases e <;> simp [Ent.isMode]

theorem Ent.isMacro_iff (e : Ent) : e.isMacro = true ↔ ∃ id l ex, e = .macro id l ex := by
  cases e <;> simp [Ent.isMacro]

theorem lookup_check_eq_nil {o : Option Ent} {p : Ent → Bool} {d₁ d₂ : Diag} :
    (match o with | none => [d₁] | some e => if p e then [] else [d₂]) = [] ↔ ∃ e, o = some e ∧ p e = true := by
  cases o with
  | none => simp
  | some e => cases h : p e <;> simp [h]

theorem mem_lookup_check {o : Option Ent} {p : Ent → Bool} {d₁ d₂ d : Diag}
    (h : d ∈ match o with | none => [d₁] | some e => if p e then [] else [d₂]) : d = d₁ ∨ d = d₂ := by
  cases o with
  | none => exact Or.inl (List.mem_singleton.1 h)
  | some e => cases hp : p e <;> simp [hp] at h; exact Or.inr h

theorem Leaf.check_ref (env : Env) (id : DeclId) (l : Line) (n : Name) : (Leaf.ref l n).check env id =
    match env.lookup n with
    | none => [⟨.undefined, l, n, some id⟩]
    | some e => if e.isMacro then [] else [⟨.notMacro, l, n, some id⟩] := by
  rw [Leaf.check]
  cases env.lookup n with
  | none => rfl
  | some e => cases e <;> rfl

theorem Action.check_emit (env : Env) (id : DeclId) (l : Line) (n : Name) : (Action.emit l n).check env id =
    match env.lookup n with
    | none => [⟨.undefined, l, n, some id⟩]
    | some e => if e.isToken || e.isExt then [] else [⟨.notToken, l, n, some id⟩] := by
  rw [Action.check]
  cases env.lookup n with
  | none => rfl
  | some e => cases e <;> rfl

theorem PAtom.checkSelf_name (env : Env) (id : DeclId) (l : Line) (n : Name) : (PAtom.name l n).checkSelf env id =
    match env.lookup n with
    | none => [⟨.undefined, l, n, some id⟩]
    | some e => if e.isToken || e.isRule || e.isExt then [] else [⟨.notRuleOrToken, l, n, some id⟩] := by
  show (PAtom.name l n).check env id = _
  rw [PAtom.check]
  cases env.lookup n with
  | none => rfl
  | some e => cases e <;> rfl

def CharClass.ordered (c : CharClass) : Prop := ∀ i ∈ c.items, i.lo ≤ i.hi

theorem CharClass.check_eq_nil (id : DeclId) (c : CharClass) : c.check id = [] ↔ c.ordered := by
  simp [CharClass.check, reversedItems, List.filter_eq_nil_iff, CharClass.ordered, Nat.not_lt]

def Leaf.checkOk (env : Env) : Leaf → Prop
  | .lit _ t _ => t ≠ ""
  | .ref _ n => ∃ id l e, env.lookup n = some (.macro id l e)
  | .cls c => c.ordered
  | .diff a b => a.ordered ∧ b.ordered
  | .dot _ => True

theorem Leaf.check_eq_nil (env : Env) (id : DeclId) (l : Leaf) : l.check env id = [] ↔ l.checkOk env := by
  cases l with
  | lit ln t b => cases h : t.isEmpty <;> simp_all [Leaf.check, Leaf.checkOk, String.isEmpty_iff]
  | ref ln n =>
    rw [Leaf.check_ref, lookup_check_eq_nil]
    simp only [Leaf.checkOk, Ent.isMacro_iff]
    exact ⟨fun ⟨_, h, id, l, e, he⟩ => ⟨id, l, e, he ▸ h⟩, fun ⟨id, l, e, h⟩ => ⟨_, h, id, l, e, rfl⟩⟩
  | cls c => exact CharClass.check_eq_nil id c
  | diff a b => simp [Leaf.check, Leaf.checkOk, CharClass.check_eq_nil]
  | dot ln => simp [Leaf.check, Leaf.checkOk]

def Action.checkOk (env : Env) : Action → Prop
  | .pushMode _ m => env.hasMode m = true
  | .emit _ n => ∃ e, env.lookup n = some e ∧ (e.isToken = true ∨ e.isExt = true)
  | _ => True

theorem Action.check_eq_nil (env : Env) (id : DeclId) (a : Action) : a.check env id = [] ↔ a.checkOk env := by
  cases a with
  | discard l => simp [Action.check, Action.checkOk]
  | popMode l => simp [Action.check, Action.checkOk]
  | pushMode l m => cases h : env.hasMode m <;> simp [Action.check, Action.checkOk, h]
  | emit l n =>
    rw [Action.check_emit, lookup_check_eq_nil]
    simp only [Bool.or_eq_true, Action.checkOk]

theorem LexRule.check_eq_nil (env : Env) (r : LexRule) :
    r.check env = [] ↔ (∀ l ∈ r.leaves, l.checkOk env) ∧ (∀ a ∈ r.actions, a.checkOk env) := by
  simp only [LexRule.check_eq, List.append_eq_nil_iff, List.flatMap_eq_nil_iff, Leaf.check_eq_nil, Action.check_eq_nil]

def PAtom.checkOk (env : Env) : PAtom → Prop
  | .name _ n => ∃ e, env.lookup n = some e ∧ (e.isToken = true ∨ e.isRule = true ∨ e.isExt = true)
  | .alias _ t _ => t = "" ∨ env.aliasCount t = 1
  | .error _ => True
  | .list _ e sp => e.isSimple = true ∧ sp.isSimple = true

theorem PAtom.checkSelf_eq_nil (env : Env) (id : DeclId) (x : PAtom) : x.checkSelf env id = [] ↔ x.checkOk env := by
  cases x with
  | name l n =>
    rw [PAtom.checkSelf_name, lookup_check_eq_nil]
    simp only [Bool.or_eq_true, PAtom.checkOk, or_assoc]
  | alias l t b =>
    simp only [PAtom.checkSelf, PAtom.check, PAtom.checkOk]
    cases ht : t.isEmpty
    · have : t ≠ "" := fun e => by simp [e] at ht
      rcases hc : env.aliasCount t with _ | _ | k <;> simp [this]
    · simp [String.isEmpty_iff.1 ht]
  | error l => simp [PAtom.checkSelf, PAtom.check, PAtom.checkOk]
  | list l e sp => cases he : e.isSimple <;> cases hs : sp.isSimple <;> simp [PAtom.checkSelf, PAtom.checkOk, he, hs]

theorem PAtom.check_eq_nil (env : Env) (id : DeclId) (a : PAtom) :
    a.check env id = [] ↔ ∀ x ∈ a.atoms, x.checkOk env :=
  (eq_nil_of_mem_iff fun _ => PAtom.mem_check).trans (forall₂_congr fun x _ => PAtom.checkSelf_eq_nil env id x)

theorem PRule.check_eq_nil (env : Env) (r : PRule) :
    r.check env = [] ↔ ∀ t ∈ r.terms, ∀ x ∈ t.atom.atoms, x.checkOk env := by
  simp only [PRule.check, PTerm.check, List.flatMap_eq_nil_iff, PAtom.check_eq_nil, mem_terms]
  exact ⟨fun h t ⟨p, hp, ht⟩ => h p hp t ht, fun h p hp t ht => h t ⟨p, hp, ht⟩⟩

/-- Pass `Check` in terms of the declarations. -/
structure Clean2 (s : Spec) (env : Env) : Prop where
  leaves : ∀ r ∈ s.lexRules, ∀ l ∈ r.leaves, l.checkOk env
  actions : ∀ r ∈ s.lexRules, ∀ a ∈ r.actions, a.checkOk env
  atoms : ∀ r ∈ s.prules, ∀ t ∈ r.terms, ∀ x ∈ t.atom.atoms, x.checkOk env

theorem check_nil_iff (env : Env) (s : Spec) : check env s = [] ↔ Clean2 s env := by
  simp only [check, flatMap_rules_eq_nil (Stmt.check_eq env), LexRule.check_eq_nil, PRule.check_eq_nil]
  exact ⟨fun ⟨h1, h2⟩ => ⟨fun r hr => (h1 r hr).1, fun r hr => (h1 r hr).2, h2⟩,
    fun ⟨h1, h2, h3⟩ => ⟨fun r hr => ⟨h1 r hr, h2 r hr⟩, h3⟩⟩

end Lox.Dec.Analyze
