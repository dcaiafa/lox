import Lox.Dec.AnalyzeGenerate
/-! # C17 — `analyze` stage by stage

`analyze` reports what the first of its stages that has anything to say reports (`mem_analyze`), and nothing
exactly when each stage is clean (`analyze_nil_iff_clean`). The digit of `Clean0`, `Clean1`, `Clean2`, `Clean4`
is the stage: 0 is `parser.Parse`, 1 to 4 are the passes `CreateNames`, `Check`, `Normalize`, `GenerateGrammar`
of `Context.Analyze`; `Normalize` reports nothing, so there is no `Clean3`. -/
namespace Lox.Dec.Analyze

theorem analyze_eq (s : Spec) : analyze s =
    if syntaxDiags s = [] then
      if (createNames s).2 = [] then
        if check (createNames s).1 s = [] then generate (createNames s).1 s else check (createNames s).1 s
      else (createNames s).2
    else syntaxDiags s := by
  simp only [analyze, isEmpty_false_iff, ne_eq, ite_not]

/-- A diagnostic is reported iff it belongs to the first stage that has any. Every stage runs on a specification
that the stages before it accepted, the passes `Check` and `GenerateGrammar` with the name table `s.declared`. -/
theorem mem_analyze {s : Spec} {d : Diag} : d ∈ analyze s ↔
    d ∈ syntaxDiags s ∨ Clean0 s ∧ (d ∈ (createNames s).2 ∨ Clean1 s ∧
      (d ∈ check s.declared s ∨ Clean2 s s.declared ∧ d ∈ generate s.declared s)) := by
  rw [analyze_eq, ← syntaxDiags_eq_nil, ← createNames_nil_iff]
  split
  · next h0 =>
    split
    · next h1 =>
      rw [createNames_env s h1, ← check_nil_iff]
      split
      · next h2 => simp only [h0, h1, h2, true_and, false_or, List.not_mem_nil]
      · next h2 => simp only [h0, h1, h2, true_and, false_or, false_and, or_false, List.not_mem_nil]
    · next h1 => simp only [h0, h1, true_and, false_or, false_and, or_false, List.not_mem_nil]
  · next h0 => simp only [h0, false_and, or_false]

theorem analyze_nil_iff_clean (s : Spec) :
    analyze s = [] ↔ Clean0 s ∧ Clean1 s ∧ Clean2 s s.declared ∧ Clean4 s s.declared := by
  rw [analyze_eq]
  by_cases h0 : syntaxDiags s = []
  · by_cases h1 : (createNames s).2 = []
    · have c1 := (createNames_nil_iff s).1 h1
      rw [if_pos h0, if_pos h1, createNames_env s h1]
      by_cases h2 : check s.declared s = []
      · have c2 := (check_nil_iff _ s).1 h2
        rw [if_pos h2, generate_nil_iff c1.nodup c2]
        exact ⟨fun h => ⟨(syntaxDiags_eq_nil s).1 h0, c1, c2, h⟩, fun h => h.2.2.2⟩
      · rw [if_neg h2]
        exact ⟨fun h => absurd h h2, fun h => absurd ((check_nil_iff _ s).2 h.2.2.1) h2⟩
    · rw [if_pos h0, if_neg h1]
      exact ⟨fun h => absurd h h1, fun h => absurd ((createNames_nil_iff s).2 h.2.1) h1⟩
  · rw [if_neg h0]
    exact ⟨fun h => absurd h h0, fun h => absurd ((syntaxDiags_eq_nil s).2 h.1) h0⟩

end Lox.Dec.Analyze
