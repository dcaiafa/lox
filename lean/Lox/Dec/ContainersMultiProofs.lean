import Lox.Dec.ContainersOps
/-! `stablemap.MultiMap[K,V]` (a `Map[K, *array.Array[V]]` plus the `array.Array` objects it points
to) refines "keys in first-insertion order, each with its values in insertion order". -/
set_option linter.unusedSectionVars false
namespace Lox.Dec.Containers

section Multi
variable {K V : Type} [DecidableEq K] [Inhabited K]

def elemsAt (arrs : Array (List V)) (p : Ptr) : List V :=
  match p with
  | none => []
  | some a => (arrs[a]?).getD []

/-- The pointers are pairwise different: `Add` appends to the array object in place, so no other key
may share it. -/
def MRep (m : CMulti K V) (l : AMulti K V) : Prop :=
  ∃ lp : AMap K Ptr, Rep m.map lp ∧ (∀ e ∈ lp, ∃ a, e.2 = some a ∧ a < m.arrs.size) ∧
    (lp.map (·.2)).Nodup ∧ l = lp.map fun e => (e.1, elemsAt m.arrs e.2)

theorem mrep_zero : MRep (CMulti.zero : CMulti K V) [] :=
  ⟨[], rep_zero, by simp, by simp, rfl⟩

theorem arrElems_some (arrs : Array (List V)) (a : Nat) (ha : a < arrs.size) :
    arrElems arrs (some a) = .ok (elemsAt arrs (some a)) := by
  simp [arrElems, elemsAt, Array.getElem?_eq_getElem ha]

theorem mmElemsAll_ok (arrs : Array (List V)) (lp : List (K × Ptr))
    (h : ∀ e ∈ lp, ∃ a, e.2 = some a ∧ a < arrs.size) :
    mmElemsAll arrs lp = .ok (lp.map fun e => (e.1, elemsAt arrs e.2)) := by
  induction lp with
  | nil => rfl
  | cons e lp ih =>
    obtain ⟨k, p⟩ := e
    obtain ⟨a, rfl, ha⟩ := h (k, p) (by simp)
    simp only [mmElemsAll, arrElems_some arrs a ha, ok_bind,
      ih (fun e he => h e (List.mem_cons_of_mem _ he)), pure_eq_ok, List.map_cons]

theorem any_map_snd {β γ : Type} (lp : List (K × β)) (f : β → γ) (k : K) :
    (lp.map fun e => (e.1, f e.2)).any (fun e => decide (e.1 = k)) =
      lp.any (fun e => decide (e.1 = k)) := by
  rw [List.any_fst_eq, List.any_fst_eq, List.lookup_map_snd, Option.isSome_map]

theorem aMMAdd_of_lookup_isSome {l : AMulti K V} {k : K} (h : (l.lookup k).isSome = true) (v : V) :
    aMMAdd l k v = l.map fun e => if e.1 = k then (e.1, e.2 ++ [v]) else e := by
  rw [aMMAdd, List.any_fst_eq, if_pos h]

theorem aMMAdd_of_lookup_none {l : AMulti K V} {k : K} (h : l.lookup k = none) (v : V) :
    aMMAdd l k v = l ++ [(k, [v])] := by
  rw [aMMAdd, List.any_fst_eq, h]; rfl

theorem elemsAt_modify_self (arrs : Array (List V)) (a : Nat) (v : V) (ha : a < arrs.size) :
    elemsAt (arrs.modify a (· ++ [v])) (some a) = elemsAt arrs (some a) ++ [v] := by
  simp [elemsAt, Array.getElem?_modify, Array.getElem?_eq_getElem ha]

theorem elemsAt_modify_ne (arrs : Array (List V)) (a : Nat) (v : V) (p : Ptr) (hp : p ≠ some a) :
    elemsAt (arrs.modify a (· ++ [v])) p = elemsAt arrs p := by
  cases p with
  | none => rfl
  | some b =>
    have : a ≠ b := fun e => hp (by rw [e])
    simp [elemsAt, Array.getElem?_modify, this]

theorem MRep.add {m : CMulti K V} {l : AMulti K V} (h : MRep m l) (k : K) (v : V) :
    ∃ m', mmAdd m k v = .ok m' ∧ MRep m' (aMMAdd l k v) := by
  obtain ⟨lp, hrep, hval, hnd, rfl⟩ := h
  replace hrep : Rep m.map lp := hrep
  have hkeys := hrep.keys_nodup
  have hlook := List.lookup_map_snd lp (elemsAt m.arrs) k
  cases hlk : lp.lookup k with
  | some p =>
    -- the key has an array object `a`: append to it; no other entry points to `a`
    have hmem : (k, p) ∈ lp := (List.lookup_eq_some_iff_mem hkeys k p).mp hlk
    obtain ⟨a, hpa, ha⟩ := hval (k, p) hmem
    simp only at hpa
    subst hpa
    refine ⟨{ map := m.map, arrs := m.arrs.modify a (· ++ [v]) }, ?_, lp, hrep, ?_, hnd, ?_⟩
    · simp [mmAdd, hrep.get k, aGet, hlk, arrAdd, ha]
    · intro e he
      obtain ⟨b, hb1, hb2⟩ := hval e he
      exact ⟨b, hb1, by simpa using hb2⟩
    · rw [aMMAdd_of_lookup_isSome (by rw [hlook, hlk]; rfl), List.map_map]
      refine List.map_congr_left fun e he => ?_
      simp only [Function.comp]
      by_cases hek : e.1 = k
      · have h2 : e.2 = some a := Option.some.inj
          (((List.lookup_eq_some_iff_mem hkeys k e.2).mpr (hek ▸ he)).symm.trans hlk)
        rw [if_pos hek, h2, elemsAt_modify_self m.arrs a v ha]
      · have hne : e.2 ≠ some a := fun heq =>
          hek (congrArg Prod.fst (List.eq_of_map_eq hnd he hmem heq))
        rw [if_neg hek, elemsAt_modify_ne m.arrs a v e.2 hne]
  | none =>
    -- a new key: a fresh array object `m.arrs.size`, registered under `k`, then the append
    obtain ⟨map', hput, hrep'⟩ := hrep.put k (some m.arrs.size)
    rw [aPut_of_lookup_none hlk] at hrep'
    have hsz : m.arrs.size < (m.arrs.push []).size := by simp
    have hold : ∀ e ∈ lp, ∃ b, e.2 = some b ∧ b < m.arrs.size ∧ e.2 ≠ some m.arrs.size :=
      fun e he => by
        obtain ⟨b, hb1, hb2⟩ := hval e he
        exact ⟨b, hb1, hb2, hb1 ▸ fun heq => Nat.ne_of_lt hb2 (Option.some.inj heq)⟩
    refine ⟨{ map := map', arrs := (m.arrs.push []).modify m.arrs.size (· ++ [v]) }, ?_,
      lp ++ [(k, some m.arrs.size)], hrep', ?_, ?_, ?_⟩
    · simp [mmAdd, hrep.get k, aGet, hlk, hput, arrAdd]
    · intro e he
      rcases List.mem_append.mp he with he | he
      · obtain ⟨b, hb1, hb2, -⟩ := hold e he
        exact ⟨b, hb1, by rw [Array.size_modify, Array.size_push]; exact Nat.lt_succ_of_lt hb2⟩
      · rw [List.mem_singleton.mp he]
        exact ⟨m.arrs.size, rfl, by simp⟩
    · rw [List.map_append]
      refine nodup_concat hnd fun hx => ?_
      obtain ⟨e, he, heq⟩ := List.mem_map.mp hx
      obtain ⟨-, -, -, hne⟩ := hold e he
      exact hne heq
    · have e1 : ∀ e ∈ lp, (e.1, elemsAt ((m.arrs.push []).modify m.arrs.size (· ++ [v])) e.2) =
          (e.1, elemsAt m.arrs e.2) := fun e he => by
        obtain ⟨b, hb1, hb2, hne⟩ := hold e he
        rw [elemsAt_modify_ne _ _ _ _ hne, hb1]
        simp [elemsAt, Array.getElem?_push, Nat.ne_of_lt hb2]
      have e2 : elemsAt ((m.arrs.push []).modify m.arrs.size (· ++ [v])) (some m.arrs.size) =
          [v] := by
        rw [elemsAt_modify_self _ _ _ hsz]
        simp [elemsAt]
      rw [aMMAdd_of_lookup_none (by rw [hlook, hlk]; rfl), List.map_append, List.map_singleton,
        List.map_congr_left e1, e2]

theorem MRep.get {m : CMulti K V} {l : AMulti K V} (h : MRep m l) (k : K) :
    mmGet m k = .ok (match l.lookup k with
      | some es => (es, true)
      | none => ([], false)) := by
  obtain ⟨lp, hrep, hval, hnd, rfl⟩ := h
  replace hrep : Rep m.map lp := hrep
  rw [List.lookup_map_snd]
  cases hlk : lp.lookup k with
  | some p =>
    have hmem : (k, p) ∈ lp := (List.lookup_eq_some_iff_mem hrep.keys_nodup k p).mp hlk
    obtain ⟨a, hpa, ha⟩ := hval (k, p) hmem
    simp only at hpa
    subst hpa
    simp [mmGet, hrep.get k, aGet, hlk, arrElems_some m.arrs a ha]
  | none =>
    have : (default : Ptr) = none := rfl
    simp [mmGet, hrep.get k, aGet, hlk, this, arrElems]

theorem MRep.forEach {m : CMulti K V} {l : AMulti K V} (h : MRep m l) :
    mmForEach m = .ok l := by
  obtain ⟨lp, hrep, hval, hnd, rfl⟩ := h
  replace hrep : Rep m.map lp := hrep
  simp only [mmForEach, hrep.forEach, ok_bind, mmElemsAll_ok m.arrs lp hval]

theorem MRep.remove {m : CMulti K V} {l : AMulti K V} (h : MRep m l) (k : K) :
    ∃ m', mmRemove m k = .ok m' ∧ MRep m' (l.filter fun e => decide (e.1 ≠ k)) := by
  obtain ⟨lp, hrep, hval, hnd, rfl⟩ := h
  replace hrep : Rep m.map lp := hrep
  obtain ⟨map', h1, h2⟩ := hrep.remove k
  refine ⟨{ map := map', arrs := m.arrs }, by simp [mmRemove, h1], aRemove lp k, h2, ?_, ?_, ?_⟩
  · intro e he
    exact hval e (List.mem_filter.mp he).1
  · exact hnd.sublist ((List.filter_sublist).map _)
  · simp only [aRemove, List.filter_map]
    rfl

theorem MRep.clear {m : CMulti K V} {l : AMulti K V} (h : MRep m l) :
    ∃ m', mmClear m = .ok m' ∧ MRep m' [] := by
  obtain ⟨lp, hrep, hval, hnd, rfl⟩ := h
  replace hrep : Rep m.map lp := hrep
  obtain ⟨map', h1, h2⟩ := hrep.clear
  exact ⟨{ map := map', arrs := m.arrs }, by simp [mmClear, h1], [], h2, by simp, by simp, rfl⟩

theorem mmStep_refines {m : CMulti K V} {l : AMulti K V} (h : MRep m l) (op : MOp K V) :
    ∃ m', mmStep op m = .ok ((mmSpecStep op l).1, m') ∧ MRep m' (mmSpecStep op l).2 := by
  cases op with
  | add k v =>
    obtain ⟨m', h1, h2⟩ := h.add k v
    exact ⟨m', by simp [mmStep, h1, mmSpecStep], h2⟩
  | get k =>
    refine ⟨m, ?_, h⟩
    simp only [mmStep, h.get k, ok_bind, pure_eq_ok, mmSpecStep]
    cases l.lookup k <;> rfl
  | has k =>
    obtain ⟨lp, hrep, hval, hnd, rfl⟩ := h
    replace hrep : Rep m.map lp := hrep
    exact ⟨m, by simp only [mmStep, hrep.has k, mmSpecStep, any_map_snd], lp, hrep, hval, hnd, rfl⟩
  | len =>
    obtain ⟨lp, hrep, hval, hnd, rfl⟩ := h
    replace hrep : Rep m.map lp := hrep
    exact ⟨m, by simp [mmStep, hrep.len, mmSpecStep], lp, hrep, hval, hnd, rfl⟩
  | remove k =>
    obtain ⟨m', h1, h2⟩ := h.remove k
    exact ⟨m', by simp [mmStep, h1, mmSpecStep], h2⟩
  | clear =>
    obtain ⟨m', h1, h2⟩ := h.clear
    exact ⟨m', by simp [mmStep, h1, mmSpecStep], h2⟩
  | keys =>
    obtain ⟨lp, hrep, hval, hnd, rfl⟩ := h
    replace hrep : Rep m.map lp := hrep
    refine ⟨m, ?_, lp, hrep, hval, hnd, rfl⟩
    simp only [mmStep, keys, hrep.forEach, ok_bind, pure_eq_ok, mmSpecStep, List.map_map]
    rfl
  | forEach => exact ⟨m, by simp [mmStep, h.forEach, mmSpecStep], h⟩

theorem mmRun_refines {m : CMulti K V} {l : AMulti K V} (h : MRep m l) (ops : List (MOp K V)) :
    ∃ m', mmRun ops m = .ok ((mmRunSpec ops l).1, m') ∧ MRep m' (mmRunSpec ops l).2 := by
  induction ops generalizing m l with
  | nil => exact ⟨m, rfl, h⟩
  | cons op ops ih =>
    obtain ⟨m₁, h1, h2⟩ := mmStep_refines h op
    obtain ⟨m₂, h3, h4⟩ := ih h2
    exact ⟨m₂, by simp [mmRun, mmRunSpec, h1, h3], h4⟩

end Multi
end Lox.Dec.Containers
