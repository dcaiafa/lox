import Lox.Dec.Analyze
/-! # C17 — how the passes reach the declarations of a specification

Every pass walks over the statements, and inside a statement over its lexer rules or its parser
rule; inside a rule over leaves, actions, atoms. The lemmas here turn each such walk into a statement
about `Spec.lexRules`, `Spec.prules`, `LexRule.leaves`, `LexRule.actions`, `PRule.atoms`: what a pass
says about the specification is what it says about one of these items. -/
namespace Lox.Dec.Analyze

theorem isEmpty_false_iff {α : Type} (l : List α) : (!l.isEmpty) = true ↔ l ≠ [] := by
  cases l <;> simp

theorem firstNonEmpty_cons_of_ne {l : List Diag} (hl : l ≠ []) (ls : List (List Diag)) :
    firstNonEmpty (l :: ls) = l := by
  cases l with
  | nil => exact absurd rfl hl
  | cons x xs => rfl

theorem firstNonEmpty_append_of_nil {ls₁ : List (List Diag)} (h : ∀ l ∈ ls₁, l = []) (ls₂ : List (List Diag)) :
    firstNonEmpty (ls₁ ++ ls₂) = firstNonEmpty ls₂ := by
  induction ls₁ with
  | nil => rfl
  | cons a as ih =>
    obtain rfl := h a List.mem_cons_self
    exact ih fun l hl => h l (List.mem_cons_of_mem _ hl)

theorem firstNonEmpty_eq_nil (ls : List (List Diag)) : firstNonEmpty ls = [] ↔ ∀ l ∈ ls, l = [] := by
  induction ls with
  | nil => simp [firstNonEmpty]
  | cons d ds ih => cases d <;> simp [firstNonEmpty, ih]

theorem mem_firstNonEmpty {ls : List (List Diag)} {d : Diag} (h : d ∈ firstNonEmpty ls) : ∃ l ∈ ls, d ∈ l := by
  induction ls with
  | nil => simp [firstNonEmpty] at h
  | cons x xs ih =>
    cases x with
    | nil =>
      obtain ⟨l, hl, hd⟩ := ih h
      exact ⟨l, List.mem_cons_of_mem _ hl, hd⟩
    | cons y ys => exact ⟨y :: ys, List.mem_cons_self, h⟩

theorem eq_nil_of_mem_iff {α β : Type} {l : List α} {xs : List β} {f : β → List α}
    (h : ∀ d, d ∈ l ↔ ∃ x ∈ xs, d ∈ f x) : l = [] ↔ ∀ x ∈ xs, f x = [] := by
  simp only [List.eq_nil_iff_forall_not_mem, h, not_exists, not_and]
  exact ⟨fun h x hx d => h d x hx, fun h d x hx => h x hx d⟩

/-- Stage 0 of a parser rule (`Stmt.syntaxDiags` of the statement that holds it). -/
def PRule.syntaxDiags (r : PRule) : List Diag := r.prods.flatMap (Prod.syntaxDiags r.id)

/-- A walk over the statements that says something about a `@mode` block itself (`m`), about each lexer rule, inside
and outside the blocks, and about each parser rule. -/
theorem mem_flatMap_stmts {α : Type} {F : Stmt → List α} {m : DeclId → Line → Name → List LexRule → List α}
    {g : LexRule → List α} {h : PRule → List α}
    (hF : ∀ st, F st = (match st with | .mode id l n rs => m id l n rs | _ => []) ++ st.lexRules.flatMap g ++
      st.prules.flatMap h) {s : Spec} {d : α} :
    d ∈ s.stmts.flatMap F ↔ (∃ r ∈ s.lexRules, d ∈ g r) ∨ (∃ r ∈ s.prules, d ∈ h r) ∨
      ∃ id l n rs, Stmt.mode id l n rs ∈ s.stmts ∧ d ∈ m id l n rs := by
  simp only [List.mem_flatMap, hF, List.mem_append, Spec.lexRules, Spec.prules]
  constructor
  · rintro ⟨st, hst, (hd | ⟨r, hr, hd⟩) | ⟨r, hr, hd⟩⟩
    · cases st with
      | mode id l n rs => exact Or.inr (Or.inr ⟨id, l, n, rs, hst, hd⟩)
      | _ => cases hd
    · exact Or.inl ⟨r, ⟨st, hst, hr⟩, hd⟩
    · exact Or.inr (Or.inl ⟨r, ⟨st, hst, hr⟩, hd⟩)
  · rintro (⟨r, ⟨st, hst, hr⟩, hd⟩ | ⟨r, ⟨st, hst, hr⟩, hd⟩ | ⟨id, l, n, rs, hst, hd⟩)
    · exact ⟨st, hst, Or.inl (Or.inr ⟨r, hr, hd⟩)⟩
    · exact ⟨st, hst, Or.inr ⟨r, hr, hd⟩⟩
    · exact ⟨_, hst, Or.inl (Or.inl hd)⟩

theorem mem_flatMap_rules {α : Type} {F : Stmt → List α} {g : LexRule → List α} {h : PRule → List α}
    (hF : ∀ st, F st = st.lexRules.flatMap g ++ st.prules.flatMap h) {s : Spec} {d : α} :
    d ∈ s.stmts.flatMap F ↔ (∃ r ∈ s.lexRules, d ∈ g r) ∨ (∃ r ∈ s.prules, d ∈ h r) := by
  simpa using mem_flatMap_stmts (m := fun _ _ _ _ => []) (fun st => by rw [hF]; cases st <;> rfl) (s := s) (d := d)

theorem flatMap_rules_eq_nil {α : Type} {F : Stmt → List α} {g : LexRule → List α} {h : PRule → List α}
    (hF : ∀ st, F st = st.lexRules.flatMap g ++ st.prules.flatMap h) {s : Spec} :
    s.stmts.flatMap F = [] ↔ (∀ r ∈ s.lexRules, g r = []) ∧ (∀ r ∈ s.prules, h r = []) := by
  simp only [List.eq_nil_iff_forall_not_mem, mem_flatMap_rules hF, not_or, not_exists, not_and, forall_and]
  exact ⟨fun ⟨h1, h2⟩ => ⟨fun r hr d => h1 d r hr, fun r hr d => h2 d r hr⟩,
    fun ⟨h1, h2⟩ => ⟨fun d r hr => h1 r hr d, fun d r hr => h2 r hr d⟩⟩

theorem Stmt.syntaxDiags_eq (st : Stmt) :
    st.syntaxDiags = st.lexRules.flatMap LexRule.syntaxDiags ++ st.prules.flatMap PRule.syntaxDiags := by
  cases st <;> simp [Stmt.syntaxDiags, Stmt.lexRules, Stmt.prules, PRule.syntaxDiags]

theorem Stmt.check_eq (env : Env) (st : Stmt) :
    st.check env = st.lexRules.flatMap (LexRule.check env) ++ st.prules.flatMap (PRule.check env) := by
  cases st <;> simp [Stmt.check, Stmt.lexRules, Stmt.prules]

theorem Stmt.generate_eq (env : Env) (st : Stmt) :
    st.generate env = st.lexRules.flatMap (LexRule.generate env) ++ st.prules.flatMap fun _ => [] := by
  cases st <;> simp [Stmt.generate, Stmt.lexRules, Stmt.prules]

theorem Stmt.events_eq (st : Stmt) :
    st.events = (match st with | .mode id l n _ => [modeEvent id l n] | _ => []) ++
      st.lexRules.flatMap LexRule.events ++ st.prules.map PRule.event := by
  cases st <;> simp [Stmt.events, Stmt.lexRules, Stmt.prules]

theorem Stmt.decls_eq (st : Stmt) :
    st.decls = (match st with | .mode id l _ rs => [⟨id, l :: rs.flatMap LexRule.lines⟩] | _ => []) ++
      st.lexRules.map LexRule.decl ++ st.prules.map PRule.decl := by
  cases st <;> simp [Stmt.decls, Stmt.lexRules, Stmt.prules]

theorem mem_check {env : Env} {s : Spec} {d : Diag} :
    d ∈ check env s ↔ (∃ r ∈ s.lexRules, d ∈ r.check env) ∨ (∃ r ∈ s.prules, d ∈ r.check env) :=
  mem_flatMap_rules (Stmt.check_eq env)

/-- Pass `GenerateGrammar`: what a lexer rule reports or, when none reports anything, the missing `@start`. -/
theorem mem_generate {env : Env} {s : Spec} {d : Diag} : d ∈ generate env s ↔
    (∃ r ∈ s.lexRules, d ∈ r.generate env) ∨ (∀ r ∈ s.lexRules, r.generate env = []) ∧
      env.hasRules = true ∧ env.hasStart = false ∧ d = ⟨.startUndefined, 0, "", none⟩ := by
  have hm : ∀ d, d ∈ s.stmts.flatMap (Stmt.generate env) ↔ ∃ r ∈ s.lexRules, d ∈ r.generate env := fun d => by
    simpa using mem_flatMap_rules (Stmt.generate_eq env) (s := s) (d := d)
  rw [← eq_nil_of_mem_iff hm, ← hm, generate]
  by_cases h : s.stmts.flatMap (Stmt.generate env) = []
  · simp [h, and_assoc]
  · simp [h]

theorem mem_events {s : Spec} {ev : Ev} :
    ev ∈ s.events ↔ (∃ r ∈ s.lexRules, ev ∈ r.events) ∨ (∃ r ∈ s.prules, ev = r.event) ∨
      (∃ id l n rs, Stmt.mode id l n rs ∈ s.stmts ∧ ev = modeEvent id l n) := by
  rw [Spec.events, mem_flatMap_stmts (m := fun id l n _ => [modeEvent id l n]) (g := LexRule.events)
    (h := fun r => [r.event]) (fun st => by rw [Stmt.events_eq, List.map_eq_flatMap])]
  simp only [List.mem_singleton]

theorem mem_decls {s : Spec} {D : Decl} :
    D ∈ s.decls ↔ (∃ r ∈ s.lexRules, D = r.decl) ∨ (∃ r ∈ s.prules, D = r.decl) ∨
      (∃ id l n rs, Stmt.mode id l n rs ∈ s.stmts ∧ D = ⟨id, l :: rs.flatMap LexRule.lines⟩) := by
  rw [Spec.decls, mem_flatMap_stmts (m := fun id l _ rs => [⟨id, l :: rs.flatMap LexRule.lines⟩])
    (g := fun r => [r.decl]) (h := fun r => [r.decl])
    (fun st => by rw [Stmt.decls_eq, List.map_eq_flatMap, List.map_eq_flatMap])]
  simp only [List.mem_singleton]

theorem LexRule.syntaxDiags_eq (r : LexRule) : r.syntaxDiags = r.leaves.flatMap (Leaf.syntaxDiags r.id) := by
  cases r <;> rfl

theorem LexRule.check_eq (env : Env) (r : LexRule) :
    r.check env = r.leaves.flatMap (Leaf.check env r.id) ++ r.actions.flatMap (Action.check env r.id) := by
  cases r <;> simp [LexRule.check, exprCheck, LexRule.leaves, LexRule.expr?, LexRule.actions, LexRule.id]

theorem LexRule.mem_lines {r : LexRule} {x : Line}
    (h : x ∈ r.line :: (r.leaves.flatMap Leaf.lines ++ r.actions.map Action.line)) : x ∈ r.lines := by
  cases r with
  | token id l n e a => exact h
  | frag id l e a => exact h
  | «macro» id l n e =>
    have h' : x ∈ l :: (exprLines e ++ []) := h
    rwa [List.append_nil] at h'
  | external id l names => exact List.mem_cons.2 (Or.inl (List.mem_singleton.1 h))

theorem LexRule.event_spec {r : LexRule} {ev : Ev} (h : ev ∈ r.events) :
    ev.id = r.id ∧ ev.line ∈ r.lines ∧ ev.check = .lexical ∧ ev.ent.isRule = false ∧ ev.ent.isStart = false ∧
      (ev.ent.isToken = true ∨ ev.ent.isMacro = true ∨ ev.ent.isExt = true) := by
  cases r with
  | token id l n e a =>
    obtain rfl := List.mem_singleton.1 h
    exact ⟨rfl, List.mem_cons_self, rfl, rfl, rfl, Or.inl rfl⟩
  | frag id l e a => cases h
  | «macro» id l n e =>
    obtain rfl := List.mem_singleton.1 h
    exact ⟨rfl, List.mem_cons_self, rfl, rfl, rfl, Or.inr (Or.inl rfl)⟩
  | external id l names =>
    obtain ⟨p, hp, rfl⟩ := List.mem_map.1 h
    exact ⟨rfl, List.mem_cons_of_mem _ (List.mem_map.2 ⟨p, hp, rfl⟩), rfl, rfl, rfl, Or.inr (Or.inr rfl)⟩

theorem events_check {s : Spec} {ev : Ev} (h : ev ∈ s.events) :
    (ev.check = .lexical ↔ ev.ent.isToken = true ∨ ev.ent.isMacro = true ∨ ev.ent.isExt = true) ∧
      (ev.check = .rule ↔ ev.ent.isRule = true) := by
  rcases mem_events.1 h with ⟨r, _, hev⟩ | ⟨r, _, rfl⟩ | ⟨id, l, n, rs, _, rfl⟩
  · obtain ⟨_, _, hc, hr, _, hk⟩ := LexRule.event_spec hev
    simp [hc, hr, hk]
  · simp [PRule.event, Ent.isToken, Ent.isMacro, Ent.isExt, Ent.isRule]
  · simp [modeEvent, Ent.isToken, Ent.isMacro, Ent.isExt, Ent.isRule]

/-- What `preCheck`/`postCheck` say about this term itself (not about the parameters of a list). -/
def PAtom.checkSelf (env : Env) (id : DeclId) : PAtom → List Diag
  | .list _ e sp =>
    if !e.isSimple then [⟨.listEntryNotSimple, e.line, "", some id⟩]
    else if !sp.isSimple then [⟨.listSepNotSimple, e.line, "", some id⟩] else []
  | y => y.check env id

def PAtom.syntaxSelf (id : DeclId) : PAtom → List Diag
  | .list _ _ _ => []
  | y => y.syntaxDiags id

/-- A pass that visits the parameters of a `@list` and then the list itself says what it says about
each of `PAtom.atoms`. -/
theorem PAtom.mem_of_atoms {F self : PAtom → List Diag}
    (hl : ∀ l e sp, F (.list l e sp) = F e ++ F sp ++ self (.list l e sp))
    (hs : ∀ x, x.isList = false → F x = self x) {a : PAtom} {d : Diag} :
    d ∈ F a ↔ ∃ x ∈ a.atoms, d ∈ self x := by
  induction a with
  | list l e sp ihe ihs =>
    simp only [hl, List.mem_append, ihe, ihs, PAtom.atoms, List.mem_cons, or_and_right, exists_or, exists_eq_left]
    exact or_comm
  | name l n => rw [hs _ rfl]; simp [PAtom.atoms]
  | alias l t b => rw [hs _ rfl]; simp [PAtom.atoms]
  | error l => rw [hs _ rfl]; simp [PAtom.atoms]

theorem PAtom.mem_check {env : Env} {id : DeclId} {a : PAtom} {d : Diag} :
    d ∈ a.check env id ↔ ∃ x ∈ a.atoms, d ∈ x.checkSelf env id :=
  PAtom.mem_of_atoms (F := PAtom.check env id) (fun _ _ _ => rfl) fun x hx => by cases x <;> first | rfl | cases hx

theorem PAtom.mem_syntaxDiags {id : DeclId} {a : PAtom} {d : Diag} :
    d ∈ a.syntaxDiags id ↔ ∃ x ∈ a.atoms, d ∈ x.syntaxSelf id :=
  PAtom.mem_of_atoms (F := PAtom.syntaxDiags id) (fun _ _ _ => (List.append_nil _).symm)
    fun x hx => by cases x <;> first | rfl | cases hx

theorem PAtom.self_mem_atoms (a : PAtom) : a ∈ a.atoms := by
  cases a <;> exact List.mem_cons_self

theorem PAtom.line_mem_lines (a : PAtom) : a.line ∈ a.lines := by
  cases a <;> simp [PAtom.line, PAtom.lines]

theorem PAtom.atoms_lines_sub {a x : PAtom} (hx : x ∈ a.atoms) : ∀ y ∈ x.lines, y ∈ a.lines := by
  induction a with
  | list l e sp ihe ihs =>
    rcases List.mem_cons.1 hx with rfl | hx
    · exact fun y hy => hy
    · intro y hy
      simp only [PAtom.lines, List.mem_cons, List.mem_append]
      exact (List.mem_append.1 hx).elim (fun h => Or.inr (Or.inl (ihe h y hy))) fun h => Or.inr (Or.inr (ihs h y hy))
  | name l n => obtain rfl := List.mem_singleton.1 hx; exact fun y hy => hy
  | alias l t b => obtain rfl := List.mem_singleton.1 hx; exact fun y hy => hy
  | error l => obtain rfl := List.mem_singleton.1 hx; exact fun y hy => hy

def PRule.atoms (r : PRule) : List PAtom := r.terms.flatMap (·.atom.atoms)

theorem mem_terms {r : PRule} {t : PTerm} : t ∈ r.terms ↔ ∃ p ∈ r.prods, t ∈ p.terms := by
  simp [PRule.terms, List.mem_flatMap]

theorem mem_ratoms {r : PRule} {x : PAtom} : x ∈ r.atoms ↔ ∃ p ∈ r.prods, ∃ t ∈ p.terms, x ∈ t.atom.atoms := by
  simp only [PRule.atoms, List.mem_flatMap, mem_terms]
  exact ⟨fun ⟨t, ⟨p, hp, ht⟩, hx⟩ => ⟨p, hp, t, ht, hx⟩, fun ⟨p, hp, t, ht, hx⟩ => ⟨t, ⟨p, hp, ht⟩, hx⟩⟩

theorem PRule.atoms_lines_sub {r : PRule} {x : PAtom} (hx : x ∈ r.atoms) : ∀ y ∈ x.lines, y ∈ r.lines := by
  obtain ⟨p, hp, t, ht, hx⟩ := mem_ratoms.1 hx
  intro y hy
  simp only [PRule.lines, Prod.lines, List.mem_cons, List.mem_flatMap, List.mem_append]
  exact Or.inr ⟨p, hp, Or.inr (Or.inl ⟨t, ht, PAtom.atoms_lines_sub hx y hy⟩)⟩

theorem PRule.mem_check {env : Env} {r : PRule} {d : Diag} :
    d ∈ r.check env ↔ ∃ x ∈ r.atoms, d ∈ x.checkSelf env r.id := by
  simp only [PRule.check, PTerm.check, List.mem_flatMap, PAtom.mem_check, mem_ratoms]
  exact ⟨fun ⟨p, hp, t, ht, x, hx, hd⟩ => ⟨x, ⟨p, hp, t, ht, hx⟩, hd⟩,
    fun ⟨x, ⟨p, hp, t, ht, hx⟩, hd⟩ => ⟨p, hp, t, ht, x, hx, hd⟩⟩

theorem PRule.mem_syntaxDiags {r : PRule} {d : Diag} :
    d ∈ r.syntaxDiags ↔ (∃ x ∈ r.atoms, d ∈ x.syntaxSelf r.id) ∨
      (∃ t ∈ r.terms, t.badListCard = true ∧ d = ⟨.listCard, t.atom.line, "", some r.id⟩) ∨
      ∃ p ∈ r.prods, d ∈ Qual.syntaxDiags r.id p.qual := by
  simp only [PRule.syntaxDiags, Prod.syntaxDiags, PTerm.syntaxDiags, List.mem_flatMap, List.mem_append,
    PAtom.mem_syntaxDiags, mem_ratoms, mem_terms]
  constructor
  · rintro ⟨p, hp, ⟨t, ht, ⟨x, hx, hd⟩ | hd⟩ | hd⟩
    · exact Or.inl ⟨x, ⟨p, hp, t, ht, hx⟩, hd⟩
    · split at hd
      · exact Or.inr (Or.inl ⟨t, ⟨p, hp, ht⟩, ‹_›, List.mem_singleton.1 hd⟩)
      · cases hd
    · exact Or.inr (Or.inr ⟨p, hp, hd⟩)
  · rintro (⟨x, ⟨p, hp, t, ht, hx⟩, hd⟩ | ⟨t, ⟨p, hp, ht⟩, hb, rfl⟩ | ⟨p, hp, hd⟩)
    · exact ⟨p, hp, Or.inl ⟨t, ht, Or.inl ⟨x, hx, hd⟩⟩⟩
    · exact ⟨p, hp, Or.inl ⟨t, ht, Or.inr (by simp [hb])⟩⟩
    · exact ⟨p, hp, Or.inr hd⟩

end Lox.Dec.Analyze
