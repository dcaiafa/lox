import Lox.Dec.AssignSpec
/-! Passes 1 and 2 of `AssignActions`: which methods are action methods (`mem_actions`), what it means
that neither pass reports anything (`pass12_nil`), and that what they report `Violates` its subject. -/
namespace Lox.Dec.Assign

theorem ruleOf_onBounds : ruleOf onBoundsName = none := by decide +kernel

/-- `_onBounds` has no rule part, so the test for it fails on every `on_` method. -/
theorem not_onBounds {name r : String} (h : ruleOf name = some r) :
    (name == onBoundsName) = false := by
  cases hb : name == onBoundsName with
  | false => rfl
  | true => rw [eq_of_beq hb, ruleOf_onBounds] at h; cases h

theorem collectDiag_of_some {m : Method} {r : String} (h : ruleOf m.name = some r) :
    collectDiag m =
      if m.nres ≠ 1 then some ⟨.results, .method m.name⟩
      else if m.variadic then some ⟨.variadic, .method m.name⟩ else none := by
  simp only [collectDiag, not_onBounds h, h, Bool.false_eq_true, ↓reduceIte]

theorem collectDiag_of_none {m : Method} (h : ruleOf m.name = none) : collectDiag m = none := by
  simp only [collectDiag, h, ite_self]

theorem mkAction_eq_some {mi : Method × Nat} {a : Action} :
    mkAction mi = some a ↔
      ruleOf mi.1.name = some a.rule ∧ mi.1.nres = 1 ∧ mi.1.variadic = false ∧ a.idx = mi.2 ∧ a.m = mi.1 := by
  cases hr : ruleOf mi.1.name with
  | none => simp only [mkAction, hr, ite_self, reduceCtorEq, false_and]
  | some r =>
    simp only [mkAction, not_onBounds hr, hr, Bool.false_eq_true, ↓reduceIte, Option.some.injEq]
    constructor
    · intro h
      split at h
      · next h2 => cases h; exact ⟨rfl, h2.1, h2.2, rfl, rfl⟩
      · cases h
    · rintro ⟨rfl, h1, h2, h3, h4⟩
      obtain ⟨i, r, m⟩ := a
      rw [if_pos ⟨h1, h2⟩, ← h3, ← h4]

theorem mem_actions {c : Case} {a : Action} :
    a ∈ actions c ↔ c.methods[a.idx]? = some a.m ∧ ruleOf a.m.name = some a.rule ∧
      a.m.nres = 1 ∧ a.m.variadic = false := by
  unfold actions
  rw [List.mem_filterMap]
  constructor
  · rintro ⟨mi, hmem, hmk⟩
    obtain ⟨h1, h2, h3, h4, h5⟩ := mkAction_eq_some.mp hmk
    rw [h4, h5]; exact ⟨List.mem_zipIdx_iff_getElem?.mp hmem, h1, h2, h3⟩
  · rintro ⟨h1, h2, h3, h4⟩
    exact ⟨(a.m, a.idx), List.mem_zipIdx_iff_getElem?.mpr h1, mkAction_eq_some.mpr ⟨h2, h3, h4, rfl, rfl⟩⟩

theorem action_ext {c : Case} {a b : Action} (ha : a ∈ actions c) (hb : b ∈ actions c)
    (h : a.idx = b.idx) : a = b := by
  obtain ⟨h1, h2, _⟩ := mem_actions.mp ha
  obtain ⟨h1', h2', _⟩ := mem_actions.mp hb
  obtain ⟨i, r, m⟩ := a
  obtain ⟨i', r', m'⟩ := b
  simp only at h h1 h2 h1' h2'
  subst h
  cases h1.symm.trans h1'
  cases h2.symm.trans h2'
  rfl

theorem action_method_mem {c : Case} {a : Action} (h : a ∈ actions c) : a.m ∈ c.methods :=
  List.mem_of_getElem? (mem_actions.mp h).1

theorem collectDiag_eq_none {m : Method} :
    collectDiag m = none ↔ ((ruleOf m.name).isSome → m.nres = 1 ∧ m.variadic = false) := by
  cases hr : ruleOf m.name with
  | none => simp [collectDiag_of_none hr]
  | some r =>
    rw [collectDiag_of_some hr]
    by_cases h1 : m.nres = 1 <;> by_cases h2 : m.variadic = true <;> simp [h1, h2]

theorem collectDiags_nil {c : Case} :
    collectDiags c = [] ↔ ∀ m ∈ c.methods, (ruleOf m.name).isSome → m.nres = 1 ∧ m.variadic = false := by
  unfold collectDiags
  rw [List.filterMap_eq_nil_iff]
  exact forall₂_congr fun m _ => collectDiag_eq_none

theorem mem_collectDiags {c : Case} {d : Diag} (h : d ∈ collectDiags c) : Violates c d := by
  obtain ⟨m, hm, hd⟩ := List.mem_filterMap.mp h
  cases hr : ruleOf m.name with
  | none => rw [collectDiag_of_none hr] at hd; cases hd
  | some r =>
    have hs := Option.isSome_of_eq_some hr
    rw [collectDiag_of_some hr] at hd
    by_cases h1 : m.nres ≠ 1
    · rw [if_pos h1] at hd; cases hd; exact ⟨m, hm, rfl, hs, h1⟩
    · by_cases h2 : m.variadic = true
      · rw [if_neg h1, if_pos h2] at hd; cases hd; exact ⟨m, hm, rfl, hs, h2⟩
      · rw [if_neg h1, if_neg h2] at hd; cases hd

theorem mem_actionsOf {c : Case} {a : Action} {n : String} :
    a ∈ actionsOf c n ↔ a ∈ actions c ∧ a.rule = n := by
  unfold actionsOf
  rw [List.mem_filter]; simp

theorem head_actionsOf {c : Case} {a : Action} (h : a ∈ actions c) :
    ∃ f rest, actionsOf c a.rule = f :: rest ∧ f ∈ actions c ∧ f.rule = a.rule := by
  cases hl : actionsOf c a.rule with
  | nil => exact absurd (mem_actionsOf.mpr ⟨h, rfl⟩) (hl ▸ List.not_mem_nil)
  | cons f rest =>
    obtain ⟨hf, hfr⟩ := mem_actionsOf.mp (hl ▸ List.mem_cons_self : f ∈ actionsOf c a.rule)
    exact ⟨f, rest, rfl, hf, hfr⟩

theorem hasRule_iff {c : Case} {n : String} : hasRule c n = true ↔ ∃ r ∈ c.rules, r.name = n := by
  unfold hasRule; simp

theorem retDiag_eq {c : Case} {a f : Action} {rest : List Action}
    (hl : actionsOf c a.rule = f :: rest) :
    retDiag c a =
      if f.idx = a.idx then (if hasRule c a.rule then [] else [⟨.noRule, .method a.m.name⟩])
      else if c.identical a.m.ret f.m.ret then [] else [⟨.retConflict, .method a.m.name⟩] := by
  unfold retDiag; rw [hl]

theorem retDiags_nil {c : Case} (hrefl : ∀ t, c.identical t t = true) :
    retDiags c = [] ↔ ∀ a ∈ actions c, hasRule c a.rule = true ∧
      ∀ f rest, actionsOf c a.rule = f :: rest → c.identical a.m.ret f.m.ret = true := by
  unfold retDiags
  rw [List.flatMap_eq_nil_iff]
  constructor
  · intro h a ha
    obtain ⟨f, rest, hl, hf, hfr⟩ := head_actionsOf ha
    have h0 := h f hf
    rw [retDiag_eq (hfr ▸ hl), if_pos rfl, hfr] at h0
    have h1 := h a ha
    rw [retDiag_eq hl] at h1
    constructor
    · exact Decidable.by_contra fun hn => by rw [if_neg hn] at h0; cases h0
    · intro f' rest' hl'
      cases hl.symm.trans hl'
      by_cases hi : f.idx = a.idx
      · rw [action_ext hf ha hi]; exact hrefl _
      · exact Decidable.by_contra fun hn => by rw [if_neg hi, if_neg hn] at h1; cases h1
  · intro h a ha
    obtain ⟨f, rest, hl, _⟩ := head_actionsOf ha
    obtain ⟨h1, h2⟩ := h a ha
    rw [retDiag_eq hl, if_pos h1, if_pos (h2 f rest hl), ite_self]

theorem mem_retDiags {c : Case} {d : Diag} (h : d ∈ retDiags c) : Violates c d := by
  obtain ⟨a, ha, hd⟩ := List.mem_flatMap.mp h
  obtain ⟨f, rest, hl, hfa, hfr⟩ := head_actionsOf ha
  have hra := (mem_actions.mp ha).2.1
  rw [retDiag_eq hl] at hd
  by_cases hi : f.idx = a.idx
  · by_cases hh : hasRule c a.rule = true
    · rw [if_pos hi, if_pos hh] at hd; cases hd
    · rw [if_pos hi, if_neg hh] at hd
      cases List.mem_singleton.mp hd
      exact ⟨a.m, action_method_mem ha, a.rule, rfl, hra,
        fun r hr hn => hh (hasRule_iff.mpr ⟨r, hr, hn⟩)⟩
  · by_cases hh : c.identical a.m.ret f.m.ret = true
    · rw [if_neg hi, if_pos hh] at hd; cases hd
    · rw [if_neg hi, if_neg hh] at hd
      cases List.mem_singleton.mp hd
      exact ⟨a.m, action_method_mem ha, f.m, action_method_mem hfa, rfl, Option.isSome_of_eq_some hra,
        by rw [hra, (mem_actions.mp hfa).2.1, hfr], Bool.eq_false_iff.mpr hh⟩

theorem mem_actions_of_shape {c : Case}
    (shape : ∀ m ∈ c.methods, (ruleOf m.name).isSome → m.nres = 1 ∧ m.variadic = false)
    {i : Nat} {m : Method} {n : String} (hi : c.methods[i]? = some m) (hn : ruleOf m.name = some n) :
    (⟨i, n, m⟩ : Action) ∈ actions c :=
  have ⟨h1, h2⟩ := shape m (List.mem_of_getElem? hi) (Option.isSome_of_eq_some hn)
  mem_actions.mpr ⟨hi, hn, h1, h2⟩

/-- The right-hand side: `Spec.shape`, `Spec.ruleExists`, `Spec.retAgree`. -/
theorem pass12_nil {c : Case} (ie : IdentEquiv c) :
    collectDiags c = [] ∧ retDiags c = [] ↔
      (∀ m ∈ c.methods, (ruleOf m.name).isSome → m.nres = 1 ∧ m.variadic = false) ∧
      (∀ m ∈ c.methods, ∀ n, ruleOf m.name = some n → ∃ r ∈ c.rules, r.name = n) ∧
      (∀ m ∈ c.methods, ∀ m' ∈ c.methods, ∀ n, ruleOf m.name = some n → ruleOf m'.name = some n →
        c.identical m.ret m'.ret = true) := by
  rw [collectDiags_nil, retDiags_nil ie.refl]
  constructor
  · rintro ⟨shape, pass2⟩
    refine ⟨shape, fun m hm n hn => ?_, fun m hm m' hm' n hn hn' => ?_⟩
    · obtain ⟨i, hi⟩ := List.getElem?_of_mem hm
      exact hasRule_iff.mp (pass2 _ (mem_actions_of_shape shape hi hn)).1
    · obtain ⟨i, hi⟩ := List.getElem?_of_mem hm
      obtain ⟨i', hi'⟩ := List.getElem?_of_mem hm'
      have ha := mem_actions_of_shape shape hi hn
      obtain ⟨f, rest, hl, _⟩ := head_actionsOf ha
      exact ie.trans _ _ _ ((pass2 _ ha).2 f rest hl)
        (ie.symm _ _ ((pass2 _ (mem_actions_of_shape shape hi' hn')).2 f rest hl))
  · rintro ⟨shape, rE, rA⟩
    refine ⟨shape, fun a ha => ?_⟩
    have hra := (mem_actions.mp ha).2.1
    refine ⟨hasRule_iff.mpr (rE a.m (action_method_mem ha) a.rule hra), fun f rest hl => ?_⟩
    obtain ⟨hfa, hfr⟩ := mem_actionsOf.mp (hl ▸ List.mem_cons_self : f ∈ actionsOf c a.rule)
    exact rA a.m (action_method_mem ha) f.m (action_method_mem hfa) a.rule hra
      (by rw [(mem_actions.mp hfa).2.1, hfr])

end Lox.Dec.Assign
