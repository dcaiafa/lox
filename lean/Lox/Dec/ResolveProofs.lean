import Lox.Dec.Resolve
/-! What `Lox/Props/C04.lean` and `Lox/Props/C05.lean` read their theorems off. `decideSR` is
`documented` with the condition written in the `switch` of `resolveConflicts` in place of the
associativity (`decideSR_cons_eq_some_iff`); `resolveOne` looks at nothing but a shift/reduce pair
(`resolveOne_pair`, `resolveOne_other`) and resolves exactly the cells `SRPairOfOneRule`
(`resolveOne_resolved_iff`); in a table without conflicts every cell ends with one action
(`accepted_cell`). -/
namespace Lox.Dec

/-- The only kind of cell the precedence rule may touch (C04): one shift and one reduce, in either
order, under the conditions on the contributing productions `ps` and the reduced production `rp`
for which `decideSR` answers (`decideSR_isSome_iff`). -/
def SRPairOfOneRule (info : Nat → ProdInfo) (acts : List Action) : Prop :=
  ∃ t ps rp,
    (acts = [.shift t ps, .reduce rp] ∨ acts = [.reduce rp, .shift t ps]) ∧
    ps ≠ [] ∧
    (∀ q ∈ ps, (info q).rule = (info rp).rule) ∧
    (∀ q ∈ ps, ∀ q' ∈ ps, (info q).prec = (info q').prec) ∧
    (∀ q ∈ ps, 0 < (info q).prec) ∧
    0 < (info rp).prec

theorem documented_eq_reduce_iff {sp rp : Nat} {b : Bool} :
    documented sp rp b = .reduce ↔ sp < rp ∨ (sp = rp ∧ b = false) := by
  unfold documented
  by_cases h1 : sp < rp
  · simp [h1]
  · by_cases h2 : rp < sp
    · have : sp ≠ rp := by omega
      simp [h1, h2, this]
    · have : sp = rp := by omega
      cases b <;> simp [this]

theorem documented_congr {sp rp : Nat} {b b' : Bool} (h : sp = rp → b = b') :
    documented sp rp b = documented sp rp b' := by
  unfold documented
  by_cases h1 : sp < rp
  · simp only [h1, if_true]
  · by_cases h2 : rp < sp
    · simp only [h1, h2, if_true, if_false]
    · rw [h (by omega)]

/-- `decideSR` on a non-empty list of contributors: the preconditions of `resolveConflict`, and
then the documented decision in which "`@right`" is replaced by what the `switch` tests instead:
a single contributor that is the reduced production itself and is `@right` (known finding K1). -/
theorem decideSR_cons_eq_some_iff {info : Nat → ProdInfo} {p0 : Nat} {rest : List Nat} {rp : Nat}
    {k : Keep} :
    decideSR info (p0 :: rest) rp = some k ↔
      (∀ q ∈ rest, (info q).rule = (info p0).rule ∧ (info q).prec = (info p0).prec) ∧
      (info p0).rule = (info rp).rule ∧ 0 < (info p0).prec ∧ 0 < (info rp).prec ∧
      k = documented (info p0).prec (info rp).prec
        (rest.isEmpty && p0 == rp && (info p0).rightAssoc) := by
  simp only [decideSR, documented, ← apply_ite some, Option.ite_none_right_eq_some,
    Option.some.injEq, List.all_eq_true, Bool.and_eq_true, beq_iff_eq, decide_eq_true_eq, and_assoc,
    eq_comm (b := k)]

theorem decideSR_isSome_iff (info : Nat → ProdInfo) (ps : List Nat) (rp : Nat) :
    (decideSR info ps rp).isSome = true ↔
      ps ≠ [] ∧ (∀ q ∈ ps, (info q).rule = (info rp).rule) ∧
      (∀ q ∈ ps, ∀ q' ∈ ps, (info q).prec = (info q').prec) ∧
      (∀ q ∈ ps, 0 < (info q).prec) ∧ 0 < (info rp).prec := by
  cases ps with
  | nil => simp [decideSR]
  | cons p0 rest =>
    simp only [Option.isSome_iff_exists, decideSR_cons_eq_some_iff, exists_and_left, exists_eq,
      and_true, ne_eq, reduceCtorEq, not_false_eq_true, true_and]
    constructor
    · rintro ⟨hall, hrule, h0, h1⟩
      have key : ∀ q ∈ p0 :: rest,
          (info q).rule = (info p0).rule ∧ (info q).prec = (info p0).prec :=
        List.forall_mem_cons.2 ⟨⟨rfl, rfl⟩, hall⟩
      exact ⟨fun q hq => (key q hq).1.trans hrule,
        fun q hq q' hq' => (key q hq).2.trans (key q' hq').2.symm,
        fun q hq => (key q hq).2 ▸ h0, h1⟩
    · rintro ⟨hr, hp, h0, h1⟩
      have hm : p0 ∈ p0 :: rest := List.mem_cons_self ..
      exact ⟨fun q hq => ⟨(hr q (.tail _ hq)).trans (hr p0 hm).symm, hp q (.tail _ hq) p0 hm⟩,
        hr p0 hm, h0 p0 hm, h1⟩

theorem resolveOne_pair (info : Nat → ProdInfo) {t : Nat} {ps : List Nat} {rp : Nat}
    {acts : List Action}
    (hacts : acts = [.shift t ps, .reduce rp] ∨ acts = [.reduce rp, .shift t ps]) :
    resolveOne info acts =
      match decideSR info ps rp with
      | some k => (keepOf (.shift t ps) (.reduce rp) k, true)
      | none => (acts, false) := by
  rcases hacts with rfl | rfl <;> simp only [resolveOne] <;> cases decideSR info ps rp <;> rfl

theorem resolveOne_pair_snd (info : Nat → ProdInfo) {t : Nat} {ps : List Nat} {rp : Nat}
    {acts : List Action}
    (hacts : acts = [.shift t ps, .reduce rp] ∨ acts = [.reduce rp, .shift t ps]) :
    (resolveOne info acts).2 = (decideSR info ps rp).isSome := by
  rw [resolveOne_pair info hacts]
  cases decideSR info ps rp <;> rfl

theorem resolveOne_pair_resolved (info : Nat → ProdInfo) {t : Nat} {ps : List Nat} {rp : Nat}
    {acts : List Action}
    (hacts : acts = [.shift t ps, .reduce rp] ∨ acts = [.reduce rp, .shift t ps])
    (hres : (resolveOne info acts).2 = true) :
    ∃ k, decideSR info ps rp = some k ∧
      resolveOne info acts = (keepOf (.shift t ps) (.reduce rp) k, true) := by
  rw [resolveOne_pair_snd info hacts] at hres
  obtain ⟨k, hk⟩ := Option.isSome_iff_exists.1 hres
  exact ⟨k, hk, by rw [resolveOne_pair info hacts, hk]⟩

theorem resolveOneDoc_pair (info : Nat → ProdInfo) {t : Nat} {ps : List Nat} {rp : Nat}
    {acts : List Action}
    (hacts : acts = [.shift t ps, .reduce rp] ∨ acts = [.reduce rp, .shift t ps]) :
    resolveOneDoc info acts =
      match decideSRDoc info ps rp with
      | some k => (keepOf (.shift t ps) (.reduce rp) k, true)
      | none => (acts, false) := by
  rcases hacts with rfl | rfl <;> simp only [resolveOneDoc] <;> cases decideSRDoc info ps rp <;> rfl

theorem resolveOne_other (info : Nat → ProdInfo) (acts : List Action)
    (h : ∀ t ps rp, acts ≠ [.shift t ps, .reduce rp] ∧ acts ≠ [.reduce rp, .shift t ps]) :
    resolveOne info acts = (acts, false) := by
  unfold resolveOne
  split
  · exact absurd rfl (h _ _ _).1
  · exact absurd rfl (h _ _ _).2
  · rfl

theorem srPair_or_not (acts : List Action) :
    (∃ t ps rp, acts = [.shift t ps, .reduce rp] ∨ acts = [.reduce rp, .shift t ps]) ∨
      ∀ t ps rp, acts ≠ [.shift t ps, .reduce rp] ∧ acts ≠ [.reduce rp, .shift t ps] :=
  Classical.or_iff_not_imp_left.2 fun h t ps rp =>
    ⟨fun e => h ⟨t, ps, rp, .inl e⟩, fun e => h ⟨t, ps, rp, .inr e⟩⟩

theorem resolveOneDoc_other (info : Nat → ProdInfo) (acts : List Action)
    (h : ∀ t ps rp, acts ≠ [.shift t ps, .reduce rp] ∧ acts ≠ [.reduce rp, .shift t ps]) :
    resolveOneDoc info acts = (acts, false) := by
  unfold resolveOneDoc
  split
  · exact absurd rfl (h _ _ _).1
  · exact absurd rfl (h _ _ _).2
  · rfl

theorem resolveOne_resolved_iff (info : Nat → ProdInfo) (acts : List Action) :
    (resolveOne info acts).2 = true ↔ SRPairOfOneRule info acts := by
  rcases srPair_or_not acts with ⟨t, ps, rp, hacts⟩ | hno
  · constructor
    · intro h
      rw [resolveOne_pair_snd info hacts] at h
      exact ⟨t, ps, rp, hacts, (decideSR_isSome_iff info ps rp).1 h⟩
    · rintro ⟨t', ps', rp', hacts', hcond⟩
      rw [resolveOne_pair_snd info hacts']
      exact (decideSR_isSome_iff info ps' rp').2 hcond
  · rw [resolveOne_other info acts hno]
    exact ⟨fun h => Bool.noConfusion h, fun ⟨t, ps, rp, hacts, _⟩ =>
      hacts.elim (fun e => absurd e (hno t ps rp).1) fun e => absurd e (hno t ps rp).2⟩

theorem unresolved_unchanged (info : Nat → ProdInfo) (acts : List Action)
    (h : (resolveOne info acts).2 = false) : (resolveOne info acts).1 = acts := by
  rcases srPair_or_not acts with ⟨t, ps, rp, hacts⟩ | hno
  · rw [resolveOne_pair info hacts] at h ⊢
    cases hd : decideSR info ps rp with
    | none => rfl
    | some k => rw [hd] at h; cases h
  · rw [resolveOne_other info acts hno]

theorem resolveOne_keeps_one (info : Nat → ProdInfo) (acts : List Action)
    (h : (resolveOne info acts).2 = true) :
    ∃ a b, acts = [a, b] ∧
      ((resolveOne info acts).1 = [a] ∨ (resolveOne info acts).1 = [b]) := by
  obtain ⟨t, ps, rp, hacts, -⟩ := (resolveOne_resolved_iff info acts).1 h
  obtain ⟨k, -, hk⟩ := resolveOne_pair_resolved info hacts h
  rw [hk]
  rcases hacts with rfl | rfl <;> exact ⟨_, _, rfl, by cases k <;> simp [keepOf]⟩

theorem resolveOne_length (info : Nat → ProdInfo) (acts : List Action) :
    (resolveOne info acts).1.length = if (resolveOne info acts).2 then 1 else acts.length := by
  cases hb : (resolveOne info acts).2 with
  | false => simp [unresolved_unchanged info acts hb]
  | true =>
    obtain ⟨a, b, -, h | h⟩ := resolveOne_keeps_one info acts hb <;> simp [h]

theorem resolveOne_length_ne_one (info : Nat → ProdInfo) (acts : List Action) :
    (resolveOne info acts).1.length ≠ 1 ↔ acts.length ≠ 1 ∧ (resolveOne info acts).2 = false := by
  rw [resolveOne_length]
  cases (resolveOne info acts).2 <;> simp

theorem hasConflicts_iff (info : Nat → ProdInfo) (table : List (List Action)) :
    hasConflicts info table = true ↔
      ∃ cell ∈ table, cell.length ≠ 1 ∧ (resolveOne info cell).2 = false := by
  simp only [hasConflicts, List.any_eq_true, Bool.and_eq_true, bne_iff_ne, ne_eq,
    Bool.not_eq_true']

/-- The length test in the loop of `resolveConflicts` decides only whether the cell counts as a
conflict: `resolveConflict` leaves a cell of one action as it is. -/
theorem resolveCell_fst (info : Nat → ProdInfo) (cell : List Action) :
    (resolveCell info cell).1 = (resolveOne info cell).1 := by
  unfold resolveCell
  split
  · next h =>
    obtain ⟨a, rfl⟩ := List.length_eq_one_iff.1 (beq_iff_eq.mp h)
    rw [resolveOne_other info [a] fun _ _ _ => ⟨by simp, by simp⟩]
  · rfl

/-- Without conflicts every cell holds exactly one action after `resolveConflicts`, it was in the
cell before, and any other action of the cell was removed by `resolveConflict`. -/
theorem accepted_cell (info : Nat → ProdInfo) {table : List (List Action)}
    (hv : hasConflicts info table = false) {cell : List Action} (hmem : cell ∈ table) :
    ∃ x, (resolveCell info cell).1 = [x] ∧ x ∈ cell ∧
      ∀ y ∈ cell, y = x ∨ (resolveOne info cell).2 = true := by
  unfold resolveCell
  by_cases h1 : cell.length = 1
  · obtain ⟨a, rfl⟩ := List.length_eq_one_iff.1 h1
    exact ⟨a, by simp, by simp, fun y hy => .inl (List.mem_singleton.mp hy)⟩
  · have hr : (resolveOne info cell).2 = true := by
      have := List.any_eq_false.1 hv cell hmem
      simpa [h1] using this
    obtain ⟨x, y, rfl, hxy | hxy⟩ := resolveOne_keeps_one info _ hr
    · exact ⟨x, by simp [hxy], by simp, fun _ _ => .inr hr⟩
    · exact ⟨y, by simp [hxy], by simp, fun _ _ => .inr hr⟩

end Lox.Dec
