import Lox.Dec.AssignDerive
/-! Passes 4–6 of `AssignActions`: every rule typed, exactly one matching method per production,
no orphan method; and how `AssignActions` as a whole ends on a well-formed case (`assign_wf`). -/
namespace Lox.Dec.Assign

theorem untypedDiag_eq_none {tm : TyMap} {ri : Rule × Nat} :
    untypedDiag tm ri = none ↔ (ri.1.gen ≠ .sprime → tm.get ri.2 ≠ none) := by
  unfold untypedDiag
  by_cases h : ri.1.gen = .sprime
  · simp [h]
  · cases hg : tm.get ri.2 <;> simp [h]

theorem untypedDiags_nil {c : Case} {tm : TyMap} :
    untypedDiags c tm = [] ↔
      ∀ (r : Nat) ru, c.rules[r]? = some ru → ru.gen ≠ .sprime → tm.get r ≠ none := by
  unfold untypedDiags
  rw [List.filterMap_eq_nil_iff]
  constructor
  · intro h r ru hr
    exact untypedDiag_eq_none.mp (h (ru, r) (List.mem_zipIdx_iff_getElem?.mpr hr))
  · intro h ri hri
    exact untypedDiag_eq_none.mpr (h ri.2 ri.1 (List.mem_zipIdx_iff_getElem?.mp hri))

theorem mem_untypedDiags {c : Case} {tm : TyMap} (htm : ∀ r, tm.get r = specTyR c r) {d : Diag}
    (h : d ∈ untypedDiags c tm) : Violates c d := by
  obtain ⟨ri, hri, hd⟩ := List.mem_filterMap.mp h
  unfold untypedDiag at hd
  by_cases hs : ri.1.gen = .sprime
  · rw [if_pos hs] at hd; cases hd
  · by_cases hn : (tm.get ri.2).isNone = true
    · rw [if_neg hs, if_pos hn] at hd; cases hd
      exact ⟨ri.1, List.mem_zipIdx_iff_getElem?.mp hri, hs, htm ri.2 ▸ Option.isNone_iff_eq_none.mp hn⟩
    · rw [if_neg hs, if_neg hn] at hd; cases hd

theorem finalTypes_map : ∀ (tm : TyMap), (∀ e ∈ tm, e ≠ some .junk) →
    finalTypes tm = some (tm.map stripR)
  | [], _ => rfl
  | e :: l, h => by
    have ih := finalTypes_map l (fun e he => h e (List.mem_cons_of_mem _ he))
    have he := h e List.mem_cons_self
    unfold finalTypes
    rw [ih]
    cases e with
    | none => rfl
    | some t =>
      cases t with
      | ty t => rfl
      | junk => exact absurd rfl he

theorem tyGet_map_strip (tm : TyMap) (r : Nat) : tyGet (tm.map stripR) r = stripR (tm.get r) := by
  unfold tyGet TyMap.get
  rw [List.getElem?_map]
  cases tm[r]? <;> rfl

theorem finalTypes_spec {c : Case} (w : WF c) (at' : AllTyped c) {tm : TyMap}
    (htm : ∀ r, tm.get r = specTyR c r) :
    ∃ ty, finalTypes tm = some ty ∧ ∀ r, tyGet ty r = specTy c r := by
  refine ⟨tm.map stripR, finalTypes_map tm ?_, ?_⟩
  · intro e he
    obtain ⟨r, hr⟩ := List.getElem?_of_mem he
    have : tm.get r = e := by unfold TyMap.get; rw [hr]; rfl
    rw [← this, htm r]; exact no_junk w at' r
  · intro r; rw [tyGet_map_strip, htm r, specTy_eq_strip]

theorem argsOK_iff {c : Case} {ty : List (Option Ty)} (hty : ∀ r, tyGet ty r = specTy c r)
    (ts : List Term) (qs : List Ty) : argsOK c ty ts qs = true ↔ Accepts c ts qs := by
  induction ts generalizing qs with
  | nil => cases qs <;> simp [argsOK, Accepts]
  | cons t ts ih =>
    cases qs with
    | nil => simp [argsOK, Accepts]
    | cons q qs =>
      simp only [argsOK, Accepts, Bool.and_eq_true]
      rw [ih, termTyF_spec hty t]
      cases specTermTy c t <;> simp

theorem mem_matchesOf {c : Case} {ty : List (Option Ty)} (hty : ∀ r, tyGet ty r = specTy c r)
    {p : Prod} {i : Nat} : i ∈ matchesOf c ty p ↔ Matches c p i := by
  unfold matchesOf Matches
  simp only [List.mem_map, List.mem_filter, mem_actionsOf, isMatch, argsOK_iff hty]
  constructor
  · rintro ⟨a, ⟨⟨ha, hr⟩, hacc⟩, rfl⟩
    obtain ⟨h1, h2, h3, h4⟩ := mem_actions.mp ha
    exact ⟨a.m, h1, by rw [h2, hr], h3, h4, hacc⟩
  · rintro ⟨m, h1, h2, h3, h4, hacc⟩
    exact ⟨⟨i, ruleName c p.rule, m⟩, ⟨⟨mem_actions.mpr ⟨h1, h2, h3, h4⟩, rfl⟩, hacc⟩, rfl⟩

theorem actions_pairwise (c : Case) : (actions c).Pairwise (fun a b => a.idx ≠ b.idx) := by
  unfold actions
  refine List.Pairwise.filterMap mkAction ?_ (List.pairwise_map.mp ?_ : c.methods.zipIdx.Pairwise (·.2 ≠ ·.2))
  · intro x y hxy a ha b hb
    rw [mkAction_eq_some] at ha hb
    rw [ha.2.2.2.1, hb.2.2.2.1]; exact hxy
  · rw [List.zipIdx_map_snd]; exact List.nodup_range' ..

theorem matchesOf_nodup (c : Case) (ty : List (Option Ty)) (p : Prod) : (matchesOf c ty p).Nodup := by
  unfold matchesOf actionsOf
  rw [List.nodup_iff_pairwise_ne, List.pairwise_map]
  exact (actions_pairwise c).sublist (List.filter_sublist.trans List.filter_sublist)

theorem matchesOf_cases {c : Case} {ty : List (Option Ty)} (hty : ∀ r, tyGet ty r = specTy c r)
    (p : Prod) :
    (matchesOf c ty p = [] ∧ ∀ i, ¬ Matches c p i) ∨
    (∃ m, matchesOf c ty p = [m] ∧ Matches c p m ∧ ∀ j, Matches c p j → j = m) ∨
    (∃ a b l, matchesOf c ty p = a :: b :: l ∧ a ≠ b ∧ Matches c p a ∧ Matches c p b) := by
  have hn := matchesOf_nodup c ty p
  have hmem : ∀ i, i ∈ matchesOf c ty p ↔ Matches c p i := fun i => mem_matchesOf hty
  match hm : matchesOf c ty p with
  | [] => exact Or.inl ⟨rfl, fun i hi => by rw [← hmem, hm] at hi; cases hi⟩
  | [m] =>
    refine Or.inr (Or.inl ⟨m, rfl, (hmem m).mp (hm ▸ List.mem_cons_self), fun j hj => ?_⟩)
    rw [← hmem, hm] at hj
    exact List.mem_singleton.mp hj
  | a :: b :: l =>
    rw [hm, List.nodup_cons] at hn
    refine Or.inr (Or.inr ⟨a, b, l, rfl, fun e => hn.1 (e ▸ List.mem_cons_self), ?_, ?_⟩)
    · exact (hmem a).mp (hm ▸ List.mem_cons_self)
    · exact (hmem b).mp (hm ▸ List.mem_cons_of_mem _ List.mem_cons_self)

theorem matchesOf_singleton {c : Case} {ty : List (Option Ty)} (hty : ∀ r, tyGet ty r = specTy c r)
    {p : Prod} {m : Nat} :
    matchesOf c ty p = [m] ↔ Matches c p m ∧ ∀ j, Matches c p j → j = m := by
  rcases matchesOf_cases hty p with ⟨hm, hn⟩ | ⟨m', hm, h1, h2⟩ | ⟨a, b, l, hm, hab, ha, hb⟩
  · rw [hm]; exact ⟨fun h => (nomatch h), fun h => absurd h.1 (hn m)⟩
  · rw [hm]
    constructor
    · intro h; cases h; exact ⟨h1, h2⟩
    · intro h; rw [h.2 m' h1]
  · rw [hm]; exact ⟨fun h => (nomatch h), fun h => absurd ((h.2 a ha).trans (h.2 b hb).symm) hab⟩

theorem isUserProd_iff {c : Case} {p : Prod} : isUserProd c p = true ↔ UserProd c p := by
  unfold isUserProd UserProd; simp

theorem matchDiag_eq_none {c : Case} {ty : List (Option Ty)} {pi : Prod × Nat} :
    matchDiag c ty pi = none ↔ (isUserProd c pi.1 = true → ∃ m, matchesOf c ty pi.1 = [m]) := by
  unfold matchDiag
  by_cases h : isUserProd c pi.1 = true
  · simp only [h, ↓reduceIte, true_implies]
    match hm : matchesOf c ty pi.1 with
    | [] => simp
    | [m] => simp
    | a :: b :: l => simp
  · simp [h]

theorem matchDiags_nil {c : Case} {ty : List (Option Ty)} :
    matchDiags c ty = [] ↔ ∀ p ∈ c.prods, UserProd c p → ∃ m, matchesOf c ty p = [m] := by
  unfold matchDiags
  rw [List.filterMap_eq_nil_iff]
  constructor
  · intro h p hp hu
    obtain ⟨i, hi⟩ := List.getElem?_of_mem hp
    exact matchDiag_eq_none.mp (h (p, i) (List.mem_zipIdx_iff_getElem?.mpr hi)) (isUserProd_iff.mpr hu)
  · intro h pi hpi
    refine matchDiag_eq_none.mpr (fun hu => ?_)
    exact h pi.1 (List.mem_of_getElem? (List.mem_zipIdx_iff_getElem?.mp hpi)) (isUserProd_iff.mp hu)

theorem mem_matchDiags {c : Case} {ty : List (Option Ty)} (hty : ∀ r, tyGet ty r = specTy c r)
    {d : Diag} (h : d ∈ matchDiags c ty) : Violates c d := by
  obtain ⟨pi, hpi, hd⟩ := List.mem_filterMap.mp h
  have hp := List.mem_zipIdx_iff_getElem?.mp hpi
  unfold matchDiag at hd
  by_cases hu : isUserProd c pi.1 = true
  · rcases matchesOf_cases hty pi.1 with ⟨hm, hn⟩ | ⟨m, hm, _⟩ | ⟨a, b, l, hm, hab, ha, hb⟩
    · rw [if_pos hu, hm] at hd; cases hd
      exact ⟨pi.1, hp, isUserProd_iff.mp hu, hn⟩
    · rw [if_pos hu, hm] at hd; cases hd
    · rw [if_pos hu, hm] at hd; cases hd
      exact ⟨pi.1, hp, isUserProd_iff.mp hu, a, b, hab, ha, hb⟩
  · rw [if_neg hu] at hd; cases hd

theorem bindProd_user {c : Case} {ty : List (Option Ty)} {p : Prod} {m : Nat} (hu : UserProd c p)
    (hm : matchesOf c ty p = [m]) : bindProd c ty p = some m := by
  simp only [bindProd, isUserProd_iff.mpr hu, hm, ↓reduceIte]

theorem bindProd_not_user {c : Case} {ty : List (Option Ty)} {p : Prod} (hu : ¬ UserProd c p) :
    bindProd c ty p = none := by
  unfold bindProd
  rw [if_neg (fun h => hu (isUserProd_iff.mp h))]

theorem orphanDiag_eq_none {bound : List (Option Nat)} {a : Action} :
    orphanDiag bound a = none ↔ some a.idx ∈ bound := by
  unfold orphanDiag
  by_cases hb : some a.idx ∈ bound <;> simp [hb]

theorem orphanDiags_nil {c : Case} {bound : List (Option Nat)} :
    orphanDiags c bound = [] ↔ ∀ a ∈ actions c, some a.idx ∈ bound := by
  unfold orphanDiags
  rw [List.filterMap_eq_nil_iff]
  exact forall₂_congr fun a _ => orphanDiag_eq_none

theorem mem_bound {c : Case} {ty : List (Option Ty)} (hty : ∀ r, tyGet ty r = specTy c r)
    (h5 : matchDiags c ty = []) {i : Nat} :
    some i ∈ c.prods.map (bindProd c ty) ↔ ∃ p ∈ c.prods, UserProd c p ∧ Matches c p i := by
  simp only [List.mem_map]
  constructor
  · rintro ⟨p, hp, hb⟩
    by_cases hu : UserProd c p
    · obtain ⟨m, hm⟩ := matchDiags_nil.mp h5 p hp hu
      rw [bindProd_user hu hm] at hb; cases hb
      exact ⟨p, hp, hu, ((matchesOf_singleton hty).mp hm).1⟩
    · rw [bindProd_not_user hu] at hb; cases hb
  · rintro ⟨p, hp, hu, hi⟩
    obtain ⟨m, hm⟩ := matchDiags_nil.mp h5 p hp hu
    exact ⟨p, hp, by rw [bindProd_user hu hm, ((matchesOf_singleton hty).mp hm).2 i hi]⟩

theorem mem_orphanDiags {c : Case} {ty : List (Option Ty)} (hty : ∀ r, tyGet ty r = specTy c r)
    (h5 : matchDiags c ty = []) {d : Diag} (h : d ∈ orphanDiags c (c.prods.map (bindProd c ty))) :
    Violates c d := by
  obtain ⟨a, ha, hd⟩ := List.mem_filterMap.mp h
  obtain ⟨g1, g2, _, _⟩ := mem_actions.mp ha
  unfold orphanDiag at hd
  split at hd
  · cases hd
  · next hb =>
    cases hd
    exact ⟨a.idx, a.m, g1, rfl, Option.isSome_of_eq_some g2, fun p hp hu hm =>
      hb (List.contains_iff_mem.mpr ((mem_bound hty h5).mpr ⟨p, hp, hu, hm⟩))⟩

/-- How `AssignActions` can end on a package whose grammar is well formed: errors, or the binding. -/
inductive Ends (c : Case) : Result → Prop
  | fail {ds} : ds ≠ [] → (∀ d ∈ ds, Violates c d) → Ends c (.fail ds)
  | ok {ty} : Spec c → (∀ r, tyGet ty r = specTy c r) →
      Ends c (.ok ⟨c.prods.map (bindProd c ty), ty, emitBounds c⟩)

/-- One pass: its diagnostics end the run, silence lets it go on. -/
theorem Ends.pass {c : Case} {d : List Diag} {r : Result} (hv : ∀ x ∈ d, Violates c x)
    (hr : d = [] → Ends c r) : Ends c (if d ≠ [] then .fail d else r) := by
  split
  · next h => exact .fail h hv
  · next h => exact hr (Decidable.not_not.mp h)

theorem assign_wf {c : Case} (w : WF c) (ie : IdentEquiv c) : Ends c (assign c) := by
  obtain ⟨tm, h3, htm⟩ := derive_spec w ie.refl
  unfold assign
  refine .pass (fun _ => mem_collectDiags) fun h1 => .pass (fun _ => mem_retDiags) fun h2 => ?_
  obtain ⟨shape, rE, rA⟩ := (pass12_nil ie).mp ⟨h1, h2⟩
  rw [h3]
  refine .pass (fun _ => mem_untypedDiags htm) fun h4 => ?_
  have at' : AllTyped c := fun r ru hr hs => htm r ▸ untypedDiags_nil.mp h4 r ru hr hs
  obtain ⟨ty, hf, hty⟩ := finalTypes_spec w at' htm
  rw [hf]
  refine .pass (fun _ => mem_matchDiags hty) fun h5 => .pass (fun _ => mem_orphanDiags hty h5) fun h6 =>
    .ok ⟨shape, rE, rA, (allTyped_iff w).mp at', fun p hp hu => ?_, fun i m hi hr => ?_⟩ hty
  · obtain ⟨m, hm⟩ := matchDiags_nil.mp h5 p hp hu
    exact ⟨m, (matchesOf_singleton hty).mp hm⟩
  · obtain ⟨n, hn⟩ := Option.isSome_iff_exists.mp hr
    exact (mem_bound hty h5).mp (orphanDiags_nil.mp h6 _ (mem_actions_of_shape shape hi hn))

end Lox.Dec.Assign
