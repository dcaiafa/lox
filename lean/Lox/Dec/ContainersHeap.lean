import Lox.Dec.Containers
/-! The node store of `Lox.Dec.Containers` read through total accessors (`nextAt`, `prevAt`, `keyAt`,
`valAt`; an id outside the store reads as the zero node), and the effect of `store`, `alloc`, `initList`,
`insertNodeAfter`, `removeNode` on them, cell by cell: the refinement proofs speak about the links as
functions `Nat → Option Nat` and never about the array. -/
set_option linter.unusedSectionVars false
namespace Lox.Dec.Containers

@[simp] theorem ok_bind {α β : Type} (a : α) (f : α → Except Err β) :
    (Except.ok a >>= f) = f a := rfl
@[simp] theorem error_bind {α β : Type} (e : Err) (f : α → Except Err β) :
    ((Except.error e : Except Err α) >>= f) = Except.error e := rfl
@[simp] theorem pure_eq_ok {α : Type} (a : α) : (pure a : Except Err α) = Except.ok a := rfl

section Map
variable {K V : Type} [DecidableEq K] [Inhabited K] [Inhabited V]

def zeroNode : Node K V := { next := none, prev := none, key := default, value := default }

def nodeAt (h : Heap K V) (i : Nat) : Node K V := (h[i]?).getD zeroNode
def nextAt (h : Heap K V) (i : Nat) : Option Nat := (nodeAt h i).next
def prevAt (h : Heap K V) (i : Nat) : Option Nat := (nodeAt h i).prev
def keyAt (h : Heap K V) (i : Nat) : K := (nodeAt h i).key
def valAt (h : Heap K V) (i : Nat) : V := (nodeAt h i).value
def kvAt (h : Heap K V) (i : Nat) : K × V := (keyAt h i, valAt h i)

theorem nodeAt_modify (h : Heap K V) (i j : Nat) (f : Node K V → Node K V) (hi : i < h.size) :
    nodeAt (h.modify i f) j = if j = i then f (nodeAt h j) else nodeAt h j := by
  unfold nodeAt
  rw [Array.getElem?_modify]
  by_cases hj : j = i
  · subst hj
    simp [Array.getElem?_eq_getElem hi]
  · rw [if_neg (Ne.symm hj), if_neg hj]

theorem nodeAt_push (h : Heap K V) (x : Node K V) (j : Nat) :
    nodeAt (h.push x) j = if j = h.size then x else nodeAt h j := by
  unfold nodeAt
  rw [Array.getElem?_push]
  split <;> rfl

theorem load_some (h : Heap K V) (i : Nat) (hi : i < h.size) :
    load h (some i) = .ok (nodeAt h i) := by
  simp [load, nodeAt, Array.getElem?_eq_getElem hi]

theorem store_some (h : Heap K V) (i : Nat) (f : Node K V → Node K V) (hi : i < h.size) :
    store h (some i) f = .ok (h.modify i f) := by
  simp [store, hi]

/-- Stated for an arbitrary projection `π` of the cells so that it specialises to each of the four
accessors. -/
theorem store_spec (h : Heap K V) (i : Nat) (f : Node K V → Node K V) (hi : i < h.size) :
    ∃ h', store h (some i) f = .ok h' ∧ h'.size = h.size ∧
      ∀ {α : Type} (π : Node K V → α) (j : Nat),
        π (nodeAt h' j) = if j = i then π (f (nodeAt h j)) else π (nodeAt h j) := by
  refine ⟨_, store_some h i f hi, Array.size_modify, fun π j => ?_⟩
  rw [nodeAt_modify h i j f hi]
  split <;> rfl

theorem store_next_spec (h : Heap K V) (i : Nat) (p : Ptr) (hi : i < h.size) :
    ∃ h', store h (some i) (fun x => { x with next := p }) = .ok h' ∧ h'.size = h.size ∧
      (∀ j, nextAt h' j = if j = i then p else nextAt h j) ∧ (∀ j, prevAt h' j = prevAt h j) ∧
      (∀ j, keyAt h' j = keyAt h j) ∧ (∀ j, valAt h' j = valAt h j) := by
  obtain ⟨h', s, z, e⟩ := store_spec h i (fun x => { x with next := p }) hi
  exact ⟨h', s, z, e Node.next, fun j => (e Node.prev j).trans (ite_self _),
    fun j => (e Node.key j).trans (ite_self _), fun j => (e Node.value j).trans (ite_self _)⟩

theorem store_prev_spec (h : Heap K V) (i : Nat) (p : Ptr) (hi : i < h.size) :
    ∃ h', store h (some i) (fun x => { x with prev := p }) = .ok h' ∧ h'.size = h.size ∧
      (∀ j, nextAt h' j = nextAt h j) ∧ (∀ j, prevAt h' j = if j = i then p else prevAt h j) ∧
      (∀ j, keyAt h' j = keyAt h j) ∧ (∀ j, valAt h' j = valAt h j) := by
  obtain ⟨h', s, z, e⟩ := store_spec h i (fun x => { x with prev := p }) hi
  exact ⟨h', s, z, fun j => (e Node.next j).trans (ite_self _), e Node.prev,
    fun j => (e Node.key j).trans (ite_self _), fun j => (e Node.value j).trans (ite_self _)⟩

theorem store_value_spec (h : Heap K V) (i : Nat) (v : V) (hi : i < h.size) :
    ∃ h', store h (some i) (fun x => { x with value := v }) = .ok h' ∧ h'.size = h.size ∧
      (∀ j, nextAt h' j = nextAt h j) ∧ (∀ j, prevAt h' j = prevAt h j) ∧
      (∀ j, keyAt h' j = keyAt h j) ∧ (∀ j, valAt h' j = if j = i then v else valAt h j) := by
  obtain ⟨h', s, z, e⟩ := store_spec h i (fun x => { x with value := v }) hi
  exact ⟨h', s, z, fun j => (e Node.next j).trans (ite_self _),
    fun j => (e Node.prev j).trans (ite_self _), fun j => (e Node.key j).trans (ite_self _),
    e Node.value⟩

theorem initList_spec (h : Heap K V) (l : Nat) (hl : l < h.size) :
    ∃ h', initList h (some l) = .ok h' ∧ h'.size = h.size ∧
      (∀ j, nextAt h' j = if j = l then some l else nextAt h j) ∧
      (∀ j, prevAt h' j = if j = l then some l else prevAt h j) ∧
      (∀ j, keyAt h' j = keyAt h j) ∧ (∀ j, valAt h' j = valAt h j) := by
  obtain ⟨h₁, s₁, z₁, n₁, p₁, k₁, v₁⟩ := store_prev_spec h l (some l) hl
  obtain ⟨h₂, s₂, z₂, n₂, p₂, k₂, v₂⟩ := store_next_spec h₁ l (some l) (z₁ ▸ hl)
  refine ⟨h₂, ?_, z₂.trans z₁, ?_, ?_, ?_, ?_⟩
  · simp only [initList, s₁, ok_bind, s₂]
  · intro j; rw [n₂, n₁]
  · intro j; rw [p₂, p₁]
  · intro j; rw [k₂, k₁]
  · intro j; rw [v₂, v₁]

theorem insertNodeAfter_spec (h : Heap K V) (n o z : Nat) (hn : n < h.size) (ho : o < h.size)
    (hz : z < h.size) (hno : n ≠ o) (hoz : nextAt h o = some z) :
    ∃ h', insertNodeAfter h (some n) (some o) = .ok h' ∧ h'.size = h.size ∧
      (∀ j, nextAt h' j = if j = o then some n else if j = n then some z else nextAt h j) ∧
      (∀ j, prevAt h' j = if j = z then some n else if j = n then some o else prevAt h j) ∧
      (∀ j, keyAt h' j = keyAt h j) ∧ (∀ j, valAt h' j = valAt h j) := by
  obtain ⟨h₁, s₁, z₁, n₁, p₁, k₁, v₁⟩ := store_prev_spec h n (some o) hn
  have l₁ : (nodeAt h₁ o).next = some z := (n₁ o).trans hoz
  obtain ⟨h₂, s₂, z₂, n₂, p₂, k₂, v₂⟩ := store_next_spec h₁ n (some z) (z₁ ▸ hn)
  have l₂ : (nodeAt h₂ o).next = some z := by
    rw [← nextAt, n₂, if_neg hno.symm]; exact l₁
  replace z₂ := z₂.trans z₁
  obtain ⟨h₃, s₃, z₃, n₃, p₃, k₃, v₃⟩ := store_prev_spec h₂ z (some n) (z₂ ▸ hz)
  replace z₃ := z₃.trans z₂
  obtain ⟨h₄, s₄, z₄, n₄, p₄, k₄, v₄⟩ := store_next_spec h₃ o (some n) (z₃ ▸ ho)
  refine ⟨h₄, ?_, z₄.trans z₃, ?_, ?_, ?_, ?_⟩
  · simp only [insertNodeAfter, s₁, ok_bind, load_some h₁ o (z₁ ▸ ho), l₁, s₂,
      load_some h₂ o (z₂ ▸ ho), l₂, s₃, s₄]
  · intro j; rw [n₄, n₃, n₂, n₁]
  · intro j; rw [p₄, p₃, p₂, p₁]
  · intro j; rw [k₄, k₃, k₂, k₁]
  · intro j; rw [v₄, v₃, v₂, v₁]

theorem removeNode_spec (h : Heap K V) (n p q : Nat) (hn : n < h.size) (hp : p < h.size)
    (hq : q < h.size) (hpn : p ≠ n) (hprev : prevAt h n = some p) (hnext : nextAt h n = some q) :
    ∃ h', removeNode h (some n) = .ok h' ∧ h'.size = h.size ∧
      (∀ j, nextAt h' j = if j = n then none else if j = p then some q else nextAt h j) ∧
      (∀ j, prevAt h' j = if j = n then none else if j = q then some p else prevAt h j) ∧
      (∀ j, keyAt h' j = keyAt h j) ∧ (∀ j, valAt h' j = valAt h j) := by
  obtain ⟨h₁, s₁, z₁, n₁, p₁, k₁, v₁⟩ := store_next_spec h p (some q) hp
  have l₁ : (nodeAt h₁ n).next = some q := by
    rw [← nextAt, n₁, if_neg hpn.symm]; exact hnext
  have l₁' : (nodeAt h₁ n).prev = some p := (p₁ n).trans hprev
  obtain ⟨h₂, s₂, z₂, n₂, p₂, k₂, v₂⟩ := store_prev_spec h₁ q (some p) (z₁ ▸ hq)
  replace z₂ := z₂.trans z₁
  obtain ⟨h₃, s₃, z₃, n₃, p₃, k₃, v₃⟩ := store_next_spec h₂ n none (z₂ ▸ hn)
  replace z₃ := z₃.trans z₂
  obtain ⟨h₄, s₄, z₄, n₄, p₄, k₄, v₄⟩ := store_prev_spec h₃ n none (z₃ ▸ hn)
  refine ⟨h₄, ?_, z₄.trans z₃, ?_, ?_, ?_, ?_⟩
  · simp only [nextAt, prevAt] at hprev hnext
    simp only [removeNode, load_some h n hn, ok_bind, hprev, hnext, s₁,
      load_some h₁ n (z₁ ▸ hn), l₁, l₁', s₂, s₃, s₄]
  · intro j; rw [n₄, n₃, n₂, n₁]
  · intro j; rw [p₄, p₃, p₂, p₁]
  · intro j; rw [k₄, k₃, k₂, k₁]
  · intro j; rw [v₄, v₃, v₂, v₁]

theorem alloc_spec (h : Heap K V) (k : K) :
    (alloc h k).1 = h.size ∧ (alloc h k).2.size = h.size + 1 ∧
      (∀ j, nextAt (alloc h k).2 j = if j = h.size then none else nextAt h j) ∧
      (∀ j, prevAt (alloc h k).2 j = if j = h.size then none else prevAt h j) ∧
      (∀ j, keyAt (alloc h k).2 j = if j = h.size then k else keyAt h j) ∧
      (∀ j, valAt (alloc h k).2 j = if j = h.size then default else valAt h j) := by
  refine ⟨rfl, Array.size_push _, ?_, ?_, ?_, ?_⟩
  all_goals
    intro j
    simp only [nextAt, prevAt, keyAt, valAt, alloc, nodeAt_push]
    split <;> rfl

theorem nextAt_lt_none (h : Heap K V) (j : Nat) (hj : h.size ≤ j) : nextAt h j = none := by
  simp [nextAt, nodeAt, Array.getElem?_eq_none hj, zeroNode]

theorem prevAt_lt_none (h : Heap K V) (j : Nat) (hj : h.size ≤ j) : prevAt h j = none := by
  simp [prevAt, nodeAt, Array.getElem?_eq_none hj, zeroNode]

end Map
end Lox.Dec.Containers
