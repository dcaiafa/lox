import Lox.Dec.ContainersProofs
/-! Every operation of `stablemap.Map` preserves `Rep` and returns what the specification returns;
lifted to operation sequences (`run`, `runSched`). -/
set_option linter.unusedSectionVars false
namespace Lox.Dec.Containers

section Map
variable {K V : Type} [DecidableEq K] [Inhabited K] [Inhabited V]

theorem aPut_of_lookup_isSome {l : AMap K V} {k : K} (h : (l.lookup k).isSome = true) (v : V) :
    aPut l k v = l.map fun e => if e.1 = k then (e.1, v) else e := by
  rw [aPut, List.any_fst_eq, if_pos h]

theorem aPut_of_lookup_none {l : AMap K V} {k : K} (h : l.lookup k = none) (v : V) :
    aPut l k v = l ++ [(k, v)] := by
  rw [aPut, List.any_fst_eq, h]; rfl

theorem Rep.keys_nodup {m : CMap K V} {l : AMap K V} (h : Rep m l) : (l.map (·.1)).Nodup := by
  rcases h with ⟨rfl, rfl⟩ | ⟨cyc, hr, rfl⟩
  · exact .nil
  · rw [List.map_map]; exact hr.keys

/-- `Get`, `Has` and the case distinction of `Put` and `Remove` rest on this. -/
theorem Rep.lookup {m : CMap K V} {l : AMap K V} (h : Rep m l) (k : K) :
    l.lookup k = (goLookup m.nodes k).map (valAt m.heap) := by
  have hnd := h.keys_nodup
  rcases h with ⟨rfl, rfl⟩ | ⟨cyc, hr, rfl⟩
  · rfl
  · cases hlk : goLookup m.nodes k with
    | some n =>
      obtain ⟨h1, h2⟩ := (hr.lookup_some k n).mp hlk
      exact (List.lookup_eq_some_iff_mem hnd ..).mpr (List.mem_map.mpr ⟨n, h1, h2 ▸ rfl⟩)
    | none =>
      refine List.lookup_eq_none_iff_forall_ne.mpr fun e he => ?_
      obtain ⟨i, hi, rfl⟩ := List.mem_map.mp he
      exact (hr.lookup_none k).mp hlk i hi

theorem Rep.len {m : CMap K V} {l : AMap K V} (h : Rep m l) : len m = l.length := by
  rcases h with ⟨rfl, rfl⟩ | ⟨cyc, hr, rfl⟩
  · rfl
  · obtain ⟨g, hg, hp⟩ := hr.nodes
    simp [Containers.len, hg, goLen, hp.length_eq]

theorem has_eq (m : CMap K V) (k : K) : has m k = (goLookup m.nodes k).isSome := by
  unfold has
  cases m.nodes <;> rfl

theorem Rep.has {m : CMap K V} {l : AMap K V} (h : Rep m l) (k : K) :
    has m k = l.any (fun e => decide (e.1 = k)) := by
  rw [has_eq, List.any_fst_eq, h.lookup, Option.isSome_map]

theorem Rep.get {m : CMap K V} {l : AMap K V} (h : Rep m l) (k : K) :
    get m k = .ok (aGet l k) := by
  rw [aGet, h.lookup]
  rcases h with ⟨rfl, rfl⟩ | ⟨cyc, hr, rfl⟩
  · rfl
  · obtain ⟨g, hg, -⟩ := hr.nodes
    simp only [Containers.get, hg]
    rw [← hg]
    cases hlk : goLookup m.nodes k with
    | some n =>
      have hn := hr.bound n ((hr.lookup_some k n).mp hlk).1
      simp only [load_some m.heap n hn, ok_bind, pure_eq_ok, Option.map_some]
      rfl
    | none => rfl

theorem Rep.clear {m : CMap K V} {l : AMap K V} (h : Rep m l) :
    ∃ m', clear m = .ok m' ∧ Rep m' [] := by
  rcases h with ⟨rfl, rfl⟩ | ⟨cyc, hr, rfl⟩
  · exact ⟨CMap.zero, rfl, rep_zero⟩
  · obtain ⟨g, hg, -⟩ := hr.nodes
    obtain ⟨h', he, hs, hn, hpv, -⟩ := initList_spec m.heap 0 hr.pos
    refine ⟨_, ?_, Or.inr ⟨[], Ring.nil (hs ▸ hr.pos) ((hn 0).trans (if_pos rfl))
      ((hpv 0).trans (if_pos rfl)), rfl⟩⟩
    simp [Containers.clear, hg, hr.list, he, goClear]

theorem Rep.remove {m : CMap K V} {l : AMap K V} (h : Rep m l) (k : K) :
    ∃ m', remove m k = .ok m' ∧ Rep m' (aRemove l k) := by
  rcases h with ⟨rfl, rfl⟩ | ⟨cyc, hr, rfl⟩
  · exact ⟨CMap.zero, rfl, rep_zero⟩
  · obtain ⟨g, hg, -⟩ := hr.nodes
    cases hlk : goLookup m.nodes k with
    | none =>
      refine ⟨m, ?_, Or.inr ⟨cyc, hr, ?_⟩⟩
      · simp only [Containers.remove, hg]
        rw [← hg, hlk]
      · refine List.filter_eq_self.mpr fun e he => ?_
        obtain ⟨i, hi, rfl⟩ := List.mem_map.mp he
        exact decide_eq_true ((hr.lookup_none k).mp hlk i hi)
    | some n =>
      obtain ⟨h1, rfl⟩ := (hr.lookup_some k n).mp hlk
      obtain ⟨l₁, l₂, rfl⟩ := List.append_of_mem h1
      obtain ⟨hnext, hprev, ⟨hpn, hpb⟩, ⟨-, hqb⟩⟩ := hr.neighbours
      obtain ⟨h', he, hs, hn, hpv, hk, hv⟩ :=
        removeNode_spec m.heap n _ _ (hr.bound n h1) hpb hqb hpn hprev hnext
      refine ⟨{ nodes := goDelete m.nodes (keyAt m.heap n), list := m.list, heap := h' }, ?_,
        Or.inr ⟨l₁ ++ l₂, hr.remove hg rfl (by rw [hg]; rfl) hs hn hpv hk, ?_⟩⟩
      · simp only [Containers.remove, hg]
        rw [← hg, hlk]
        simp only [he, ok_bind, pure_eq_ok]
      · rw [aRemove, List.filter_map, show kvAt h' = kvAt m.heap from
          funext fun i => by rw [kvAt, hk, hv]; rfl]
        exact congrArg _ hr.filter_key

theorem Rep.put {m : CMap K V} {l : AMap K V} (h : Rep m l) (k : K) (v : V) :
    ∃ m', put m k v = .ok m' ∧ Rep m' (aPut l k v) := by
  obtain ⟨m₀, cyc, hinit, hr, rfl⟩ := h.initMap
  have hlook := Rep.lookup (Or.inr ⟨cyc, hr, rfl⟩) k
  obtain ⟨g, hg, -⟩ := hr.nodes
  cases hlk : goLookup m₀.nodes k with
  | some n =>
    -- the key is present: overwrite the value of its node
    obtain ⟨h1, h2⟩ := (hr.lookup_some k n).mp hlk
    obtain ⟨h', he, hs, hn, hpv, hk, hv⟩ := store_value_spec m₀.heap n v (hr.bound n h1)
    refine ⟨{ m₀ with heap := h' }, ?_, Or.inr ⟨cyc, ?_, ?_⟩⟩
    · simp only [Containers.put, hinit, ok_bind, hlk, he, pure_eq_ok]
    · exact hr.congr rfl rfl (Nat.le_of_eq hs.symm) (fun j _ => hn j) (fun j _ => hpv j)
        (fun j _ => hk j)
    · rw [aPut_of_lookup_isSome (by rw [hlook, hlk]; rfl), List.map_map]
      refine List.map_congr_left fun i hi => ?_
      simp only [Function.comp, kvAt, hk i, hv i]
      by_cases hin : i = n
      · subst hin; simp [h2]
      · have : keyAt m₀.heap i ≠ k := fun e => hin (hr.key_inj hi h1 (e.trans h2.symm))
        simp [hin, this]
  | none =>
    -- the key is new: allocate node `m₀.heap.size`, link it in before the sentinel, register it
    have h1 := (hr.lookup_none k).mp hlk
    obtain ⟨-, ha2, ha3, ha4, ha5, ha6⟩ := alloc_spec m₀.heap k
    have ealloc : alloc m₀.heap k = (m₀.heap.size, (alloc m₀.heap k).2) := rfl
    generalize (alloc m₀.heap k).2 = h₁ at ha2 ha3 ha4 ha5 ha6 ealloc
    have hlt : ∀ j ∈ 0 :: cyc, j ≠ m₀.heap.size := fun j hj => Nat.ne_of_lt (hr.bound' j hj)
    have hr1 : Ring ({ m₀ with heap := h₁ } : CMap K V) cyc :=
      hr.congr rfl rfl (ha2 ▸ Nat.le_succ _)
        (fun j hj => by rw [ha3, if_neg (hlt j hj)])
        (fun j hj => by rw [ha4, if_neg (hlt j hj)])
        (fun j hj => by rw [ha5, if_neg (hlt j (List.mem_cons_of_mem _ hj))])
    have hlast : cyc.getLastD 0 ∈ 0 :: cyc := List.getLastD_mem_cons
    have hprev0 : (nodeAt h₁ 0).prev = some (cyc.getLastD 0) := by
      rw [← prevAt, chain_head hr1.bwd, headD_reverse]
    have hnsz : m₀.heap.size < h₁.size := ha2 ▸ Nat.lt_succ_self _
    obtain ⟨h₂, he2, hs2, hn2, hp2, hk2, hv2⟩ := insertNodeAfter_spec h₁ m₀.heap.size
      (cyc.getLastD 0) 0 hnsz (hr1.bound' _ hlast) hr1.pos (hlt _ hlast).symm (chain_last hr1.fwd)
    obtain ⟨h₃, he3, hs3, hn3, hp3, hk3, hv3⟩ := store_value_spec h₂ m₀.heap.size v (hs2 ▸ hnsz)
    refine ⟨⟨some ((k, m₀.heap.size) :: g.filter (fun e => decide (e.1 ≠ k))), m₀.list, h₃⟩,
      ?_, Or.inr ⟨cyc ++ [m₀.heap.size], ?_, ?_⟩⟩
    · simp only [Containers.put, hinit, ok_bind, hlk]
      rw [ealloc]
      simp only [hr.list, load_some h₁ 0 hr1.pos, ok_bind, hprev0, he2, goStore, hg, he3,
        pure_eq_ok]
    · refine hr1.insert (k := k) hg (fun hm => hlt _ hm rfl) hnsz
        (ha2 ▸ Nat.succ_lt_succ hr.size) ?_ ?_ rfl rfl (hs3.trans hs2) ?_ ?_ ?_
      · rw [ha5, if_pos rfl]
      · intro i hi
        rw [ha5, if_neg (hlt i (List.mem_cons_of_mem _ hi))]
        exact h1 i hi
      · intro j; rw [hn3, hn2]
      · intro j; rw [hp3, hp2]
      · intro j; rw [hk3, hk2]
    · rw [aPut_of_lookup_none (by rw [hlook, hlk]; rfl), List.map_append, List.map_singleton]
      congr 1
      · refine List.map_congr_left fun i hi => ?_
        have := hlt i (List.mem_cons_of_mem _ hi)
        simp only [kvAt, hk3, hk2, ha5, hv3, hv2, ha6, if_neg this]
      · simp only [kvAt, hk3, hk2, ha5, hv3, if_pos]

theorem step_refines {m : CMap K V} {l : AMap K V} (h : Rep m l) (op : Op K V) :
    ∃ m', step op m = .ok ((specStep op l).1, m') ∧ Rep m' (specStep op l).2 := by
  cases op with
  | put k v =>
    obtain ⟨m', h1, h2⟩ := h.put k v
    exact ⟨m', by simp [step, h1, specStep], h2⟩
  | get k => exact ⟨m, by simp [step, h.get k, specStep], h⟩
  | getOrZero k => exact ⟨m, by simp [step, getOrZero, h.get k, specStep], h⟩
  | has k => exact ⟨m, by simp [step, h.has k, specStep], h⟩
  | len => exact ⟨m, by simp [step, h.len, specStep], h⟩
  | remove k =>
    obtain ⟨m', h1, h2⟩ := h.remove k
    exact ⟨m', by simp [step, h1, specStep], h2⟩
  | clear =>
    obtain ⟨m', h1, h2⟩ := h.clear
    exact ⟨m', by simp [step, h1, specStep], h2⟩
  | forEach => exact ⟨m, by simp [step, h.forEach, specStep], h⟩
  | keys => exact ⟨m, by simp [step, keys, h.forEach, specStep], h⟩
  | values => exact ⟨m, by simp [step, values, h.forEach, specStep], h⟩

theorem run_refines {m : CMap K V} {l : AMap K V} (h : Rep m l) (ops : List (Op K V)) :
    ∃ m', run ops m = .ok ((runSpec ops l).1, m') ∧ Rep m' (runSpec ops l).2 := by
  induction ops generalizing m l with
  | nil => exact ⟨m, rfl, h⟩
  | cons op ops ih =>
    obtain ⟨m₁, h1, h2⟩ := step_refines h op
    obtain ⟨m₂, h3, h4⟩ := ih h2
    exact ⟨m₂, by simp [run, runSpec, h1, h3], h4⟩

/-- The representation relation does not look at the order of the Go map. -/
theorem Rep.reorder {m : CMap K V} {l : AMap K V} (h : Rep m l)
    {f : List (K × Nat) → List (K × Nat)} (hf : ∀ g, (f g).Perm g) : Rep (reorder f m) l := by
  rcases h with ⟨rfl, rfl⟩ | ⟨cyc, hr, rfl⟩
  · exact rep_zero
  · obtain ⟨g, hg, hp⟩ := hr.nodes
    refine Or.inr ⟨cyc, ⟨hr.list, ⟨f g, by simp [Containers.reorder, hg], (hf g).trans hp⟩,
      hr.size, hr.bound, hr.nodup, hr.fwd, hr.bwd, hr.keys⟩, rfl⟩

theorem runSched_refines {m : CMap K V} {l : AMap K V} (h : Rep m l)
    (sched : Nat → List (K × Nat) → List (K × Nat)) (hs : ∀ i g, (sched i g).Perm g) (i : Nat)
    (ops : List (Op K V)) :
    ∃ m', runSched sched i ops m = .ok ((runSpec ops l).1, m') ∧ Rep m' (runSpec ops l).2 := by
  induction ops generalizing m l i with
  | nil => exact ⟨m, rfl, h⟩
  | cons op ops ih =>
    obtain ⟨m₁, h1, h2⟩ := step_refines (h.reorder (hs i)) op
    obtain ⟨m₂, h3, h4⟩ := ih h2 (i + 1)
    exact ⟨m₂, by simp [runSched, runSpec, h1, h3], h4⟩

end Map
end Lox.Dec.Containers
