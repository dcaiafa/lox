import Lox.Dec.ContainersOps
/-! `set.Set[T]` (over `stablemap.Map[T,bool]`) refines duplicate-free lists in first-insertion
order. -/
set_option linter.unusedSectionVars false
namespace Lox.Dec.Containers

section Set
variable {T : Type} [DecidableEq T] [Inhabited T]

def SetRep (s : CSet T) (l : ASet T) : Prop := Rep s.set (l.map fun x => (x, true))

theorem setRep_zero : SetRep (CSet.zero : CSet T) [] := rep_zero

theorem map_pair_fst (l : List T) : (l.map fun x => (x, true)).map (·.1) = l := by
  rw [List.map_map]; exact List.map_id _

theorem SetRep.nodup {s : CSet T} {l : ASet T} (h : SetRep s l) : l.Nodup := by
  have := Rep.keys_nodup h
  rwa [map_pair_fst] at this

theorem any_pair (l : List T) (x : T) :
    (l.map fun y => (y, true)).any (fun e => decide (e.1 = x)) = decide (x ∈ l) := by
  rw [Bool.eq_iff_iff, List.any_fst_eq_true, map_pair_fst, decide_eq_true_eq]

theorem SetRep.has {s : CSet T} {l : ASet T} (h : SetRep s l) (x : T) :
    setHas s x = decide (x ∈ l) := by
  rw [setHas, Rep.has h, any_pair]

theorem SetRep.len {s : CSet T} {l : ASet T} (h : SetRep s l) : setLen s = l.length := by
  rw [setLen, Rep.len h, List.length_map]

theorem SetRep.empty {s : CSet T} {l : ASet T} (h : SetRep s l) : setEmpty s = l.isEmpty := by
  have := h.len
  simp only [setLen] at this
  rw [setEmpty, this]
  cases l <;> simp

theorem SetRep.forEach {s : CSet T} {l : ASet T} (h : SetRep s l) : setForEach s = .ok l := by
  simp only [setForEach, Rep.forEach h, ok_bind, pure_eq_ok, map_pair_fst]

theorem SetRep.elements {s : CSet T} {l : ASet T} (h : SetRep s l) : setElements s = .ok l := by
  simp only [setElements, keys, Rep.forEach h, ok_bind, pure_eq_ok, map_pair_fst]

theorem SetRep.add {s : CSet T} {l : ASet T} (h : SetRep s l) (x : T) :
    ∃ s', setAdd s x = .ok ((sAdd l x).1, s') ∧ SetRep s' (sAdd l x).2 := by
  have hh := h.has x
  simp only [setHas] at hh
  by_cases hx : x ∈ l
  · refine ⟨s, ?_, ?_⟩
    · simp [setAdd, hh, sAdd, hx]
    · simpa [sAdd, hx] using h
  · obtain ⟨m', h1, h2⟩ := Rep.put h x true
    refine ⟨{ set := m' }, ?_, ?_⟩
    · simp [setAdd, hh, sAdd, hx, h1]
    · have hany : (l.map fun y => (y, true)).any (fun e => decide (e.1 = x)) = false := by
        rw [any_pair]; simpa using hx
      simp only [aPut, hany, Bool.false_eq_true, if_false] at h2
      simpa [SetRep, sAdd, hx] using h2

theorem SetRep.addSlice {s : CSet T} {l : ASet T} (h : SetRep s l) (xs : List T) :
    ∃ s', setAddSlice s xs = .ok ((sAddAll l xs).1, s') ∧ SetRep s' (sAddAll l xs).2 := by
  induction xs generalizing s l with
  | nil => exact ⟨s, rfl, h⟩
  | cons x xs ih =>
    obtain ⟨s₁, h1, h2⟩ := h.add x
    obtain ⟨s₂, h3, h4⟩ := ih h2
    exact ⟨s₂, by simp [setAddSlice, h1, h3, sAddAll], h4⟩

theorem SetRep.addSet {s o : CSet T} {l lo : ASet T} (h : SetRep s l) (ho : SetRep o lo) :
    ∃ s', setAddSet s o = .ok ((sAddAll l lo).1, s') ∧ SetRep s' (sAddAll l lo).2 := by
  obtain ⟨s', h1, h2⟩ := h.addSlice lo
  exact ⟨s', by simp only [setAddSet, Rep.forEach ho, ok_bind, map_pair_fst, h1], h2⟩

theorem SetRep.remove {s : CSet T} {l : ASet T} (h : SetRep s l) (x : T) :
    ∃ s', setRemove s x = .ok s' ∧ SetRep s' (l.filter fun y => decide (y ≠ x)) := by
  obtain ⟨m', h1, h2⟩ := Rep.remove h x
  refine ⟨{ set := m' }, by simp [setRemove, h1], ?_⟩
  simp only [aRemove, List.filter_map] at h2
  exact h2

theorem SetRep.clear {s : CSet T} {l : ASet T} (h : SetRep s l) :
    ∃ s', setClear s = .ok s' ∧ SetRep s' [] := by
  obtain ⟨m', h1, h2⟩ := Rep.clear h
  exact ⟨{ set := m' }, by simp [setClear, h1], h2⟩

theorem foldl_and_all (xs : List T) (p : T → Bool) (b : Bool) :
    xs.foldl (fun acc x => acc && p x) b = (b && xs.all p) := by
  induction xs generalizing b with
  | nil => simp
  | cons x xs ih => simp [ih, Bool.and_assoc]

theorem SetRep.equal {s o : CSet T} {l lo : ASet T} (h : SetRep s l) (ho : SetRep o lo) :
    setEqual s o = .ok (sEqual l lo) := by
  have hfun : (fun x => setHas o x) = fun x => decide (x ∈ lo) := funext fun x => ho.has x
  simp only [setEqual, h.len, ho.len, h.forEach, ok_bind, pure_eq_ok, foldl_and_all, hfun, sEqual]
  by_cases hlen : l.length = lo.length
  · simp [hlen]
  · simp [hlen]

theorem sAddAll_snd_nodup (l xs : List T) (hl : l.Nodup) : (sAddAll l xs).2.Nodup := by
  induction xs generalizing l with
  | nil => exact hl
  | cons x xs ih =>
    simp only [sAddAll]
    apply ih
    simp only [sAdd]
    split
    · exact hl
    · exact nodup_concat hl ‹_›

theorem sAddAll_nodup (l xs : List T) (hx : xs.Nodup) :
    (sAddAll l xs).2 = l ++ xs.filter (fun x => decide (x ∉ l)) ∧
    (sAddAll l xs).1 = xs.any (fun x => decide (x ∉ l)) := by
  induction xs generalizing l with
  | nil => simp [sAddAll]
  | cons x xs ih =>
    obtain ⟨hx1, hx2⟩ := List.nodup_cons.mp hx
    simp only [sAddAll, sAdd]
    by_cases hm : x ∈ l
    · simp only [hm, if_true]
      obtain ⟨i1, i2⟩ := ih l hx2
      simp [i1, i2, hm]
    · simp only [hm, if_false]
      obtain ⟨i1, i2⟩ := ih (l ++ [x]) hx2
      have hf : xs.filter (fun y => decide (y ∉ l ++ [x])) = xs.filter (fun y => decide (y ∉ l)) := by
        apply List.filter_congr
        intro y hy
        have : y ≠ x := fun e => hx1 (e ▸ hy)
        simp [this]
      refine ⟨?_, by simp [hm]⟩
      rw [i1, hf]
      simp [hm]

theorem sAddAll_nil (xs : List T) (hx : xs.Nodup) : (sAddAll [] xs).2 = xs := by
  rw [(sAddAll_nodup [] xs hx).1]
  simp

/-- On duplicate-free lists `Equal` is set equality. -/
theorem sEqual_iff {l o : List T} (hl : l.Nodup) (ho : o.Nodup) :
    sEqual l o = true ↔ ∀ x, x ∈ l ↔ x ∈ o := by
  simp only [sEqual, Bool.and_eq_true, beq_iff_eq, List.all_eq_true, decide_eq_true_eq]
  constructor
  · rintro ⟨h1, h2⟩ x
    -- an `x ∈ o` outside `l` would make `x :: l` duplicate-free, inside `o` and longer than `o`
    refine ⟨h2 x, fun hx => Decidable.byContradiction fun hxl => ?_⟩
    have := (List.nodup_cons.mpr ⟨hxl, hl⟩).length_le_of_subset (List.cons_subset.mpr ⟨hx, h2⟩)
    exact Nat.not_succ_le_self _ (h1 ▸ this)
  · intro h
    exact ⟨Nat.le_antisymm (hl.length_le_of_subset fun x hx => (h x).mp hx)
      (ho.length_le_of_subset fun x hx => (h x).mpr hx), fun x hx => (h x).mp hx⟩

theorem SetRep.clone {s : CSet T} {l : ASet T} (h : SetRep s l) :
    ∃ s', setClone s = .ok s' ∧ SetRep s' l := by
  obtain ⟨s', h1, h2⟩ := (setRep_zero (T := T)).addSlice l
  refine ⟨s', by simp [setClone, h.forEach, h1], ?_⟩
  rwa [sAddAll_nil l h.nodup] at h2

theorem setNew_refines (xs : List T) :
    ∃ s', setNew xs = .ok s' ∧ SetRep s' (sAddAll [] xs).2 := by
  obtain ⟨s', h1, h2⟩ := (setRep_zero (T := T)).addSlice xs
  exact ⟨s', by simp [setNew, h1], h2⟩

def RegsRep (regs : Nat → CSet T) (aregs : Nat → ASet T) : Prop := ∀ r, SetRep (regs r) (aregs r)

theorem RegsRep.set {regs : Nat → CSet T} {aregs : Nat → ASet T} (h : RegsRep regs aregs)
    (r : Nat) {s : CSet T} {l : ASet T} (hs : SetRep s l) :
    RegsRep (setVar regs r s) (setVar aregs r l) := by
  intro i
  simp only [setVar]
  split
  · exact hs
  · exact h i

theorem setStep_refines {regs : Nat → CSet T} {aregs : Nat → ASet T} (h : RegsRep regs aregs)
    (op : SetOp T) :
    ∃ regs', setStep op regs = .ok ((setSpecStep op aregs).1, regs') ∧
      RegsRep regs' (setSpecStep op aregs).2 := by
  cases op with
  | add r x =>
    obtain ⟨s', h1, h2⟩ := (h r).add x
    exact ⟨_, by simp [setStep, h1, setSpecStep], h.set r h2⟩
  | addSlice r xs =>
    obtain ⟨s', h1, h2⟩ := (h r).addSlice xs
    exact ⟨_, by simp [setStep, h1, setSpecStep], h.set r h2⟩
  | addSet r o =>
    obtain ⟨s', h1, h2⟩ := (h r).addSet (h o)
    exact ⟨_, by simp [setStep, h1, setSpecStep], h.set r h2⟩
  | remove r x =>
    obtain ⟨s', h1, h2⟩ := (h r).remove x
    exact ⟨_, by simp [setStep, h1, setSpecStep], h.set r h2⟩
  | has r x => exact ⟨regs, by simp [setStep, (h r).has x, setSpecStep], h⟩
  | empty r => exact ⟨regs, by simp [setStep, (h r).empty, setSpecStep], h⟩
  | len r => exact ⟨regs, by simp [setStep, (h r).len, setSpecStep], h⟩
  | elements r => exact ⟨regs, by simp [setStep, (h r).elements, setSpecStep], h⟩
  | equal r o => exact ⟨regs, by simp [setStep, (h r).equal (h o), setSpecStep], h⟩
  | forEach r => exact ⟨regs, by simp [setStep, (h r).forEach, setSpecStep], h⟩
  | clone dst src =>
    obtain ⟨s', h1, h2⟩ := (h src).clone
    exact ⟨_, by simp [setStep, h1, setSpecStep], h.set dst h2⟩
  | clear r =>
    obtain ⟨s', h1, h2⟩ := (h r).clear
    exact ⟨_, by simp [setStep, h1, setSpecStep], h.set r h2⟩
  | new dst xs =>
    obtain ⟨s', h1, h2⟩ := setNew_refines xs
    exact ⟨_, by simp [setStep, h1, setSpecStep], h.set dst h2⟩

theorem setRun_refines {regs : Nat → CSet T} {aregs : Nat → ASet T} (h : RegsRep regs aregs)
    (ops : List (SetOp T)) :
    ∃ regs', setRun ops regs = .ok ((setRunSpec ops aregs).1, regs') ∧
      RegsRep regs' (setRunSpec ops aregs).2 := by
  induction ops generalizing regs aregs with
  | nil => exact ⟨regs, rfl, h⟩
  | cons op ops ih =>
    obtain ⟨r₁, h1, h2⟩ := setStep_refines h op
    obtain ⟨r₂, h3, h4⟩ := ih h2
    exact ⟨r₂, by simp [setRun, setRunSpec, h1, h3], h4⟩

end Set
end Lox.Dec.Containers
