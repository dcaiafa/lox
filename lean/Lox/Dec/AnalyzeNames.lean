import Lox.Dec.AnalyzeTraverse
import Lox.Dec.AssocList
/-! # C17 — the name table: look-up, pass `CreateNames`

`createNames` threads the table through the statements; a mode whose name is refused skips its rules.
As long as nothing is refused this is the same as registering `Spec.events` one after the other, and
that in turn is clean exactly when every name is valid, the names are distinct and at most one
registration is a `@start` rule (`createNames_nil_iff`); the table is then `Spec.declared`. -/
namespace Lox.Dec.Analyze

theorem lookup_eq_none (env : Env) (n : Name) : env.lookup n = none ↔ n ∉ env.map (·.1) :=
  ⟨List.not_mem_keys_of_lookup_eq_none,
    fun h => List.lookup_eq_none_iff_forall_ne.2 fun e he hk => h (List.mem_map.2 ⟨e, he, hk⟩)⟩

theorem lookup_isSome_iff (env : Env) (n : Name) : (env.lookup n).isSome = true ↔ n ∈ env.map (·.1) := by
  rw [← Decidable.not_iff_not, Option.not_isSome_iff_eq_none, lookup_eq_none]

theorem mem_of_lookup {env : Env} {n : Name} {e : Ent} (h : env.lookup n = some e) : (n, e) ∈ env :=
  let ⟨_, _, he, _⟩ := List.lookup_eq_some_iff.1 h
  he ▸ List.mem_append_right _ List.mem_cons_self

theorem lookup_iff {env : Env} (hnd : (env.map (·.1)).Nodup) {n : Name} {e : Ent} :
    env.lookup n = some e ↔ (n, e) ∈ env :=
  List.lookup_eq_some_iff_mem hnd n e

theorem lookup_of_mem {env : Env} (hnd : (env.map (·.1)).Nodup) {n : Name} {e : Ent} (h : (n, e) ∈ env) :
    env.lookup n = some e :=
  (lookup_iff hnd).2 h

def Ev.entry (ev : Ev) : Name × Ent := (ev.name, ev.ent)

theorem regEv_invalid {env : Env} {ev : Ev} {d : Diag} {ds : List Diag} (h : ev.validate = d :: ds) :
    regEv env ev = (env, d :: ds) := by
  simp [regEv, h]

theorem regEv_redefined {env : Env} {ev : Ev} (hv : ev.validate = []) (hn : ev.name ∈ env.map (·.1)) :
    regEv env ev = (env, [⟨.redefined, ev.line, ev.name, some ev.id⟩]) := by
  simp [regEv, hv, (lookup_isSome_iff env ev.name).2 hn]

theorem regEv_new {env : Env} {ev : Ev} (hv : ev.validate = []) (hn : ev.name ∉ env.map (·.1)) :
    regEv env ev = (env ++ [ev.entry],
      if ev.ent.isStart && env.hasStart then [⟨.startRedefined, ev.line, ev.name, some ev.id⟩] else []) := by
  have : ¬ (env.lookup ev.name).isSome = true := fun h => hn ((lookup_isSome_iff env ev.name).1 h)
  simp [regEv, hv, this, Ev.entry]

theorem foldDiag_append {α : Type} (f : Env → α → Env × List Diag) (env : Env) (xs ys : List α) :
    foldDiag f env (xs ++ ys) =
      ((foldDiag f (foldDiag f env xs).1 ys).1, (foldDiag f env xs).2 ++ (foldDiag f (foldDiag f env xs).1 ys).2) := by
  induction xs generalizing env with
  | nil => simp [foldDiag]
  | cons x xs ih => simp [foldDiag, ih, List.append_assoc]

/-- The count of `@start` events includes the one the table may hold already, and the names of the table
stand in the `Nodup` list: that way the statement is its own induction hypothesis. -/
theorem foldRegEv (env : Env) (evs : List Ev) (hnd : (env.map (·.1)).Nodup) :
    ((foldDiag regEv env evs).2 = [] ↔
      (∀ ev ∈ evs, ev.validate = []) ∧ (env.map (·.1) ++ evs.map (·.name)).Nodup ∧
        evs.countP (·.ent.isStart) + (if env.hasStart then 1 else 0) ≤ 1) ∧
    ((foldDiag regEv env evs).2 = [] → (foldDiag regEv env evs).1 = env ++ evs.map Ev.entry) := by
  induction evs generalizing env with
  | nil => simp only [foldDiag, List.countP_nil]; split <;> simp [hnd]
  | cons ev evs ih =>
    simp only [foldDiag, List.append_eq_nil_iff, List.mem_cons, forall_eq_or_imp, List.map_cons, List.countP_cons]
    cases hv : ev.validate with
    | cons d ds => simp [regEv_invalid hv]
    | nil =>
      by_cases hn : ev.name ∈ env.map (·.1)
      · have : ¬ (env.map (·.1) ++ ev.name :: evs.map (·.name)).Nodup := fun h =>
          (List.nodup_append.1 h).2.2 _ hn _ List.mem_cons_self rfl
        simp [regEv_redefined hv hn, this]
      · have hs : Env.hasStart (env ++ [ev.entry]) = (env.hasStart || ev.ent.isStart) := by
          simp [Env.hasStart, Ev.entry]
        have hm : (env ++ [ev.entry]).map (·.1) = env.map (·.1) ++ [ev.name] := by simp [Ev.entry]
        obtain ⟨ih1, ih2⟩ := ih (env ++ [ev.entry]) (hm ▸ List.nodup_append.2 ⟨hnd, List.pairwise_singleton _ _,
          fun a ha b hb e => hn (List.mem_singleton.1 hb ▸ e ▸ ha)⟩)
        rw [hm, hs, List.append_assoc] at ih1
        rw [List.append_assoc] at ih2
        rw [regEv_new hv hn]
        refine ⟨?_, fun h => ih2 h.2⟩
        simp only [ih1, List.cons_append, List.nil_append, true_and]
        cases ev.ent.isStart <;> cases env.hasStart <;> simp <;> omega

theorem foldDiag_flatMap {α β : Type} {f : Env → α → Env × List Diag} {g : Env → β → Env × List Diag}
    {evs : α → List β}
    (h : ∀ env a, ((f env a).2 = [] ↔ (foldDiag g env (evs a)).2 = []) ∧
      ((f env a).2 = [] → (f env a).1 = (foldDiag g env (evs a)).1)) (env : Env) (as : List α) :
    ((foldDiag f env as).2 = [] ↔ (foldDiag g env (as.flatMap evs)).2 = []) ∧
    ((foldDiag f env as).2 = [] → (foldDiag f env as).1 = (foldDiag g env (as.flatMap evs)).1) := by
  induction as generalizing env with
  | nil => simp [foldDiag]
  | cons a as ih =>
    obtain ⟨h1, h2⟩ := h env a
    simp only [foldDiag, List.flatMap_cons, foldDiag_append, List.append_eq_nil_iff]
    refine ⟨⟨fun ⟨ha, hb⟩ => ⟨h1.1 ha, h2 ha ▸ (ih _).1.1 hb⟩, fun ⟨ha, hb⟩ => ⟨h1.2 ha, (ih _).1.2 (h2 (h1.2 ha) ▸ hb)⟩⟩,
      fun ⟨ha, hb⟩ => ?_⟩
    rw [(ih _).2 hb, h2 ha]

theorem cnStmt_clean (env : Env) (st : Stmt) :
    ((cnStmt env st).2 = [] ↔ (foldDiag regEv env st.events).2 = []) ∧
    ((cnStmt env st).2 = [] → (cnStmt env st).1 = (foldDiag regEv env st.events).1) := by
  cases st with
  | rule r => simp [cnStmt, Stmt.events]
  | prule r => simp [cnStmt, Stmt.events, foldDiag]
  | mode id l n rs =>
    simp only [cnStmt, Stmt.events, foldDiag]
    by_cases h : (regEv env (modeEvent id l n)).2 = [] <;> simp [h]

theorem cnStmt_head {env : Env} {st : Stmt} {ev : Ev} {rest : List Ev} (hev : st.events = ev :: rest) {d : Diag}
    (hd : d ∈ (regEv env ev).2) : d ∈ (cnStmt env st).2 := by
  cases st with
  | rule r => simp only [cnStmt, Stmt.events] at hev ⊢; rw [hev]; exact List.mem_append_left _ hd
  | prule r => cases hev; exact hd
  | mode id l n rs =>
    cases hev
    have : (regEv env (modeEvent id l n)).2.isEmpty = false := by
      cases h : (regEv env (modeEvent id l n)).2 <;> simp_all
    simp only [cnStmt, this, Bool.false_eq_true, if_false]
    exact hd

theorem declared_names (s : Spec) : s.declared.map (·.1) = s.events.map (·.name) := by
  simp [Spec.declared]

theorem mem_declared {s : Spec} {n : Name} {e : Ent} :
    (n, e) ∈ s.declared ↔ ∃ ev ∈ s.events, ev.name = n ∧ ev.ent = e := by
  simp [Spec.declared]

theorem events_filter_start (s : Spec) :
    s.events.filter (·.ent.isStart) = (s.prules.filter (·.isStart)).map PRule.event := by
  simp only [Spec.events, Spec.prules, List.filter_flatMap, List.map_flatMap]
  congr 1
  funext st
  have h1 : (st.lexRules.flatMap LexRule.events).filter (·.ent.isStart) = [] :=
    List.filter_eq_nil_iff.2 fun ev hev => by
      obtain ⟨r, _, hr⟩ := List.mem_flatMap.1 hev
      simp [(LexRule.event_spec hr).2.2.2.2.1]
  rw [Stmt.events_eq, List.filter_append, List.filter_append, h1, List.filter_map]
  cases st <;> rfl

theorem events_countP_start (s : Spec) :
    s.events.countP (·.ent.isStart) = (s.prules.filter (·.isStart)).length := by
  rw [List.countP_eq_length_filter, events_filter_start, List.length_map]

/-- Pass `CreateNames` in terms of the declarations. -/
structure Clean1 (s : Spec) : Prop where
  valid : ∀ ev ∈ s.events, ev.validate = []
  nodup : (s.declared.map (·.1)).Nodup
  start : (s.prules.filter (·.isStart)).length ≤ 1

theorem createNames_nil_iff (s : Spec) : (createNames s).2 = [] ↔ Clean1 s := by
  rw [createNames, (foldDiag_flatMap cnStmt_clean [] s.stmts).1, (foldRegEv [] _ List.nodup_nil).1]
  change (∀ ev ∈ s.events, ev.validate = []) ∧ (s.events.map (·.name)).Nodup ∧
    s.events.countP (·.ent.isStart) + 0 ≤ 1 ↔ _
  rw [← declared_names, events_countP_start]
  exact ⟨fun ⟨h1, h2, h3⟩ => ⟨h1, h2, h3⟩, fun ⟨h1, h2, h3⟩ => ⟨h1, h2, h3⟩⟩

theorem foldCnStmt_env {sts : List Stmt} (h : (foldDiag cnStmt [] sts).2 = []) :
    (foldDiag cnStmt [] sts).1 = (sts.flatMap Stmt.events).map Ev.entry := by
  obtain ⟨h1, h2⟩ := foldDiag_flatMap cnStmt_clean [] sts
  rw [h2 h, (foldRegEv [] _ List.nodup_nil).2 (h1.1 h), List.nil_append]

theorem createNames_env (s : Spec) (h : (createNames s).2 = []) : (createNames s).1 = s.declared := by
  rw [createNames, foldCnStmt_env h]
  simp [Spec.declared, Spec.events, Ev.entry]

end Lox.Dec.Analyze
