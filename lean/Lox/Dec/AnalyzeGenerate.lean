import Lox.Dec.AnalyzeNames
import Lox.Dec.AnalyzeCheck
/-! # C17 — pass `GenerateGrammar`: actions of tokens and fragments, macro expansion

`expandMacro` follows macro references depth first with the list of macros being expanded. It
reports nothing from any macro exactly when the reference graph of the name table (`Env.Reach`) has
no cycle: without cycles the list stays duplicate free, so the budget of one more than the number
of names is never used up (`expandMacro_nil_of_acyclic`); with a cycle the expansion would have to
come back to a macro it is expanding (`not_mem_of_expandMacro_nil`). -/
namespace Lox.Dec.Analyze

theorem Action.kind_cases (a : Action) :
    (a.isDiscard = true ∧ a.isEmit = false) ∨ (a.isDiscard = false ∧ a.isEmit = true) ∨
      (a.isDiscard = false ∧ a.isEmit = false) := by
  cases a <;> simp [Action.isDiscard, Action.isEmit]

theorem tokenActionDiags_eq_nil (id : DeclId) (l : Line) (acts : List Action) :
    tokenActionDiags id l acts = [] ↔ ∀ a ∈ acts, a.isDiscard = false ∧ a.isEmit = false := by
  induction acts with
  | nil => simp [tokenActionDiags]
  | cons a as ih =>
    rcases a.kind_cases with ⟨h1, h2⟩ | ⟨h1, h2⟩ | ⟨h1, h2⟩ <;> simp [tokenActionDiags, h1, h2, ih]

theorem tokenActionDiags_sound {id : DeclId} {l : Line} {acts : List Action} {d : Diag}
    (h : d ∈ tokenActionDiags id l acts) : d.line = l ∧ d.decl = some id ∧
      ((d.kind = .tokenDiscard ∧ ∃ a ∈ acts, a.isDiscard = true) ∨ (d.kind = .tokenEmit ∧ ∃ a ∈ acts, a.isEmit = true)) := by
  induction acts with
  | nil => cases h
  | cons a as ih =>
    rcases a.kind_cases with ⟨h1, h2⟩ | ⟨h1, h2⟩ | ⟨h1, h2⟩ <;>
      simp only [tokenActionDiags, h1, h2, if_true, Bool.false_eq_true, if_false, List.mem_singleton] at h
    · subst h; exact ⟨rfl, rfl, Or.inl ⟨rfl, a, List.mem_cons_self, h1⟩⟩
    · subst h; exact ⟨rfl, rfl, Or.inr ⟨rfl, a, List.mem_cons_self, h2⟩⟩
    · obtain ⟨ha, hb, hc⟩ := ih h
      exact ⟨ha, hb, hc.imp (fun ⟨k, x, hx, hk⟩ => ⟨k, x, List.mem_cons_of_mem _ hx, hk⟩)
        fun ⟨k, x, hx, hk⟩ => ⟨k, x, List.mem_cons_of_mem _ hx, hk⟩⟩

theorem fragActionDiags_eq_nil (id : DeclId) (l : Line) (hd he : Bool) (acts : List Action) :
    fragActionDiags id l hd he acts = [] ↔
      hd.toNat + he.toNat + (acts.filter Action.isDiscard).length + (acts.filter Action.isEmit).length ≤ 1 := by
  induction acts generalizing hd he with
  | nil => cases hd <;> cases he <;> simp [fragActionDiags]
  | cons a as ih =>
    rcases a.kind_cases with ⟨h1, h2⟩ | ⟨h1, h2⟩ | ⟨h1, h2⟩ <;>
      simp only [fragActionDiags, List.filter_cons, h1, h2, if_true, Bool.false_eq_true, if_false, List.length_cons]
    · cases hd <;> simp [ih] <;> omega
    · cases he <;> simp [ih] <;> omega
    · exact ih hd he

theorem fragActionDiags_sound {id : DeclId} {l : Line} {acts : List Action} {d : Diag} {hd he : Bool}
    (h : d ∈ fragActionDiags id l hd he acts) : d.line = l ∧ d.decl = some id ∧
      ((d.kind = .fragTwoDiscard ∧ 2 ≤ hd.toNat + (acts.filter Action.isDiscard).length) ∨
       (d.kind = .fragTwoEmit ∧ 2 ≤ he.toNat + (acts.filter Action.isEmit).length) ∨
       (d.kind = .fragDiscardAndEmit ∧ hd.toNat + (acts.filter Action.isDiscard).length = 1 ∧
          he.toNat + (acts.filter Action.isEmit).length = 1)) := by
  induction acts generalizing hd he with
  | nil =>
    cases hd <;> cases he <;> simp [fragActionDiags] at h
    subst h; simp
  | cons a as ih =>
    rcases a.kind_cases with ⟨h1, h2⟩ | ⟨h1, h2⟩ | ⟨h1, h2⟩ <;>
      simp only [fragActionDiags, List.filter_cons, h1, h2, if_true, Bool.false_eq_true, if_false, List.length_cons] at h ⊢
    · cases hd
      · simpa [Nat.add_comm] using ih h
      · obtain rfl := List.mem_singleton.1 h
        exact ⟨rfl, rfl, Or.inl ⟨rfl, by simp; omega⟩⟩
    · cases he
      · simpa [Nat.add_comm] using ih h
      · obtain rfl := List.mem_singleton.1 h
        exact ⟨rfl, rfl, Or.inr (Or.inl ⟨rfl, by simp; omega⟩)⟩
    · exact ih h

theorem tokenActionDiags_kind {id : DeclId} {l : Line} {acts : List Action} {d : Diag}
    (h : d ∈ tokenActionDiags id l acts) : d.line = l ∧ d.decl = some id ∧
      ((∀ a ∈ acts, a.isEmit = false) → d.kind = .tokenDiscard) ∧
      ((∀ a ∈ acts, a.isDiscard = false) → d.kind = .tokenEmit) := by
  obtain ⟨hl, hi, hk⟩ := tokenActionDiags_sound h
  refine ⟨hl, hi, fun hn => hk.elim (·.1) fun ⟨_, a, ha, he⟩ => ?_, fun hn => hk.elim (fun ⟨_, a, ha, hd⟩ => ?_) (·.1)⟩
  · exact absurd he (by simp [hn a ha])
  · exact absurd hd (by simp [hn a ha])

theorem fragActionDiags_kind {id : DeclId} {l : Line} {acts : List Action} {d : Diag}
    (h : d ∈ fragActionDiags id l false false acts) : d.line = l ∧ d.decl = some id ∧
      ((acts.filter Action.isEmit).length = 0 → d.kind = .fragTwoDiscard) ∧
      ((acts.filter Action.isDiscard).length = 0 → d.kind = .fragTwoEmit) ∧
      ((acts.filter Action.isDiscard).length = 1 → (acts.filter Action.isEmit).length = 1 → d.kind = .fragDiscardAndEmit) := by
  obtain ⟨hl, hi, hk⟩ := fragActionDiags_sound h
  simp only [Bool.toNat_false, Nat.zero_add] at hk
  rcases hk with ⟨hk, h⟩ | ⟨hk, h⟩ | ⟨hk, h, h'⟩
  · exact ⟨hl, hi, fun _ => hk, fun h0 => absurd (h0 ▸ h) (by decide), fun h1 _ => absurd (h1 ▸ h) (by decide)⟩
  · exact ⟨hl, hi, fun h0 => absurd (h0 ▸ h) (by decide), fun _ => hk, fun _ h2 => absurd (h2 ▸ h) (by decide)⟩
  · exact ⟨hl, hi, fun h0 => absurd (h0.symm.trans h') (by decide), fun h0 => absurd (h0.symm.trans h) (by decide),
      fun _ _ => hk⟩

theorem fragActionDiags_ne_nil (id : DeclId) (l : Line) {acts : List Action}
    (h : 2 ≤ (acts.filter Action.isDiscard).length + (acts.filter Action.isEmit).length) :
    fragActionDiags id l false false acts ≠ [] :=
  mt (fragActionDiags_eq_nil id l false false acts).1 (by simp only [Bool.toNat_false]; omega)

def Env.IsMacro (env : Env) (n : Name) : Prop := ∃ id l e, env.lookup n = some (.macro id l e)

/-- `Spec.MacroRef` read through the look-up of a name table (`edge_iff`). -/
def Env.Edge (env : Env) (a b : Name) : Prop :=
  ∃ id l e, env.lookup a = some (.macro id l e) ∧ b ∈ exprRefs e ∧ env.IsMacro b

inductive Env.Reach (env : Env) : Name → Name → Prop where
  | step {a b : Name} : env.Edge a b → Reach env a b
  | trans {a b c : Name} : env.Edge a b → Reach env b c → Reach env a c

theorem Env.Reach.snoc {env : Env} {a b c : Name} (h : env.Reach a b) (e : env.Edge b c) : env.Reach a c := by
  induction h with
  | step e' => exact .trans e' (.step e)
  | trans e' _ ih => exact .trans e' (ih e)

theorem expandMacro_eq_nil {env : Env} {fuel : Nat} {V : List Name} {m : Name} :
    expandMacro env fuel V m = [] ↔ ∃ f id l e, fuel = f + 1 ∧ env.lookup m = some (.macro id l e) ∧ m ∉ V ∧
      ∀ b ∈ exprRefs e, expandMacro env f (m :: V) b = [] := by
  cases fuel with
  | zero => exact ⟨(nomatch ·), fun ⟨_, _, _, _, h, _⟩ => nomatch h⟩
  | succ f =>
    rw [expandMacro]
    split
    · next id l e hl =>
      by_cases hc : m ∈ V
      · rw [if_pos (List.contains_iff_mem.2 hc)]
        exact ⟨(nomatch ·), fun ⟨_, _, _, _, _, _, hn, _⟩ => (hn hc).elim⟩
      · rw [if_neg (mt List.contains_iff_mem.1 hc), List.flatMap_eq_nil_iff]
        exact ⟨fun h => ⟨f, id, l, e, rfl, hl, hc, h⟩, fun ⟨_, _, _, _, hf, hl', _, h⟩ => by
          cases hf; cases hl.symm.trans hl'; exact h⟩
    · next hne => exact ⟨(nomatch ·), fun ⟨_, id, l, e, _, hl, _⟩ => (hne id l e hl).elim⟩

theorem not_mem_of_expandMacro_nil {env : Env} {a c : Name} (h : env.Reach a c) :
    ∀ (fuel : Nat) (V : List Name), expandMacro env fuel V a = [] → c ∉ a :: V := by
  have edge : ∀ {a b fuel V}, env.Edge a b → expandMacro env fuel V a = [] → ∃ f, expandMacro env f (a :: V) b = [] := by
    rintro a b fuel V ⟨id, l, e, hl, hb, _⟩ hx
    obtain ⟨f, id', l', e', _, hl', _, hall⟩ := expandMacro_eq_nil.1 hx
    cases hl.symm.trans hl'
    exact ⟨f, hall b hb⟩
  induction h with
  | step e =>
    intro fuel V hx
    obtain ⟨f, hb⟩ := edge e hx
    obtain ⟨_, _, _, _, _, _, hn, _⟩ := expandMacro_eq_nil.1 hb
    exact hn
  | trans e _ ih =>
    intro fuel V hx
    obtain ⟨f, hb⟩ := edge e hx
    exact fun hm => ih f _ hb (List.mem_cons_of_mem _ hm)

def Env.Resolved (env : Env) : Prop :=
  ∀ a id l e, env.lookup a = some (.macro id l e) → ∀ b ∈ exprRefs e, env.IsMacro b

/-- `V` is duplicate free (a repetition would be a cycle) and drawn from the names of the table, so
`V.length ≤ env.length`; with `env.length + 1 ≤ V.length + fuel` that leaves `fuel > 0`. -/
theorem expandMacro_nil_of_acyclic {env : Env} (hres : env.Resolved) (hac : ∀ m, ¬ env.Reach m m) :
    ∀ (fuel : Nat) (V : List Name) (m : Name), env.IsMacro m → V.Nodup → (∀ v ∈ V, env.Reach v m) →
      (∀ v ∈ V, v ∈ env.map (·.1)) → env.length + 1 ≤ V.length + fuel → expandMacro env fuel V m = [] := by
  intro fuel
  induction fuel with
  | zero =>
    intro V m _ hnd _ hsub hlen
    have := hnd.length_le_of_subset hsub
    simp only [List.length_map] at this
    omega
  | succ f ih =>
    intro V m ⟨id, l, e, hl⟩ hnd hreach hsub hlen
    have hmV : m ∉ V := fun h => hac m (hreach m h)
    refine expandMacro_eq_nil.2 ⟨f, id, l, e, rfl, hl, hmV, fun b hb => ?_⟩
    have hbm : env.IsMacro b := hres m id l e hl b hb
    have hedge : env.Edge m b := ⟨id, l, e, hl, hb, hbm⟩
    refine ih (m :: V) b hbm (List.nodup_cons.2 ⟨hmV, hnd⟩) ?_ ?_ (by simp only [List.length_cons]; omega)
    · intro v hv
      rcases List.mem_cons.1 hv with rfl | hv
      · exact .step hedge
      · exact (hreach v hv).snoc hedge
    · intro v hv
      rcases List.mem_cons.1 hv with rfl | hv
      · exact List.mem_map.2 ⟨_, mem_of_lookup hl, rfl⟩
      · exact hsub v hv

theorem acyclic_of_expandMacro_nil {env : Env} (fuel : Nat)
    (h : ∀ m, env.IsMacro m → expandMacro env fuel [] m = []) : ∀ m, ¬ env.Reach m m := by
  intro m hr
  have hm : env.IsMacro m := by
    cases hr with
    | step e => obtain ⟨id, l, ex, hl, _⟩ := e; exact ⟨id, l, ex, hl⟩
    | trans e _ => obtain ⟨id, l, ex, hl, _⟩ := e; exact ⟨id, l, ex, hl⟩
  exact not_mem_of_expandMacro_nil hr fuel [] (h m hm) List.mem_cons_self

theorem mem_exprRefs {e : LExpr} {b : Name} : b ∈ exprRefs e ↔ ∃ ln, Leaf.ref ln b ∈ exprLeaves e := by
  simp only [exprRefs, List.mem_flatMap]
  constructor
  · rintro ⟨l, hl, hb⟩
    cases l <;> simp [Leaf.refName] at hb
    subst hb; exact ⟨_, hl⟩
  · rintro ⟨ln, h⟩; exact ⟨_, h, by simp [Leaf.refName]⟩

theorem macro_rule_of_declared {s : Spec} {n : Name} {id : DeclId} {l : Line} {e : LExpr}
    (h : (n, Ent.macro id l e) ∈ s.declared) : LexRule.macro id l n e ∈ s.lexRules := by
  obtain ⟨ev, hev, rfl, he⟩ := mem_declared.1 h
  rcases mem_events.1 hev with ⟨r, hr, hev⟩ | ⟨r, _, rfl⟩ | ⟨id', l', n', rs, _, rfl⟩
  · cases r with
    | token id' l' n' e' a => obtain rfl := List.mem_singleton.1 hev; cases he
    | frag id' l' e' a => cases hev
    | «macro» id' l' n' e' => obtain rfl := List.mem_singleton.1 hev; cases he; exact hr
    | external id' l' names => obtain ⟨p, _, rfl⟩ := List.mem_map.1 hev; cases he
  · cases he
  · cases he

theorem declared_of_macro_rule {s : Spec} {n : Name} {id : DeclId} {l : Line} {e : LExpr}
    (h : LexRule.macro id l n e ∈ s.lexRules) : (n, Ent.macro id l e) ∈ s.declared :=
  mem_declared.2 ⟨⟨id, l, n, .macro id l e, .lexical⟩, mem_events.2 (Or.inl ⟨_, h, List.mem_singleton.2 rfl⟩), rfl, rfl⟩

/-- The statements' part of pass `GenerateGrammar` in terms of the declarations. -/
structure Clean4L (s : Spec) (env : Env) : Prop where
  shape : ∀ r ∈ s.lexRules, ∀ e, r.expr? = some e → exprShapeOk e = true
  tokenActs : ∀ r ∈ s.lexRules, r.isToken = true → ∀ a ∈ r.actions, a.isDiscard = false ∧ a.isEmit = false
  fragActs : ∀ r ∈ s.lexRules, r.isFrag = true →
    (r.actions.filter Action.isDiscard).length + (r.actions.filter Action.isEmit).length ≤ 1
  acyclic : ∀ m, ¬ env.Reach m m

/-- Pass `GenerateGrammar` in terms of the declarations (the fourth pass; the third, `Normalize`, reports
nothing). -/
structure Clean4 (s : Spec) (env : Env) : Prop where
  shape : ∀ r ∈ s.lexRules, ∀ e, r.expr? = some e → exprShapeOk e = true
  tokenActs : ∀ r ∈ s.lexRules, r.isToken = true → ∀ a ∈ r.actions, a.isDiscard = false ∧ a.isEmit = false
  fragActs : ∀ r ∈ s.lexRules, r.isFrag = true →
    (r.actions.filter Action.isDiscard).length + (r.actions.filter Action.isEmit).length ≤ 1
  acyclic : ∀ m, ¬ env.Reach m m
  start : env.hasRules = true → env.hasStart = true

/-- The macros whose expansion the rule starts: those its expression mentions, for a macro the macro itself. -/
def LexRule.expanded : LexRule → List Name
  | .token _ _ _ e _ => exprRefs e
  | .frag _ _ e _ => exprRefs e
  | .macro _ _ n _ => [n]
  | .external _ _ _ => []

theorem expandExpr_eq_nil (env : Env) (e : LExpr) :
    expandExpr env e = [] ↔ exprShapeOk e = true ∧ ∀ b ∈ exprRefs e, expandMacro env (env.length + 1) [] b = [] := by
  unfold expandExpr
  cases exprShapeOk e <;> simp [List.flatMap_eq_nil_iff]

theorem LexRule.generate_eq_nil (env : Env) (r : LexRule) : r.generate env = [] ↔
    (∀ e, r.expr? = some e → exprShapeOk e = true) ∧
    (∀ b ∈ r.expanded, expandMacro env (env.length + 1) [] b = []) ∧
    (r.isToken = true → ∀ a ∈ r.actions, a.isDiscard = false ∧ a.isEmit = false) ∧
    (r.isFrag = true → (r.actions.filter Action.isDiscard).length + (r.actions.filter Action.isEmit).length ≤ 1) := by
  cases r with
  | token id l n e a =>
    simp only [LexRule.generate, List.append_eq_nil_iff, expandExpr_eq_nil, tokenActionDiags_eq_nil, LexRule.expr?,
      LexRule.isToken, LexRule.isFrag, LexRule.actions, LexRule.expanded, Option.some.injEq, forall_eq', forall_const,
      Bool.false_eq_true, false_imp_iff, and_true, and_assoc]
  | frag id l e a =>
    simp only [LexRule.generate, List.append_eq_nil_iff, expandExpr_eq_nil, fragActionDiags_eq_nil, LexRule.expr?,
      LexRule.isToken, LexRule.isFrag, LexRule.actions, LexRule.expanded, Option.some.injEq, forall_eq', forall_const,
      Bool.false_eq_true, false_imp_iff, true_and, and_assoc, Bool.toNat_false, Nat.zero_add]
  | «macro» id l n e =>
    cases h : exprShapeOk e <;>
      simp [LexRule.generate, LexRule.expr?, LexRule.isToken, LexRule.isFrag, LexRule.expanded, h]
  | external id l names => simp [LexRule.generate, LexRule.expr?, LexRule.isToken, LexRule.isFrag, LexRule.expanded]

theorem isMacro_iff_expanded {s : Spec} (hnd : (s.declared.map (·.1)).Nodup) (h2 : Clean2 s s.declared) (b : Name) :
    s.declared.IsMacro b ↔ ∃ r ∈ s.lexRules, b ∈ r.expanded := by
  constructor
  · rintro ⟨id, l, e, hl⟩
    exact ⟨_, macro_rule_of_declared (mem_of_lookup hl), List.mem_singleton.2 rfl⟩
  · rintro ⟨r, hr, hb⟩
    have href : ∀ e, r.leaves = exprLeaves e → b ∈ exprRefs e → s.declared.IsMacro b := fun e he hb => by
      obtain ⟨ln, hleaf⟩ := mem_exprRefs.1 hb
      exact h2.leaves r hr (.ref ln b) (he ▸ hleaf)
    cases r with
    | token id l n e a => exact href e rfl hb
    | frag id l e a => exact href e rfl hb
    | «macro» id l n e =>
      obtain rfl := List.mem_singleton.1 hb
      exact ⟨id, l, e, lookup_of_mem hnd (declared_of_macro_rule hr)⟩
    | external id l names => cases hb

theorem lexGenerate_nil_iff {s : Spec} (hnd : (s.declared.map (·.1)).Nodup) (h2 : Clean2 s s.declared) :
    (∀ r ∈ s.lexRules, r.generate s.declared = []) ↔ Clean4L s s.declared := by
  have hres : Env.Resolved s.declared := fun a id l e hl b hb =>
    let ⟨ln, hleaf⟩ := mem_exprRefs.1 hb
    h2.leaves _ (macro_rule_of_declared (mem_of_lookup hl)) (.ref ln b) hleaf
  have hexp : (∀ r ∈ s.lexRules, ∀ b ∈ r.expanded, expandMacro s.declared (s.declared.length + 1) [] b = []) ↔
      ∀ m, ¬ s.declared.Reach m m := by
    constructor
    · intro h
      exact acyclic_of_expandMacro_nil _ fun m hm =>
        let ⟨r, hr, hb⟩ := (isMacro_iff_expanded hnd h2 m).1 hm; h r hr m hb
    · intro hac r hr b hb
      exact expandMacro_nil_of_acyclic hres hac _ [] b
        ((isMacro_iff_expanded hnd h2 b).2 ⟨r, hr, hb⟩) List.nodup_nil (by simp) (by simp) (by simp)
  simp only [LexRule.generate_eq_nil]
  exact ⟨fun h => ⟨fun r hr => (h r hr).1, fun r hr => (h r hr).2.2.1, fun r hr => (h r hr).2.2.2,
      hexp.1 fun r hr => (h r hr).2.1⟩,
    fun c r hr => ⟨c.shape r hr, hexp.2 c.acyclic r hr, c.tokenActs r hr, c.fragActs r hr⟩⟩

theorem generate_eq_nil_split (env : Env) (s : Spec) : generate env s = [] ↔
    (∀ r ∈ s.lexRules, r.generate env = []) ∧ (env.hasRules = true → env.hasStart = true) := by
  simp only [List.eq_nil_iff_forall_not_mem, mem_generate]
  constructor
  · intro h
    have hn : ∀ r ∈ s.lexRules, ∀ d, d ∉ r.generate env := fun r hr d hd => h d (Or.inl ⟨r, hr, hd⟩)
    exact ⟨hn, fun hr => Decidable.byContradiction fun hs => h _ (Or.inr ⟨hn, hr, Bool.eq_false_iff.2 hs, rfl⟩)⟩
  · rintro ⟨hn, hs⟩ d (⟨r, hr, hd⟩ | ⟨_, hr, hs', _⟩)
    · exact hn r hr d hd
    · rw [hs hr] at hs'; cases hs'

theorem generate_nil_iff {s : Spec} (hnd : (s.declared.map (·.1)).Nodup) (h2 : Clean2 s s.declared) :
    generate s.declared s = [] ↔ Clean4 s s.declared := by
  rw [generate_eq_nil_split, lexGenerate_nil_iff hnd h2]
  exact ⟨fun ⟨⟨a, b, c, d⟩, hs⟩ => ⟨a, b, c, d, hs⟩, fun ⟨a, b, c, d, hs⟩ => ⟨⟨a, b, c, d⟩, hs⟩⟩

end Lox.Dec.Analyze
