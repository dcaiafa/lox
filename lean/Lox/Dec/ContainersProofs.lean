import Lox.Dec.AssocList
import Lox.Dec.ContainersHeap
import Lox.Dec.ContainersChain
/-! Refinement of `stablemap.Map` (`Lox.Dec.Containers`): the representation relation `Rep m l` over the
ring invariant `Ring m cyc`, how a ring changes when a node is linked in or out (`Ring.insert`,
`Ring.remove`), and the traversal of a ring (`Rep.forEach`). -/
set_option linter.unusedSectionVars false
namespace Lox.Dec.Containers

section Map
variable {K V : Type} [DecidableEq K] [Inhabited K] [Inhabited V]

/-- The links of `m` form the ring `0 → cyc₀ → cyc₁ → … → 0` (`0` is the sentinel), `prev` is the
inverse of `next` along it, the ring's nodes are exactly the values of the Go map, each under its
own key, and the keys are distinct. -/
structure Ring (m : CMap K V) (cyc : List Nat) : Prop where
  -- the sentinel is node 0: `initMap` allocates it first, in the empty store of the zero value
  list : m.list = some 0
  nodes : ∃ g, m.nodes = some g ∧ g.Perm (cyc.map fun i => (keyAt m.heap i, i))
  size : cyc.length < m.heap.size
  bound : ∀ i ∈ cyc, i < m.heap.size
  nodup : (0 :: cyc).Nodup
  fwd : Chain (nextAt m.heap) 0 cyc 0
  bwd : Chain (prevAt m.heap) 0 cyc.reverse 0
  keys : (cyc.map (keyAt m.heap)).Nodup

/-- The zero value `Map{}` is a usable empty map in Go (`Put` initialises it, the other methods
test for nil): it represents `[]` without a ring. -/
def Rep (m : CMap K V) (l : AMap K V) : Prop :=
  (m = CMap.zero ∧ l = []) ∨ ∃ cyc, Ring m cyc ∧ l = cyc.map (kvAt m.heap)

def Inv (m : CMap K V) : Prop := ∃ l, Rep m l

theorem Ring.pos {m : CMap K V} {cyc : List Nat} (hr : Ring m cyc) : 0 < m.heap.size :=
  Nat.lt_of_le_of_lt (Nat.zero_le _) hr.size

theorem Ring.bound' {m : CMap K V} {cyc : List Nat} (hr : Ring m cyc) :
    ∀ i ∈ 0 :: cyc, i < m.heap.size := by
  intro i hi
  rcases List.mem_cons.mp hi with rfl | hi
  · exact hr.pos
  · exact hr.bound i hi

theorem Ring.nil {h : Heap K V} (hs : 0 < h.size) (hn : nextAt h 0 = some 0)
    (hp : prevAt h 0 = some 0) :
    Ring ({ nodes := some [], list := some 0, heap := h } : CMap K V) [] :=
  ⟨rfl, ⟨[], rfl, .nil⟩, hs, nofun, by simp, hn, hp, .nil⟩

theorem Ring.keys_g {m : CMap K V} {cyc : List Nat} (hr : Ring m cyc) {g : List (K × Nat)}
    (hp : g.Perm (cyc.map fun i => (keyAt m.heap i, i))) : (g.map (·.1)).Nodup := by
  have := hp.map (·.1)
  rw [List.map_map] at this
  exact (this.nodup_iff).mpr hr.keys

theorem Ring.lookup_some {m : CMap K V} {cyc : List Nat} (hr : Ring m cyc) (k : K) (n : Nat) :
    goLookup m.nodes k = some n ↔ n ∈ cyc ∧ keyAt m.heap n = k := by
  obtain ⟨g, hg, hp⟩ := hr.nodes
  simp only [goLookup, hg]
  rw [List.lookup_eq_some_iff_mem (hr.keys_g hp), hp.mem_iff]
  simp only [List.mem_map, Prod.mk.injEq]
  constructor
  · rintro ⟨i, hi, h1, h2⟩
    subst h2
    exact ⟨hi, h1⟩
  · rintro ⟨h1, h2⟩
    exact ⟨n, h1, h2, rfl⟩

theorem Ring.lookup_none {m : CMap K V} {cyc : List Nat} (hr : Ring m cyc) (k : K) :
    goLookup m.nodes k = none ↔ ∀ i ∈ cyc, keyAt m.heap i ≠ k := by
  obtain ⟨g, hg, hp⟩ := hr.nodes
  simp only [goLookup, hg]
  rw [List.lookup_eq_none_iff_forall_ne]
  constructor
  · intro h i hi
    exact h (keyAt m.heap i, i) (hp.mem_iff.mpr (List.mem_map.mpr ⟨i, hi, rfl⟩))
  · intro h e he
    obtain ⟨i, hi, rfl⟩ := List.mem_map.mp (hp.mem_iff.mp he)
    exact h i hi

theorem Ring.key_inj {m : CMap K V} {cyc : List Nat} (hr : Ring m cyc) {i j : Nat}
    (hi : i ∈ cyc) (hj : j ∈ cyc) (h : keyAt m.heap i = keyAt m.heap j) : i = j :=
  List.eq_of_map_eq hr.keys hi hj h

theorem Ring.congr {m m' : CMap K V} {cyc : List Nat} (hr : Ring m cyc) (hl : m'.list = m.list)
    (hnodes : m'.nodes = m.nodes) (hs : m.heap.size ≤ m'.heap.size)
    (hn : ∀ j ∈ 0 :: cyc, nextAt m'.heap j = nextAt m.heap j)
    (hp : ∀ j ∈ 0 :: cyc, prevAt m'.heap j = prevAt m.heap j)
    (hk : ∀ j ∈ cyc, keyAt m'.heap j = keyAt m.heap j) : Ring m' cyc := by
  refine ⟨hl.trans hr.list, ?_, Nat.lt_of_lt_of_le hr.size hs,
    fun i hi => Nat.lt_of_lt_of_le (hr.bound i hi) hs, hr.nodup, ?_, ?_, ?_⟩
  · rw [hnodes, List.map_congr_left fun i hi => by rw [hk i hi]]; exact hr.nodes
  · rw [chain_congr hn]; exact hr.fwd
  · rw [chain_congr (fun i hi => hp i (by simpa using hi))]; exact hr.bwd
  · rw [List.map_congr_left hk]; exact hr.keys

/-- Appending a fresh node `n` (key `k`, not yet present) behind the last node. -/
theorem Ring.insert {m m' : CMap K V} {cyc : List Nat} (hr : Ring m cyc) {n : Nat} {k : K}
    {g : List (K × Nat)} (hg : m.nodes = some g)
    (hnew : n ∉ 0 :: cyc) (hnb : n < m.heap.size) (hlen : cyc.length + 1 < m.heap.size)
    (hkn : keyAt m.heap n = k) (hk : ∀ i ∈ cyc, keyAt m.heap i ≠ k)
    (hl : m'.list = m.list)
    (hnodes : m'.nodes = some ((k, n) :: g.filter (fun e => decide (e.1 ≠ k))))
    (hs : m'.heap.size = m.heap.size)
    (hn : ∀ j, nextAt m'.heap j = if j = cyc.getLastD 0 then some n else if j = n then some 0
      else nextAt m.heap j)
    (hp : ∀ j, prevAt m'.heap j = if j = 0 then some n else if j = n then some (cyc.getLastD 0)
      else prevAt m.heap j)
    (hkey : ∀ j, keyAt m'.heap j = keyAt m.heap j) : Ring m' (cyc ++ [n]) := by
  have hkey' : keyAt m'.heap = keyAt m.heap := funext hkey
  have hn_last : n ≠ cyc.getLastD 0 := fun e => hnew (e ▸ List.getLastD_mem_cons)
  have hn0 : n ≠ 0 := fun e => hnew (e ▸ List.mem_cons_self)
  have hnd : (0 :: (cyc ++ [n])).Nodup := List.cons_append ▸ nodup_concat hr.nodup hnew
  obtain ⟨g', hg', hperm⟩ := hr.nodes
  cases hg.symm.trans hg'
  refine ⟨hl.trans hr.list, ⟨_, hnodes, ?_⟩, by rw [List.length_append, hs]; exact hlen,
    ?_, hnd, ?_, ?_, ?_⟩
  · have hf : g.filter (fun e => decide (e.1 ≠ k)) = g := List.filter_eq_self.mpr fun e he => by
      obtain ⟨i, hi, rfl⟩ := List.mem_map.mp (hperm.mem_iff.mp he)
      exact decide_eq_true (hk i hi)
    rw [hf, hkey', List.map_append, List.map_singleton, hkn]
    exact (hperm.cons _).trans (List.perm_append_singleton _ _).symm
  · intro i hi
    rw [hs]
    rcases List.mem_append.mp hi with hi | hi
    · exact hr.bound i hi
    · rw [List.mem_singleton.mp hi]; exact hnb
  · refine (chain_splice (l₂ := []) hnd rfl ?_ ?_ ?_).mp (by simpa using hr.fwd)
    · rw [hn, if_pos rfl]
    · rw [hn, if_neg hn_last, if_pos rfl, chain_last hr.fwd]
    · intro i h1 h2; rw [hn, if_neg h1, if_neg h2]
  · have hnd' : (0 :: ([] ++ n :: cyc.reverse)).Nodup :=
      (List.perm_cons 0 |>.mpr (by simpa using List.reverse_perm (cyc ++ [n]))).nodup_iff.mpr hnd
    have := (chain_splice (f' := prevAt m'.heap) (p := 0) hnd' rfl (by rw [hp, if_pos rfl])
      ?_ ?_).mp hr.bwd
    · simpa using this
    · rw [hp, if_neg hn0, if_pos rfl, chain_head hr.bwd, headD_reverse]
    · intro i h1 h2; rw [hp, if_neg h1, if_neg h2]
  · rw [hkey', List.map_append, List.map_singleton, hkn]
    exact nodup_concat hr.keys fun ha => by
      obtain ⟨i, hi, e⟩ := List.mem_map.mp ha
      exact hk i hi e

/-- Around a ring node `n`: its two links, and its neighbours are allocated nodes other than `n`
(possibly the sentinel, possibly one and the same). -/
theorem Ring.neighbours {m : CMap K V} {l₁ l₂ : List Nat} {n : Nat}
    (hr : Ring m (l₁ ++ n :: l₂)) :
    nextAt m.heap n = some (l₂.headD 0) ∧ prevAt m.heap n = some (l₁.getLastD 0) ∧
    (l₁.getLastD 0 ≠ n ∧ l₁.getLastD 0 < m.heap.size) ∧
    (l₂.headD 0 ≠ n ∧ l₂.headD 0 < m.heap.size) := by
  have hbwd : Chain (prevAt m.heap) 0 (l₂.reverse ++ n :: l₁.reverse) 0 := by simpa using hr.bwd
  have hn : n ∉ 0 :: (l₁ ++ l₂) :=
    (List.nodup_cons.mp ((List.perm_middle (l₁ := 0 :: l₁)).nodup_iff.mp hr.nodup)).1
  have hsub : ∀ i ∈ 0 :: (l₁ ++ l₂), i ≠ n ∧ i < m.heap.size := fun i hi =>
    ⟨fun e => hn (e ▸ hi), hr.bound' i
      ((((List.sublist_cons_self n l₂).append_left l₁).cons_cons 0).subset hi)⟩
  exact ⟨chain_head ((chain_append ..).mp hr.fwd).2,
    (chain_head ((chain_append ..).mp hbwd).2).trans (by rw [headD_reverse]),
    hsub _ (getLastD_mem_append l₁ l₂ 0), hsub _ (headD_mem_append l₁ l₂ 0)⟩

theorem Ring.filter_key {m : CMap K V} {l₁ l₂ : List Nat} {n : Nat}
    (hr : Ring m (l₁ ++ n :: l₂)) :
    (l₁ ++ n :: l₂).filter (fun i => decide (keyAt m.heap i ≠ keyAt m.heap n)) = l₁ ++ l₂ := by
  have hmem : n ∈ l₁ ++ n :: l₂ := by simp
  have hn : n ∉ l₁ ++ l₂ :=
    (List.nodup_cons.mp (List.perm_middle.nodup_iff.mp (List.nodup_cons.mp hr.nodup).2)).1
  rw [List.filter_append, List.filter_cons_of_neg (by simp), ← List.filter_append,
    List.filter_eq_self]
  intro i hi
  have hi' : i ∈ l₁ ++ n :: l₂ := ((List.sublist_cons_self n l₂).append_left l₁).subset hi
  exact decide_eq_true fun hk => hn (hr.key_inj hi' hmem hk ▸ hi)

theorem Ring.remove {m m' : CMap K V} {l₁ l₂ : List Nat} {n : Nat}
    (hr : Ring m (l₁ ++ n :: l₂)) {g : List (K × Nat)} (hg : m.nodes = some g)
    (hl : m'.list = m.list)
    (hnodes : m'.nodes = some (g.filter (fun e => decide (e.1 ≠ keyAt m.heap n))))
    (hs : m'.heap.size = m.heap.size)
    (hn : ∀ j, nextAt m'.heap j = if j = n then none else if j = l₁.getLastD 0 then
      some (l₂.headD 0) else nextAt m.heap j)
    (hp : ∀ j, prevAt m'.heap j = if j = n then none else if j = l₂.headD 0 then
      some (l₁.getLastD 0) else prevAt m.heap j)
    (hkey : ∀ j, keyAt m'.heap j = keyAt m.heap j) : Ring m' (l₁ ++ l₂) := by
  have hkey' : keyAt m'.heap = keyAt m.heap := funext hkey
  have hsub : (l₁ ++ l₂).Sublist (l₁ ++ n :: l₂) := (List.sublist_cons_self n l₂).append_left l₁
  obtain ⟨hnext, hprev, ⟨hpn, _⟩, ⟨hqn, _⟩⟩ := hr.neighbours
  obtain ⟨g', hg', hperm⟩ := hr.nodes
  cases hg.symm.trans hg'
  have hbwd : Chain (prevAt m.heap) 0 (l₂.reverse ++ n :: l₁.reverse) 0 := by simpa using hr.bwd
  refine ⟨hl.trans hr.list, ⟨_, hnodes, ?_⟩, ?_, ?_, hr.nodup.sublist (hsub.cons_cons 0),
    ?_, ?_, ?_⟩
  · have h1 := hperm.filter (fun e => decide (e.1 ≠ keyAt m.heap n))
    rw [List.filter_map] at h1
    rw [hkey', ← hr.filter_key]
    exact h1
  · rw [hs]
    exact Nat.lt_of_le_of_lt hsub.length_le hr.size
  · intro i hi
    rw [hs]
    exact hr.bound i (hsub.subset hi)
  · refine (chain_splice hr.nodup rfl (chain_last ((chain_append ..).mp hr.fwd).1) ?_ ?_).mpr hr.fwd
    · rw [hn, if_neg hpn, if_pos rfl]; exact hnext
    · intro i h1 h2; rw [hn, if_neg h2, if_neg h1]
  · have hnd : (0 :: (l₂.reverse ++ n :: l₁.reverse)).Nodup := by
      rw [show l₂.reverse ++ n :: l₁.reverse = (l₁ ++ n :: l₂).reverse by simp]
      exact (List.perm_cons 0 |>.mpr (List.reverse_perm _)).nodup_iff.mpr hr.nodup
    have := (chain_splice (f := prevAt m'.heap) hnd rfl
      (chain_last ((chain_append ..).mp hbwd).1) ?_ ?_).mpr hbwd
    · simpa using this
    · rw [getLastD_reverse, hp, if_neg hqn, if_pos rfl]; exact hprev
    · intro i h1 h2
      rw [getLastD_reverse] at h1
      rw [hp, if_neg h2, if_neg h1]
  · rw [hkey']
    exact hr.keys.sublist (hsub.map _)

theorem walk_step (h : Heap K V) (stop x fuel : Nat) (hx : x < h.size) (hne : x ≠ stop) :
    walk h (some stop) (fuel + 1) (some x) =
      walk h (some stop) fuel (nextAt h x) >>= fun rest => pure (kvAt h x :: rest) := by
  have hne' : (some x : Ptr) ≠ some stop := fun e => hne (Option.some.inj e)
  simp only [walk, if_neg hne', load_some h x hx, ok_bind]
  rfl

/-- Stated from the predecessor `a` of the path, so that the ring (`a = stop =` the sentinel,
possibly `l = []`) is an instance. -/
theorem walk_chain (h : Heap K V) (stop a : Nat) (l : List Nat) (fuel : Nat)
    (hc : Chain (nextAt h) a l stop) (hb : ∀ i ∈ l, i < h.size ∧ i ≠ stop)
    (hf : l.length < fuel) :
    walk h (some stop) fuel (nextAt h a) = .ok (l.map (kvAt h)) := by
  induction l generalizing a fuel with
  | nil =>
    cases fuel with
    | zero => exact absurd hf (Nat.not_lt_zero _)
    | succ f => rw [show nextAt h a = some stop from hc, walk, if_pos rfl]; rfl
  | cons y l ih =>
    cases fuel with
    | zero => exact absurd hf (Nat.not_lt_zero _)
    | succ f =>
      have hy := hb y List.mem_cons_self
      rw [hc.1, walk_step h stop y f hy.1 hy.2,
        ih y f hc.2 (fun i hi => hb i (List.mem_cons_of_mem _ hi)) (Nat.lt_of_succ_lt_succ hf)]
      rfl

theorem Ring.forEach {m : CMap K V} {cyc : List Nat} (hr : Ring m cyc) :
    forEach m = .ok (cyc.map (kvAt m.heap)) := by
  simp only [Containers.forEach, hr.list, load_some m.heap 0 hr.pos, ok_bind]
  refine walk_chain m.heap 0 0 cyc _ hr.fwd (fun i hi => ⟨hr.bound i hi, ?_⟩)
    (Nat.lt_succ_of_lt hr.size)
  rintro rfl
  exact (List.nodup_cons.mp hr.nodup).1 hi

theorem Rep.forEach {m : CMap K V} {l : AMap K V} (h : Rep m l) : forEach m = .ok l := by
  rcases h with ⟨rfl, rfl⟩ | ⟨cyc, hr, rfl⟩
  · rfl
  · exact hr.forEach

theorem Rep.unique {m : CMap K V} {l l' : AMap K V} (h : Rep m l) (h' : Rep m l') : l = l' := by
  have := h.forEach
  rw [h'.forEach] at this
  exact (Except.ok.inj this).symm

theorem rep_zero : Rep (CMap.zero : CMap K V) [] := Or.inl ⟨rfl, rfl⟩

theorem initMap_zero :
    ∃ m₀ : CMap K V, initMap (CMap.zero : CMap K V) = .ok m₀ ∧ Ring m₀ [] := by
  obtain ⟨-, ha2, -⟩ := alloc_spec (#[] : Heap K V) default
  obtain ⟨h', he, hs, hn, hp, -⟩ := initList_spec (alloc (#[] : Heap K V) default).2 0
    (ha2 ▸ Nat.zero_lt_one)
  refine ⟨_, ?_, Ring.nil (hs ▸ ha2 ▸ Nat.zero_lt_one) ((hn 0).trans (if_pos rfl))
    ((hp 0).trans (if_pos rfl))⟩
  have e : alloc (#[] : Heap K V) default = (0, (alloc (#[] : Heap K V) default).2) := rfl
  simp only [initMap, CMap.zero]
  rw [e]
  simp only [he, ok_bind, pure_eq_ok]

theorem Rep.initMap {m : CMap K V} {l : AMap K V} (h : Rep m l) :
    ∃ m₀ cyc, initMap m = .ok m₀ ∧ Ring m₀ cyc ∧ l = cyc.map (kvAt m₀.heap) := by
  rcases h with ⟨rfl, rfl⟩ | ⟨cyc, hr, rfl⟩
  · obtain ⟨m₀, h1, h2⟩ := initMap_zero (K := K) (V := V)
    exact ⟨m₀, [], h1, h2, rfl⟩
  · obtain ⟨g, hg, _⟩ := hr.nodes
    exact ⟨m, cyc, by simp [Containers.initMap, hg], hr, rfl⟩

end Map
end Lox.Dec.Containers
