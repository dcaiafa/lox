import Lox.Dec.Terminals
import Lox.Util.List
/-! C19: `constOf` inverts indexing on a duplicate-free terminal list (`constOf_of_getElem?`), and an
error-free `CreateNames` run appends exactly `specNames s` to `EOF`, `ERROR` – all valid names – and keeps
the terminals distinct (`runSpec_spec`, `Inv`). -/
namespace Lox.Dec.Terminals

theorem mem_constBlock {ts : List String} {n : String} {k : Nat} :
    (n, k) ∈ constBlock ts ↔ ts[k]? = some n := by
  simp [constBlock, List.mem_zipIdx_iff_getElem?]

theorem constOf_eq_some {ts : List String} {n : String} {k : Nat} (h : constOf ts n = some k) :
    ts[k]? = some n := by
  unfold constOf at h
  match hf : (constBlock ts).find? (fun p => p.1 == n) with
  | none => simp [hf] at h
  | some (a, j) =>
    simp only [hf, Option.map_some, Option.some.injEq] at h
    subst h
    have h1 := List.find?_some hf
    have h2 := List.mem_of_find?_eq_some hf
    simp only [beq_iff_eq] at h1
    subst h1
    exact mem_constBlock.mp h2

theorem constOf_isSome {ts : List String} {n : String} (h : n ∈ ts) : (constOf ts n).isSome := by
  unfold constOf
  rw [Option.isSome_map, List.find?_isSome]
  obtain ⟨k, hk, rfl⟩ := List.getElem_of_mem h
  exact ⟨(ts[k], k), mem_constBlock.mpr (List.getElem?_eq_getElem hk), by simp⟩

theorem constOf_of_getElem? {ts : List String} (hn : ts.Nodup) {k : Nat} {n : String}
    (hk : ts[k]? = some n) : constOf ts n = some k := by
  have hm : n ∈ ts := List.mem_of_getElem? hk
  have := constOf_isSome hm
  match hc : constOf ts n with
  | none => simp [hc] at this
  | some j => rw [Util.getElem?_inj_of_nodup hn (constOf_eq_some hc) hk]

theorem terminals_getElem?_two_le {s : Spec} {k : Nat} {n : String} (h : (terminals s)[k]? = some n)
    (h0 : n ≠ "EOF") (h1 : n ≠ "ERROR") : 2 ≤ k :=
  match k, h with
  | 0, h => absurd (Option.some.inj h).symm h0
  | 1, h => absurd (Option.some.inj h).symm h1
  | _ + 2, _ => Nat.le_add_left 2 _

/-- Every terminal is registered or reserved: so a valid name that `RegisterName` accepts is not a
terminal yet, and `terms` stays duplicate-free (`declare_spec`). -/
def Inv (c : Ctx) : Prop :=
  c.terms.Nodup ∧ ∀ t ∈ c.terms, t ∈ c.names ∨ t = "EOF" ∨ t = "ERROR"

/-- What one piece of the traversal that would add `ns` does to the context. -/
def StepSpec (c c' : Ctx) (ns : List String) : Prop :=
  (Inv c → Inv c') ∧
  (c'.err = false → c.err = false ∧ c'.terms = c.terms ++ ns ∧ ∀ n ∈ ns, validTokenName n = true)

theorem StepSpec.refl (c : Ctx) : StepSpec c c [] := by
  simp [StepSpec]

theorem StepSpec.trans {a b c : Ctx} {n₁ n₂ : List String}
    (h₁ : StepSpec a b n₁) (h₂ : StepSpec b c n₂) : StepSpec a c (n₁ ++ n₂) := by
  refine ⟨fun hi => h₂.1 (h₁.1 hi), fun he => ?_⟩
  obtain ⟨hb, ht, hv⟩ := h₂.2 he
  obtain ⟨ha, ht', hv'⟩ := h₁.2 hb
  refine ⟨ha, by rw [ht, ht', List.append_assoc], ?_⟩
  intro n hn
  rcases List.mem_append.mp hn with h | h
  · exact hv' n h
  · exact hv n h

theorem StepSpec.err (c : Ctx) (ns : List String) : StepSpec c { c with err := true } ns := by
  refine ⟨fun hi => hi, fun he => ?_⟩
  simp at he

theorem StepSpec.register (c : Ctx) (n : String) : StepSpec c { c with names := n :: c.names } [] := by
  refine ⟨fun hi => ⟨hi.1, fun t ht => ?_⟩, fun he => ⟨he, by simp, by simp⟩⟩
  rcases hi.2 t ht with h | h
  · exact Or.inl (List.mem_cons_of_mem _ h)
  · exact Or.inr h

theorem validChars_ne_eof {cs : List Char} (h : validChars cs = true) :
    cs ≠ ['E', 'O', 'F'] ∧ cs ≠ ['E', 'R', 'R', 'O', 'R'] := by
  cases cs with
  | nil => simp [validChars] at h
  | cons c cs =>
    simp only [validChars, Bool.and_eq_true, bne_iff_ne, ne_eq] at h
    exact ⟨h.1.2, h.2⟩

theorem valid_ne_reserved {n : String} (h : validTokenName n = true) : n ≠ "EOF" ∧ n ≠ "ERROR" := by
  have := validChars_ne_eof h
  constructor
  · rintro rfl; exact this.1 (by decide)
  · rintro rfl; exact this.2 (by decide)

theorem valid_ne_qqq {n : String} (h : validTokenName n = true) : n ≠ "???" := by
  rintro rfl
  revert h
  decide

theorem declare_spec (c : Ctx) (n : String) : StepSpec c (declare c n) [n] := by
  unfold declare
  by_cases hv : validTokenName n = true
  · by_cases hc : c.names.contains n = true
    · simp only [hv, hc, Bool.not_true, Bool.false_eq_true, if_false, if_true]
      exact StepSpec.err c _
    · simp only [hv, hc, Bool.not_true, Bool.false_eq_true, if_false]
      have hnm : n ∉ c.names := by simpa using hc
      refine ⟨fun hi => ⟨?_, ?_⟩, fun he => ⟨he, rfl, by simpa using hv⟩⟩
      · have hnt : n ∉ c.terms := by
          intro hm
          rcases hi.2 n hm with h | h | h
          · exact hnm h
          · exact (valid_ne_reserved hv).1 h
          · exact (valid_ne_reserved hv).2 h
        simp only [List.nodup_append, List.nodup_cons, List.not_mem_nil, not_false_eq_true,
          List.nodup_nil, and_self, List.mem_cons, or_false, true_and]
        exact ⟨hi.1, fun a ha b hb => by rw [hb]; rintro rfl; exact hnt ha⟩
      · intro t ht
        simp only [List.mem_append, List.mem_cons, List.not_mem_nil, or_false] at ht
        rcases ht with h | h
        · exact ((StepSpec.register c n).1 hi).2 t h
        · exact Or.inl (by simp [h])
  · simp only [hv, Bool.not_false, if_true]
    exact StepSpec.err c _

theorem declareAll_spec (c : Ctx) (ns : List String) : StepSpec c (declareAll c ns) ns := by
  induction ns generalizing c with
  | nil => exact StepSpec.refl c
  | cons n ns ih => exact (declare_spec c n).trans (ih _)

mutual
theorem runStmt_spec (c : Ctx) : (s : Stmt) → StepSpec c (runStmt c s) (stmtNames s)
  | .token n => by simp only [runStmt, stmtNames]; exact declare_spec c n
  | .external ns => by simp only [runStmt, stmtNames]; exact declareAll_spec c ns
  | .mode n body => by
    simp only [runStmt, stmtNames]
    split
    · exact StepSpec.err c _
    · exact (StepSpec.register c n).trans (runStmts_spec _ body)
  | .other (some n) => by
    simp only [runStmt, stmtNames]
    split
    · exact StepSpec.err c _
    · exact StepSpec.register c n
  | .other none => by simp only [runStmt, stmtNames]; exact StepSpec.refl c
theorem runStmts_spec (c : Ctx) : (ss : List Stmt) → StepSpec c (runStmts c ss) (stmtsNames ss)
  | [] => by simp only [runStmts, stmtsNames]; exact StepSpec.refl c
  | s :: ss => by
    simp only [runStmts, stmtsNames]
    exact (runStmt_spec c s).trans (runStmts_spec _ ss)
end

theorem runSpec_spec (c : Ctx) (s : Spec) : StepSpec c (runSpec c s) (specNames s) := by
  induction s generalizing c with
  | nil => exact StepSpec.refl c
  | cons f fs ih => exact (runStmts_spec c f).trans (ih _)

theorem inv_init : Inv Ctx.init := by
  refine ⟨by decide, fun t ht => ?_⟩
  simp only [Ctx.init, List.mem_cons, List.not_mem_nil, or_false] at ht
  exact Or.inr ht

end Lox.Dec.Terminals
