/-!
# C06 – binding of action methods to productions (`codegen.AssignActions`)

Executable model of `/repo/internal/codegen/assign_actions.go` (core Lean only; linked into the
driver). The Go type system is a PARAMETER of the model: a case carries a finite universe of types
`Ty := Nat` and the relations `assignable` / `identical` computed by go/types itself, the map
`sliceOf` (`gotypes.NewSlice`) and the two designated types `Token` and `Error`.

Passes of `AssignActions`, in the order of the Go source:

1. `getActionMethods` – every method `ParserType.Method(i)` (source order) whose name has the form
   `on_<rule>[__suffix]` must return exactly one value and must not be variadic; `_onBounds` turns
   `EmitBounds` on. Any diagnostic stops here.
2. per rule name: all methods must return a type identical to the FIRST method's; the name must be a
   rule of the grammar; the rule gets the first method's return type. Any diagnostic stops here.
3. `getReduceTypeForGeneratedRule`, iterated over all productions until nothing changes.
4. every rule except `S'` must have a type. Any diagnostic stops here.
5. `matchMethod` for every production of a user rule: exactly one method of the rule must have as
   many parameters as the production has terms, each term type assignable to its parameter.
   Any diagnostic stops here.
6. every action method must have been bound to some production.

Go panics (failed `assert.True`, index out of range, failed type assertion) are the explicit result
`Result.panic`; they are unreachable for grammars produced by the front end (`WF`, see
`Lox/Props/C06.lean`).
-/
namespace Lox.Dec.Assign

abbrev Ty := Nat

/-- A term of a production as `getTermGoType` sees it: a terminal other than ERROR, the ERROR
terminal, or rule number `r` (`lr1.Rule.Index`). -/
inductive Term where
  | tok
  | err
  | rule (r : Nat)
  deriving DecidableEq, Repr, Inhabited

/-- `codegen.RuleGenerated` (codegen.go): classification of a rule by its name. -/
inductive Gen where
  | user | sprime | zeroOrMore | zeroOrMoreF | oneOrMore | oneOrMoreF | zeroOrOne | list
  deriving DecidableEq, Repr, Inhabited

structure Rule where
  name : String
  gen : Gen
  deriving Repr, Inhabited

/-- `lr1.Prod`: `rule` is `Prod.Rule.Index`. `Rule.Prods` is the sub-list of `Grammar.Prods` with
that rule, in the same order (`Grammar.AddProd` appends to both). -/
structure Prod where
  rule : Nat
  terms : List Term
  deriving Repr, Inhabited

/-- One method of the parser type (`ParserType.Method(i)`): `nres` = `sig.Results().Len()`,
`ret` = type of the first result (meaningful when `nres ≥ 1`), `variadic` = `sig.Variadic()`. -/
structure Method where
  name : String
  params : List Ty
  nres : Nat
  ret : Ty
  variadic : Bool
  deriving Repr, Inhabited

structure Case where
  /-- `gotypes.AssignableTo v t` -/
  assignable : Ty → Ty → Bool
  /-- `gotypes.Identical` -/
  identical : Ty → Ty → Bool
  /-- `gotypes.NewSlice` -/
  sliceOf : Ty → Ty
  tokenTy : Ty
  errorTy : Ty
  rules : List Rule
  prods : List Prod
  /-- in the order of `ParserType.Method(i)` (source order of the declarations) -/
  methods : List Method

/-! ## Naming convention (`ruleFromMethod`) -/

/-- The part of `s` before the first `"__"` (all of `s` if there is none):
`rule[:strings.Index(rule, "__")]`. -/
def cutSep : List Char → List Char
  | [] => []
  | [c] => [c]
  | c :: d :: cs => if c = '_' ∧ d = '_' then [] else c :: cutSep (d :: cs)

/-- `ruleFromMethod` on character lists: `none` when the method is not an action method (Go returns
`""`, and the caller skips the method when the rule part is empty). -/
def ruleOfChars : List Char → Option (List Char)
  | 'o' :: 'n' :: '_' :: rest =>
    match cutSep rest with
    | [] => none
    | r => some r
  | _ => none

def ruleOf (name : String) : Option String := (ruleOfChars name.toList).map String.ofList

def onBoundsName : String := "_onBounds"

/-! ## Diagnostics and results -/

inductive DKind where
  | results      -- "%v: action method must return a single value"
  | variadic     -- "%v: action method cannot be variadic"
  | retConflict  -- "action return type conflict: %v returns …"
  | noRule       -- "action method %v: no rule named %v"
  | untyped      -- "rule missing action method: %v"
  | noMatch      -- "production has no matching action method"
  | ambiguous    -- "multiple action methods matching production"
  | orphan       -- "could not match action method %v to a production"
  deriving DecidableEq, Repr

inductive Subject where
  | method (name : String)
  | rule (r : Nat)
  | prod (p : Nat)
  deriving DecidableEq, Repr

structure Diag where
  kind : DKind
  subj : Subject
  deriving DecidableEq, Repr

/-- What `AssignActions` leaves in the context on success: `ActionMethods` (production ↦ index of
the method in `Case.methods`, `none` for productions of generated rules and of `S'`), `RuleGoTypes`
(`none` only for `S'`) and `EmitBounds`. -/
structure Binding where
  method : List (Option Nat)
  ruleTy : List (Option Ty)
  emitBounds : Bool
  deriving DecidableEq, Repr

inductive Result where
  | ok (b : Binding)
  | fail (ds : List Diag)
  | panic (msg : String)
  deriving DecidableEq, Repr

/-! ## Pass 1: `getActionMethods` -/

def emitBounds (c : Case) : Bool := c.methods.any (·.name == onBoundsName)

def collectDiag (m : Method) : Option Diag :=
  if m.name == onBoundsName then none else
  match ruleOf m.name with
  | none => none
  | some _ =>
    if m.nres ≠ 1 then some ⟨.results, .method m.name⟩
    else if m.variadic then some ⟨.variadic, .method m.name⟩
    else none

def collectDiags (c : Case) : List Diag := c.methods.filterMap collectDiag

/-- An entry of the `actionMethods` map: index in `Case.methods`, rule name, the method. -/
structure Action where
  idx : Nat
  rule : String
  m : Method
  deriving Repr, Inhabited

def mkAction (mi : Method × Nat) : Option Action :=
  if mi.1.name == onBoundsName then none else
  match ruleOf mi.1.name with
  | none => none
  | some r => if mi.1.nres = 1 ∧ mi.1.variadic = false then some ⟨mi.2, r, mi.1⟩ else none

/-- All action methods, in method order (`actionMethods[rule]` is the sub-list with that rule). -/
def actions (c : Case) : List Action := c.methods.zipIdx.filterMap mkAction

def actionsOf (c : Case) (rule : String) : List Action := (actions c).filter (·.rule == rule)

/-! ## Pass 2: return types -/

def hasRule (c : Case) (name : String) : Bool := c.rules.any (·.name == name)

/-- Diagnostics of the loop over the `methods` map for the group of `a` when `a` is visited. -/
def retDiag (c : Case) (a : Action) : List Diag :=
  match actionsOf c a.rule with
  | [] => []
  | f :: _ =>
    if f.idx = a.idx then
      (if hasRule c a.rule then [] else [⟨.noRule, .method a.m.name⟩])
    else if c.identical a.m.ret f.m.ret then [] else [⟨.retConflict, .method a.m.name⟩]

def retDiags (c : Case) : List Diag := (actions c).flatMap (retDiag c)

/-- `RuleGoTypes` entries: `junk` is `gotypes.NewSlice(nil)` (a slice whose element type is the nil
interface), which `getReduceTypeForGeneratedRule` builds when the element has no type yet. -/
inductive RTy where
  | ty (t : Ty)
  | junk
  deriving DecidableEq, Repr

abbrev TyMap := List (Option RTy)

def TyMap.get (tm : TyMap) (r : Nat) : Option RTy := (tm[r]?).join

/-- `RuleGoTypes` after pass 2: the return type of the first action method of the rule's name. -/
def userTy (c : Case) (r : Rule) : Option RTy :=
  match actionsOf c r.name with
  | [] => none
  | f :: _ => some (.ty f.m.ret)

def initTypes (c : Case) : TyMap := c.rules.map (userTy c)

/-! ## Pass 3: generated rules -/

def termTy (c : Case) (tm : TyMap) : Term → Option RTy
  | .tok => some (.ty c.tokenTy)
  | .err => some (.ty c.errorTy)
  | .rule r => tm.get r

/-- `gotypes.NewSlice(getTermGoType(term))`. -/
def sliceOfR (c : Case) : Option RTy → RTy
  | some (.ty t) => .ty (c.sliceOf t)
  | _ => .junk

/-- `gotypes.Identical` on `RuleGoTypes` entries. -/
def identicalR (c : Case) : RTy → RTy → Bool
  | .ty a, .ty b => c.identical a b
  | .junk, .junk => true
  | _, _ => false

/-- `rule.Prods` as indices into `Grammar.Prods`. -/
def ruleProds (c : Case) (r : Nat) : List Nat :=
  (c.prods.zipIdx.filter (fun pi => pi.1.rule == r)).map (·.2)

def genOf (c : Case) (r : Nat) : Option Gen := (c.rules[r]?).map (·.gen)

def termsOf (c : Case) (p : Nat) : List Term := ((c.prods[p]?).map (·.terms)).getD []

inductive Red where
  | nil
  | ty (t : RTy)
  | panic (msg : String)
  deriving DecidableEq, Repr

/-- The `generatedOneOrMore, generatedOneOrMoreF, generatedList` case for rule `r`, production `p`. -/
def reduceSlice (c : Case) (tm : TyMap) (r p : Nat) : Red :=
  match ruleProds c r with
  | _ :: p1 :: _ =>
    if p ≠ p1 then .nil else
    match termsOf c p with
    | x :: _ => .ty (sliceOfR c (termTy c tm x))
    | [] => .panic "index out of range: prod.Terms[0]"
  | _ => .panic "index out of range: rule.Prods[1]"

/-- The `generatedZeroOrOne` case. -/
def reduceOpt (c : Case) (tm : TyMap) (r p : Nat) : Red :=
  match ruleProds c r with
  | p0 :: _ =>
    if p ≠ p0 then .nil else
    match termsOf c p with
    | x :: _ => (match termTy c tm x with | none => .nil | some t => .ty t)
    | [] => .panic "index out of range: prod.Terms[0]"
  | [] => .panic "index out of range: rule.Prods[0]"

/-- The recursive call `getReduceTypeForGeneratedRule(termCplus, termCplus.Prods[1])` followed by
`assert.True(typeCplus != nil)`. -/
def reduceInner (c : Case) (tm : TyMap) (h : Nat) : Red :=
  match ruleProds c h with
  | _ :: p1 :: _ =>
    (match genOf c h with
     | some .oneOrMore | some .oneOrMoreF | some .list =>
       (match reduceSlice c tm h p1 with
        | .nil => .panic "assert: typeCplus != nil"
        | x => x)
     | none => .panic "rule index out of range"
     | _ => .panic "assert: typeCplus != nil")
  | _ => .panic "index out of range: termCplus.Prods[1]"

/-- The `generatedZeroOrMore, generatedZeroOrMoreF` case. -/
def reduceStar (c : Case) (tm : TyMap) (r p : Nat) : Red :=
  match ruleProds c r with
  | p0 :: _ =>
    if p ≠ p0 then .nil else
    match termsOf c p with
    | .rule h :: _ => reduceInner c tm h
    | _ :: _ => .panic "type assertion: prod.Terms[0].(*lr1.Rule)"
    | [] => .panic "index out of range: prod.Terms[0]"
  | [] => .panic "index out of range: rule.Prods[0]"

/-- `getReduceTypeForGeneratedRule(rule, prod)` for `rule = Rules[r]`, `prod = Prods[p]`. -/
def reduceType (c : Case) (tm : TyMap) (r p : Nat) : Red :=
  match genOf c r with
  | none => .panic "rule index out of range"
  | some .user | some .sprime => .nil
  | some .zeroOrOne => reduceOpt c tm r p
  | some .zeroOrMore | some .zeroOrMoreF => reduceStar c tm r p
  | some .oneOrMore | some .oneOrMoreF | some .list => reduceSlice c tm r p

/-- One iteration of `for _, prod := range c.ParserGrammar.Prods` inside the `changed` loop. -/
def passStep (c : Case) (st : Except String (TyMap × Bool)) (pi : Prod × Nat) :
    Except String (TyMap × Bool) :=
  match st with
  | .error e => .error e
  | .ok (tm, ch) =>
    match reduceType c tm pi.1.rule pi.2 with
    | .panic m => .error m
    | .nil => .ok (tm, ch)
    | .ty t =>
      match tm.get pi.1.rule with
      | some e => if identicalR c e t then .ok (tm, ch) else .error "assert: Identical(existing, typ)"
      | none => .ok (tm.set pi.1.rule (some t), true)

def pass (c : Case) (tm : TyMap) : Except String (TyMap × Bool) :=
  c.prods.zipIdx.foldl (passStep c) (.ok (tm, false))

/-- `for changed { … }`; every pass that changes something types one more rule, so
`rules.length + 1` rounds always suffice (`loop_inv`, `derive_spec` in `Dec/AssignDerive`). -/
def deriveLoop (c : Case) : Nat → TyMap → Except String TyMap
  | 0, _ => .error "fuel"
  | f + 1, tm =>
    match pass c tm with
    | .error e => .error e
    | .ok (tm', ch) => if ch then deriveLoop c f tm' else .ok tm'

def derive (c : Case) : Except String TyMap := deriveLoop c (c.rules.length + 1) (initTypes c)

/-! ## Pass 4: every rule typed -/

def untypedDiag (tm : TyMap) (ri : Rule × Nat) : Option Diag :=
  if ri.1.gen = .sprime then none
  else if (tm.get ri.2).isNone then some ⟨.untyped, .rule ri.2⟩ else none

def untypedDiags (c : Case) (tm : TyMap) : List Diag := c.rules.zipIdx.filterMap (untypedDiag tm)

def finalTy : Option RTy → Option (Option Ty)
  | none => some none
  | some (.ty t) => some (some t)
  | some .junk => none

/-- The final `RuleGoTypes`; `none` when a `NewSlice(nil)` survived (then the template would print
`[]<nil>`; unreachable, see the module docstring). -/
def finalTypes : TyMap → Option (List (Option Ty))
  | [] => some []
  | e :: l =>
    match finalTy e, finalTypes l with
    | some x, some xs => some (x :: xs)
    | _, _ => none

/-! ## Pass 5: matching -/

def tyGet (ty : List (Option Ty)) (r : Nat) : Option Ty := (ty[r]?).join

def termTyF (c : Case) (ty : List (Option Ty)) : Term → Option Ty
  | .tok => some c.tokenTy
  | .err => some c.errorTy
  | .rule r => tyGet ty r

/-- parameter-wise `gotypes.AssignableTo(termGoType, param)`. -/
def argsOK (c : Case) (ty : List (Option Ty)) : List Term → List Ty → Bool
  | [], [] => true
  | t :: ts, q :: qs =>
    (match termTyF c ty t with
     | some tt => c.assignable tt q
     | none => false) && argsOK c ty ts qs
  | _, _ => false

/-- `isMatch` of `matchMethod`. -/
def isMatch (c : Case) (ty : List (Option Ty)) (terms : List Term) (m : Method) : Bool :=
  argsOK c ty terms m.params

def ruleName (c : Case) (r : Nat) : String := ((c.rules[r]?).map (·.name)).getD ""

/-- `matchMethod(prod, methods[prod.Rule.Name])`, as indices into `Case.methods`. -/
def matchesOf (c : Case) (ty : List (Option Ty)) (p : Prod) : List Nat :=
  ((actionsOf c (ruleName c p.rule)).filter (fun a => isMatch c ty p.terms a.m)).map (·.idx)

def isUserProd (c : Case) (p : Prod) : Bool := genOf c p.rule == some .user

def bindProd (c : Case) (ty : List (Option Ty)) (p : Prod) : Option Nat :=
  if isUserProd c p then
    match matchesOf c ty p with
    | [m] => some m
    | _ => none
  else none

def matchDiag (c : Case) (ty : List (Option Ty)) (pi : Prod × Nat) : Option Diag :=
  if isUserProd c pi.1 then
    match matchesOf c ty pi.1 with
    | [] => some ⟨.noMatch, .prod pi.2⟩
    | [_] => none
    | _ => some ⟨.ambiguous, .prod pi.2⟩
  else none

def matchDiags (c : Case) (ty : List (Option Ty)) : List Diag :=
  c.prods.zipIdx.filterMap (matchDiag c ty)

/-! ## Pass 6: orphans -/

def orphanDiag (bound : List (Option Nat)) (a : Action) : Option Diag :=
  if bound.contains (some a.idx) then none else some ⟨.orphan, .method a.m.name⟩

def orphanDiags (c : Case) (bound : List (Option Nat)) : List Diag :=
  (actions c).filterMap (orphanDiag bound)

/-! ## `AssignActions` -/

def assign (c : Case) : Result :=
  let d1 := collectDiags c
  if d1 ≠ [] then .fail d1 else
  let d2 := retDiags c
  if d2 ≠ [] then .fail d2 else
  match derive c with
  | .error e => .panic e
  | .ok tm =>
    let d4 := untypedDiags c tm
    if d4 ≠ [] then .fail d4 else
    match finalTypes tm with
    | none => .panic "NewSlice(nil) reaches matchMethod"
    | some ty =>
      let d5 := matchDiags c ty
      if d5 ≠ [] then .fail d5 else
      let bound := c.prods.map (bindProd c ty)
      let d6 := orphanDiags c bound
      if d6 ≠ [] then .fail d6 else
      .ok ⟨bound, ty, emitBounds c⟩

end Lox.Dec.Assign
