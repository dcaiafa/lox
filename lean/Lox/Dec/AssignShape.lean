import Lox.Dec.AssignSpec
import Lox.Util.List
/-! # C06 – helper rules by kind

The helper rules of a well-formed case, one lemma per kind (`x?`, `x*`, `x+`, `@list`), and what the
documented derivation `specTyR` / `specTy` says about each kind in terms of the rule's productions. Read by pass 3
(`AssignDerive`) and by the generated `_act` (`AssignRun`). -/
namespace Lox.Dec.Assign

theorem genOf_eq_some {c : Case} {r : Nat} {g : Gen} :
    genOf c r = some g ↔ ∃ ru, c.rules[r]? = some ru ∧ ru.gen = g :=
  Option.map_eq_some_iff

theorem genOf_eq {c : Case} {r : Nat} {ru : Rule} (h : c.rules[r]? = some ru) :
    genOf c r = some ru.gen :=
  genOf_eq_some.2 ⟨ru, h, rfl⟩

theorem genOf_lt {c : Case} {r : Nat} {g : Gen} (h : genOf c r = some g) : r < c.rules.length :=
  let ⟨_, hr, _⟩ := genOf_eq_some.1 h
  (List.getElem?_eq_some_iff.mp hr).1

theorem isSliceGen_iff {g : Option Gen} :
    isSliceGen g = true ↔ g = some .oneOrMore ∨ g = some .oneOrMoreF ∨ g = some .list := by
  cases g with
  | none => decide
  | some g => cases g <;> decide

theorem Gen.kinds (g : Gen) :
    g = .user ∨ g = .sprime ∨ g = .zeroOrOne ∨ (g = .zeroOrMore ∨ g = .zeroOrMoreF) ∨
      isSliceGen (some g) = true := by
  cases g <;> decide

theorem mem_ruleProds {c : Case} {r p : Nat} :
    p ∈ ruleProds c r ↔ ∃ pr, c.prods[p]? = some pr ∧ pr.rule = r := by
  unfold ruleProds
  simp only [List.mem_map, List.mem_filter, List.mem_zipIdx_iff_getElem?, beq_iff_eq]
  constructor
  · rintro ⟨⟨pr, i⟩, ⟨h1, h2⟩, rfl⟩; exact ⟨pr, h1, h2⟩
  · rintro ⟨pr, h1, h2⟩; exact ⟨(pr, p), ⟨h1, h2⟩, rfl⟩

theorem termsOf_eq {c : Case} {p : Nat} {pr : Prod} (h : c.prods[p]? = some pr) :
    termsOf c p = pr.terms := by
  unfold termsOf; rw [h]; rfl

theorem shape_opt {c : Case} (w : WF c) {r : Nat} (hg : genOf c r = some .zeroOrOne) :
    ∃ p0 p1 x, ruleProds c r = [p0, p1] ∧ termsOf c p0 = [x] ∧ termsOf c p1 = [] ∧
      (Simple c x ∨ ∃ h, x = .rule h ∧ genOf c h = some .list) := by
  have := w.shapes r (genOf_lt hg)
  unfold HelperShape at this
  rw [hg] at this; simp only at this
  split at this
  · rename_i x heq
    obtain ⟨p0, p1, hl, h0, h1⟩ := Util.map_eq_pair heq
    refine ⟨p0, p1, x, hl, h0, h1, this.imp_right fun h => ?_⟩
    cases x with
    | rule h' => exact ⟨h', rfl, h⟩
    | tok => exact h.elim
    | err => exact h.elim
  · exact this.elim

theorem shape_star {c : Case} (w : WF c) {r : Nat}
    (hg : genOf c r = some .zeroOrMore ∨ genOf c r = some .zeroOrMoreF) :
    ∃ p0 p1 h, ruleProds c r = [p0, p1] ∧ termsOf c p0 = [.rule h] ∧ termsOf c p1 = [] ∧
      isSliceGen (genOf c h) = true := by
  rcases hg with hg | hg
  all_goals
    have := w.shapes r (genOf_lt hg)
    unfold HelperShape at this
    rw [hg] at this; simp only at this
    split at this
    · rename_i h heq
      obtain ⟨p0, p1, hl, h0, h1⟩ := Util.map_eq_pair heq
      exact ⟨p0, p1, h, hl, h0, h1, by rw [this]; rfl⟩
    · exact this.elim

theorem shape_plus {c : Case} (w : WF c) {r : Nat}
    (hg : genOf c r = some .oneOrMore ∨ genOf c r = some .oneOrMoreF) :
    ∃ p0 p1 x, ruleProds c r = [p0, p1] ∧ termsOf c p0 = [.rule r, x] ∧ termsOf c p1 = [x] ∧
      Simple c x := by
  rcases hg with hg | hg
  all_goals
    have := w.shapes r (genOf_lt hg)
    unfold HelperShape at this
    rw [hg] at this; simp only at this
    split at this
    · rename_i r' x' x heq
      obtain ⟨p0, p1, hl, h0, h1⟩ := Util.map_eq_pair heq
      obtain ⟨rfl, rfl, hx⟩ := this
      exact ⟨p0, p1, x', hl, h0, h1, hx⟩
    · exact this.elim

theorem shape_list {c : Case} (w : WF c) {r : Nat} (hg : genOf c r = some .list) :
    ∃ p0 p1 s x, ruleProds c r = [p0, p1] ∧ termsOf c p0 = [.rule r, s, x] ∧ termsOf c p1 = [x] ∧
      Simple c x := by
  have := w.shapes r (genOf_lt hg)
  unfold HelperShape at this
  rw [hg] at this; simp only at this
  split at this
  · rename_i r' s x' x heq
    obtain ⟨p0, p1, hl, h0, h1⟩ := Util.map_eq_pair heq
    obtain ⟨rfl, rfl, hx, _⟩ := this
    exact ⟨p0, p1, s, x', hl, h0, h1, hx⟩
  · exact this.elim

theorem shape_slice {c : Case} (w : WF c) {h : Nat} (hg : isSliceGen (genOf c h) = true) :
    ∃ p0 p1 x, ruleProds c h = [p0, p1] ∧ termsOf c p1 = [x] ∧ Simple c x := by
  rcases isSliceGen_iff.mp hg with e | e | e
  · obtain ⟨p0, p1, x, hl, _, h1, hx⟩ := shape_plus w (Or.inl e)
    exact ⟨p0, p1, x, hl, h1, hx⟩
  · obtain ⟨p0, p1, x, hl, _, h1, hx⟩ := shape_plus w (Or.inr e)
    exact ⟨p0, p1, x, hl, h1, hx⟩
  · obtain ⟨p0, p1, _, x, hl, _, h1, hx⟩ := shape_list w e
    exact ⟨p0, p1, x, hl, h1, hx⟩

theorem specTyR_user {c : Case} {r : Nat} {ru : Rule} (h : c.rules[r]? = some ru)
    (hg : ru.gen = .user) : specTyR c r = userTy c ru := by
  simp only [specTyR, h, hg]

theorem specTyR_sprime {c : Case} {r : Nat} {ru : Rule} (h : c.rules[r]? = some ru)
    (hg : ru.gen = .sprime) : specTyR c r = none := by
  simp only [specTyR, h, hg]

theorem specElemR_user {c : Case} {r : Nat} {ru : Rule} (h : c.rules[r]? = some ru)
    (hg : ru.gen = .user) : specElemR c (.rule r) = userTy c ru := by
  simp only [specElemR, h, hg, ↓reduceIte]

theorem specTyR_of_isSliceGen {c : Case} {r : Nat} (hg : isSliceGen (genOf c r) = true) :
    specTyR c r = specSliceR c r := by
  unfold specTyR
  cases hr : c.rules[r]? with
  | none => simp [genOf, hr, isSliceGen] at hg
  | some ru =>
    rw [genOf_eq hr] at hg
    rcases isSliceGen_iff.mp hg with e | e | e <;> simp only [Option.some.inj e]

theorem specSliceR_eq {c : Case} {h p0 p1 : Nat} {rest : List Nat} {x : Term} {xs : List Term}
    (hl : ruleProds c h = p0 :: p1 :: rest) (h1 : termsOf c p1 = x :: xs) :
    specSliceR c h = some (sliceOfR c (specElemR c x)) := by
  simp only [specSliceR, hl, h1]

theorem specTyR_slice {c : Case} (w : WF c) {r : Nat} (hg : isSliceGen (genOf c r) = true) :
    ∃ p0 p1 x, ruleProds c r = [p0, p1] ∧ termsOf c p1 = [x] ∧ Simple c x ∧
      specTyR c r = some (sliceOfR c (specElemR c x)) := by
  obtain ⟨p0, p1, x, hl, h1, hx⟩ := shape_slice w hg
  exact ⟨p0, p1, x, hl, h1, hx, (specTyR_of_isSliceGen hg).trans (specSliceR_eq hl h1)⟩

theorem specTyR_star {c : Case} (w : WF c) {r : Nat} {ru : Rule} (hr : c.rules[r]? = some ru)
    (hg : ru.gen = .zeroOrMore ∨ ru.gen = .zeroOrMoreF) :
    ∃ p0 p1 h, ruleProds c r = [p0, p1] ∧ termsOf c p0 = [.rule h] ∧ termsOf c p1 = [] ∧
      isSliceGen (genOf c h) = true ∧ specTyR c r = specTyR c h := by
  obtain ⟨p0, p1, h, hl, h0, h1, hh⟩ := shape_star w (hg.imp (· ▸ genOf_eq hr) (· ▸ genOf_eq hr))
  refine ⟨p0, p1, h, hl, h0, h1, hh, ?_⟩
  rw [specTyR_of_isSliceGen hh]
  unfold specTyR; rw [hr]
  rcases hg with hg | hg <;> simp only [hg, hl, h0, hh, ↓reduceIte]

theorem specTyR_opt {c : Case} (w : WF c) {r : Nat} {ru : Rule} (hr : c.rules[r]? = some ru)
    (hg : ru.gen = .zeroOrOne) :
    ∃ p0 p1 x, ruleProds c r = [p0, p1] ∧ termsOf c p0 = [x] ∧ termsOf c p1 = [] ∧
      ((Simple c x ∧ specTyR c r = specElemR c x) ∨
       ∃ h, x = .rule h ∧ genOf c h = some .list ∧ specTyR c r = specTyR c h) := by
  obtain ⟨p0, p1, x, hl, h0, h1, hx⟩ := shape_opt w (hg ▸ genOf_eq hr)
  refine ⟨p0, p1, x, hl, h0, h1, ?_⟩
  rcases hx with hx | ⟨h, rfl, hh⟩
  · refine Or.inl ⟨hx, ?_⟩
    unfold specTyR; rw [hr]; simp only [hg, hl, h0]
    cases x with
    | rule h => simp only [Simple] at hx; simp [hx]
    | tok => rfl
    | err => rfl
  · refine Or.inr ⟨h, rfl, hh, ?_⟩
    rw [specTyR_of_isSliceGen (r := h) (by rw [hh]; rfl)]
    unfold specTyR; rw [hr]; simp only [hg, hl, h0, hh, ↓reduceIte]

def AllTyped (c : Case) : Prop :=
  ∀ (r : Nat) ru, c.rules[r]? = some ru → ru.gen ≠ .sprime → specTyR c r ≠ none

theorem userTy_not_junk {c : Case} {ru : Rule} : userTy c ru ≠ some .junk := by
  unfold userTy
  cases actionsOf c ru.name <;> simp

theorem specElemR_simple_ty {c : Case} (at' : AllTyped c) {x : Term} (hx : Simple c x) :
    ∃ t, specElemR c x = some (.ty t) := by
  cases x with
  | tok => exact ⟨_, rfl⟩
  | err => exact ⟨_, rfl⟩
  | rule r =>
    obtain ⟨ru, hr, hg⟩ := genOf_eq_some.1 hx
    have h1 := at' r ru hr (by rw [hg]; exact fun h => by cases h)
    rw [specTyR_user hr hg] at h1
    rw [specElemR_user hr hg]
    cases hu : userTy c ru with
    | none => exact absurd hu h1
    | some t =>
      cases t with
      | ty t => exact ⟨t, rfl⟩
      | junk => exact absurd hu userTy_not_junk

def stripR : Option RTy → Option Ty
  | some (.ty t) => some t
  | _ => none

theorem specTy_eq_strip (c : Case) (r : Nat) : specTy c r = stripR (specTyR c r) := by
  unfold specTy stripR
  cases specTyR c r with
  | none => rfl
  | some t => cases t <;> rfl

theorem stripR_specElemR {c : Case} {x : Term} (hx : Simple c x) :
    stripR (specElemR c x) = specTermTy c x := by
  cases x with
  | tok => rfl
  | err => rfl
  | rule h =>
    obtain ⟨rh, hr, hg⟩ := genOf_eq_some.1 hx
    rw [specElemR_user hr hg, specTermTy, specTy_eq_strip, specTyR_user hr hg]

theorem termTyF_spec {c : Case} {ty : List (Option Ty)} (hty : ∀ r, tyGet ty r = specTy c r)
    (t : Term) : termTyF c ty t = specTermTy c t := by
  cases t with
  | tok => rfl
  | err => rfl
  | rule r => exact hty r

/-- `x+`, `x+!`, `@list(x, s)` have the type slice-of-type-of-`x`. -/
theorem specTy_slice {c : Case} (w : WF c) (at' : AllTyped c) {r : Nat}
    (hg : isSliceGen (genOf c r) = true) :
    ∃ p0 p1 x T, ruleProds c r = [p0, p1] ∧ termsOf c p1 = [x] ∧ Simple c x ∧
      specTermTy c x = some T ∧ specTyR c r = some (.ty (c.sliceOf T)) := by
  obtain ⟨p0, p1, x, hl, h1, hx, e⟩ := specTyR_slice w hg
  obtain ⟨T, hT⟩ := specElemR_simple_ty at' hx
  refine ⟨p0, p1, x, T, hl, h1, hx, ?_, ?_⟩
  · rw [← stripR_specElemR hx, hT]; rfl
  · rw [e, hT]; rfl

/-- `x*`, `x*!` have the type of `x+`, `x+!`. -/
theorem specTy_star {c : Case} (w : WF c) {r : Nat} {ru : Rule} (hr : c.rules[r]? = some ru)
    (hg : ru.gen = .zeroOrMore ∨ ru.gen = .zeroOrMoreF) :
    ∃ p0 p1 h, ruleProds c r = [p0, p1] ∧ termsOf c p0 = [.rule h] ∧ termsOf c p1 = [] ∧
      specTy c r = specTermTy c (.rule h) := by
  obtain ⟨p0, p1, h, hl, h0, h1, _, e⟩ := specTyR_star w hr hg
  exact ⟨p0, p1, h, hl, h0, h1, by rw [specTy_eq_strip, e, specTermTy, specTy_eq_strip]⟩

/-- `x?` (and `@list(x,s)?`) has the type of `x`. -/
theorem specTy_opt {c : Case} (w : WF c) {r : Nat} {ru : Rule} (hr : c.rules[r]? = some ru)
    (hg : ru.gen = .zeroOrOne) :
    ∃ p0 p1 x, ruleProds c r = [p0, p1] ∧ termsOf c p0 = [x] ∧ termsOf c p1 = [] ∧
      specTy c r = specTermTy c x := by
  obtain ⟨p0, p1, x, hl, h0, h1, hx⟩ := specTyR_opt w hr hg
  refine ⟨p0, p1, x, hl, h0, h1, ?_⟩
  rw [specTy_eq_strip]
  rcases hx with ⟨hx, e⟩ | ⟨h, rfl, _, e⟩
  · rw [e, stripR_specElemR hx]
  · rw [e, specTermTy, specTy_eq_strip]

/-- No `NewSlice(nil)` in the documented types when every rule is typed. -/
theorem no_junk {c : Case} (w : WF c) (at' : AllTyped c) (r : Nat) : specTyR c r ≠ some .junk := by
  have slice : ∀ h, isSliceGen (genOf c h) = true → specTyR c h ≠ some .junk := by
    intro h hh
    obtain ⟨_, _, _, _, _, _, _, _, e⟩ := specTy_slice w at' hh
    rw [e]; exact fun h => by cases h
  cases hr : c.rules[r]? with
  | none => unfold specTyR; rw [hr]; exact fun h => by cases h
  | some ru =>
    rcases Gen.kinds ru.gen with hg | hg | hg | hg | hg
    · rw [specTyR_user hr hg]; exact userTy_not_junk
    · rw [specTyR_sprime hr hg]; exact fun h => by cases h
    · obtain ⟨_, _, x, _, _, _, ⟨hx, e⟩ | ⟨h, _, hh, e⟩⟩ := specTyR_opt w hr hg
      · obtain ⟨t, ht⟩ := specElemR_simple_ty at' hx
        rw [e, ht]; exact fun h => by cases h
      · rw [e]; exact slice h (by rw [hh]; rfl)
    · obtain ⟨_, _, h, _, _, _, hh, e⟩ := specTyR_star w hr hg
      rw [e]; exact slice h hh
    · exact slice r (genOf_eq hr ▸ hg)

/-- Under `WF` this is the `typed` clause of the property. -/
theorem allTyped_iff {c : Case} (w : WF c) :
    AllTyped c ↔ ∀ (r : Nat) ru, c.rules[r]? = some ru → ru.gen ≠ .sprime → ∃ t, specTy c r = some t := by
  constructor
  · intro at' r ru hr hs
    have h1 := at' r ru hr hs
    have h2 := no_junk w at' r
    rw [specTy_eq_strip]
    cases hsp : specTyR c r with
    | none => exact absurd hsp h1
    | some t =>
      cases t with
      | ty t => exact ⟨t, rfl⟩
      | junk => exact absurd hsp h2
  · intro h r ru hr hs hn
    obtain ⟨t, ht⟩ := h r ru hr hs
    rw [specTy_eq_strip, hn] at ht; cases ht

end Lox.Dec.Assign
