import Lox.Rang3.Proofs.Heap
import Lox.Dec.AssocList
/-! Order-independence arguments for C13 "output is deterministic and independent of earlier runs".

Go randomises the iteration order of built-in maps. lox ranges over maps in a handful of places;
each such loop body either (1) collects and then sorts by a key that is unique, (2) only inserts
into another set/map, or (3) only looks up. This file proves that in cases (1) and (2) the result
does not depend on the order, for all lists. A map iteration is modelled as an arbitrary
permutation of the entries (`List.Perm`) or, where only the set matters, as any list with the same
members. Go's `slices.SortFunc`/`sort.Slice` are unstable and their algorithm unspecified, so the
sort theorems are stated for *every* function that returns a sorted permutation.

Also here: the models of the two places where the directory listing and a Go map reach the output,
`PreParseGo` (`pickSource`) and `imports` (`importPath`, `writeLines`); their theorems are in
`Lox/Props/C13.lean`. -/
namespace Lox.Dec.Order

/-- `le` is a (decidable) linear order on keys — what a Go `cmp`/`less` function must be. -/
structure IsLinearLe {κ : Type} (le : κ → κ → Bool) : Prop where
  total : ∀ a b, le a b = true ∨ le b a = true
  trans : ∀ a b c, le a b = true → le b c = true → le a c = true
  antisymm : ∀ a b, le a b = true → le b a = true → a = b

variable {α κ : Type}

def SortedBy (le : κ → κ → Bool) (key : α → κ) (l : List α) : Prop :=
  l.Pairwise (fun a b => le (key a) (key b) = true)

def KeysDistinct (key : α → κ) (l : List α) : Prop :=
  l.Pairwise (fun a b => key a ≠ key b)

/-- `sort` returns a sorted permutation of its input (any algorithm, stable or not). -/
def IsSortBy (le : κ → κ → Bool) (key : α → κ) (sort : List α → List α) : Prop :=
  ∀ l, (sort l).Perm l ∧ SortedBy le key (sort l)

theorem KeysDistinct.eq_of_key_eq {key : α → κ} {l : List α} (hd : KeysDistinct key l)
    {a b : α} (ha : a ∈ l) (hb : b ∈ l) (h : key a = key b) : a = b :=
  List.eq_of_map_eq (f := key) ((List.pairwise_map (f := key) (R := (· ≠ ·))).mpr hd) ha hb h

theorem KeysDistinct.perm {key : α → κ} {l₁ l₂ : List α} (hp : l₁.Perm l₂)
    (hd : KeysDistinct key l₁) : KeysDistinct key l₂ :=
  (hp.pairwise_iff (fun h => Ne.symm h)).mp hd

theorem sorted_unique {le : κ → κ → Bool} (hle : IsLinearLe le) {key : α → κ} {l₁ l₂ : List α}
    (hp : l₁.Perm l₂) (hd : KeysDistinct key l₁)
    (h₁ : SortedBy le key l₁) (h₂ : SortedBy le key l₂) : l₁ = l₂ :=
  hp.eq_of_pairwise
    (fun _ _ ha hb hab hba => hd.eq_of_key_eq ha (hp.mem_iff.mpr hb) (hle.antisymm _ _ hab hba))
    h₁ h₂

/-- A concrete sort (structural, so that `decide` can run it): insertion sort on the key. -/
def insertBy (le : κ → κ → Bool) (key : α → κ) (x : α) : List α → List α
  | [] => [x]
  | y :: ys => if le (key x) (key y) then x :: y :: ys else y :: insertBy le key x ys

def sortBy (le : κ → κ → Bool) (key : α → κ) (l : List α) : List α :=
  l.foldr (insertBy le key) []

theorem insertBy_perm (le : κ → κ → Bool) (key : α → κ) (x : α) (l : List α) :
    (insertBy le key x l).Perm (x :: l) := by
  induction l with
  | nil => exact List.Perm.refl _
  | cons y ys ih =>
    unfold insertBy
    split
    · exact List.Perm.refl _
    · exact (ih.cons y).trans (List.Perm.swap x y ys)

theorem ordIns_insertBy {le : κ → κ → Bool} (hle : IsLinearLe le) (key : α → κ) :
    Lox.Util.OrdIns (fun a b => le (key a) (key b) = true) (insertBy le key) where
  nil _ := rfl
  cons a b l := by
    rw [insertBy]
    by_cases h : le (key a) (key b) = true
    · exact .inl ⟨h, if_pos h⟩
    · exact .inr (.inl ⟨(hle.total _ _).resolve_left h, if_neg h⟩)

theorem sortBy_perm (le : κ → κ → Bool) (key : α → κ) (l : List α) : (sortBy le key l).Perm l := by
  induction l with
  | nil => exact List.Perm.refl _
  | cons x xs ih => exact (insertBy_perm le key x _).trans (ih.cons x)

theorem sortBy_isSort {le : κ → κ → Bool} (hle : IsLinearLe le) (key : α → κ) :
    IsSortBy le key (sortBy le key) := fun l =>
  ⟨sortBy_perm le key l, (ordIns_insertBy hle key).pairwise_foldr (hle.trans _ _ _) l⟩

/-- Another algorithm with the same specification: core's merge sort. -/
def mergeSortBy (le : κ → κ → Bool) (key : α → κ) (l : List α) : List α :=
  l.mergeSort (fun a b => le (key a) (key b))

theorem mergeSortBy_isSort {le : κ → κ → Bool} (hle : IsLinearLe le) (key : α → κ) :
    IsSortBy le key (mergeSortBy le key) := by
  intro l
  refine ⟨List.mergeSort_perm _ _, ?_⟩
  apply List.pairwise_mergeSort
  · intro a b c; exact hle.trans _ _ _
  · intro a b
    rcases hle.total (key a) (key b) with h | h <;> simp [h]

theorem isLinearLe_decide [LE κ] [DecidableLE κ] (total : ∀ a b : κ, a ≤ b ∨ b ≤ a)
    (trans : ∀ {a b c : κ}, a ≤ b → b ≤ c → a ≤ c) (antisymm : ∀ {a b : κ}, a ≤ b → b ≤ a → a = b) :
    IsLinearLe fun a b : κ => decide (a ≤ b) where
  total a b := (total a b).imp decide_eq_true decide_eq_true
  trans _ _ _ h₁ h₂ := decide_eq_true (trans (of_decide_eq_true h₁) (of_decide_eq_true h₂))
  antisymm _ _ h₁ h₂ := antisymm (of_decide_eq_true h₁) (of_decide_eq_true h₂)

/-- Strings (`cmp.Compare`/`sort.Strings`/`slices.Sort` on terminal, term, mode names, import
paths). Go compares bytes, Lean code points; on valid UTF-8 these agree, and the theorems need
only that it is a linear order. -/
def leString (a b : String) : Bool := decide (a ≤ b)

theorem leString_linear : IsLinearLe leString :=
  isLinearLe_decide String.le_total String.le_trans String.le_antisymm

/-- Naturals (mode index, state id, production index). -/
def leNat (a b : Nat) : Bool := decide (a ≤ b)

theorem leNat_linear : IsLinearLe leNat :=
  isLinearLe_decide Nat.le_total Nat.le_trans Nat.le_antisymm

open Lox.Rang3 in
theorem range_le_iff_lt_or_eq (a b : Range) : a.le b = true ↔ a.lt b = true ∨ a = b := by
  rw [Range.le, Range.lt, decide_eq_true_iff, decide_eq_true_iff, ← cmp_eq_zero_iff,
    Int.le_iff_lt_or_eq]

open Lox.Rang3 in
/-- `rang3.Compare` (as `≤ 0`) is a linear order on ranges. -/
theorem leRange_linear : IsLinearLe Range.le where
  total a b := by
    by_cases hlt : a.lt b = true
    · exact .inl ((range_le_iff_lt_or_eq a b).mpr (.inl hlt))
    · by_cases he : a = b
      · exact .inl ((range_le_iff_lt_or_eq a b).mpr (.inr he))
      · exact .inr ((range_le_iff_lt_or_eq b a).mpr (.inl (lt_of_not he hlt)))
  trans a b c h₁ h₂ := by
    rw [range_le_iff_lt_or_eq] at *
    rcases h₁ with h₁ | rfl
    · rcases h₂ with h₂ | rfl
      · exact .inl (lt_trans h₁ h₂)
      · exact .inl h₁
    · exact h₂
  antisymm a b h₁ h₂ := by
    rw [range_le_iff_lt_or_eq] at h₁ h₂
    rcases h₁ with h₁ | h₁
    · rcases h₂ with h₂ | h₂
      · exact absurd (lt_trans h₁ h₂) (lt_irrefl a)
      · exact h₂.symm
    · exact h₁

structure SetRep (α σ : Type) where
  mem : α → σ → Prop
  ins : α → σ → σ
  mem_ins : ∀ x y s, mem y (ins x s) ↔ y = x ∨ mem y s

/-- `for x := range l { s.Add(x) }`. -/
def SetRep.addAll {σ : Type} (R : SetRep α σ) (s : σ) (l : List α) : σ :=
  l.foldl (fun s x => R.ins x s) s

theorem SetRep.mem_addAll {σ : Type} (R : SetRep α σ) (s : σ) (l : List α) (y : α) :
    R.mem y (R.addAll s l) ↔ y ∈ l ∨ R.mem y s := by
  induction l generalizing s with
  | nil => simp [SetRep.addAll]
  | cons x xs ih =>
    simp only [SetRep.addAll, List.foldl_cons] at ih ⊢
    rw [ih, R.mem_ins, List.mem_cons]
    constructor
    · rintro (h | h | h)
      · exact Or.inl (Or.inr h)
      · exact Or.inl (Or.inl h)
      · exact Or.inr h
    · rintro ((h | h) | h)
      · exact Or.inr (Or.inl h)
      · exact Or.inl h
      · exact Or.inr (Or.inr h)

/-- Duplicate-free list as a set (`if !contains { append }`). -/
def insertDedup [DecidableEq α] (x : α) (s : List α) : List α := if x ∈ s then s else x :: s

def listSet [DecidableEq α] : SetRep α (List α) where
  mem y s := y ∈ s
  ins := insertDedup
  mem_ins x y s := by
    unfold insertDedup
    split
    · constructor
      · exact Or.inr
      · rintro (rfl | h)
        · assumption
        · exact h
    · exact List.mem_cons

/-- Finite map as a function; `m[k] = v`. -/
def mapSet {κ ν : Type} [DecidableEq κ] (m : κ → Option ν) (kv : κ × ν) : κ → Option ν :=
  fun k => if k = kv.1 then some kv.2 else m k

theorem mapSet_foldl {κ ν : Type} [DecidableEq κ] (m : κ → Option ν) (l : List (κ × ν))
    (hn : (l.map (·.1)).Nodup) (k : κ) (v : ν) :
    l.foldl mapSet m k = some v ↔ (k, v) ∈ l ∨ (k ∉ l.map (·.1) ∧ m k = some v) := by
  induction l generalizing m with
  | nil => simp
  | cons kv t ih =>
    obtain ⟨k', v'⟩ := kv
    rw [List.map_cons, List.nodup_cons] at hn
    rw [List.foldl_cons, ih _ hn.2]
    simp only [mapSet, List.mem_cons, Prod.mk.injEq, List.map_cons, not_or]
    by_cases hk : k = k'
    · subst hk
      simp only [true_and, if_true, Option.some.injEq, not_true_eq_false, false_and, or_false]
      constructor
      · rintro (h | ⟨_, h⟩)
        · exact absurd (List.mem_map.mpr ⟨(k, v), h, rfl⟩) hn.1
        · exact Or.inl h.symm
      · rintro (h | h)
        · exact Or.inr ⟨hn.1, h.symm⟩
        · exact absurd (List.mem_map.mpr ⟨(k, v), h, rfl⟩) hn.1
    · simp [hk]

open Lox.Rang3

def heapSet : SetRep Range (List Range) where
  mem y s := y ∈ s
  ins := heapPush
  mem_ins x y s := mem_heapPush x y s

theorem heapOf_eq_addAll (l : List Range) : heapOf l = heapSet.addAll [] l := rfl

theorem sortedLt_ext {h₁ h₂ : List Range} (s₁ : SortedLt h₁) (s₂ : SortedLt h₂)
    (hm : ∀ x, x ∈ h₁ ↔ x ∈ h₂) : h₁ = h₂ :=
  Lox.Util.pairwise_ext (fun a _ hab hba => lt_irrefl a (lt_trans hab hba)) s₁ s₂ hm

/-- `filepath.Ext` on a name without path separators (a directory entry): the suffix starting at
the last `'.'`, empty if there is none. -/
def extChars (cs : List Char) : List Char :=
  if '.' ∈ cs then '.' :: (cs.reverse.takeWhile (· != '.')).reverse else []

def hasGoExt (name : String) : Bool := extChars name.toList == ['.', 'g', 'o']

/-- `os.DirEntry` as far as `PreParseGo` looks at it. -/
structure DirEntry where
  name : String
  isDir : Bool
  deriving DecidableEq, Repr

/-- `baseGenGo`, `lexerGenGo`, `parserGenGo` (`internal/codegen/codegen.go`). -/
def generatedNames : List String := ["base.gen.go", "lexer.gen.go", "parser.gen.go"]

def isGenerated (e : DirEntry) : Bool := generatedNames.contains e.name

/-- The `if` inside the loop of `PreParseGo` (`internal/codegen/pre_parser_go.go`). -/
def isUserGo (e : DirEntry) : Bool :=
  !e.isDir && hasGoExt e.name && e.name != "base.gen.go" && e.name != "lexer.gen.go"
    && e.name != "parser.gen.go"

/-- The loop of `PreParseGo`: every match overwrites `oneSourceName`; `none` = still `""`
("package contains no Go sources"). -/
def pickSource (es : List DirEntry) : Option String :=
  es.foldl (fun acc e => if isUserGo e then some e.name else acc) none

/-- The loop as it was on the pinned tree (before the `fix:` commit for D12): `base.gen.go` was
not excluded. -/
def isUserGoPinned (e : DirEntry) : Bool :=
  !e.isDir && hasGoExt e.name && e.name != "lexer.gen.go" && e.name != "parser.gen.go"

def pickSourcePinned (es : List DirEntry) : Option String :=
  es.foldl (fun acc e => if isUserGoPinned e then some e.name else acc) none

theorem pickSource_foldl (es : List DirEntry) (acc : Option String) :
    es.foldl (fun acc e => if isUserGo e then some e.name else acc) acc =
      (((es.filter isUserGo).getLast?).map (·.name)).or acc := by
  induction es generalizing acc with
  | nil => simp
  | cons e es ih =>
    rw [List.foldl_cons, ih]
    by_cases h : isUserGo e = true
    · simp only [h, if_true, List.filter_cons_of_pos]
      cases hl : (es.filter isUserGo).getLast? with
      | none =>
        have : es.filter isUserGo = [] := List.getLast?_eq_none_iff.mp hl
        simp [this]
      | some x =>
        have hne : es.filter isUserGo ≠ [] := by intro h0; simp [h0] at hl
        rw [List.getLast?_cons_of_ne_nil hne] at *
        simp [hl]
    · simp [h]

theorem pickSource_eq (es : List DirEntry) :
    pickSource es = ((es.filter isUserGo).getLast?).map (·.name) := by
  rw [pickSource, pickSource_foldl]; simp

theorem isUserGo_iff (e : DirEntry) :
    isUserGo e = true ↔ e.isDir = false ∧ hasGoExt e.name = true ∧ e.name ∉ generatedNames := by
  simp only [isUserGo, generatedNames, Bool.and_eq_true, Bool.not_eq_true', bne_iff_ne, ne_eq,
    List.mem_cons, List.not_mem_nil, or_false, not_or, and_assoc]

theorem isUserGo_not_generated {e : DirEntry} (h : isUserGo e = true) : isGenerated e = false := by
  simpa [isGenerated] using ((isUserGo_iff e).mp h).2.2

theorem filter_isUserGo_filter (es : List DirEntry) :
    (es.filter (fun e => !isGenerated e)).filter isUserGo = es.filter isUserGo := by
  rw [List.filter_filter]
  apply List.filter_congr
  intro e _
  by_cases h : isUserGo e = true
  · simp [h, isUserGo_not_generated h]
  · simp [h]

/-- Sorted insertion by file name (what `os.ReadDir` shows after a file was created). -/
def insertByName (e : DirEntry) : List DirEntry → List DirEntry
  | [] => [e]
  | x :: xs => if e.name < x.name then e :: x :: xs else x :: insertByName e xs

theorem insertByName_split (e : DirEntry) (es : List DirEntry) :
    ∃ l₁ l₂, es = l₁ ++ l₂ ∧ insertByName e es = l₁ ++ e :: l₂ := by
  induction es with
  | nil => exact ⟨[], [], rfl, rfl⟩
  | cons x xs ih =>
    unfold insertByName
    split
    · exact ⟨[], x :: xs, rfl, rfl⟩
    · obtain ⟨l₁, l₂, h₁, h₂⟩ := ih
      exact ⟨x :: l₁, l₂, by rw [h₁]; rfl, by rw [h₂]; rfl⟩

/-- `imports.imports` (a Go map path ↦ alias) as the list of its entries in *some* iteration
order; the paths are pairwise distinct. -/
abbrev ImportMap := List (String × String)

/-- `imports.Import`: the alias already recorded, else `_i<len>` which is recorded. -/
def importPath (m : ImportMap) (path : String) : String × ImportMap :=
  match m.lookup path with
  | some a => (a, m)
  | none =>
    let a := "_i" ++ toString m.length
    (a, (path, a) :: m)

/-- A sequence of `Import` calls: the aliases returned and the final map. -/
def importAll (m : ImportMap) : List String → List String × ImportMap
  | [] => ([], m)
  | p :: ps =>
    let r := importPath m p
    let rest := importAll r.2 ps
    (r.1 :: rest.1, rest.2)

/-- `imports.WriteTo`: range over the map collecting paths (in iteration order), sort them, look
each alias up. The result is the list of `(alias, path)` lines. -/
def writeLines (sort : List String → List String) (m : ImportMap) : List (String × String) :=
  (sort (m.map (·.1))).map (fun p => ((m.lookup p).getD "", p))

/-- The text written: nothing for an empty map, else `import (`, one `  alias "path"` line per
entry (`q` is `%q`), `)`. -/
def renderImports (q : String → String) (lines : List (String × String)) : String :=
  if lines.isEmpty then ""
  else "import (\n" ++ String.join (lines.map fun l => "  " ++ l.1 ++ " " ++ q l.2 ++ "\n") ++ ")\n"

end Lox.Dec.Order
