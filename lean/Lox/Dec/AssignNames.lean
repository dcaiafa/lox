import Lox.Dec.AssignSpec
/-! The naming convention `on_<rule>[__suffix]` (`ruleFromMethod`), and the decidable checks of the
hypotheses `WF` / `IdentEquiv` that the driver evaluates on every case of the correspondence run. -/
namespace Lox.Dec.Assign

/-! ## `ruleFromMethod` -/

/-- `s` contains `"__"`. -/
def hasSep : List Char → Bool
  | c :: d :: cs => (c == '_' && d == '_') || hasSep (d :: cs)
  | _ => false

theorem hasSep_cons_cons {c d : Char} {cs : List Char} :
    hasSep (c :: d :: cs) = false ↔ ¬ (c = '_' ∧ d = '_') ∧ hasSep (d :: cs) = false := by
  simp only [hasSep, Bool.or_eq_false_iff, Bool.and_eq_false_iff, beq_eq_false_iff_ne, ne_eq,
    Classical.not_and_iff_not_or_not]

theorem cutSep_cons_cons {c d : Char} {cs : List Char} (h : ¬ (c = '_' ∧ d = '_')) :
    cutSep (c :: d :: cs) = c :: cutSep (d :: cs) := by
  rw [cutSep, if_neg h]

theorem cutSep_sep (s : List Char) : cutSep ('_' :: '_' :: s) = [] := by
  rw [cutSep, if_pos ⟨rfl, rfl⟩]

theorem cutSep_self : ∀ (r : List Char), hasSep r = false → cutSep r = r
  | [], _ => rfl
  | [_], _ => rfl
  | c :: d :: cs, h => by
    obtain ⟨hcd, h'⟩ := hasSep_cons_cons.mp h
    rw [cutSep_cons_cons hcd, cutSep_self (d :: cs) h']

theorem cutSep_append : ∀ (r s : List Char), hasSep r = false → r.getLast? ≠ some '_' →
    cutSep (r ++ '_' :: '_' :: s) = r
  | [], s, _, _ => cutSep_sep s
  | [c], s, _, hl => by
    have hc : c ≠ '_' := fun e => hl (e ▸ rfl)
    rw [List.singleton_append, cutSep_cons_cons (fun e => hc e.1), cutSep_sep]
  | c :: d :: cs, s, h, hl => by
    obtain ⟨hcd, h'⟩ := hasSep_cons_cons.mp h
    rw [List.getLast?_cons_cons] at hl
    rw [List.cons_append, List.cons_append, cutSep_cons_cons hcd, ← List.cons_append,
      cutSep_append (d :: cs) s h' hl]

theorem cutSep_inv : ∀ (n r : List Char), cutSep n = r → n = r ∨ ∃ s, n = r ++ '_' :: '_' :: s
  | [], _, h => Or.inl h
  | [_], _, h => Or.inl h
  | c :: d :: cs, r, h => by
    by_cases hcd : c = '_' ∧ d = '_'
    · rw [hcd.1, hcd.2, cutSep_sep] at h
      exact Or.inr ⟨cs, by rw [← h, hcd.1, hcd.2]; rfl⟩
    · rw [cutSep_cons_cons hcd] at h
      subst h
      rcases cutSep_inv (d :: cs) _ rfl with e | ⟨s, e⟩
      · exact Or.inl (congrArg (c :: ·) e)
      · exact Or.inr ⟨s, congrArg (c :: ·) e⟩

/-- **The convention.** For a rule name `r` that is not empty, contains no `"__"` and does not end
in `'_'`, the methods lox attributes to `r` are exactly `on_<r>` and `on_<r>__<anything>`. -/
theorem ruleOfChars_iff {n r : List Char} (hne : r ≠ []) (hs : hasSep r = false)
    (hl : r.getLast? ≠ some '_') :
    ruleOfChars n = some r ↔
      n = 'o' :: 'n' :: '_' :: r ∨ ∃ s, n = 'o' :: 'n' :: '_' :: (r ++ '_' :: '_' :: s) := by
  constructor
  · intro h
    unfold ruleOfChars at h
    split at h
    · rename_i rest
      split at h
      · cases h
      · rename_i x hx
        have hr : cutSep rest = r := by simpa using h
        rcases cutSep_inv rest r hr with e | ⟨s, e⟩
        · left; rw [e]
        · right; exact ⟨s, by rw [e]⟩
    · cases h
  · rintro (rfl | ⟨s, rfl⟩)
    · unfold ruleOfChars
      simp only [cutSep_self r hs]
    · unfold ruleOfChars
      simp only [cutSep_append r s hs hl]

/-! The three caveats of the convention on the real implementation (`ruleFromMethod`): -/

/-- a rule whose name ends in `_` cannot use a suffix: `on_a___x` is attributed to rule `a` -/
example : ruleOf "on_a___x" = some "a" := by decide +kernel
/-- methods named `on_`, `on___x` are not action methods at all (they are ignored) -/
example : ruleOf "on_" = none ∧ ruleOf "on___x" = none := by decide +kernel
/-- a rule name containing `__` could never be named by a method (the front end rejects such rule
names: "rule name cannot contain consecutive underscores") -/
example : ruleOf "on_a__b" = some "a" := by decide +kernel

/-! ## Decidable hypotheses -/

instance (c : Case) : Decidable (WF c) :=
  decidable_of_iff
    ((∀ p ∈ c.prods, p.rule < c.rules.length) ∧
     (∀ r ∈ c.rules, r.gen ≠ .user → ∀ m ∈ c.methods, ruleOf m.name ≠ some r.name) ∧
     (∀ r, r < c.rules.length → HelperShape c r))
    ⟨fun ⟨a, b, d⟩ => ⟨a, b, d⟩, fun ⟨a, b, d⟩ => ⟨a, b, d⟩⟩

/-- `Identical` restricted to the types `< n` is reflexive, symmetric and transitive. -/
def identCheck (c : Case) (n : Nat) : Bool :=
  (List.range n).all fun i => c.identical i i &&
    (List.range n).all fun j => (!c.identical i j || c.identical j i) &&
      (List.range n).all fun k => !(c.identical i j && c.identical j k) || c.identical i k

theorem identEquiv_of_check {c : Case} {n : Nat} (h : identCheck c n = true)
    (hout : ∀ i j, (n ≤ i ∨ n ≤ j) → c.identical i j = (i == j)) : IdentEquiv c := by
  unfold identCheck at h
  simp only [List.all_eq_true, List.mem_range, Bool.and_eq_true, Bool.or_eq_true,
    Bool.not_eq_eq_eq_not, Bool.not_true, Bool.and_eq_false_imp] at h
  -- outside the table `Identical` is equality
  have out : ∀ {t u}, ¬ (t < n ∧ u < n) → c.identical t u = true → t = u := by
    intro t u hn ht
    rw [hout t u ((Decidable.not_and_iff_not_or_not.mp hn).imp Nat.le_of_not_lt Nat.le_of_not_lt)] at ht
    exact eq_of_beq ht
  have refl : ∀ t, c.identical t t = true := by
    intro t
    by_cases ht : t < n
    · exact (h t ht).1
    · rw [hout t t (Or.inl (Nat.le_of_not_lt ht))]; exact beq_self_eq_true t
  refine ⟨refl, fun t u htu => ?_, fun t u v h1 h2 => ?_⟩
  · by_cases hb : t < n ∧ u < n
    · rcases ((h t hb.1).2 u hb.2).1 with e | e
      · rw [e] at htu; cases htu
      · exact e
    · rw [out hb htu]; exact refl u
  · by_cases hb : t < n ∧ u < n
    · by_cases hv : v < n
      · rcases ((h t hb.1).2 u hb.2).2 v hv with e | e
        · rw [e h1] at h2; cases h2
        · exact e
      · rw [← out (fun hh => hv hh.2) h2]; exact h1
    · rw [out hb h1]; exact h2

end Lox.Dec.Assign
