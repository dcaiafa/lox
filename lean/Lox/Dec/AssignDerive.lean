import Lox.Dec.AssignProofs
import Lox.Dec.AssignShape
/-! Pass 3 of `AssignActions` (`getReduceTypeForGeneratedRule` iterated to a fixed point) computes
the documented derivation `specTyR`, never panics on well-formed cases and needs no more than
`rules.length + 1` rounds. -/
namespace Lox.Dec.Assign

theorem reduceSlice_eq {c : Case} {tm : TyMap} {r p0 p1 : Nat} {rest : List Nat} {x : Term}
    {xs : List Term} (hl : ruleProds c r = p0 :: p1 :: rest) (h1 : termsOf c p1 = x :: xs) (p : Nat) :
    reduceSlice c tm r p = if p = p1 then .ty (sliceOfR c (termTy c tm x)) else .nil := by
  unfold reduceSlice; rw [hl]; simp only [ne_eq, ite_not]
  split
  · subst p; rw [h1]
  · rfl

theorem reduceOpt_eq {c : Case} {tm : TyMap} {r p0 : Nat} {rest : List Nat} {x : Term}
    {xs : List Term} (hl : ruleProds c r = p0 :: rest) (h0 : termsOf c p0 = x :: xs) (p : Nat) :
    reduceOpt c tm r p = if p = p0 then (termTy c tm x).elim .nil .ty else .nil := by
  unfold reduceOpt; rw [hl]; simp only [ne_eq, ite_not]
  split
  · subst p; simp only [h0]
    cases termTy c tm x <;> rfl
  · rfl

theorem reduceStar_eq {c : Case} {tm : TyMap} {r p0 h : Nat} {rest : List Nat} {xs : List Term}
    (hl : ruleProds c r = p0 :: rest) (h0 : termsOf c p0 = .rule h :: xs) (p : Nat) :
    reduceStar c tm r p = if p = p0 then reduceInner c tm h else .nil := by
  unfold reduceStar; rw [hl]; simp only [ne_eq, ite_not]
  split
  · subst p; rw [h0]
  · rfl

theorem reduceInner_eq {c : Case} {tm : TyMap} {h p0 p1 : Nat} {rest : List Nat} {x : Term}
    {xs : List Term} (hg : isSliceGen (genOf c h) = true) (hl : ruleProds c h = p0 :: p1 :: rest)
    (h1 : termsOf c p1 = x :: xs) : reduceInner c tm h = .ty (sliceOfR c (termTy c tm x)) := by
  unfold reduceInner; rw [hl]; simp only
  rcases isSliceGen_iff.mp hg with e | e | e
  all_goals rw [e]; simp only [reduceSlice_eq hl h1, ↓reduceIte]

theorem reduceType_of_slice {c : Case} {tm : TyMap} {r p : Nat} (hg : isSliceGen (genOf c r) = true) :
    reduceType c tm r p = reduceSlice c tm r p := by
  unfold reduceType
  rcases isSliceGen_iff.mp hg with e | e | e <;> rw [e]

theorem reduceType_of_star {c : Case} {tm : TyMap} {r p : Nat}
    (hg : genOf c r = some .zeroOrMore ∨ genOf c r = some .zeroOrMoreF) :
    reduceType c tm r p = reduceStar c tm r p := by
  unfold reduceType
  rcases hg with e | e <;> rw [e]

theorem reduceType_of_opt {c : Case} {tm : TyMap} {r p : Nat} (hg : genOf c r = some .zeroOrOne) :
    reduceType c tm r p = reduceOpt c tm r p := by
  unfold reduceType; rw [hg]

theorem reduceType_of_user {c : Case} {tm : TyMap} {r p : Nat}
    (hg : genOf c r = some .user ∨ genOf c r = some .sprime) : reduceType c tm r p = .nil := by
  unfold reduceType
  rcases hg with e | e <;> rw [e]

def noneCount (tm : TyMap) : Nat := tm.count none

/-- Entries are the documented types; only helper rules may still be untyped. -/
structure Inv (c : Case) (tm : TyMap) : Prop where
  len : tm.length = c.rules.length
  ent : ∀ r, tm.get r = specTyR c r ∨
    (tm.get r = none ∧ ∃ ru, c.rules[r]? = some ru ∧ ru.gen ≠ .user ∧ ru.gen ≠ .sprime)

theorem userTy_none_of_helper {c : Case} (w : WF c) {ru : Rule} (hru : ru ∈ c.rules)
    (hg : ru.gen ≠ .user) : userTy c ru = none := by
  unfold userTy
  cases hl : actionsOf c ru.name with
  | nil => rfl
  | cons f rest =>
    obtain ⟨hfa, hfr⟩ := mem_actionsOf.mp (hl ▸ List.mem_cons_self : f ∈ actionsOf c ru.name)
    have := w.helperNoMethod ru hru hg f.m (action_method_mem hfa)
    rw [(mem_actions.mp hfa).2.1, hfr] at this
    exact absurd rfl this

theorem inv_init {c : Case} (w : WF c) : Inv c (initTypes c) := by
  refine ⟨List.length_map _, fun r => ?_⟩
  have hget : (initTypes c).get r = ((c.rules[r]?).map (userTy c)).join := by
    unfold TyMap.get initTypes; rw [List.getElem?_map]
  rw [hget]
  cases h : c.rules[r]? with
  | none => left; unfold specTyR; rw [h]; rfl
  | some ru =>
    by_cases hg : ru.gen = .user
    · left; exact (specTyR_user h hg).symm
    · have hn : userTy c ru = none := userTy_none_of_helper w (List.mem_of_getElem? h) hg
      by_cases hs : ru.gen = .sprime
      · left; rw [specTyR_sprime h hs]; exact hn
      · right; exact ⟨hn, ru, rfl, hg, hs⟩

theorem termTy_simple {c : Case} {tm : TyMap} (inv : Inv c tm) {x : Term} (hx : Simple c x) :
    termTy c tm x = specElemR c x := by
  cases x with
  | tok => rfl
  | err => rfl
  | rule r =>
    obtain ⟨ru, hr, hg⟩ := genOf_eq_some.1 hx
    rw [specElemR_user hr hg, ← specTyR_user hr hg]
    rcases inv.ent r with h | ⟨_, ru', hr', h, _⟩
    · exact h
    · rw [hr] at hr'; cases hr'; exact absurd hg h

/-- For a helper rule `getReduceTypeForGeneratedRule` answers at one production `q` of the rule only.
There it returns the documented type – or nothing, and then the documented type is `none` too, unless
the rule is `@list(…)?` and the `@list` rule has no type yet. -/
theorem reduceType_helper {c : Case} {tm : TyMap} (w : WF c) (inv : Inv c tm) {r : Nat} {ru : Rule}
    (hr : c.rules[r]? = some ru) (hu : ru.gen ≠ .user) (hs : ru.gen ≠ .sprime) :
    ∃ q pr v, c.prods[q]? = some pr ∧ pr.rule = r ∧
      (∀ p, reduceType c tm r p = if p = q then v else .nil) ∧
      ((∃ t, v = .ty t ∧ specTyR c r = some t) ∨
       (v = .nil ∧ isSliceGen (genOf c r) = false ∧
         (specTyR c r = none ∨ ∃ h, isSliceGen (genOf c h) = true ∧ tm.get h = none))) := by
  have hgen := genOf_eq hr
  rcases Gen.kinds ru.gen with hg | hg | hg | hg | hg
  · exact absurd hg hu
  · exact absurd hg hs
  · obtain ⟨p0, p1, x, hl, h0, _, hx⟩ := specTyR_opt w hr hg
    obtain ⟨pr, hp, hpr⟩ := mem_ruleProds.mp (hl ▸ List.mem_cons_self : p0 ∈ ruleProds c r)
    rw [hg] at hgen
    refine ⟨p0, pr, _, hp, hpr, fun p => (reduceType_of_opt hgen).trans (reduceOpt_eq hl h0 p), ?_⟩
    have hns : isSliceGen (genOf c r) = false := by rw [hgen]; rfl
    rcases hx with ⟨hx, e⟩ | ⟨h, rfl, hh, e⟩
    · rw [termTy_simple inv hx, e]
      cases specElemR c x with
      | none => exact Or.inr ⟨rfl, hns, Or.inl rfl⟩
      | some t => exact Or.inl ⟨t, rfl, rfl⟩
    · rw [e]
      rcases inv.ent h with e' | ⟨e', _⟩
      · rw [termTy, e']
        cases specTyR c h with
        | none => exact Or.inr ⟨rfl, hns, Or.inl rfl⟩
        | some t => exact Or.inl ⟨t, rfl, rfl⟩
      · rw [termTy, e']
        exact Or.inr ⟨rfl, hns, Or.inr ⟨h, by rw [hh]; rfl, e'⟩⟩
  · obtain ⟨p0, p1, h, hl, h0, _, hh, e⟩ := specTyR_star w hr hg
    obtain ⟨pr, hp, hpr⟩ := mem_ruleProds.mp (hl ▸ List.mem_cons_self : p0 ∈ ruleProds c r)
    obtain ⟨q0, q1, x, hl', h1', hx, e'⟩ := specTyR_slice w hh
    refine ⟨p0, pr, _, hp, hpr,
      fun p => (reduceType_of_star (hg.imp (· ▸ hgen) (· ▸ hgen))).trans (reduceStar_eq hl h0 p),
      Or.inl ⟨_, reduceInner_eq hh hl' h1', ?_⟩⟩
    rw [e, e', termTy_simple inv hx]
  · rw [← hgen] at hg
    obtain ⟨p0, p1, x, hl, h1, hx, e⟩ := specTyR_slice w hg
    obtain ⟨pr, hp, hpr⟩ := mem_ruleProds.mp
      (hl ▸ List.mem_cons_of_mem _ List.mem_cons_self : p1 ∈ ruleProds c r)
    refine ⟨p1, pr, _, hp, hpr, fun p => (reduceType_of_slice hg).trans (reduceSlice_eq hl h1 p),
      Or.inl ⟨_, rfl, ?_⟩⟩
    rw [e, termTy_simple inv hx]

/-- `getReduceTypeForGeneratedRule` never panics on a well-formed grammar and, when it returns a
type, returns the documented one. -/
theorem reduceType_sound {c : Case} {tm : TyMap} (w : WF c) (inv : Inv c tm) {r : Nat} {ru : Rule}
    (hr : c.rules[r]? = some ru) (p : Nat) :
    reduceType c tm r p = .nil ∨ ∃ t, reduceType c tm r p = .ty t ∧ specTyR c r = some t := by
  by_cases hu : ru.gen = .user
  · exact Or.inl (reduceType_of_user (Or.inl (hu ▸ genOf_eq hr)))
  by_cases hs : ru.gen = .sprime
  · exact Or.inl (reduceType_of_user (Or.inr (hs ▸ genOf_eq hr)))
  obtain ⟨q, _, v, _, _, hv, hd⟩ := reduceType_helper w inv hr hu hs
  rw [hv p]
  split
  · rcases hd with ⟨t, rfl, e⟩ | ⟨rfl, _⟩
    · exact Or.inr ⟨t, rfl, e⟩
    · exact Or.inl rfl
  · exact Or.inl rfl

theorem get_set_self {tm : TyMap} {r : Nat} {v : Option RTy} (h : r < tm.length) :
    TyMap.get (tm.set r v) r = v := by
  unfold TyMap.get; rw [List.getElem?_set]; simp [h]

theorem get_set_ne {tm : TyMap} {r r' : Nat} {v : Option RTy} (h : r ≠ r') :
    TyMap.get (tm.set r v) r' = TyMap.get tm r' := by
  unfold TyMap.get; rw [List.getElem?_set]; simp [h]

theorem noneCount_set {tm : TyMap} {r : Nat} (h : r < tm.length) (hg : tm.get r = none) (t : RTy) :
    noneCount (tm.set r (some t)) + 1 = noneCount tm := by
  have he : tm[r] = none := by
    unfold TyMap.get at hg
    rwa [List.getElem?_eq_getElem h, Option.join_some] at hg
  have hpos : 0 < tm.count none := List.count_pos_iff.mpr (he ▸ List.getElem_mem h)
  unfold noneCount
  rw [List.count_set h, he]
  simp only [beq_self_eq_true, ↓reduceIte, reduceCtorEq, beq_iff_eq, Nat.add_zero]
  exact Nat.sub_add_cancel hpos

theorem identicalR_refl {c : Case} (hrefl : ∀ t, c.identical t t = true) :
    ∀ t : RTy, identicalR c t t = true
  | .ty t => hrefl t
  | .junk => rfl

/-- The production has nothing to add: its rule has a type already, or it yields none. -/
def Idle (c : Case) (tm : TyMap) (x : Prod × Nat) : Prop :=
  tm.get x.1.rule = none → reduceType c tm x.1.rule x.2 = .nil

theorem passStep_inv {c : Case} {tm : TyMap} {ch : Bool} (w : WF c)
    (hrefl : ∀ t, c.identical t t = true) (inv : Inv c tm) {pr : Prod} {p : Nat}
    (hp : c.prods[p]? = some pr) :
    ∃ tm' ch', passStep c (.ok (tm, ch)) (pr, p) = .ok (tm', ch') ∧ Inv c tm' ∧
      ((tm' = tm ∧ ch' = ch ∧ Idle c tm (pr, p)) ∨
       (ch' = true ∧ noneCount tm' < noneCount tm)) := by
  have hrl : pr.rule < c.rules.length := w.prodRule pr (List.mem_of_getElem? hp)
  unfold passStep
  simp only
  rcases reduceType_sound w inv (List.getElem?_eq_getElem hrl) p with h | ⟨t, h, hs⟩
  · rw [h]; exact ⟨tm, ch, rfl, inv, Or.inl ⟨rfl, rfl, fun _ => h⟩⟩
  · rw [h]; simp only
    cases hg : tm.get pr.rule with
    | some e =>
      simp only
      have he : e = t := by
        rcases inv.ent pr.rule with h1 | ⟨h1, _⟩
        · rw [hg, hs] at h1; exact Option.some.inj h1
        · rw [hg] at h1; cases h1
      rw [he, identicalR_refl hrefl]
      exact ⟨tm, ch, rfl, inv, Or.inl ⟨rfl, rfl, fun hn => nomatch hg.symm.trans hn⟩⟩
    | none =>
      simp only
      have hlt : pr.rule < tm.length := by rw [inv.len]; exact hrl
      refine ⟨tm.set pr.rule (some t), true, rfl, ⟨List.length_set.trans inv.len, fun r => ?_⟩,
        Or.inr ⟨rfl, noneCount_set hlt hg t ▸ Nat.lt_succ_self _⟩⟩
      by_cases hrr : pr.rule = r
      · subst hrr; left; rw [get_set_self hlt, hs]
      · rw [get_set_ne hrr]; exact inv.ent r

theorem fold_inv {c : Case} (w : WF c) (hrefl : ∀ t, c.identical t t = true) :
    ∀ (l : List (Prod × Nat)), (∀ x ∈ l, c.prods[x.2]? = some x.1) → ∀ tm ch, Inv c tm →
    ∃ tm' ch', l.foldl (passStep c) (.ok (tm, ch)) = .ok (tm', ch') ∧ Inv c tm' ∧
      ((tm' = tm ∧ ch' = ch ∧ ∀ x ∈ l, Idle c tm x) ∨ (ch' = true ∧ noneCount tm' < noneCount tm))
  | [], _, tm, ch, inv => ⟨tm, ch, rfl, inv, Or.inl ⟨rfl, rfl, fun _ hx => nomatch hx⟩⟩
  | (pr, p) :: l, hl, tm, ch, inv => by
    obtain ⟨tm1, ch1, h1, inv1, d1⟩ := passStep_inv (ch := ch) w hrefl inv (hl (pr, p) List.mem_cons_self)
    obtain ⟨tm2, ch2, h2, inv2, d2⟩ :=
      fold_inv w hrefl l (fun x hx => hl x (List.mem_cons_of_mem _ hx)) tm1 ch1 inv1
    refine ⟨tm2, ch2, by rw [List.foldl_cons, h1, h2], inv2, ?_⟩
    rcases d1 with ⟨rfl, rfl, i1⟩ | ⟨rfl, e1⟩
    · exact d2.imp_left fun ⟨e2, e2', i2⟩ => ⟨e2, e2', List.forall_mem_cons.mpr ⟨i1, i2⟩⟩
    · right
      rcases d2 with ⟨rfl, rfl, _⟩ | ⟨e2, e2'⟩
      · exact ⟨rfl, e1⟩
      · exact ⟨e2, Nat.lt_trans e2' e1⟩

theorem loop_inv {c : Case} (w : WF c) (hrefl : ∀ t, c.identical t t = true) :
    ∀ (fuel : Nat) (tm : TyMap), Inv c tm → noneCount tm < fuel →
    ∃ tm', deriveLoop c fuel tm = .ok tm' ∧ Inv c tm' ∧ ∀ x ∈ c.prods.zipIdx, Idle c tm' x
  | 0, _, _, h => absurd h (Nat.not_lt_zero _)
  | fuel + 1, tm, inv, h => by
    obtain ⟨tm1, ch1, h1, inv1, d⟩ :=
      fold_inv w hrefl _ (fun _ hx => List.mem_zipIdx_iff_getElem?.mp hx) tm false inv
    unfold deriveLoop pass
    rw [h1]; simp only
    rcases d with ⟨rfl, rfl, hi⟩ | ⟨rfl, e⟩
    · exact ⟨tm1, rfl, inv1, hi⟩
    · exact loop_inv w hrefl fuel tm1 inv1 (Nat.lt_of_lt_of_le e (Nat.le_of_lt_succ h))

theorem fix_complete {c : Case} {tm : TyMap} (w : WF c) (inv : Inv c tm)
    (hq : ∀ x ∈ c.prods.zipIdx, Idle c tm x) (r : Nat) : tm.get r = specTyR c r := by
  -- an untyped helper rule saw `nil` at its production `q`
  have key : ∀ r ru, c.rules[r]? = some ru → ru.gen ≠ .user → ru.gen ≠ .sprime → tm.get r = none →
      isSliceGen (genOf c r) = false ∧
        (specTyR c r = none ∨ ∃ h, isSliceGen (genOf c h) = true ∧ tm.get h = none) := by
    intro r ru hr hu hs hn
    obtain ⟨q, pr, v, hp, rfl, hv, hd⟩ := reduceType_helper w inv hr hu hs
    have := hq (pr, q) (List.mem_zipIdx_iff_getElem?.mpr hp) hn
    rw [hv q, if_pos rfl] at this
    rcases hd with ⟨t, rfl, _⟩ | ⟨_, h1, h2⟩
    · cases this
    · exact ⟨h1, h2⟩
  rcases inv.ent r with e | ⟨hn, ru, hr, hu, hs⟩
  · exact e
  · obtain ⟨_, e | ⟨h, hsl, hn'⟩⟩ := key r ru hr hu hs hn
    · rw [hn, e]
    · -- `@list(…)?` cannot be waiting for its `@list` rule: by `key` an untyped rule is not a slice rule
      exfalso
      rcases inv.ent h with e' | ⟨_, ru', hr', hu', hs'⟩
      · obtain ⟨_, _, _, _, _, _, e2⟩ := specTyR_slice w hsl
        rw [hn', e2] at e'; cases e'
      · have := (key h ru' hr' hu' hs' hn').1
        rw [hsl] at this; cases this

/-- Pass 3 on a well-formed case: no panic, the fuel suffices, and the resulting `RuleGoTypes` is
the documented derivation. -/
theorem derive_spec {c : Case} (w : WF c) (hrefl : ∀ t, c.identical t t = true) :
    ∃ tm, derive c = .ok tm ∧ ∀ r, tm.get r = specTyR c r := by
  have inv0 := inv_init w
  have hfuel : noneCount (initTypes c) < c.rules.length + 1 := by
    have : noneCount (initTypes c) ≤ (initTypes c).length := List.count_le_length
    rw [inv0.len] at this; exact Nat.lt_succ_of_le this
  obtain ⟨tm, h1, inv, hq⟩ := loop_inv w hrefl _ _ inv0 hfuel
  exact ⟨tm, h1, fix_complete w inv hq⟩

end Lox.Dec.Assign
