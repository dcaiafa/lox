import Lox.Rang3.Proofs.Heap
/-! `Normalize` (range.go), one iteration at a time: each case of the loop body as an `Iter`, the invariant `NInv` of heap
and label set, and the result `normalizePieces_spec`: the pieces are valid, disjoint and refine the input (`Refines`).
Read by `Relabel` and by `Lex/GenNormProofs`. -/
namespace Lox.Rang3

/-- One iteration of the loop on the heap `h` leaves the heap `h'` and makes the calls `cbs`, in this order. -/
def Iter (h h' : List Range) (cbs : List NormCb) : Prop :=
  ∀ fuel log, normalizeLoop (fuel + 1) h log = normalizeLoop fuel h' (cbs.reverse ++ log)

/-! In the case lemmas `x = Pop()`, `y = Peek()`, with `x < y` in `Compare` order. -/

theorem intersects_iff_of_le {x y : Range} (h : x.b ≤ y.b) : x.intersects y = true ↔ y.b ≤ x.e := by
  unfold Range.intersects
  rw [if_neg (by omega)]
  simp

theorem iter_skip {x y : Range} (rest : List Range) (hb : x.b ≤ y.b) (h : x.e < y.b) :
    Iter (x :: y :: rest) (y :: rest) [] := by
  intro fuel log
  have hi : x.intersects y = false := by
    rw [← Bool.not_eq_true, intersects_iff_of_le hb]; omega
  simp [normalizeLoop, hi]

theorem iter_sameStart {x y : Range} (rest : List Range) (hb : x.b = y.b) (he : x.e < y.e) (hv : x.b ≤ x.e) :
    Iter (x :: y :: rest) (heapPush ⟨x.e + 1, y.e⟩ (heapPush x rest))
      [⟨y, x, ⟨x.e + 1, y.e⟩, ⟨x.e + 1, y.e⟩⟩] := by
  intro fuel log
  have hi : x.intersects y = true := (intersects_iff_of_le (by omega)).2 (by omega)
  have hne : x ≠ y := range_ne (Or.inr (by omega))
  simp [normalizeLoop, hne, hi, hb, he]

theorem iter_sameEnd {x y : Range} (rest : List Range) (hb : x.b < y.b) (he : x.e = y.e) (hv : y.b ≤ y.e) :
    Iter (x :: y :: rest) (heapPush ⟨x.b, y.b - 1⟩ (y :: rest)) [⟨x, ⟨x.b, y.b - 1⟩, y, y⟩] := by
  intro fuel log
  have hi : x.intersects y = true := (intersects_iff_of_le (by omega)).2 (by omega)
  have hne : x ≠ y := range_ne (Or.inl (by omega))
  have h1 : ¬ x.b = y.b := by omega
  simp [normalizeLoop, hne, hi, hb, he, h1]

theorem iter_overlap {x y : Range} (rest : List Range) (hb : x.b < y.b) (he : x.e < y.e) (hi' : y.b ≤ x.e) :
    Iter (x :: y :: rest) (heapPush ⟨x.e + 1, y.e⟩ (heapPush ⟨y.b, x.e⟩ (heapPush ⟨x.b, y.b - 1⟩ rest)))
      [⟨x, ⟨x.b, y.b - 1⟩, ⟨y.b, x.e⟩, ⟨y.b, x.e⟩⟩, ⟨y, ⟨y.b, x.e⟩, ⟨x.e + 1, y.e⟩, ⟨x.e + 1, y.e⟩⟩] := by
  intro fuel log
  have hi : x.intersects y = true := (intersects_iff_of_le (by omega)).2 hi'
  have hne : x ≠ y := range_ne (Or.inl (by omega))
  have h1 : ¬ x.b = y.b := by omega
  have h2 : ¬ x.e = y.e := by omega
  simp [normalizeLoop, hne, hi, hb, he, h1, h2]

theorem iter_nested {x y : Range} (rest : List Range) (hb : x.b < y.b) (he : y.e < x.e) (hv : y.b ≤ y.e) :
    Iter (x :: y :: rest) (heapPush ⟨y.e + 1, x.e⟩ (heapPush ⟨x.b, y.b - 1⟩ (y :: rest)))
      [⟨x, ⟨x.b, y.b - 1⟩, y, ⟨y.e + 1, x.e⟩⟩] := by
  intro fuel log
  have hi : x.intersects y = true := (intersects_iff_of_le (by omega)).2 (by omega)
  have hne : x ≠ y := range_ne (Or.inl (by omega))
  have h1 : ¬ x.b = y.b := by omega
  have h2 : ¬ x.e = y.e := by omega
  have h3 : ¬ x.e < y.e := by omega
  simp [normalizeLoop, hne, hi, hb, he, h1, h2, h3]

theorem Inside.refl (p : Range) : Inside p p := ⟨Int.le_refl _, Int.le_refl _⟩
theorem Inside.trans {a b c : Range} (h1 : Inside a b) (h2 : Inside b c) : Inside a c := by
  unfold Inside at *; omega

/-- `s'` cuts the ranges of `s` into pieces: each range of `s'` lies inside one of `s`, and each range of `s` is the union
of the ranges of `s'` inside it. -/
structure Refines (s s' : List Range) : Prop where
  inside : ∀ p' ∈ s', ∃ p ∈ s, Inside p' p
  cover : ∀ p ∈ s, ∀ c, p.b ≤ c → c ≤ p.e → ∃ p' ∈ s', Inside p' p ∧ p'.b ≤ c ∧ c ≤ p'.e

theorem Refines.refl (s : List Range) : Refines s s :=
  ⟨fun p hp => ⟨p, hp, Inside.refl p⟩, fun p hp _ h1 h2 => ⟨p, hp, Inside.refl p, h1, h2⟩⟩

theorem Refines.trans {s1 s2 s3 : List Range} (h12 : Refines s1 s2) (h23 : Refines s2 s3) :
    Refines s1 s3 := by
  constructor
  · intro p3 hp3
    obtain ⟨p2, hp2, h32⟩ := h23.inside p3 hp3
    obtain ⟨p1, hp1, h21⟩ := h12.inside p2 hp2
    exact ⟨p1, hp1, h32.trans h21⟩
  · intro p1 hp1 c hc1 hc2
    obtain ⟨p2, hp2, h21, hc3, hc4⟩ := h12.cover p1 hp1 c hc1 hc2
    obtain ⟨p3, hp3, h32, hc5, hc6⟩ := h23.cover p2 hp2 c hc3 hc4
    exact ⟨p3, hp3, h32.trans h21, hc5, hc6⟩

theorem Refines.congr_left {s t s' : List Range} (h : Refines s s') (hm : ∀ r, r ∈ s ↔ r ∈ t) :
    Refines t s' :=
  ⟨fun p' hp' => let ⟨p, hp, hi⟩ := h.inside p' hp'; ⟨p, (hm p).1 hp, hi⟩,
    fun p hp => h.cover p ((hm p).2 hp)⟩

theorem Refines.cover_iff {s s' : List Range} (h : Refines s s') {p : Range} (hp : p ∈ s) (c : Int) :
    (p.b ≤ c ∧ c ≤ p.e) ↔ ∃ p' ∈ s', Inside p' p ∧ p'.b ≤ c ∧ c ≤ p'.e :=
  ⟨fun hc => h.cover p hp c hc.1 hc.2, fun ⟨_, _, hi, hc⟩ => hi.mem hc⟩

/-- Cutting into pieces neither adds nor loses a code point. -/
theorem Refines.den {s s' : List Range} (h : Refines s s') (c : Int) : Den s' c ↔ Den s c := by
  constructor
  · rintro ⟨p', hp', hc⟩
    obtain ⟨p, hp, hi⟩ := h.inside p' hp'
    exact ⟨p, hp, hi.mem hc⟩
  · rintro ⟨p, hp, hc⟩
    obtain ⟨p', hp', -, hc'⟩ := h.cover p hp c hc.1 hc.2
    exact ⟨p', hp', hc'⟩

theorem mem_applyNormCb (s : List Range) (cb : NormCb) (r : Range) :
    r ∈ applyNormCb s cb ↔ r = cb.c ∨ r = cb.b ∨ r = cb.a ∨ (r ∈ s ∧ r ≠ cb.o) := by
  simp [applyNormCb, mem_heapPush, List.mem_filter]

theorem sortedLt_applyNormCb (s : List Range) (cb : NormCb) (h : SortedLt s) :
    SortedLt (applyNormCb s cb) := by
  unfold applyNormCb
  exact sortedLt_heapPush _ _ (sortedLt_heapPush _ _ (sortedLt_heapPush _ _ (List.Pairwise.filter _ h)))

theorem refines_applyNormCb {s : List Range} {cb : NormCb} (h : GoodCb s cb) :
    Refines s (applyNormCb s cb) := by
  constructor
  · intro p' hp'
    rw [mem_applyNormCb] at hp'
    rcases hp' with rfl | rfl | rfl | ⟨hp, _⟩
    · exact ⟨cb.o, h.mem, h.c⟩
    · exact ⟨cb.o, h.mem, h.b⟩
    · exact ⟨cb.o, h.mem, h.a⟩
    · exact ⟨p', hp, Inside.refl _⟩
  · intro p hp k hk1 hk2
    by_cases hpo : p = cb.o
    · subst hpo
      rcases h.cover k hk1 hk2 with hk | hk | hk
      · exact ⟨cb.a, (mem_applyNormCb ..).2 (by simp), h.a, hk⟩
      · exact ⟨cb.b, (mem_applyNormCb ..).2 (by simp), h.b, hk⟩
      · exact ⟨cb.c, (mem_applyNormCb ..).2 (by simp), h.c, hk⟩
    · exact ⟨p, (mem_applyNormCb ..).2 (by simp [hp, hpo]), Inside.refl _, hk1, hk2⟩

theorem cbsOk_append {s : List Range} {l1 l2 : List NormCb} (h1 : CbsOk s l1)
    (h2 : CbsOk (l1.foldl applyNormCb s) l2) : CbsOk s (l1 ++ l2) := by
  induction l1 generalizing s with
  | nil => simpa using h2
  | cons cb l1 ih => exact ⟨h1.1, ih h1.2 h2⟩

theorem refines_of_cbsOk {s : List Range} {L : List NormCb} (h : CbsOk s L) :
    Refines s (L.foldl applyNormCb s) := by
  induction L generalizing s with
  | nil => exact Refines.refl s
  | cons cb L ih => exact (refines_applyNormCb h.1).trans (ih h.2)

/-- Invariant of the loop of `Normalize`: `h` the heap, `s` the label set maintained by the callbacks. -/
structure NInv (h s : List Range) : Prop where
  hsorted : SortedLt h
  ssorted : SortedLt s
  valid : ∀ r ∈ s, Valid r
  sub : ∀ r ∈ h, r ∈ s
  -- a label that has left the heap for good meets no other label
  fin : ∀ p ∈ s, p ∉ h → ∀ q ∈ s, q ≠ p → p.e < q.b ∨ q.e < p.b

/-- The top of the heap ends before the next range begins: it is final. -/
theorem NInv.pop {x y : Range} {rest s : List Range} (h : NInv (x :: y :: rest) s)
    (hskip : x.e < y.b) : NInv (y :: rest) s := by
  have hs := h.hsorted
  unfold SortedLt at hs
  rw [List.pairwise_cons] at hs
  refine ⟨hs.2, h.ssorted, h.valid, fun r hr => h.sub r (List.mem_cons_of_mem _ hr),
    fun p hp hph q hq hne => ?_⟩
  by_cases hpx : p = x
  · subst hpx
    by_cases hqh : q ∈ p :: y :: rest
    · rcases List.mem_cons.1 ((List.mem_cons.1 hqh).resolve_left hne) with rfl | hz
      · exact Or.inl hskip
      · have := (List.pairwise_cons.1 hs.2).1 q hz
        rw [lt_iff] at this; omega
    · exact (h.fin q hq hqh p hp (Ne.symm hne)).symm
  · exact h.fin p hp (fun hm => hph ((List.mem_cons.1 hm).resolve_left hpx)) q hq hne

/-- `a`, `b`, `c` are non-empty pieces of `o` in a row, from `o.b` to `o.e` without a gap. `b = c` is allowed:
the two-piece calls of `Normalize` pass the last piece twice. -/
def Splits (o a b c : Range) : Prop :=
  (a.b = o.b ∧ a.b ≤ a.e ∧ a.e ≤ o.e) ∧ (o.b ≤ b.b ∧ b.b ≤ a.e + 1 ∧ b.b ≤ b.e ∧ b.e ≤ o.e) ∧
    (o.b ≤ c.b ∧ c.b ≤ b.e + 1 ∧ c.b ≤ c.e ∧ c.e = o.e)

/-- An `onChange(o, a, b, c)` call for a range `o` of the heap, when the heap changes in the same
way as the label set (`o` leaves, the pieces enter). -/
theorem NInv.split {o a b c : Range} {h h' s : List Range} (hinv : NInv h s) (ho : o ∈ h)
    (hsp : Splits o a b c) (hs : SortedLt h')
    (hm : ∀ r, r ∈ h' ↔ r = c ∨ r = b ∨ r = a ∨ (r ∈ h ∧ r ≠ o)) :
    NInv h' (applyNormCb s ⟨o, a, b, c⟩) ∧ GoodCb s ⟨o, a, b, c⟩ := by
  obtain ⟨ha, hb, hc⟩ := hsp
  have hos := hinv.sub o ho
  refine ⟨⟨hs, sortedLt_applyNormCb _ _ hinv.ssorted, ?_, ?_, ?_⟩,
    hos, (⟨Int.le_of_eq ha.1.symm, ha.2.2⟩ : Inside a o),
    (⟨hb.1, hb.2.2.2⟩ : Inside b o), (⟨hc.1, Int.le_of_eq hc.2.2.2⟩ : Inside c o),
    fun k (_ : o.b ≤ k) (_ : k ≤ o.e) =>
      show (a.b ≤ k ∧ k ≤ a.e) ∨ (b.b ≤ k ∧ k ≤ b.e) ∨ (c.b ≤ k ∧ k ≤ c.e) by omega⟩
  · intro r hr
    rcases (mem_applyNormCb ..).1 hr with rfl | rfl | rfl | ⟨hr, _⟩
    · exact hc.2.2.1
    · exact hb.2.2.1
    · exact ha.2.1
    · exact hinv.valid r hr
  · intro r hr
    exact (mem_applyNormCb ..).2
      (((hm r).1 hr).imp_right (Or.imp_right (Or.imp_right (And.imp_left (hinv.sub r)))))
  · intro p hp hph q hq hne
    -- `p` was a label outside the heap before: it misses `o`, so it misses the pieces
    have hpo : p ≠ o ∧ p ∉ h ∧ p ∈ s := by
      rcases (mem_applyNormCb ..).1 hp with e | e | e | ⟨hps, hpo⟩
      · exact absurd ((hm p).2 (.inl e)) hph
      · exact absurd ((hm p).2 (.inr (.inl e))) hph
      · exact absurd ((hm p).2 (.inr (.inr (.inl e)))) hph
      · exact ⟨hpo, fun hh => hph ((hm p).2 (.inr (.inr (.inr ⟨hh, hpo⟩)))), hps⟩
    have key : ∀ r : Range, o.b ≤ r.b → r.e ≤ o.e → p.e < r.b ∨ r.e < p.b := fun r h1 h2 =>
      (hinv.fin p hpo.2.2 hpo.2.1 o hos (Ne.symm hpo.1)).imp (fun h => Int.lt_of_lt_of_le h h1)
        (fun h => Int.lt_of_le_of_lt h2 h)
    rcases (mem_applyNormCb ..).1 hq with rfl | rfl | rfl | ⟨hqs, _⟩
    · exact key _ hc.1 (Int.le_of_eq hc.2.2.2)
    · exact key _ hb.1 hb.2.2.2
    · exact key _ (Int.le_of_eq ha.1.symm) ha.2.2
    · exact hinv.fin p hpo.2.2 hpo.2.1 q hqs hne

/-- What an iteration from heap `h` and labels `s` to heap `h'` with the calls `cbs` has to give for the induction:
the invariant again, calls that split (`CbsOk`), a smaller measure. -/
structure StepOk (h s h' : List Range) (cbs : List NormCb) : Prop where
  inv : NInv h' (cbs.foldl applyNormCb s)
  cbs : CbsOk s cbs
  dec : total h' < total h

theorem total_push2 (a b : Range) (l : List Range) :
    total (heapPush a (heapPush b l)) ≤ total l + a.len + b.len := by
  have := total_heapPush_le a (heapPush b l)
  have := total_heapPush_le b l
  omega

theorem total_push3 (a b c : Range) (l : List Range) :
    total (heapPush a (heapPush b (heapPush c l))) ≤ total l + a.len + b.len + c.len := by
  have := total_heapPush_le a (heapPush b (heapPush c l))
  have := total_push2 b c l
  omega

theorem mem_cons_self_and_ne {o r : Range} {l : List Range} (ho : o ∉ l) :
    r ∈ o :: l ∧ r ≠ o ↔ r ∈ l :=
  ⟨fun ⟨hr, hne⟩ => (List.mem_cons.1 hr).resolve_left hne,
    fun hr => ⟨List.mem_cons_of_mem _ hr, fun e => ho (e ▸ hr)⟩⟩

theorem mem_cons_and_ne {x o r : Range} {l : List Range} (hx : x ≠ o) :
    r ∈ x :: l ∧ r ≠ o ↔ r = x ∨ (r ∈ l ∧ r ≠ o) := by
  rw [List.mem_cons, or_and_right, and_iff_left_of_imp (fun e => e ▸ hx)]

theorem mem_heapPush_and_ne {x o r : Range} {l : List Range} (hx : x ≠ o) :
    r ∈ heapPush x l ∧ r ≠ o ↔ r = x ∨ (r ∈ l ∧ r ≠ o) := by
  rw [mem_heapPush, or_and_right, and_iff_left_of_imp (fun e => e ▸ hx)]

theorem NInv.step {x y : Range} {rest s : List Range} (h : NInv (x :: y :: rest) s) :
    ∃ h' cbs, Iter (x :: y :: rest) h' cbs ∧ StepOk (x :: y :: rest) s h' cbs := by
  have hs := h.hsorted
  unfold SortedLt at hs
  rw [List.pairwise_cons, List.pairwise_cons] at hs
  obtain ⟨hx, hy, hrest⟩ := hs
  have hsy : SortedLt (y :: rest) := List.pairwise_cons.2 ⟨hy, hrest⟩
  have hxy := hx y (List.mem_cons_self ..)
  have hxm : x ∈ x :: y :: rest := List.mem_cons_self ..
  have hvx : Valid x := h.valid x (h.sub x hxm)
  have hvy : Valid y := h.valid y (h.sub y (List.mem_cons_of_mem _ (List.mem_cons_self ..)))
  have hne : x ≠ y := by rintro rfl; exact lt_irrefl x hxy
  have hmx : ∀ r, r ∈ x :: y :: rest ∧ r ≠ x ↔ r ∈ y :: rest := fun r =>
    mem_cons_self_and_ne fun hm => lt_irrefl x (hx x hm)
  have hmy : ∀ r, r ∈ y :: rest ∧ r ≠ y ↔ r ∈ rest := fun r =>
    mem_cons_self_and_ne fun hm => lt_irrefl y (hy y hm)
  rw [lt_iff] at hxy
  unfold Valid at hvx hvy
  rcases hxy with hb | ⟨hb, he⟩
  · by_cases hskip : x.e < y.b
    · refine ⟨_, _, iter_skip rest (by omega) hskip, h.pop hskip, trivial, ?_⟩
      have := len_pos (r := x) hvx
      simp only [total_cons]; omega
    · rcases Int.lt_trichotomy x.e y.e with he | he | he
      · -- proper overlap: `x` is cut at `y.b`, then `y` at `x.e`
        have hay : (⟨x.b, y.b - 1⟩ : Range) ≠ y := range_ne (Or.inl (by show x.b ≠ y.b; omega))
        have hby : (⟨y.b, x.e⟩ : Range) ≠ y := range_ne (Or.inr (by show x.e ≠ y.e; omega))
        obtain ⟨h1, g1⟩ := h.split (a := ⟨x.b, y.b - 1⟩) (b := ⟨y.b, x.e⟩) (c := ⟨y.b, x.e⟩)
          (h' := heapPush ⟨y.b, x.e⟩ (heapPush ⟨x.b, y.b - 1⟩ (y :: rest))) hxm
          (by unfold Splits; dsimp only; omega)
          (sortedLt_heapPush _ _ (sortedLt_heapPush _ _ hsy))
          (fun r => by simp only [mem_heapPush, hmx, or_self_left])
        obtain ⟨h2, g2⟩ := h1.split (o := y) (a := ⟨y.b, x.e⟩) (b := ⟨x.e + 1, y.e⟩) (c := ⟨x.e + 1, y.e⟩)
          (h' := heapPush ⟨x.e + 1, y.e⟩ (heapPush ⟨y.b, x.e⟩ (heapPush ⟨x.b, y.b - 1⟩ rest)))
          (by simp [mem_heapPush])
          (by unfold Splits; dsimp only; omega)
          (sortedLt_heapPush _ _ (sortedLt_heapPush _ _ (sortedLt_heapPush _ _ hrest)))
          (fun r => by
            simp only [mem_heapPush_and_ne hby, mem_heapPush_and_ne hay, hmy]
            simp only [mem_heapPush, or_self_left])
        refine ⟨_, _, iter_overlap rest hb he (by omega), h2, ⟨g1, g2, trivial⟩, ?_⟩
        have := total_push3 ⟨x.e + 1, y.e⟩ ⟨y.b, x.e⟩ ⟨x.b, y.b - 1⟩ rest
        simp only [total_cons, Range.len] at this ⊢
        omega
      · -- same end: `x` is cut at `y.b`
        obtain ⟨h1, g1⟩ := h.split (a := ⟨x.b, y.b - 1⟩) (b := y) (c := y)
          (h' := heapPush ⟨x.b, y.b - 1⟩ (y :: rest)) hxm
          (by unfold Splits; dsimp only; omega)
          (sortedLt_heapPush _ _ hsy)
          (fun r => by
            simp only [hmx]
            simp only [mem_heapPush, List.mem_cons, or_self_left, or_left_comm])
        refine ⟨_, _, iter_sameEnd rest hb he hvy, h1, ⟨g1, trivial⟩, ?_⟩
        have := total_heapPush_le ⟨x.b, y.b - 1⟩ (y :: rest)
        simp only [total_cons, Range.len] at this ⊢
        omega
      · -- `y` strictly inside `x`
        obtain ⟨h1, g1⟩ := h.split (a := ⟨x.b, y.b - 1⟩) (b := y) (c := ⟨y.e + 1, x.e⟩)
          (h' := heapPush ⟨y.e + 1, x.e⟩ (heapPush ⟨x.b, y.b - 1⟩ (y :: rest))) hxm
          (by unfold Splits; dsimp only; omega)
          (sortedLt_heapPush _ _ (sortedLt_heapPush _ _ hsy))
          (fun r => by
            simp only [hmx]
            simp only [mem_heapPush, List.mem_cons, or_self_left, or_left_comm])
        refine ⟨_, _, iter_nested rest hb he hvy, h1, ⟨g1, trivial⟩, ?_⟩
        have := total_push2 ⟨y.e + 1, x.e⟩ ⟨x.b, y.b - 1⟩ (y :: rest)
        simp only [total_cons, Range.len] at this ⊢
        omega
  · -- same start, `x` shorter: `y` is cut at `x.e`
    obtain ⟨h1, g1⟩ := h.split (o := y) (a := x) (b := ⟨x.e + 1, y.e⟩) (c := ⟨x.e + 1, y.e⟩)
      (h' := heapPush ⟨x.e + 1, y.e⟩ (heapPush x rest)) (List.mem_cons_of_mem _ (List.mem_cons_self ..))
      (by unfold Splits; dsimp only; omega)
      (sortedLt_heapPush _ _ (sortedLt_heapPush _ _ hrest))
      (fun r => by simp only [mem_heapPush, mem_cons_and_ne hne, hmy, or_self_left])
    refine ⟨_, _, iter_sameStart rest hb he hvx, h1, ⟨g1, trivial⟩, ?_⟩
    have := total_push2 ⟨x.e + 1, y.e⟩ x rest
    simp only [total_cons, Range.len] at this ⊢
    omega

theorem NInv.final {h s : List Range} (hinv : NInv h s) (hlen : h.length ≤ 1) :
    s.Pairwise (fun p q => p.e < q.b) := by
  have hdis : ∀ p ∈ s, ∀ q ∈ s, p ≠ q → p.e < q.b ∨ q.e < p.b := by
    intro p hp q hq hne
    by_cases hph : p ∈ h
    · by_cases hqh : q ∈ h
      · obtain ⟨z, rfl⟩ : ∃ z, h = [z] := by
          cases h with
          | nil => cases hph
          | cons z t => cases t with
            | nil => exact ⟨z, rfl⟩
            | cons _ _ =>
              simp only [List.length_cons] at hlen
              omega
        exact absurd ((List.mem_singleton.1 hph).trans (List.mem_singleton.1 hqh).symm) hne
      · exact (hinv.fin q hq hqh p hp hne).symm
    · exact hinv.fin p hp hph q hq (Ne.symm hne)
  have hs := hinv.ssorted
  unfold SortedLt at hs
  refine List.Pairwise.imp_of_mem ?_ hs
  intro p q hp hq hlt
  have hne : p ≠ q := fun hh => by subst hh; exact lt_irrefl p hlt
  have hvq := hinv.valid q hq
  unfold Valid at hvq
  rw [lt_iff] at hlt
  rcases hdis p hp q hq hne with h1 | h1
  · exact h1
  · omega

/-- From a heap and label set that satisfy the invariant the loop of `Normalize` ends on any fuel above `total h` without
reaching its `panic("not reached")`; each of its calls `L` splits a label present at that moment (`CbsOk`), and the labels
left at the end are non-empty, increasing and pairwise disjoint. -/
theorem normalizeLoop_spec (h s : List Range) (hinv : NInv h s) :
    ∃ L, (∀ fuel log, total h < fuel → normalizeLoop fuel h log = some (log.reverse ++ L)) ∧ CbsOk s L ∧
      (∀ p ∈ L.foldl applyNormCb s, Valid p) ∧ (L.foldl applyNormCb s).Pairwise (fun p q => p.e < q.b) := by
  induction hn : total h using Nat.strongRecOn generalizing h s with
  | ind n ih =>
    subst hn
    match h, hinv with
    | [], hinv =>
      refine ⟨[], fun fuel log hf => ?_, trivial, hinv.valid, hinv.final (Nat.zero_le 1)⟩
      obtain ⟨f, rfl⟩ : ∃ f, fuel = f + 1 := ⟨fuel - 1, by omega⟩
      simp [normalizeLoop]
    | [x], hinv =>
      refine ⟨[], fun fuel log hf => ?_, trivial, hinv.valid, hinv.final (Nat.le_refl 1)⟩
      obtain ⟨f, rfl⟩ : ∃ f, fuel = f + 1 := ⟨fuel - 1, by omega⟩
      simp [normalizeLoop]
    | x :: y :: rest, hinv =>
      obtain ⟨h', cbs, hiter, hinv', hcbs, hdec⟩ := hinv.step
      obtain ⟨L, hL, hcbs', hfin⟩ := ih _ hdec h' _ hinv' rfl
      refine ⟨cbs ++ L, fun fuel log hf => ?_, cbsOk_append hcbs hcbs', ?_⟩
      · obtain ⟨f, rfl⟩ : ∃ f, fuel = f + 1 := ⟨fuel - 1, by omega⟩
        rw [hiter, hL f _ (by omega)]
        simp
      · rw [List.foldl_append]; exact hfin

theorem ninv_init (rs : List Range) (hv : ∀ r ∈ rs, Valid r) : NInv (heapOf rs) (heapOf rs) :=
  ⟨sortedLt_heapOf rs, sortedLt_heapOf rs, fun r hr => hv r ((mem_heapOf rs r).1 hr), fun _ hr => hr,
    fun _ hp hph => absurd hp hph⟩

theorem total_lt_fuel (rs : List Range) : total (heapOf rs) < normalizeFuel rs := by
  have := total_heapOf_le rs
  unfold normalizeFuel
  unfold total at *
  omega

theorem normalize_spec (rs : List Range) (hv : ∀ r ∈ rs, Valid r) :
    ∃ L, normalize rs = some L ∧ CbsOk (heapOf rs) L ∧ (∀ p ∈ L.foldl applyNormCb (heapOf rs), Valid p) ∧
      (L.foldl applyNormCb (heapOf rs)).Pairwise (fun p q => p.e < q.b) := by
  obtain ⟨L, hL, rest⟩ := normalizeLoop_spec _ _ (ninv_init rs hv)
  exact ⟨L, hL _ [] (total_lt_fuel rs), rest⟩

theorem normalizePieces_spec (rs : List Range) (hv : ∀ r ∈ rs, Valid r) :
    ∃ ps, normalizePieces rs = some ps ∧ (∀ p ∈ ps, Valid p) ∧ ps.Pairwise (fun p q => p.e < q.b) ∧
      Refines rs ps := by
  obtain ⟨L, hL, hcbs, hval, hdis⟩ := normalize_spec rs hv
  exact ⟨_, by simp [normalizePieces, hL], hval, hdis,
    (refines_of_cbsOk hcbs).congr_left (mem_heapOf rs)⟩

theorem normalizePieces_some {rs ps : List Range} (hv : ∀ r ∈ rs, Valid r)
    (h : normalizePieces rs = some ps) :
    (∀ p ∈ ps, Valid p) ∧ ps.Pairwise (fun p q => p.e < q.b) ∧ Refines rs ps := by
  obtain ⟨ps', hps, hspec⟩ := normalizePieces_spec rs hv
  cases hps.symm.trans h
  exact hspec

theorem disjoint_eq_of_common {ps : List Range} (hp : ps.Pairwise (fun p q => p.e < q.b))
    {p q : Range} (hpm : p ∈ ps) (hqm : q ∈ ps) {c : Int}
    (h1 : p.b ≤ c ∧ c ≤ p.e) (h2 : q.b ≤ c ∧ c ≤ q.e) : p = q := by
  induction ps with
  | nil => simp at hpm
  | cons z zs ih =>
    rw [List.pairwise_cons] at hp
    rcases List.mem_cons.1 hpm with rfl | hpm' <;> rcases List.mem_cons.1 hqm with rfl | hqm'
    · rfl
    · have := hp.1 q hqm'; omega
    · have := hp.1 p hpm'; omega
    · exact ih hp.2 hpm' hqm'

end Lox.Rang3
