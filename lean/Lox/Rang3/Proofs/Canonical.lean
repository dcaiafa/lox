import Lox.Rang3.Proofs.Flatten
/-! Canonical lists are determined by their denotation; consequences for the sort in `Flatten`. -/
namespace Lox.Rang3

/-- How the first range of a canonical list shows in the denotation: it begins at the least code point,
ends where the first gap begins, and the rest is what lies behind that gap. -/
theorem flat_head_spec {x : Range} {xs : List Range} (h : Flat (x :: xs)) (c : Int) :
    (Den (x :: xs) c → x.b ≤ c) ∧ (x.b ≤ c → c ≤ x.e → Den (x :: xs) c) ∧ ¬ Den (x :: xs) (x.e + 1) ∧
      (Den xs c ↔ Den (x :: xs) c ∧ x.e < c) := by
  obtain ⟨hv, hgap, _⟩ := (flat_cons x xs).1 h
  have hv : x.b ≤ x.e := hv
  have hgt : ∀ {k}, Den xs k → x.e + 1 < k := den_gt_of hgap
  simp only [den_cons]
  refine ⟨?_, fun h1 h2 => Or.inl ⟨h1, h2⟩, ?_, fun hc => ⟨Or.inr hc, by have := hgt hc; omega⟩, ?_⟩
  · rintro (h1 | h1)
    · exact h1.1
    · have := hgt h1; omega
  · rintro (h1 | h1)
    · omega
    · exact Int.lt_irrefl _ (hgt h1)
  · rintro ⟨h1 | h1, h2⟩
    · omega
    · exact h1

theorem flat_unique {l1 l2 : List Range} (h1 : Flat l1) (h2 : Flat l2)
    (h : ∀ c, Den l1 c ↔ Den l2 c) : l1 = l2 := by
  induction l1 generalizing l2 with
  | nil =>
    cases l2 with
    | nil => rfl
    | cons y ys =>
      have hv : y.b ≤ y.e := ((flat_cons y ys).1 h2).1
      exact absurd ((h y.b).2 ((flat_head_spec h2 y.b).2.1 (Int.le_refl _) hv)) (by simp [den_nil])
  | cons x xs ih =>
    have hvx : x.b ≤ x.e := ((flat_cons x xs).1 h1).1
    cases l2 with
    | nil => exact absurd ((h x.b).1 ((flat_head_spec h1 x.b).2.1 (Int.le_refl _) hvx)) (by simp [den_nil])
    | cons y ys =>
      have hvy : y.b ≤ y.e := ((flat_cons y ys).1 h2).1
      -- each head starts inside the other list, and its end is followed by a gap there
      have hb1 := (flat_head_spec h2 x.b).1 ((h _).1 ((flat_head_spec h1 x.b).2.1 (Int.le_refl _) hvx))
      have hb2 := (flat_head_spec h1 y.b).1 ((h _).2 ((flat_head_spec h2 y.b).2.1 (Int.le_refl _) hvy))
      have he1 : ¬ (y.b ≤ x.e + 1 ∧ x.e + 1 ≤ y.e) := fun hh =>
        (flat_head_spec h1 0).2.2.1 ((h _).2 ((flat_head_spec h2 _).2.1 hh.1 hh.2))
      have he2 : ¬ (x.b ≤ y.e + 1 ∧ y.e + 1 ≤ x.e) := fun hh =>
        (flat_head_spec h2 0).2.2.1 ((h _).1 ((flat_head_spec h1 _).2.1 hh.1 hh.2))
      obtain rfl : x = y := range_ext (by omega) (by omega)
      congr 1
      refine ih ((flat_cons x xs).1 h1).2.2 ((flat_cons x ys).1 h2).2.2 fun c => ?_
      rw [(flat_head_spec h1 c).2.2.2, (flat_head_spec h2 c).2.2.2, h c]

theorem Canon.unique {l1 l2 : List Range} {S : Int → Prop} (h1 : Canon l1 S) (h2 : Canon l2 S) : l1 = l2 :=
  flat_unique h1.flat h2.flat fun c => (h1.den c).trans (h2.den c).symm

/-- The merge loop gives the same ranges for every arrangement of the input that is sorted by lower
bound – in particular for whatever the unstable second sort in `Flatten` produces. -/
theorem flattenLoop_any_order (rs l : List Range) (hv : ∀ r ∈ rs, Valid r) (hs : SortedB l)
    (hm : ∀ x, x ∈ l ↔ x ∈ rs) : (flattenLoop l [] []).1 = flatten rs :=
  ((flattenLoop_canon _ _ _ (loopInv_init hs fun r hr => hv r ((hm r).1 hr))).congr fun c => by
    simp [den_nil, den_congr hm]).unique (flatten_canon rs hv)

end Lox.Rang3
