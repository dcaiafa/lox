import Lox.Rang3.ClassExpr
import Lox.Rang3.Proofs.FlattenLog
/-! Effect of the split and merge callbacks on the transitions of one state: the code points that lead
to each target (`DenT`) stay the same. Read by `Props/C15`. -/
namespace Lox.Rang3

def DenT (t : Trans) (q : Nat) (c : Int) : Prop := ∃ p ∈ t, p.2 = q ∧ p.1.b ≤ c ∧ c ≤ p.1.e

theorem mem_relabelSplit (t : Trans) (cb : NormCb) (p : Range × Nat) :
    p ∈ relabelSplit t cb ↔
      (p ∈ t ∧ p.1 ≠ cb.o) ∨ ((cb.o, p.2) ∈ t ∧ (p.1 = cb.a ∨ p.1 = cb.b ∨ p.1 = cb.c)) := by
  obtain ⟨r, q⟩ := p
  simp only [relabelSplit, List.mem_append, List.mem_filter, List.mem_flatMap, List.mem_map,
    decide_eq_true_eq]
  refine or_congr_right ⟨?_, fun ⟨hm, h⟩ => ⟨q, ⟨(cb.o, q), ⟨hm, rfl⟩, rfl⟩, ?_⟩⟩
  · rintro ⟨q', ⟨⟨r', q''⟩, ⟨hm, rfl⟩, rfl⟩, h⟩
    rw [cb.mem_pieces (fun x => (x, q''))] at h
    simp only [Prod.mk.injEq] at h
    obtain rfl : q = q'' := by rcases h with h | h | h <;> exact h.2
    exact ⟨hm, by simpa using h⟩
  · rw [cb.mem_pieces (fun x => (x, q))]
    simpa using h

theorem denT_iff (t : Trans) (q : Nat) (k : Int) :
    DenT t q k ↔ ∃ r, (r, q) ∈ t ∧ r.b ≤ k ∧ k ≤ r.e :=
  ⟨fun ⟨p, hp, hq, hk⟩ => ⟨p.1, hq ▸ hp, hk⟩, fun ⟨r, hr, hk⟩ => ⟨(r, q), hr, rfl, hk⟩⟩

theorem relabelSplit_denT (t : Trans) {s : List Range} (cb : NormCb) (h : GoodCb s cb)
    (q : Nat) (k : Int) : DenT (relabelSplit t cb) q k ↔ DenT t q k := by
  rw [denT_iff, denT_iff]
  exact h.den_split (fun r => mem_relabelSplit t cb (r, q)) k

theorem relabelSplit_fold_denT (t : Trans) (s : List Range) (log : List NormCb) (h : CbsOk s log)
    (q : Nat) (k : Int) : DenT (log.foldl relabelSplit t) q k ↔ DenT t q k := by
  induction log generalizing t s with
  | nil => rfl
  | cons cb log ih =>
    simp only [List.foldl_cons]
    rw [ih _ _ h.2]
    exact relabelSplit_denT t cb h.1 q k

theorem flattenLoop_log_form (l acc : List Range) :
    ∀ cb ∈ (flattenLoop l acc []).2, cb.n = ⟨min cb.oa.b cb.ob.b, max cb.oa.e cb.ob.e⟩ := by
  induction l generalizing acc with
  | nil => simp [flattenLoop]
  | cons r rs ih =>
    cases acc with
    | nil => simp only [flattenLoop]; exact ih _
    | cons tip acc =>
      by_cases ht : tip.touches r = true
      · rw [flattenLoop_touch rs acc ht]
        intro cb hcb
        rcases List.mem_cons.1 hcb with rfl | hcb
        · rfl
        · exact ih _ cb hcb
      · rw [flattenLoop_notouch rs acc ht]; exact ih _

theorem mem_relabelMerge (t : Trans) (cb : FlatCb) (q : Nat) (p : Range × Nat) :
    p ∈ relabelMerge t cb q ↔ p = (cb.n, q) ∨ (p ∈ t ∧ p.1 ≠ cb.oa ∧ p.1 ≠ cb.ob ∧ p.1 ≠ cb.n) := by
  simp [relabelMerge, List.mem_filter, and_assoc]

/-- Folding the callbacks of one `Flatten` run (group of target `q`) over the transitions of a DFA
state: the code points leading to each target stay the same. -/
theorem relabelMerge_fold (t0 : Trans) (q : Nat) (hval0 : ∀ p ∈ t0, Valid p.1)
    (hdet : ∀ q1 q2 c, DenT t0 q1 c → DenT t0 q2 c → q1 = q2)
    (log : List FlatCb) (s : List Range) (t : Trans)
    (hok : MergeOk s log) (hasr : MergeAsserts s log)
    (hform : ∀ cb ∈ log, cb.n = ⟨min cb.oa.b cb.ob.b, max cb.oa.e cb.ob.e⟩)
    (h1 : ∀ x, x ∈ s ↔ (x, q) ∈ t) (h2 : ∀ p : Range × Nat, p.2 ≠ q → (p ∈ t ↔ p ∈ t0))
    (h3 : ∀ c, Den s c ↔ DenT t0 q c) (h4 : ∀ x ∈ s, Valid x) :
    (∀ q' c, DenT (log.foldl (fun t cb => relabelMerge t cb q) t) q' c ↔ DenT t0 q' c) ∧
      ∀ p ∈ log.foldl (fun t cb => relabelMerge t cb q) t, Valid p.1 := by
  induction log generalizing s t with
  | nil =>
    simp only [List.foldl_nil]
    constructor
    · intro q' c
      by_cases hq : q' = q
      · subst hq
        rw [← h3 c]
        constructor
        · rintro ⟨p, hp, hpq, hc⟩
          obtain ⟨x, y⟩ := p
          simp only at hpq; subst hpq
          exact ⟨x, (h1 x).2 hp, hc⟩
        · rintro ⟨x, hx, hc⟩
          exact ⟨(x, q'), (h1 x).1 hx, rfl, hc⟩
      · constructor
        · rintro ⟨p, hp, hpq, hc⟩
          exact ⟨p, (h2 p (by rw [hpq]; exact hq)).1 hp, hpq, hc⟩
        · rintro ⟨p, hp, hpq, hc⟩
          exact ⟨p, (h2 p (by rw [hpq]; exact hq)).2 hp, hpq, hc⟩
    · intro p hp
      by_cases hq : p.2 = q
      · obtain ⟨x, y⟩ := p
        simp only at hq; subst hq
        exact h4 x ((h1 x).2 hp)
      · exact hval0 p ((h2 p hq).1 hp)
  | cons cb log ih =>
    simp only [List.foldl_cons]
    obtain ⟨hden, hok'⟩ := hok
    obtain ⟨⟨hoa, hob⟩, hasr'⟩ := hasr
    have hn := hform cb (List.mem_cons_self ..)
    have hvoa : Valid cb.oa := h4 _ hoa
    have hvn : Valid cb.n := by
      unfold Valid at hvoa ⊢
      rw [hn]
      show min cb.oa.b cb.ob.b ≤ max cb.oa.e cb.ob.e
      omega
    have hns : cb.n ∈ applyFlatCb s cb := (mem_applyFlatCb ..).2 (Or.inl rfl)
    -- a label of another target is never a (valid) label whose points lead to `q`
    have hK : ∀ x, Valid x → Den s x.b → ∀ p ∈ t0, p.2 ≠ q → p.1 ≠ x := by
      intro x hvx hx p hp hpq hpx
      have hd1 : DenT t0 q x.b := (h3 _).1 hx
      have hd2 : DenT t0 p.2 x.b := ⟨p, hp, rfl, by rw [hpx]; exact ⟨Int.le_refl _, hvx⟩⟩
      exact hpq (hdet _ _ _ hd2 hd1)
    have hdoa : Den s cb.oa.b := ⟨cb.oa, hoa, Int.le_refl _, hvoa⟩
    have hdob : Den s cb.ob.b := ⟨cb.ob, hob, Int.le_refl _, h4 _ hob⟩
    have hdn : Den s cb.n.b := (hden _).1 ⟨cb.n, hns, Int.le_refl _, hvn⟩
    refine ih (applyFlatCb s cb) (relabelMerge t cb q) hok' hasr'
      (fun cb' h' => hform cb' (List.mem_cons_of_mem _ h')) ?_ ?_ ?_ ?_
    · intro x
      rw [mem_applyFlatCb, mem_relabelMerge, h1 x]
      simp only [Prod.mk.injEq, and_true]
      by_cases hx : x = cb.n
      · simp [hx]
      · simp [hx]
    · intro p hpq
      rw [mem_relabelMerge, ← h2 p hpq]
      constructor
      · rintro (h | h)
        · rw [h] at hpq; exact absurd rfl hpq
        · exact h.1
      · intro hp
        have hp0 := (h2 p hpq).1 hp
        exact Or.inr ⟨hp, hK _ hvoa hdoa p hp0 hpq, hK _ (h4 _ hob) hdob p hp0 hpq, hK _ hvn hdn p hp0 hpq⟩
    · intro c; exact (hden c).trans (h3 c)
    · intro x hx
      rcases (mem_applyFlatCb ..).1 hx with rfl | ⟨hx, _⟩
      · exact hvn
      · exact h4 x hx

end Lox.Rang3
