import Lox.Rang3.Proofs.Flatten
/-! `Subtract` (range.go): the two-cursor loop, one iteration at a time. -/
namespace Lox.Rang3

theorem subtractLoop_zero (a b r : List Range) : subtractLoop 0 a b r = r.reverse ++ a := by
  simp [subtractLoop]

/-! In the case lemmas `ea` is the top of the result stack and `eb = b[0]`. -/

theorem subtractLoop_nil (fuel : Nat) (a r : List Range) : subtractLoop fuel a [] r = r.reverse ++ a := by
  cases fuel <;> simp [subtractLoop]

theorem subtractLoop_exit {eb : Range} {b r : List Range} (hr : ∀ x ∈ r.head?, x.e < eb.b) (fuel : Nat) :
    subtractLoop fuel [] (eb :: b) r = r.reverse ++ [] := by
  cases fuel with
  | zero => simp [subtractLoop]
  | succ fuel =>
    cases r with
    | nil => simp [subtractLoop]
    | cons ea r => simp [subtractLoop, hr ea rfl]

theorem subtractLoop_push {a0 eb : Range} {a b r : List Range} (hr : ∀ x ∈ r.head?, x.e < eb.b) (fuel : Nat) :
    subtractLoop (fuel + 1) (a0 :: a) (eb :: b) r = subtractLoop fuel a (eb :: b) (a0 :: r) := by
  cases r with
  | nil => simp [subtractLoop]
  | cons ea r => simp [subtractLoop, hr ea rfl]

theorem subtractLoop_dropB {ea eb : Range} {a b r : List Range} (h0 : ¬ ea.e < eb.b) (h1 : eb.e < ea.b)
    (fuel : Nat) :
    subtractLoop (fuel + 1) a (eb :: b) (ea :: r) = subtractLoop fuel a b (ea :: r) := by
  simp [subtractLoop, h0, h1]

theorem subtractLoop_pop {ea eb : Range} {a b r : List Range} (hc1 : eb.b ≤ ea.b) (hc2 : ea.e ≤ eb.e)
    (hv : ea.b ≤ ea.e) (fuel : Nat) :
    subtractLoop (fuel + 1) a (eb :: b) (ea :: r) = subtractLoop fuel a (eb :: b) r := by
  have h0 : ¬ ea.e < eb.b := by omega
  have h1 : ¬ eb.e < ea.b := by omega
  simp [subtractLoop, h0, h1, hc1, hc2]

theorem subtractLoop_split {ea eb : Range} {a b r : List Range} (hc1 : ea.b < eb.b) (hc2 : eb.e < ea.e)
    (hv : eb.b ≤ eb.e) (fuel : Nat) :
    subtractLoop (fuel + 1) a (eb :: b) (ea :: r) =
      subtractLoop fuel a (eb :: b) (⟨eb.b + 1, ea.e⟩ :: ⟨ea.b, eb.b - 1⟩ :: r) := by
  have h0 : ¬ ea.e < eb.b := by omega
  have h1 : ¬ eb.e < ea.b := by omega
  have h2 : ¬ eb.b ≤ ea.b := by omega
  simp [subtractLoop, h0, h1, h2, hc1, hc2]

theorem subtractLoop_cutRight {ea eb : Range} {a b r : List Range} (h0 : ¬ ea.e < eb.b) (hc1 : ea.b < eb.b)
    (hc2 : ea.e ≤ eb.e) (fuel : Nat) :
    subtractLoop (fuel + 1) a (eb :: b) (ea :: r) = subtractLoop fuel a (eb :: b) (⟨ea.b, eb.b - 1⟩ :: r) := by
  have h1 : ¬ eb.e < ea.b := by omega
  have h2 : ¬ eb.b ≤ ea.b := by omega
  have h3 : ¬ eb.e < ea.e := by omega
  simp [subtractLoop, h0, h1, h2, h3, hc1, hc2]

theorem subtractLoop_cutLeft {ea eb : Range} {a b r : List Range} (h1 : ¬ eb.e < ea.b) (hc1 : eb.b ≤ ea.b)
    (hc2 : eb.e < ea.e) (fuel : Nat) :
    subtractLoop (fuel + 1) a (eb :: b) (ea :: r) = subtractLoop fuel a (eb :: b) (⟨eb.e + 1, ea.e⟩ :: r) := by
  have h0 : ¬ ea.e < eb.b := by omega
  have h2 : ¬ ea.b < eb.b := by omega
  have h3 : ¬ ea.e ≤ eb.e := by omega
  simp [subtractLoop, h0, h1, h2, h3, hc1, hc2]

/-- Invariant of the loop in `Subtract`: `a`, `b` in canonical form, the result stack `r` in canonical
form read from the top and entirely before the rest of `a`; everything below the top of `r` ends
before the rest of `b` begins. -/
structure SubInv (a b r : List Range) : Prop where
  fa : Flat a
  fb : Flat b
  fr : FlatD r
  ra : ∀ x ∈ r, ∀ y ∈ a, x.e + 1 < y.b
  rb : ∀ x ∈ r.tail, ∀ y ∈ b, x.e < y.b

/-- What the state still stands for: `(⟦r⟧ ∪ ⟦a⟧) \ ⟦b⟧`. -/
def subSem (a b r : List Range) (c : Int) : Prop := (Den r c ∨ Den a c) ∧ ¬ Den b c

/-- How many more iterations can happen before `a` or `b` loses an element: none when the top of `r`
misses `b[0]`; two when `b[0]` lies strictly inside it (the cut leaves `eb.b + 1 … ea.e` on top, which
is cut once more); one otherwise. -/
def subPhase : List Range → List Range → Nat
  | eb :: _, ea :: _ =>
    if ea.e < eb.b ∨ eb.e < ea.b then 0 else if ea.b < eb.b ∧ eb.e < ea.e then 2 else 1
  | _, _ => 0

def subMeasure (a b r : List Range) : Nat := 3 * (a.length + b.length) + subPhase b r

theorem subPhase_le (b r : List Range) : subPhase b r ≤ 2 := by
  unfold subPhase
  split
  · split
    · omega
    · split <;> omega
  · omega

theorem subPhase_miss {ea eb : Range} (b r : List Range) (h : ea.e < eb.b ∨ eb.e < ea.b) :
    subPhase (eb :: b) (ea :: r) = 0 := if_pos h

theorem subPhase_before {eb : Range} {b r : List Range} (h : ∀ x ∈ r.head?, x.e < eb.b) :
    subPhase (eb :: b) r = 0 := by
  cases r with
  | nil => rfl
  | cons x r => exact subPhase_miss b r (Or.inl (h x rfl))

theorem subPhase_pos {ea eb : Range} (b r : List Range) (h : ¬ (ea.e < eb.b ∨ eb.e < ea.b)) :
    1 ≤ subPhase (eb :: b) (ea :: r) := by
  simp only [subPhase]
  rw [if_neg h]
  split <;> omega

theorem subPhase_le_one {ea eb : Range} (b r : List Range) (h : ¬ (ea.b < eb.b ∧ eb.e < ea.e)) :
    subPhase (eb :: b) (ea :: r) ≤ 1 := by
  simp only [subPhase]
  rw [if_neg h]
  split <;> omega

theorem subPhase_inside {ea eb : Range} (b r : List Range) (h1 : ea.b < eb.b) (h2 : eb.e < ea.e)
    (hv : eb.b ≤ eb.e) : subPhase (eb :: b) (ea :: r) = 2 := by
  simp only [subPhase]
  rw [if_neg (by omega), if_pos ⟨h1, h2⟩]

structure SubStep (a b r a' b' r' : List Range) : Prop where
  loop : ∀ fuel, subtractLoop (fuel + 1) a b r = subtractLoop fuel a' b' r'
  inv : SubInv a' b' r'
  dec : subMeasure a' b' r' < subMeasure a b r
  sem : ∀ c, subSem a' b' r' c ↔ subSem a b r c

/-- While `b[0]` stays, only the code points outside it matter. -/
theorem subSem_congr {eb : Range} {a b r r' : List Range}
    (h : ∀ c, ¬ (eb.b ≤ c ∧ c ≤ eb.e) → (Den r' c ↔ Den r c)) (c : Int) :
    subSem a (eb :: b) r' c ↔ subSem a (eb :: b) r c := by
  unfold subSem
  rw [den_cons]
  by_cases hc : eb.b ≤ c ∧ c ≤ eb.e
  · simp [hc]
  · rw [h c hc]

theorem SubInv.before {eb : Range} {a b r : List Range} (h : SubInv a (eb :: b) r)
    (hr : ∀ x ∈ r.head?, x.e < eb.b) : ∀ x ∈ r, x.e < eb.b := by
  cases r with
  | nil => simp
  | cons ea r =>
    intro x hx
    rcases List.mem_cons.1 hx with rfl | hx
    · exact hr x rfl
    · exact h.rb x hx eb (List.mem_cons_self ..)

theorem sub_exit_a {eb : Range} {b r : List Range} (h : SubInv [] (eb :: b) r)
    (hr : ∀ x ∈ r.head?, x.e < eb.b) (c : Int) : Den (r.reverse ++ []) c ↔ subSem [] (eb :: b) r c := by
  have hb := (flat_cons eb b).1 h.fb
  have h1 : Den r c → c < eb.b := den_lt_of (h.before hr)
  have h2 : Den b c → eb.e + 1 < c := den_gt_of hb.2.1
  have hv : eb.b ≤ eb.e := hb.1
  simp only [subSem, den_append, den_reverse, den_nil, den_cons, or_false]
  refine ⟨fun hd => ⟨hd, ?_⟩, fun hd => hd.1⟩
  rintro (hc | hc)
  · have := h1 hd; omega
  · have := h1 hd; have := h2 hc; omega

theorem sub_push {a0 eb : Range} {a b r : List Range} (h : SubInv (a0 :: a) (eb :: b) r)
    (hr : ∀ x ∈ r.head?, x.e < eb.b) : SubStep (a0 :: a) (eb :: b) r a (eb :: b) (a0 :: r) := by
  have ha := (flat_cons a0 a).1 h.fa
  have hb := (flat_cons eb b).1 h.fb
  have hrb := h.before hr
  refine ⟨subtractLoop_push hr, ⟨ha.2.2, h.fb, ?_, ?_, ?_⟩, ?_, ?_⟩
  · exact (flatD_cons a0 r).2 ⟨ha.1, fun y hy => h.ra y hy a0 (List.mem_cons_self ..), h.fr⟩
  · intro x hx y hy
    rcases List.mem_cons.1 hx with rfl | hx
    · exact ha.2.1 y hy
    · exact h.ra x hx y (List.mem_cons_of_mem _ hy)
  · intro x hx y hy
    rcases List.mem_cons.1 hy with rfl | hy
    · exact hrb x hx
    · have := hrb x hx; have := hb.2.1 y hy; have hv : eb.b ≤ eb.e := hb.1; omega
  · have := subPhase_le (eb :: b) (a0 :: r)
    simp only [subMeasure, List.length_cons]
    omega
  · intro c
    simp only [subSem, den_cons, or_assoc, or_left_comm]

theorem sub_dropB {ea eb : Range} {a b r : List Range} (h : SubInv a (eb :: b) (ea :: r))
    (h0 : ¬ ea.e < eb.b) (hc : eb.e < ea.b) : SubStep a (eb :: b) (ea :: r) a b (ea :: r) := by
  have hb := (flat_cons eb b).1 h.fb
  refine ⟨subtractLoop_dropB h0 hc,
    ⟨h.fa, hb.2.2, h.fr, h.ra, fun x hx y hy => h.rb x hx y (List.mem_cons_of_mem _ hy)⟩, ?_, ?_⟩
  · have := subPhase_le b (ea :: r)
    simp only [subMeasure, List.length_cons]
    omega
  · intro c
    have h1 : Den r c → c < eb.b := den_lt_of (fun x hx => h.rb x hx eb (List.mem_cons_self ..))
    have h2 : Den a c → ea.e + 1 < c := den_gt_of (h.ra ea (List.mem_cons_self ..))
    have hva : ea.b ≤ ea.e := ((flatD_cons ea r).1 h.fr).1
    simp only [subSem, den_cons]
    refine ⟨fun ⟨hd, hn⟩ => ⟨hd, ?_⟩, fun ⟨hd, hn⟩ => ⟨hd, fun hb => hn (Or.inr hb)⟩⟩
    rintro (hin | hb)
    · rcases hd with (hd | hd) | hd
      · omega
      · have := h1 hd; omega
      · have := h2 hd; omega
    · exact hn hb

theorem sub_pop {ea eb : Range} {a b r : List Range} (h : SubInv a (eb :: b) (ea :: r))
    (hc1 : eb.b ≤ ea.b) (hc2 : ea.e ≤ eb.e) : SubStep a (eb :: b) (ea :: r) a (eb :: b) r := by
  have hr := (flatD_cons ea r).1 h.fr
  have hva : ea.b ≤ ea.e := hr.1
  refine ⟨subtractLoop_pop hc1 hc2 hva,
    ⟨h.fa, h.fb, hr.2.2, fun x hx => h.ra x (List.mem_cons_of_mem _ hx),
      fun x hx => h.rb x (List.mem_of_mem_tail hx)⟩, ?_, subSem_congr fun c hc => ?_⟩
  · have := subPhase_pos b r (ea := ea) (eb := eb) (by omega)
    have : subPhase (eb :: b) r = 0 :=
      subPhase_before fun x hx => h.rb x (List.mem_of_mem_head? hx) eb (List.mem_cons_self ..)
    simp only [subMeasure]
    omega
  · rw [den_cons]
    exact (or_iff_right (by omega)).symm

theorem sub_split {ea eb : Range} {a b r : List Range} (h : SubInv a (eb :: b) (ea :: r))
    (hc1 : ea.b < eb.b) (hc2 : eb.e < ea.e) :
    SubStep a (eb :: b) (ea :: r) a (eb :: b) (⟨eb.b + 1, ea.e⟩ :: ⟨ea.b, eb.b - 1⟩ :: r) := by
  have hb := (flat_cons eb b).1 h.fb
  have hr := (flatD_cons ea r).1 h.fr
  have hv : eb.b ≤ eb.e := hb.1
  refine ⟨subtractLoop_split hc1 hc2 hv, ⟨h.fa, h.fb, ?_, ?_, ?_⟩, ?_, subSem_congr fun c hc => ?_⟩
  · refine (flatD_cons _ _).2 ⟨Int.add_one_le_of_lt (Int.lt_of_le_of_lt hv hc2), ?_,
      (flatD_cons _ _).2 ⟨Int.le_sub_one_of_lt hc1, hr.2.1, hr.2.2⟩⟩
    intro y hy
    rcases List.mem_cons.1 hy with rfl | hy
    · exact Int.add_lt_add_right (Int.sub_one_lt_of_le (Int.le_refl _)) 1
    · exact Int.lt_trans (Int.lt_trans (hr.2.1 y hy) hc1) (Int.lt_add_one_iff.2 (Int.le_refl _))
  · intro x hx y hy
    have := h.ra ea (List.mem_cons_self ..) y hy
    rcases List.mem_cons.1 hx with rfl | hx
    · exact this
    · rcases List.mem_cons.1 hx with rfl | hx
      · show eb.b - 1 + 1 < y.b; omega
      · exact h.ra x (List.mem_cons_of_mem _ hx) y hy
  · intro x hx y hy
    rcases List.mem_cons.1 hx with rfl | hx
    · rcases List.mem_cons.1 hy with rfl | hy
      · exact Int.sub_one_lt_of_le (Int.le_refl _)
      · have := hb.2.1 y hy; show eb.b - 1 < y.b; omega
    · exact h.rb x hx y hy
  · have := subPhase_le_one b (⟨ea.b, eb.b - 1⟩ :: r) (ea := ⟨eb.b + 1, ea.e⟩) (eb := eb)
      (fun hh => Int.lt_irrefl _ (Int.lt_trans (Int.lt_add_one_iff.2 (Int.le_refl _)) hh.1))
    simp only [subMeasure, subPhase_inside b r hc1 hc2 hv]
    omega
  · simp only [den_cons, ← or_assoc]
    exact or_congr_left (by omega)

theorem sub_cutRight {ea eb : Range} {a b r : List Range} (h : SubInv a (eb :: b) (ea :: r))
    (hc0 : ¬ ea.e < eb.b) (hc1 : ea.b < eb.b) (hc2 : ea.e ≤ eb.e) :
    SubStep a (eb :: b) (ea :: r) a (eb :: b) (⟨ea.b, eb.b - 1⟩ :: r) := by
  have hr := (flatD_cons ea r).1 h.fr
  refine ⟨subtractLoop_cutRight hc0 hc1 hc2, ⟨h.fa, h.fb, ?_, ?_, h.rb⟩, ?_, subSem_congr fun c hc => ?_⟩
  · exact (flatD_cons _ _).2 ⟨Int.le_sub_one_of_lt hc1, hr.2.1, hr.2.2⟩
  · intro x hx y hy
    rcases List.mem_cons.1 hx with rfl | hx
    · have := h.ra ea (List.mem_cons_self ..) y hy
      show eb.b - 1 + 1 < y.b; omega
    · exact h.ra x (List.mem_cons_of_mem _ hx) y hy
  · have := subPhase_pos b r (ea := ea) (eb := eb) (by omega)
    simp only [subMeasure, subPhase_miss b r (ea := ⟨ea.b, eb.b - 1⟩) (eb := eb)
      (Or.inl (Int.sub_one_lt_of_le (Int.le_refl _)))]
    omega
  · simp only [den_cons]
    exact or_congr_left (by omega)

theorem sub_cutLeft {ea eb : Range} {a b r : List Range} (h : SubInv a (eb :: b) (ea :: r))
    (hc0 : ¬ eb.e < ea.b) (hc1 : eb.b ≤ ea.b) (hc2 : eb.e < ea.e) :
    SubStep a (eb :: b) (ea :: r) a (eb :: b) (⟨eb.e + 1, ea.e⟩ :: r) := by
  have hr := (flatD_cons ea r).1 h.fr
  refine ⟨subtractLoop_cutLeft hc0 hc1 hc2, ⟨h.fa, h.fb, ?_, ?_, h.rb⟩, ?_, subSem_congr fun c hc => ?_⟩
  · refine (flatD_cons _ _).2 ⟨Int.add_one_le_of_lt hc2, fun y hy => ?_, hr.2.2⟩
    exact Int.lt_of_lt_of_le (hr.2.1 y hy) (Int.le_trans (Int.not_lt.1 hc0) (Int.le_add_one (Int.le_refl _)))
  · intro x hx y hy
    rcases List.mem_cons.1 hx with rfl | hx
    · exact h.ra ea (List.mem_cons_self ..) y hy
    · exact h.ra x (List.mem_cons_of_mem _ hx) y hy
  · have := subPhase_pos b r (ea := ea) (eb := eb) (by omega)
    simp only [subMeasure, subPhase_miss b r (ea := ⟨eb.e + 1, ea.e⟩) (eb := eb)
      (Or.inr (Int.lt_add_one_iff.2 (Int.le_refl _)))]
    omega
  · simp only [den_cons]
    exact or_congr_left (by omega)

theorem SubInv.step {a b r : List Range} (h : SubInv a b r) :
    ((∀ fuel, subtractLoop fuel a b r = r.reverse ++ a) ∧ ∀ c, Den (r.reverse ++ a) c ↔ subSem a b r c) ∨
      ∃ a' b' r', SubStep a b r a' b' r' := by
  match b, h with
  | [], h =>
    exact Or.inl ⟨fun fuel => subtractLoop_nil fuel a r, fun c => by simp [subSem, den_append, den_reverse, den_nil]⟩
  | eb :: b, h =>
    by_cases hr : ∀ x ∈ r.head?, x.e < eb.b
    · match a, h with
      | [], h => exact Or.inl ⟨subtractLoop_exit hr, sub_exit_a h hr⟩
      | a0 :: a, h => exact Or.inr ⟨_, _, _, sub_push h hr⟩
    · match r, h, hr with
      | [], _, hr => exact absurd (by simp) hr
      | ea :: r, h, hr =>
        have h0 : ¬ ea.e < eb.b := fun hlt => hr (by simpa using hlt)
        refine Or.inr ?_
        by_cases h1 : eb.e < ea.b
        · exact ⟨_, _, _, sub_dropB h h0 h1⟩
        · by_cases hb : eb.b ≤ ea.b <;> by_cases he : ea.e ≤ eb.e
          · exact ⟨_, _, _, sub_pop h hb he⟩
          · exact ⟨_, _, _, sub_cutLeft h h1 hb (by omega)⟩
          · exact ⟨_, _, _, sub_cutRight h h0 (by omega) he⟩
          · exact ⟨_, _, _, sub_split h (by omega) (by omega)⟩

theorem subtractLoop_spec (a b r : List Range) (h : SubInv a b r) :
    ∃ out, (∀ fuel, subMeasure a b r < fuel → subtractLoop fuel a b r = out) ∧ Canon out (subSem a b r) := by
  induction hn : subMeasure a b r using Nat.strongRecOn generalizing a b r with
  | ind n ih =>
    subst hn
    rcases h.step with ⟨hout, hsem⟩ | ⟨a', b', r', hs⟩
    · exact ⟨_, fun fuel _ => hout fuel,
        flat_append (flat_reverse h.fr) h.fa (fun x hx y hy => h.ra x (List.mem_reverse.1 hx) y hy), hsem⟩
    · obtain ⟨out, hout, hcanon⟩ := ih _ hs.dec a' b' r' hs.inv rfl
      refine ⟨out, fun fuel hf => ?_, hcanon.congr hs.sem⟩
      obtain ⟨f, rfl⟩ : ∃ f, fuel = f + 1 := ⟨fuel - 1, by omega⟩
      rw [hs.loop, hout f (by have := hs.dec; omega)]

theorem subtractLoop_fuel_ge {a b r : List Range} (h : SubInv a b r) {fuel fuel' : Nat}
    (hm : subMeasure a b r < fuel) (hf : fuel ≤ fuel') :
    subtractLoop fuel' a b r = subtractLoop fuel a b r := by
  obtain ⟨out, hout, _⟩ := subtractLoop_spec a b r h
  rw [hout fuel hm, hout fuel' (by omega)]

theorem subInv_init {a b : List Range} (ha : Flat a) (hb : Flat b) : SubInv a b [] :=
  ⟨ha, hb, flatD_nil, by simp, by simp⟩

theorem subMeasure_init_lt (a b : List Range) :
    subMeasure a b [] < 4 * (a.length + 1) * (b.length + 1) + 8 := by
  have h : subPhase b [] = 0 := by cases b <;> rfl
  have : a.length + b.length ≤ (a.length + 1) * (b.length + 1) := by
    rw [Nat.add_mul, Nat.mul_add, Nat.mul_add]; omega
  simp only [subMeasure, h, Nat.mul_assoc]
  omega

theorem subtract_loop_spec (a b : List Range) (ha : ∀ r ∈ a, Valid r) (hb : ∀ r ∈ b, Valid r) :
    Canon (subtractLoop (4 * ((flatten a).length + 1) * ((flatten b).length + 1) + 8) (flatten a) (flatten b) [])
      fun c => Den a c ∧ ¬ Den b c := by
  have hca := flatten_canon a ha
  have hcb := flatten_canon b hb
  obtain ⟨out, hout, hcanon⟩ := subtractLoop_spec _ _ _ (subInv_init hca.flat hcb.flat)
  rw [hout _ (subMeasure_init_lt _ _)]
  exact hcanon.congr fun c => by simp [subSem, den_nil, hca.den, hcb.den]

theorem subtract_den' (a b : List Range) (ha : ∀ r ∈ a, Valid r) (hb : ∀ r ∈ b, Valid r) (c : Int) :
    Den (subtract a b) c ↔ Den a c ∧ ¬ Den b c := by
  unfold subtract
  split
  · rename_i h
    simp only [Bool.or_eq_true, List.isEmpty_iff] at h
    rcases h with rfl | rfl <;> simp [den_nil]
  · exact (subtract_loop_spec a b ha hb).den c

/-- When `b` is empty Go returns `a` itself, which must then be canonical already. -/
theorem subtract_canon (a b : List Range) (ha : ∀ r ∈ a, Valid r) (hb : ∀ r ∈ b, Valid r)
    (hfa : b = [] → Flat a) :
    Canon (subtract a b) fun c => Den a c ∧ ¬ Den b c := by
  refine ⟨?_, subtract_den' a b ha hb⟩
  unfold subtract
  split
  · rename_i h
    simp only [Bool.or_eq_true, List.isEmpty_iff] at h
    rcases h with rfl | rfl
    · exact flat_nil
    · exact hfa rfl
  · exact (subtract_loop_spec a b ha hb).flat

end Lox.Rang3
