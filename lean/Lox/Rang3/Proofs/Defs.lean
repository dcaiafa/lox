import Lox.Rang3.Model
/-! Specification vocabulary for the `rang3` proofs (short, meant to be read) and the elementary
lemmas about it. -/
namespace Lox.Rang3

/-- What the front end guarantees about every range: `CharClass.RunPass` (Check) rejects an item with `From > To`
(`reversedRange` in `Dec/Analyze`; the repair of defect D7). -/
def Valid (r : Range) : Prop := r.b ≤ r.e

/-- `c ∈ ⟦rs⟧`: the code point `c` lies in one of the ranges. -/
def Den (rs : List Range) (c : Int) : Prop := ∃ r ∈ rs, r.b ≤ c ∧ c ≤ r.e

/-- Canonical form produced by `Flatten`/`Subtract`: non-empty ranges, strictly increasing,
pairwise non-touching (`rᵢ.e + 1 < rⱼ.b` for `i < j`). -/
def Flat (l : List Range) : Prop := (∀ r ∈ l, Valid r) ∧ l.Pairwise (fun x y => x.e + 1 < y.b)

/-- `Flat` read from the top of a stack (largest range first). -/
def FlatD (l : List Range) : Prop := (∀ r ∈ l, Valid r) ∧ l.Pairwise (fun x y => y.e + 1 < x.b)

/-- Sorted by lower bound (all that `Flatten`'s merge loop needs). -/
def SortedB (l : List Range) : Prop := l.Pairwise (fun x y => x.b ≤ y.b)

/-- `q ⊆ p` (`p.Contains(q)`). -/
def Inside (q p : Range) : Prop := p.b ≤ q.b ∧ q.e ≤ p.e

theorem contains_iff_inside (r p : Range) : r.contains p = true ↔ Inside p r := by
  simp [Range.contains, Inside]

theorem Inside.mem {q p : Range} (h : Inside q p) {c : Int} (hc : q.b ≤ c ∧ c ≤ q.e) :
    p.b ≤ c ∧ c ≤ p.e :=
  ⟨Int.le_trans h.1 hc.1, Int.le_trans hc.2 h.2⟩

/-- An `onChange(o, a, b, c)` call that splits: `o` is a current label, `a`, `b`, `c` lie inside `o`
and cover it. (`o ∈ s` is what `assert.True(len(states) > 0)` in `mode.normalizeInputs` needs.) -/
structure GoodCb (s : List Range) (cb : NormCb) : Prop where
  mem : cb.o ∈ s
  a : Inside cb.a cb.o
  b : Inside cb.b cb.o
  c : Inside cb.c cb.o
  cover : ∀ k, cb.o.b ≤ k → k ≤ cb.o.e →
    (cb.a.b ≤ k ∧ k ≤ cb.a.e) ∨ (cb.b.b ≤ k ∧ k ≤ cb.b.e) ∨ (cb.c.b ≤ k ∧ k ≤ cb.c.e)

/-- The labels a splitting callback puts in place of `o`; both models of the callback write the list out
like this (`c` is left out when it repeats `b`). -/
theorem NormCb.mem_pieces {α : Type} (cb : NormCb) (f : Range → α) (x : α) :
    x ∈ f cb.a :: f cb.b :: (if cb.c ≠ cb.b then [f cb.c] else []) ↔
      x = f cb.a ∨ x = f cb.b ∨ x = f cb.c := by
  by_cases h : cb.c = cb.b <;> simp [h]

/-- Among things labelled with ranges (`M r`: "there is one labelled `r`"), replacing the label `o`
by `a`, `b`, `c` changes no denotation. -/
theorem GoodCb.den_split {s : List Range} {cb : NormCb} (h : GoodCb s cb) {M M' : Range → Prop}
    (hM : ∀ r, M' r ↔ (M r ∧ r ≠ cb.o) ∨ (M cb.o ∧ (r = cb.a ∨ r = cb.b ∨ r = cb.c))) (k : Int) :
    (∃ r, M' r ∧ r.b ≤ k ∧ k ≤ r.e) ↔ ∃ r, M r ∧ r.b ≤ k ∧ k ≤ r.e := by
  constructor
  · rintro ⟨r, hr, hk⟩
    rcases (hM r).1 hr with ⟨hm, _⟩ | ⟨hm, rfl | rfl | rfl⟩
    · exact ⟨r, hm, hk⟩
    · exact ⟨cb.o, hm, h.a.mem hk⟩
    · exact ⟨cb.o, hm, h.b.mem hk⟩
    · exact ⟨cb.o, hm, h.c.mem hk⟩
  · rintro ⟨r, hr, hk⟩
    by_cases ho : r = cb.o
    · subst ho
      rcases h.cover k hk.1 hk.2 with hk' | hk' | hk'
      · exact ⟨cb.a, (hM _).2 (.inr ⟨hr, .inl rfl⟩), hk'⟩
      · exact ⟨cb.b, (hM _).2 (.inr ⟨hr, .inr (.inl rfl)⟩), hk'⟩
      · exact ⟨cb.c, (hM _).2 (.inr ⟨hr, .inr (.inr rfl)⟩), hk'⟩
    · exact ⟨r, (hM r).2 (.inl ⟨hr, ho⟩), hk⟩

/-- Every call of the list is a `GoodCb` for the label set that the calls before it have made of `s`. -/
def CbsOk : List Range → List NormCb → Prop
  | _, [] => True
  | s, cb :: cbs => GoodCb s cb ∧ CbsOk (applyNormCb s cb) cbs

/-- Every `onChange(oa, ob, n)` call of the list, applied to the label set that the calls before it have made of `s`,
keeps the code points. -/
def MergeOk : List Range → List FlatCb → Prop
  | _, [] => True
  | s, cb :: cbs => (∀ c, Den (applyFlatCb s cb) c ↔ Den s c) ∧ MergeOk (applyFlatCb s cb) cbs

/-- The two `assert.True` in `mode.mergeTransitions`: each callback finds `oa` and `ob` in the label set. -/
def MergeAsserts : List Range → List FlatCb → Prop
  | _, [] => True
  | s, cb :: cbs => (cb.oa ∈ s ∧ cb.ob ∈ s) ∧ MergeAsserts (applyFlatCb s cb) cbs

instance (r : Range) : Decidable (Valid r) := by unfold Valid; infer_instance

theorem den_nil (c : Int) : Den [] c ↔ False := by simp [Den]

theorem den_cons (r : Range) (rs : List Range) (c : Int) :
    Den (r :: rs) c ↔ (r.b ≤ c ∧ c ≤ r.e) ∨ Den rs c := by simp [Den]

theorem den_append (l1 l2 : List Range) (c : Int) : Den (l1 ++ l2) c ↔ Den l1 c ∨ Den l2 c := by
  simp [Den, or_and_right, exists_or]

theorem den_reverse (l : List Range) (c : Int) : Den l.reverse c ↔ Den l c := by simp [Den]

theorem den_congr {l1 l2 : List Range} (h : ∀ r, r ∈ l1 ↔ r ∈ l2) (c : Int) : Den l1 c ↔ Den l2 c := by
  simp [Den, h]

theorem den_lt_of {l : List Range} {k c : Int} (h : ∀ x ∈ l, x.e < k) (hc : Den l c) : c < k := by
  obtain ⟨x, hx, _, h2⟩ := hc
  have := h x hx; omega

theorem den_gt_of {l : List Range} {k c : Int} (h : ∀ x ∈ l, k < x.b) (hc : Den l c) : k < c := by
  obtain ⟨x, hx, h1, _⟩ := hc
  have := h x hx; omega

theorem flat_nil : Flat [] := ⟨by simp, List.Pairwise.nil⟩

theorem flat_full : Flat [⟨0, maxRune⟩] :=
  ⟨fun r hr => by rw [List.mem_singleton.1 hr]; show (0 : Int) ≤ maxRune; decide, List.pairwise_singleton ..⟩

theorem flat_cons (x : Range) (l : List Range) :
    Flat (x :: l) ↔ Valid x ∧ (∀ y ∈ l, x.e + 1 < y.b) ∧ Flat l := by
  simp only [Flat, List.forall_mem_cons, List.pairwise_cons]
  exact ⟨fun ⟨⟨hx, hv⟩, hp, hq⟩ => ⟨hx, hp, hv, hq⟩, fun ⟨hx, hp, hv, hq⟩ => ⟨⟨hx, hv⟩, hp, hq⟩⟩

theorem flat_append {l1 l2 : List Range} (h1 : Flat l1) (h2 : Flat l2)
    (h : ∀ x ∈ l1, ∀ y ∈ l2, x.e + 1 < y.b) : Flat (l1 ++ l2) :=
  ⟨fun r hr => (List.mem_append.1 hr).elim (h1.1 r) (h2.1 r), List.pairwise_append.2 ⟨h1.2, h2.2, h⟩⟩

theorem flatD_nil : FlatD [] := ⟨by simp, List.Pairwise.nil⟩

theorem flatD_cons (x : Range) (l : List Range) :
    FlatD (x :: l) ↔ Valid x ∧ (∀ y ∈ l, y.e + 1 < x.b) ∧ FlatD l := by
  simp only [FlatD, List.forall_mem_cons, List.pairwise_cons]
  exact ⟨fun ⟨⟨hx, hv⟩, hp, hq⟩ => ⟨hx, hp, hv, hq⟩, fun ⟨hx, hp, hv, hq⟩ => ⟨⟨hx, hv⟩, hp, hq⟩⟩

/-- `l` is the canonical list of the set `S` of code points: what `Flatten`, `Subtract` and `GetRanges` return
for the set they are asked for (`Canon.unique`: there is only one). -/
structure Canon (l : List Range) (S : Int → Prop) : Prop where
  flat : Flat l
  den : ∀ c, Den l c ↔ S c

theorem Canon.congr {l : List Range} {S T : Int → Prop} (h : Canon l S) (hST : ∀ c, S c ↔ T c) :
    Canon l T :=
  ⟨h.flat, fun c => (h.den c).trans (hST c)⟩

theorem Canon.valid {l : List Range} {S : Int → Prop} (h : Canon l S) : ∀ r ∈ l, Valid r := h.flat.1

theorem flat_reverse {l : List Range} (h : FlatD l) : Flat l.reverse := by
  refine ⟨fun r hr => h.1 r (by simpa using hr), ?_⟩
  rw [List.pairwise_reverse]; exact h.2

theorem lt_iff (a b : Range) : a.lt b = true ↔ a.b < b.b ∨ (a.b = b.b ∧ a.e < b.e) := by
  simp only [Range.lt, cmp]
  rcases Int.lt_trichotomy a.b b.b with h | h | h
  · simp [h]
  · rcases Int.lt_trichotomy a.e b.e with h' | h' | h'
    · simp [h, h']
    · simp [h, h']
    · simp [h, h', Int.lt_asymm h']
  · simp [h, Int.lt_asymm h, Int.ne_of_gt h]

theorem range_ext {a b : Range} (h1 : a.b = b.b) (h2 : a.e = b.e) : a = b := by
  cases a; cases b; simp_all

theorem range_ne {a b : Range} (h : a.b ≠ b.b ∨ a.e ≠ b.e) : a ≠ b := by
  intro hab; subst hab; omega

theorem cmp_lt_iff (a b : Range) : cmp a b < 0 ↔ a.b < b.b ∨ (a.b = b.b ∧ a.e < b.e) :=
  decide_eq_true_iff.symm.trans (lt_iff a b)

theorem cmp_eq_zero_iff (a b : Range) : cmp a b = 0 ↔ a = b := by
  obtain ⟨ab, ae⟩ := a
  obtain ⟨bb, be⟩ := b
  simp only [cmp, Range.mk.injEq]
  split
  · omega
  split
  · omega
  split
  · omega
  split <;> omega

theorem cmp_asymm (a b : Range) (h : cmp a b < 0) : ¬ cmp b a < 0 := by
  rw [cmp_lt_iff] at *
  omega

end Lox.Rang3
