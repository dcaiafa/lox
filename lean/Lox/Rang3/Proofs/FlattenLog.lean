import Lox.Rang3.Proofs.Flatten
import Lox.Rang3.Proofs.Heap
/-! The `onChange(oa, ob, n)` calls of `Flatten` and their effect on a label set
(`mode.mergeTransitions`). -/
namespace Lox.Rang3

/-- The log argument is only an accumulator. -/
theorem flattenLoop_acc (l acc : List Range) (log : List FlatCb) :
    flattenLoop l acc log = ((flattenLoop l acc []).1, log.reverse ++ (flattenLoop l acc []).2) := by
  induction l generalizing acc log with
  | nil => simp [flattenLoop]
  | cons r rs ih =>
    cases acc with
    | nil => simp only [flattenLoop]; exact ih _ _
    | cons tip acc =>
      simp only [flattenLoop]
      split
      · rw [ih _ (_ :: log), ih _ [_]]
        simp
      · exact ih _ _

theorem flattenLoop_touch {r tip : Range} (rs acc : List Range) (h : tip.touches r = true) :
    flattenLoop (r :: rs) (tip :: acc) [] =
      ((flattenLoop rs (⟨min tip.b r.b, max tip.e r.e⟩ :: acc) []).1,
        ⟨tip, r, ⟨min tip.b r.b, max tip.e r.e⟩⟩ ::
          (flattenLoop rs (⟨min tip.b r.b, max tip.e r.e⟩ :: acc) []).2) := by
  simp only [flattenLoop, if_pos h]
  rw [flattenLoop_acc]
  simp

theorem flattenLoop_notouch {r tip : Range} (rs acc : List Range) (h : ¬ tip.touches r = true) :
    flattenLoop (r :: rs) (tip :: acc) [] = flattenLoop rs (r :: tip :: acc) [] := by
  simp only [flattenLoop, if_neg h]

theorem mem_applyFlatCb (s : List Range) (cb : FlatCb) (x : Range) :
    x ∈ applyFlatCb s cb ↔ x = cb.n ∨ (x ∈ s ∧ x ≠ cb.oa ∧ x ≠ cb.ob) := by
  simp [applyFlatCb, mem_heapPush, List.mem_filter]

structure LogInv (l acc s : List Range) : Prop where
  sub : ∀ x ∈ s, x ∈ acc ∨ x ∈ l
  stack : ∀ x ∈ acc, x ∈ s
  todo : ∀ r ∈ l, r ∈ s ∨ ∃ tip rest, acc = tip :: rest ∧ tip.b ≤ r.b ∧ r.e ≤ tip.e

theorem LogInv.push_empty {r : Range} {rs s : List Range} (h : LogInv (r :: rs) [] s) :
    LogInv rs [r] s := by
  obtain ⟨h1, h2, h3⟩ := h
  have hr : r ∈ s := by
    rcases h3 r (List.mem_cons_self ..) with h | ⟨_, _, h, _⟩
    · exact h
    · cases h
  refine ⟨?_, ?_, ?_⟩
  · intro x hx
    rcases h1 x hx with h | h
    · cases h
    · simpa using h
  · intro x hx
    simp only [List.mem_singleton] at hx
    subst hx; exact hr
  · intro r' hr'
    rcases h3 r' (List.mem_cons_of_mem _ hr') with h | ⟨_, _, h, _⟩
    · exact Or.inl h
    · cases h

theorem LogInv.push {r tip : Range} {rs acc s : List Range} (hl : LoopInv (r :: rs) (tip :: acc))
    (h : LogInv (r :: rs) (tip :: acc) s) (ht : ¬ tip.touches r = true) :
    LogInv rs (r :: tip :: acc) s := by
  obtain ⟨h1, h2, h3⟩ := h
  have htr : tip.b ≤ r.b := hl.head r (List.mem_cons_self ..)
  rw [touches_iff_of_le htr] at ht
  have hs := hl.sorted
  unfold SortedB at hs; rw [List.pairwise_cons] at hs
  have hv : ∀ x ∈ r :: rs, Valid x := hl.valid
  have far : ∀ r' ∈ r :: rs, ¬ (tip.b ≤ r'.b ∧ r'.e ≤ tip.e) := by
    intro r' hr' hc
    have hv' := hv r' hr'
    unfold Valid at hv'
    rcases List.mem_cons.1 hr' with rfl | hr'
    · omega
    · have := hs.1 r' hr'; omega
  refine ⟨?_, ?_, ?_⟩
  · intro x hx
    rcases h1 x hx with h | h
    · exact Or.inl (List.mem_cons_of_mem _ h)
    · rcases List.mem_cons.1 h with rfl | h
      · exact Or.inl (List.mem_cons_self ..)
      · exact Or.inr h
  · intro x hx
    rcases List.mem_cons.1 hx with rfl | hx
    · rcases h3 x (List.mem_cons_self ..) with h | ⟨t, rest, heq, hc⟩
      · exact h
      · cases heq; exact absurd hc (far x (List.mem_cons_self ..))
    · exact h2 x hx
  · intro r' hr'
    rcases h3 r' (List.mem_cons_of_mem _ hr') with h | ⟨t, rest, heq, hc⟩
    · exact Or.inl h
    · cases heq; exact absurd hc (far r' (List.mem_cons_of_mem _ hr'))

theorem LogInv.merge {r tip : Range} {rs acc s : List Range} (hl : LoopInv (r :: rs) (tip :: acc))
    (h : LogInv (r :: rs) (tip :: acc) s) (ht : tip.touches r = true) :
    LogInv rs (⟨min tip.b r.b, max tip.e r.e⟩ :: acc)
      (applyFlatCb s ⟨tip, r, ⟨min tip.b r.b, max tip.e r.e⟩⟩) ∧
    ∀ c, Den (applyFlatCb s ⟨tip, r, ⟨min tip.b r.b, max tip.e r.e⟩⟩) c ↔ Den s c := by
  obtain ⟨h1, h2, h3⟩ := h
  have htr : tip.b ≤ r.b := hl.head r (List.mem_cons_self ..)
  rw [touches_iff_of_le htr] at ht
  have hvt : tip.b ≤ tip.e := hl.flat.1 tip (List.mem_cons_self ..)
  have hvr : r.b ≤ r.e := hl.valid r (List.mem_cons_self ..)
  have hfp := (List.pairwise_cons.1 hl.flat.2).1
  have htip : tip ∈ s := h2 tip (List.mem_cons_self ..)
  obtain ⟨n, hn⟩ : ∃ n : Range, n = ⟨min tip.b r.b, max tip.e r.e⟩ := ⟨_, rfl⟩
  obtain ⟨hnb, hne⟩ : n.b = tip.b ∧ tip.e ≤ n.e ∧ r.e ≤ n.e ∧ (n.e = tip.e ∨ n.e = r.e) := by
    rw [hn]; exact merged_spec htr
  rw [← hn]
  have hmem : ∀ x, x ∈ applyFlatCb s ⟨tip, r, n⟩ ↔ x = n ∨ (x ∈ s ∧ x ≠ tip ∧ x ≠ r) :=
    mem_applyFlatCb s ⟨tip, r, n⟩
  obtain ⟨q, hq, hq1, hq2⟩ : ∃ q ∈ s, q.b ≤ r.b ∧ r.e ≤ q.e := by
    rcases h3 r (List.mem_cons_self ..) with h | ⟨t, rest, heq, hc'⟩
    · exact ⟨r, h, Int.le_refl _, Int.le_refl _⟩
    · cases heq; exact ⟨tip, htip, hc'⟩
  refine ⟨⟨?_, ?_, ?_⟩, fun c => ⟨?_, ?_⟩⟩
  · intro x hx
    rcases (hmem x).1 hx with rfl | ⟨hx, hne1, hne2⟩
    · exact Or.inl (List.mem_cons_self ..)
    · rcases h1 x hx with h | h
      · exact Or.inl (List.mem_cons_of_mem _ ((List.mem_cons.1 h).resolve_left hne1))
      · exact Or.inr ((List.mem_cons.1 h).resolve_left hne2)
  · intro x hx
    rcases List.mem_cons.1 hx with rfl | hx
    · exact (hmem _).2 (Or.inl rfl)
    · have hvx : x.b ≤ x.e := hl.flat.1 x (List.mem_cons_of_mem _ hx)
      have hxt : x.b < tip.b := by have := hfp x hx; omega
      exact (hmem x).2 (Or.inr ⟨h2 x (List.mem_cons_of_mem _ hx), range_ne (Or.inl (Int.ne_of_lt hxt)),
        range_ne (Or.inl (Int.ne_of_lt (Int.lt_of_lt_of_le hxt htr)))⟩)
  · intro r' hr'
    by_cases hc : r' = tip ∨ r' = r
    · refine Or.inr ⟨_, _, rfl, ?_⟩
      rcases hc with rfl | rfl
      · exact ⟨Int.le_of_eq hnb, hne.1⟩
      · exact ⟨Int.le_trans (Int.le_of_eq hnb) htr, hne.2.1⟩
    · rcases h3 r' (List.mem_cons_of_mem _ hr') with h | ⟨t, rest, heq, hc'⟩
      · exact Or.inl ((hmem r').2 (Or.inr ⟨h, fun hh => hc (Or.inl hh), fun hh => hc (Or.inr hh)⟩))
      · cases heq
        exact Or.inr ⟨_, _, rfl, Int.le_trans (Int.le_of_eq hnb) hc'.1, Int.le_trans hc'.2 hne.1⟩
  · rintro ⟨x, hx, hc1, hc2⟩
    rcases (hmem x).1 hx with rfl | ⟨hx, _⟩
    · by_cases hct : c ≤ tip.e
      · exact ⟨tip, htip, Int.le_trans (Int.le_of_eq hnb.symm) hc1, hct⟩
      · exact ⟨q, hq, by omega⟩
    · exact ⟨x, hx, hc1, hc2⟩
  · rintro ⟨x, hx, hc1, hc2⟩
    by_cases hxx : x = tip ∨ x = r
    · refine ⟨n, (hmem n).2 (Or.inl rfl), ?_⟩
      rcases hxx with rfl | rfl
      · exact ⟨Int.le_trans (Int.le_of_eq hnb) hc1, Int.le_trans hc2 hne.1⟩
      · exact ⟨Int.le_trans (Int.le_trans (Int.le_of_eq hnb) htr) hc1, Int.le_trans hc2 hne.2.1⟩
    · exact ⟨x, (hmem x).2 (Or.inr ⟨hx, fun hh => hxx (Or.inl hh), fun hh => hxx (Or.inr hh)⟩), hc1, hc2⟩

theorem flattenLoop_log (l acc s : List Range) (hl : LoopInv l acc) (h : LogInv l acc s) :
    (∀ x, x ∈ (flattenLoop l acc []).2.foldl applyFlatCb s ↔ x ∈ (flattenLoop l acc []).1) ∧
      MergeOk s (flattenLoop l acc []).2 := by
  induction l generalizing acc s with
  | nil =>
    simp only [flattenLoop, List.reverse_nil, List.foldl_nil, List.mem_reverse]
    refine ⟨fun x => ⟨fun hx => ?_, h.stack x⟩, trivial⟩
    rcases h.sub x hx with h | h
    · exact h
    · cases h
  | cons r rs ih =>
    cases acc with
    | nil =>
      simp only [flattenLoop]
      exact ih _ _ hl.push_empty h.push_empty
    | cons tip acc =>
      by_cases ht : tip.touches r = true
      · rw [flattenLoop_touch rs acc ht]
        obtain ⟨h', hden⟩ := h.merge hl ht
        have := ih _ _ hl.merge h'
        exact ⟨this.1, hden, this.2⟩
      · rw [flattenLoop_notouch rs acc ht]
        exact ih _ _ (hl.push ht) (h.push hl ht)

theorem logInv_init {l s : List Range} (h : ∀ x, x ∈ s ↔ x ∈ l) : LogInv l [] s :=
  ⟨fun x hx => Or.inr ((h x).1 hx), by simp, fun r hr => Or.inl ((h r).2 hr)⟩

/-- With pairwise distinct inputs (the keys of a transition map) every callback finds both of its
arguments in the label set. -/
theorem flattenLoop_asserts (l acc s : List Range) (hl : LoopInv l acc) (h : LogInv l acc s)
    (hnd : l.Nodup) (hin : ∀ r ∈ l, r ∈ s) (htip : ∀ t ∈ acc.head?, t ∉ l) :
    MergeAsserts s (flattenLoop l acc []).2 := by
  induction l generalizing acc s with
  | nil => simp [flattenLoop, MergeAsserts]
  | cons r rs ih =>
    rw [List.nodup_cons] at hnd
    cases acc with
    | nil =>
      simp only [flattenLoop]
      exact ih _ _ hl.push_empty h.push_empty hnd.2 (fun x hx => hin x (List.mem_cons_of_mem _ hx))
        (by simpa using hnd.1)
    | cons tip acc =>
      by_cases ht : tip.touches r = true
      · rw [flattenLoop_touch rs acc ht]
        have htr : tip.b ≤ r.b := hl.head r (List.mem_cons_self ..)
        have hs := hl.sorted
        unfold SortedB at hs; rw [List.pairwise_cons] at hs
        have htip' : tip ∉ r :: rs := htip tip (by simp)
        refine ⟨⟨h.stack tip (List.mem_cons_self ..), hin r (List.mem_cons_self ..)⟩, ?_⟩
        refine ih _ _ hl.merge (h.merge hl ht).1 hnd.2 ?_ ?_
        · intro r' hr'
          refine (mem_applyFlatCb ..).2 (Or.inr ⟨hin r' (List.mem_cons_of_mem _ hr'), ?_, ?_⟩)
          · rintro rfl; exact htip' (List.mem_cons_of_mem _ hr')
          · rintro rfl; exact hnd.1 hr'
        · intro t hthead hmem
          simp only [List.head?_cons, Option.mem_def, Option.some.injEq] at hthead
          subst hthead
          -- the merged range is `tip` or `r` again, and neither is still to come
          obtain ⟨hnb, _, _, hne⟩ := merged_spec htr
          have hrb : r.b = tip.b := Int.le_antisymm (hnb ▸ hs.1 _ hmem) htr
          rcases hne with he | he
          · have e : (⟨min tip.b r.b, max tip.e r.e⟩ : Range) = tip := range_ext hnb he
            exact htip' (List.mem_cons_of_mem _ (e ▸ hmem))
          · have e : (⟨min tip.b r.b, max tip.e r.e⟩ : Range) = r := range_ext (hnb.trans hrb.symm) he
            exact hnd.1 (e ▸ hmem)
      · rw [flattenLoop_notouch rs acc ht]
        exact ih _ _ (hl.push ht) (h.push hl ht) hnd.2 (fun x hx => hin x (List.mem_cons_of_mem _ hx))
          (by simpa using hnd.1)

end Lox.Rang3
