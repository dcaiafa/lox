import Lox.Rang3.Proofs.Defs
import Lox.Rang3.Proofs.Flatten
import Lox.Rang3.Proofs.Subtract
import Lox.Rang3.Proofs.Heap
import Lox.Rang3.Proofs.Normalize
import Lox.Rang3.Proofs.FlattenLog
import Lox.Rang3.Proofs.Canonical
import Lox.Rang3.Proofs.Relabel
/-! The lemmas about the `rang3` model that `Props/C15` stands on. -/
