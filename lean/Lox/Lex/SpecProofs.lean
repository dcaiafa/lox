import Lox.Lex.Spec
/-! Characterisation of `label` (earliest matching rule) by indices; `viable` is closed under prefixes. -/
namespace Lox.Lex

theorem label_nil (s : List Int) : label [] s = [] := rfl

theorem label_cons_pos {r : Rule} {rest : List Rule} {s : List Int} (h : Matches r.1 s) :
    label (r :: rest) s = r.2 := by
  simp [label, h]

theorem label_cons_neg {r : Rule} {rest : List Rule} {s : List Int} (h : ¬ Matches r.1 s) :
    label (r :: rest) s = label rest s := by
  simp [label, h]

/-- "Earliest rule" by index. `Gen.IsWinner` (what `pickAction` returns) and `GenSpec.EarliestMatch`
(a split `pre ++ r0 :: post` of the rules) are brought to `label` by `gen_label` and
`label_earliest`. -/
theorem label_of_least : ∀ (rules : List Rule) (s : List Int) (i : Nat) (hi : i < rules.length),
    Matches rules[i].1 s → (∀ j (hj : j < i), ¬ Matches (rules[j]'(by omega)).1 s) →
    label rules s = rules[i].2 := by
  intro rules
  induction rules with
  | nil => intro s i hi; exact absurd hi (Nat.not_lt_zero _)
  | cons r rest ih =>
    intro s i hi hm hleast
    cases i with
    | zero => exact label_cons_pos hm
    | succ i =>
      have h0 : ¬ Matches r.1 s := hleast 0 (Nat.succ_pos i)
      rw [label_cons_neg h0]
      simp only [List.getElem_cons_succ] at hm ⊢
      exact ih s i (Nat.lt_of_succ_lt_succ hi) hm fun j hj => hleast (j + 1) (Nat.succ_lt_succ hj)

theorem label_of_none : ∀ (rules : List Rule) (s : List Int),
    (∀ r ∈ rules, ¬ Matches r.1 s) → label rules s = [] := by
  intro rules
  induction rules with
  | nil => intro s _; rfl
  | cons r rest ih =>
    intro s h
    rw [label_cons_neg (h r (by simp))]
    exact ih s (fun r hr => h r (by simp [hr]))

theorem least_or_none : ∀ (rules : List Rule) (s : List Int),
    (∃ (i : Nat) (hi : i < rules.length), Matches rules[i].1 s ∧
        ∀ j (hj : j < i), ¬ Matches (rules[j]'(by omega)).1 s) ∨
    (∀ r ∈ rules, ¬ Matches r.1 s) := by
  intro rules
  induction rules with
  | nil => intro s; exact .inr fun r hr => absurd hr List.not_mem_nil
  | cons r rest ih =>
    intro s
    by_cases h : Matches r.1 s
    · exact .inl ⟨0, Nat.succ_pos _, h, fun j hj => absurd hj (Nat.not_lt_zero j)⟩
    · rcases ih s with ⟨i, hi, hm, hleast⟩ | hnone
      · left
        refine ⟨i + 1, Nat.succ_lt_succ hi, hm, ?_⟩
        intro j hj
        cases j with
        | zero => exact h
        | succ j => exact hleast j (Nat.lt_of_succ_lt_succ hj)
      · right
        intro r' hr'
        rcases List.mem_cons.mp hr' with rfl | hr'
        · exact h
        · exact hnone r' hr'

theorem label_eq_nil_iff (rules : List Rule) (s : List Int) (hne : ∀ r ∈ rules, r.2 ≠ []) :
    label rules s = [] ↔ ∀ r ∈ rules, ¬ Matches r.1 s := by
  constructor
  · intro h
    rcases least_or_none rules s with ⟨i, hi, hm, hleast⟩ | hnone
    · rw [label_of_least rules s i hi hm hleast] at h
      exact absurd h (hne _ (List.getElem_mem hi))
    · exact hnone
  · exact label_of_none rules s

theorem GenSpec.viable_prefix {rules : List Rule} {u v : List Int} (h : viable rules (u ++ v)) :
    viable rules u := by
  obtain ⟨r, hr, t, hm⟩ := h
  exact ⟨r, hr, v ++ t, by rw [← List.append_assoc]; exact hm⟩

end Lox.Lex
