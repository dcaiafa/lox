import Lox.Lex.GenOpt
import Lox.Lex.GenNFAProofs
import Lox.Util.OrdInsert
import Lox.Util.Fresh
/-! Correctness of the worklist loop, of `eClosure` and of the subset construction
(`Lox/Lex/GenDFA.lean`). -/
namespace Lox.Lex.Gen
open Lox.Rang3 (Range)

theorem pushNew_eq {α} [DecidableEq α] (ts st cl : List α) :
    pushNew ts st cl = ((Util.fresh cl ts).reverse ++ st, cl ++ Util.fresh cl ts) := by
  induction ts generalizing st cl with
  | nil => simp [pushNew, Util.fresh]
  | cons t ts ih =>
    rw [Util.fresh]
    unfold pushNew at ih ⊢
    rw [List.foldl_cons]
    split
    · exact ih st cl
    · rw [ih, Util.fresh_congr (s' := t :: cl) (by simp [or_comm])]
      simp

theorem pushNew_spec {α} [DecidableEq α] (ts st cl : List α) :
    (∀ x, x ∈ (pushNew ts st cl).2 ↔ x ∈ cl ∨ x ∈ ts) ∧
    (∀ x, x ∈ (pushNew ts st cl).1 ↔ x ∈ st ∨ (x ∈ ts ∧ x ∉ cl)) ∧
    (∃ ext, (pushNew ts st cl).2 = cl ++ ext) ∧
    (pushNew ts st cl).1.length + cl.length = (pushNew ts st cl).2.length + st.length := by
  rw [pushNew_eq]
  refine ⟨fun x => Util.mem_append_fresh, fun x => ?_, ⟨_, rfl⟩, ?_⟩
  · rw [List.mem_append, List.mem_reverse, Util.mem_fresh, or_comm]
  · simp only [List.length_append, List.length_reverse]
    omega

/-- What the worklist loop returns: an extension of the created set that is closed under `succ`,
and nothing that an invariant `P` of `succ` excludes. -/
theorem reachLoop_spec {α} [DecidableEq α] (succ : α → List α) : ∀ (fuel : Nat) (st cl R : List α),
    reachLoop succ fuel st cl = some R → (∀ x ∈ st, x ∈ cl) →
    (∀ x ∈ cl, x ∈ st ∨ ∀ t ∈ succ x, t ∈ cl) →
    (∃ ext, R = cl ++ ext) ∧ (∀ x ∈ R, ∀ t ∈ succ x, t ∈ R) ∧
    (∀ P : α → Prop, (∀ x ∈ cl, P x) → (∀ x, P x → ∀ t ∈ succ x, P t) → ∀ x ∈ R, P x) := by
  intro fuel
  induction fuel with
  | zero => intro st cl R h; simp [reachLoop] at h
  | succ f ih =>
    intro st cl R h hst hinv
    cases st with
    | nil =>
      simp only [reachLoop, Option.some.injEq] at h
      subst h
      refine ⟨⟨[], by simp⟩, ?_, fun P hP _ => hP⟩
      intro x hx
      rcases hinv x hx with h | h
      · simp at h
      · exact h
    | cons s st =>
      simp only [reachLoop] at h
      obtain ⟨h1, h2, ⟨ext, h3⟩, _⟩ := pushNew_spec (succ s) st cl
      have hs : s ∈ cl := hst s (by simp)
      obtain ⟨⟨ext', hR⟩, hclosed, hP⟩ := ih _ _ R h
        (by
          intro x hx
          rw [h1]
          rcases (h2 x).1 hx with hx | ⟨hx, _⟩
          · exact Or.inl (hst x (by simp [hx]))
          · exact Or.inr hx)
        (by
          intro x hx
          by_cases hxc : x ∈ cl
          · rcases hinv x hxc with hxst | hcl
            · rcases List.mem_cons.mp hxst with rfl | hxst
              · exact Or.inr fun t ht => (h1 t).2 (Or.inr ht)
              · exact Or.inl ((h2 x).2 (Or.inl hxst))
            · exact Or.inr fun t ht => (h1 t).2 (Or.inl (hcl t ht))
          · exact Or.inl ((h2 x).2 (Or.inr ⟨((h1 x).1 hx).resolve_left hxc, hxc⟩)))
      refine ⟨⟨ext ++ ext', by rw [hR, h3]; simp⟩, hclosed, ?_⟩
      intro P hPcl hPs
      apply hP P _ hPs
      intro x hx
      rcases (h1 x).1 hx with hxc | hxs
      · exact hPcl x hxc
      · exact hPs s (hPcl s hs) x hxs

theorem pushNew_nodup {α} [DecidableEq α] (ts st cl : List α) (h : cl.Nodup) :
    (pushNew ts st cl).2.Nodup := by
  rw [pushNew_eq]
  exact Util.nodup_append_fresh h ts

/-- The loop ends within its fuel when the created set, which has no duplicates and stays within
an invariant `P` of `succ`, can hold at most `B` elements: an iteration pops an element and pushes
as many as it creates, so `fuel + |cl| - |st|` stays the same, and it is above `B`. -/
theorem reachLoop_total {α} [DecidableEq α] (succ : α → List α) (P : α → Prop)
    (hP : ∀ x, P x → ∀ t ∈ succ x, P t) (B : Nat)
    (hB : ∀ l : List α, l.Nodup → (∀ x ∈ l, P x) → l.length ≤ B) : ∀ (fuel : Nat) (st cl : List α),
    cl.Nodup → (∀ x ∈ st, P x) → (∀ x ∈ cl, P x) → st.length + B < fuel + cl.length →
    ∃ R, reachLoop succ fuel st cl = some R := by
  intro fuel
  induction fuel with
  | zero =>
    intro st cl hn _ hcl h
    have := hB cl hn hcl
    omega
  | succ f ih =>
    intro st cl hn hst hcl h
    cases st with
    | nil => exact ⟨cl, rfl⟩
    | cons s st =>
      simp only [reachLoop]
      obtain ⟨h1, h2, _, h4⟩ := pushNew_spec (succ s) st cl
      have hs := hP s (hst s List.mem_cons_self)
      refine ih _ _ (pushNew_nodup (succ s) st cl hn) (fun x hx => ?_) (fun x hx => ?_) ?_
      · exact ((h2 x).1 hx).elim (fun hx => hst x (List.mem_cons_of_mem _ hx)) fun hx => hs x hx.1
      · exact ((h1 x).1 hx).elim (hcl x) (hs x)
      · simp only [List.length_cons] at h
        omega

theorem ordIns_insNat : Lox.Util.OrdIns (· < ·) insNat where
  nil _ := rfl
  cons a b l := by
    rw [insNat]
    by_cases h : a < b
    · exact .inl ⟨h, if_pos h⟩
    · by_cases e : a = b
      · exact .inr (.inr ⟨e, by rw [if_neg h, if_pos e]⟩)
      · exact .inr (.inl ⟨Nat.lt_of_le_of_ne (Nat.le_of_not_lt h) (Ne.symm e), by rw [if_neg h, if_neg e]⟩)

theorem mem_sortNat (x : Nat) (l : List Nat) : x ∈ sortNat l ↔ x ∈ l := ordIns_insNat.mem_foldr

theorem sortNat_sorted (l : List Nat) : (sortNat l).Pairwise (· < ·) :=
  ordIns_insNat.pairwise_foldr Nat.lt_trans l

theorem mem_epsSucc (E : List Edge) (s t : Nat) : t ∈ epsSucc E s ↔ (⟨s, none, t⟩ : Edge) ∈ E := by
  simp only [epsSucc, List.mem_filterMap]
  constructor
  · rintro ⟨ed, hed, h⟩
    split at h
    · rename_i hc
      cases h
      obtain ⟨src, lbl, dst⟩ := ed
      simp only at hc
      obtain ⟨rfl, rfl⟩ := hc
      exact hed
    · cases h
  · intro h
    exact ⟨_, h, by simp⟩

theorem pathN_eps_closed {E : List Edge} {R : List Nat}
    (hcl : ∀ x ∈ R, ∀ t ∈ epsSucc E x, t ∈ R) {k p w q} (h : PathN E k p w q) :
    w = [] → p ∈ R → q ∈ R := by
  induction h with
  | nil p => intro _ hp; exact hp
  | eps he _ ih => intro hw hp; exact ih hw (hcl _ hp _ ((mem_epsSucc E _ _).2 he))
  | chr _ _ _ _ _ => intro hw; cases hw

theorem eclose_fuel (E : List Edge) (S : List Nat) :
    ∃ R, reachLoop (epsSucc E) (ecloseFuel E (pushNew S [] []).2) (pushNew S [] []).1
      (pushNew S [] []).2 = some R := by
  obtain ⟨h1, h2, _, h4⟩ := pushNew_spec S ([] : List Nat) []
  -- the closure stays among the states it starts with and the targets of `E`
  refine reachLoop_total (epsSucc E) (· ∈ (pushNew S [] []).2 ++ E.map (·.dst))
    (fun x _ t ht => List.mem_append_right _ (List.mem_map.2 ⟨_, (mem_epsSucc E x t).1 ht, rfl⟩))
    _ (fun l hn hl => hn.length_le_of_subset hl) _ _ _ (pushNew_nodup S [] [] List.nodup_nil)
    (fun x hx => List.mem_append_left _ ((h1 x).2 (((h2 x).1 hx).imp_right (·.1))))
    (fun x hx => List.mem_append_left _ hx) ?_
  simp only [List.length_append, List.length_map, List.length_nil, ecloseFuel] at h4 ⊢
  omega

theorem mem_eclose (E : List Edge) (S : List Nat) (q : Nat) :
    q ∈ eclose E S ↔ ∃ p ∈ S, Path E p [] q := by
  obtain ⟨R, hR⟩ := eclose_fuel E S
  obtain ⟨h1, h2, _, _⟩ := pushNew_spec S ([] : List Nat) []
  have hmem : ∀ x, x ∈ (pushNew S [] []).2 ↔ x ∈ S := by intro x; rw [h1]; simp
  have hmem1 : ∀ x, x ∈ (pushNew S [] []).1 ↔ x ∈ S := by intro x; rw [h2]; simp
  obtain ⟨⟨ext, hext⟩, hclosed, hP⟩ := reachLoop_spec (epsSucc E) _ _ _ R hR
    (fun x hx => (hmem x).2 ((hmem1 x).1 hx)) (fun x hx => Or.inl ((hmem1 x).2 ((hmem x).1 hx)))
  have he : eclose E S = sortNat R := by simp only [eclose, hR]
  rw [he, mem_sortNat]
  constructor
  · intro hq
    refine hP (fun x => ∃ p ∈ S, Path E p [] x) ?_ ?_ q hq
    · intro x hx; exact ⟨x, (hmem x).1 hx, Path.refl E x⟩
    · rintro x ⟨p, hp, hpath⟩ t ht
      exact ⟨p, hp, by simpa using hpath.trans (Path.eps_edge ((mem_epsSucc E x t).1 ht))⟩
  · rintro ⟨p, hp, k, hk⟩
    have hpR : p ∈ R := by rw [hext]; exact List.mem_append_left _ ((hmem p).2 hp)
    exact pathN_eps_closed hclosed hk rfl hpR

theorem eclose_sorted (E : List Edge) (S : List Nat) : (eclose E S).Pairwise (· < ·) := by
  simp only [eclose]
  split
  · exact sortNat_sorted _
  · simp

theorem mem_dedup {α} [DecidableEq α] (l : List α) (x : α) : x ∈ dedup l ↔ x ∈ l := by
  rw [dedup, Util.foldl_add_eq, List.nil_append, Util.mem_fresh]
  exact and_iff_left List.not_mem_nil

theorem mem_inputs (E : List Edge) (S : List Nat) (a : Range) :
    a ∈ inputs E S ↔ ∃ ed ∈ E, ed.src ∈ S ∧ ed.lbl = some a := by
  simp only [inputs, mem_dedup, List.mem_flatMap, List.mem_filterMap]
  constructor
  · rintro ⟨p, hp, ed, hed, h⟩
    split at h
    · rename_i hs; exact ⟨ed, hed, hs ▸ hp, h⟩
    · cases h
  · rintro ⟨ed, hed, hs, hl⟩
    exact ⟨ed.src, hs, ed, hed, by simp [hl]⟩

theorem mem_moveSet (E : List Edge) (S : List Nat) (a : Range) (q : Nat) :
    q ∈ moveSet E S a ↔ ∃ p ∈ S, (⟨p, some a, q⟩ : Edge) ∈ E := by
  simp only [moveSet, mem_dedup, List.mem_flatMap, List.mem_filterMap]
  constructor
  · rintro ⟨p, hp, ed, hed, h⟩
    split at h
    · rename_i hc
      cases h
      obtain ⟨src, lbl, dst⟩ := ed
      simp only at hc
      obtain ⟨rfl, rfl⟩ := hc
      exact ⟨_, hp, hed⟩
    · cases h
  · rintro ⟨p, hp, hed⟩
    exact ⟨p, hp, _, hed, by simp⟩

/-- Pairwise disjoint labels, after `normalizeInputs`: two labels that share a code point are the
same label. -/
def PD (E : List Edge) : Prop :=
  ∀ e1 ∈ E, ∀ e2 ∈ E, ∀ (a b : Range) (c : Int), e1.lbl = some a → e2.lbl = some b →
    a.b ≤ c → c ≤ a.e → b.b ≤ c → c ≤ b.e → a = b

/-- The NFA run lifted to sets: `q` is reachable from some state of `S` reading `w`. -/
def Reach (E : List Edge) (S : List Nat) (w : List Int) (q : Nat) : Prop := ∃ p ∈ S, Path E p w q

def EpsClosed (E : List Edge) (S : List Nat) : Prop := ∀ p ∈ S, ∀ q, Path E p [] q → q ∈ S

theorem eclose_epsClosed (E : List Edge) (S : List Nat) : EpsClosed E (eclose E S) := by
  intro p hp q hq
  obtain ⟨p0, hp0, h0⟩ := (mem_eclose E S p).1 hp
  exact (mem_eclose E S q).2 ⟨p0, hp0, by simpa using h0.trans hq⟩

theorem mem_eclose_self {E : List Edge} {S : List Nat} {q : Nat} (h : q ∈ S) : q ∈ eclose E S :=
  (mem_eclose E S q).2 ⟨q, h, Path.refl E q⟩

theorem reach_eclose {E : List Edge} {S : List Nat} {w : List Int} {q : Nat} :
    Reach E (eclose E S) w q ↔ Reach E S w q :=
  ⟨fun ⟨p, hp, hpath⟩ =>
    let ⟨p0, hp0, h0⟩ := (mem_eclose E S p).1 hp
    ⟨p0, hp0, by simpa using h0.trans hpath⟩,
   fun ⟨p, hp, hpath⟩ => ⟨p, mem_eclose_self hp, hpath⟩⟩

theorem pathN_cons_inv {E : List Edge} {k p w q} (h : PathN E k p w q) :
    ∀ c w', w = c :: w' → ∃ p' rg q', Path E p [] p' ∧ (⟨p', some rg, q'⟩ : Edge) ∈ E ∧
      rg.b ≤ c ∧ c ≤ rg.e ∧ Path E q' w' q := by
  induction h with
  | nil p => intro c w' h; cases h
  | eps he _ ih =>
    intro c w' hw
    obtain ⟨p', rg, q', h1, h2, h3, h4, h5⟩ := ih c w' hw
    exact ⟨p', rg, q', Path.eps he h1, h2, h3, h4, h5⟩
  | @chr k p q0 r rg c0 w0 he h1 h2 hp _ =>
    intro c w' hw
    cases hw
    exact ⟨p, rg, q0, Path.refl E p, he, h1, h2, ⟨k, hp⟩⟩

theorem reach_nil {E : List Edge} {S : List Nat} (hS : EpsClosed E S) (q : Nat) :
    Reach E S [] q ↔ q ∈ S :=
  ⟨fun ⟨p, hp, h⟩ => hS p hp q h, fun h => ⟨q, h, Path.refl E q⟩⟩

/-- One step of the subset construction is one step of the lifted NFA run. -/
theorem reach_step {E : List Edge} (hPD : PD E) {S : List Nat} (hS : EpsClosed E S) (a : Range)
    (ha : a ∈ inputs E S) (c : Int) (h1 : a.b ≤ c) (h2 : c ≤ a.e) (w : List Int) (q : Nat) :
    Reach E S (c :: w) q ↔ Reach E (eclose E (moveSet E S a)) w q := by
  rw [reach_eclose]
  constructor
  · rintro ⟨p, hp, k, hk⟩
    obtain ⟨p', rg, q', hp', hed, hb, he, hq'⟩ := pathN_cons_inv hk c w rfl
    obtain ⟨ed2, hed2, _, hl2⟩ := (mem_inputs E S a).1 ha
    have : rg = a := hPD _ hed _ hed2 rg a c rfl hl2 hb he h1 h2
    subst this
    have hp'S : p' ∈ S := hS p hp p' hp'
    exact ⟨q', (mem_moveSet E S rg q').2 ⟨p', hp'S, hed⟩, hq'⟩
  · rintro ⟨q', hq', hpath⟩
    obtain ⟨p, hp, hed⟩ := (mem_moveSet E S a q').1 hq'
    exact ⟨p, hp, Path.chr hed h1 h2 hpath⟩

theorem reach_dead {E : List Edge} {S : List Nat} (hS : EpsClosed E S) (c : Int)
    (hno : ∀ a ∈ inputs E S, ¬ (a.b ≤ c ∧ c ≤ a.e)) (w : List Int) (q : Nat) :
    ¬ Reach E S (c :: w) q := by
  rintro ⟨p, hp, k, hk⟩
  obtain ⟨p', rg, q', hp', hed, hb, he, _⟩ := pathN_cons_inv hk c w rfl
  exact hno rg ((mem_inputs E S rg).2 ⟨_, hed, hS p hp p' hp', rfl⟩) ⟨hb, he⟩

theorem DFA.trans_of_get {d : DFA} {s : Nat} {st : DState} (h : d.states[s]? = some st) :
    d.trans s = st.trans := by simp [DFA.trans, h]

theorem DFA.trans_of_none {d : DFA} {s : Nat} (h : d.states[s]? = none) : d.trans s = [] := by
  simp [DFA.trans, h]

theorem DFA.mem_trans_iff {d : DFA} {s : Nat} {x : Range × Nat} :
    x ∈ d.trans s ↔ ∃ st, d.states[s]? = some st ∧ x ∈ st.trans := by
  cases h : d.states[s]? with
  | none => simp [DFA.trans_of_none h]
  | some st => simp [DFA.trans_of_get h]

theorem DFA.step_eq (d : DFA) (s : Nat) (c : Int) :
    d.step s c = ((d.trans s).find? fun t => decide (t.1.b ≤ c ∧ c ≤ t.1.e)).map (·.2) := by
  cases h : d.states[s]? with
  | none => simp [DFA.step, h, DFA.trans_of_none h]
  | some st => simp [DFA.step, h, DFA.trans_of_get h, DState.next]

theorem DFA.step_some {d : DFA} {s t : Nat} {c : Int} (h : d.step s c = some t) :
    ∃ a, (a, t) ∈ d.trans s ∧ a.b ≤ c ∧ c ≤ a.e := by
  rw [DFA.step_eq, Option.map_eq_some_iff] at h
  obtain ⟨⟨a, t'⟩, hf, rfl⟩ := h
  have hp := List.find?_some hf
  simp only [decide_eq_true_eq] at hp
  exact ⟨a, List.mem_of_find?_eq_some hf, hp⟩

theorem DFA.step_none_iff (d : DFA) (s : Nat) (c : Int) :
    d.step s c = none ↔ ∀ x ∈ d.trans s, ¬ (x.1.b ≤ c ∧ c ≤ x.1.e) := by
  rw [DFA.step_eq]
  simp only [Option.map_eq_none_iff, List.find?_eq_none, decide_eq_true_eq]

/-- The automaton over the sets `seen`: state `i` stands for `seen[i]` and has one transition per
input of that set, to the index of the set the input leads to. -/
theorem mem_trans_mkDState {m : NFA} {seen : List (List Nat)} {i : Nat} {x : Range × Nat} :
    x ∈ (DFA.mk (seen.map (mkDState m seen))).trans i ↔ ∃ S, seen[i]? = some S ∧
      ∃ a ∈ inputs m.edges S, x = (a, seen.idxOf (eclose m.edges (moveSet m.edges S a))) := by
  simp only [DFA.mem_trans_iff, List.getElem?_map, Option.map_eq_some_iff]
  constructor
  · rintro ⟨_, ⟨S, hS, rfl⟩, hx⟩
    obtain ⟨a, ha, rfl⟩ := List.mem_map.1 hx
    exact ⟨S, hS, a, ha, rfl⟩
  · rintro ⟨S, hS, a, ha, rfl⟩
    exact ⟨_, ⟨S, hS, rfl⟩, List.mem_map.2 ⟨a, ha, rfl⟩⟩

/-- The invariant of a finished exploration. -/
structure Explored (E : List Edge) (start : Nat) (seen : List (List Nat)) : Prop where
  first : seen[0]? = some (eclose E [start])
  closed : ∀ S ∈ seen, EpsClosed E S
  nonempty : ∀ S ∈ seen, S ≠ []
  succ : ∀ S ∈ seen, ∀ T ∈ dfaSucc E S, T ∈ seen

/-- `subset` read backwards: the automaton is `mkDState` over the sets of a finished exploration, and
each of them is sorted. -/
theorem subset_eq {m : NFA} {fuel : Nat} {d : DFA} (h : subset m fuel = some d) :
    ∃ seen, d = ⟨seen.map (mkDState m seen)⟩ ∧ Explored m.edges m.start seen ∧
      ∀ S ∈ seen, S.Pairwise (· < ·) := by
  simp only [subset, Option.map_eq_some_iff] at h
  obtain ⟨seen, hseen, rfl⟩ := h
  obtain ⟨⟨ext, hext⟩, hsucc, hP⟩ := reachLoop_spec (dfaSucc m.edges) fuel _ _ seen hseen
    (fun x hx => hx) (fun x hx => Or.inl hx)
  -- every set created is the ε-closure of a set that is not empty
  have hall : ∀ S ∈ seen, ∃ T, T ≠ [] ∧ S = eclose m.edges T := by
    refine hP _ (fun x hx => ⟨[m.start], List.cons_ne_nil _ _, List.mem_singleton.1 hx⟩) ?_
    intro x _ t ht
    obtain ⟨a, ha, rfl⟩ := List.mem_map.1 ht
    obtain ⟨⟨s0, _, d0⟩, hed, hs, rfl⟩ := (mem_inputs m.edges x a).1 ha
    exact ⟨_, List.ne_nil_of_mem ((mem_moveSet m.edges x a d0).2 ⟨s0, hs, hed⟩), rfl⟩
  refine ⟨seen, rfl, ⟨by rw [hext]; rfl, fun S hS => ?_, fun S hS => ?_, hsucc⟩, fun S hS => ?_⟩
  · obtain ⟨T, _, rfl⟩ := hall S hS
    exact eclose_epsClosed _ _
  · obtain ⟨T, hT, rfl⟩ := hall S hS
    obtain ⟨q, hq⟩ := List.exists_mem_of_ne_nil T hT
    exact List.ne_nil_of_mem (mem_eclose_self hq)
  · obtain ⟨T, _, rfl⟩ := hall S hS
    exact eclose_sorted _ _

/-- From the DFA state of the set `S`, the run on `w`
ends in the state of exactly the NFA states reachable from `S` by `w`; it is undefined iff there
are none. -/
theorem run_explored (m : NFA) (hPD : PD m.edges) (seen : List (List Nat))
    (hex : Explored m.edges m.start seen) :
    ∀ (w : List Int) (i : Nat) (S : List Nat), seen[i]? = some S →
      (∀ j, (DFA.mk (seen.map (mkDState m seen))).run i w = some j →
        ∃ T, seen[j]? = some T ∧ ∀ q, q ∈ T ↔ Reach m.edges S w q) ∧
      ((DFA.mk (seen.map (mkDState m seen))).run i w = none → ∀ q, ¬ Reach m.edges S w q) := by
  intro w
  induction w with
  | nil =>
    intro i S hS
    have hcl := hex.closed S (List.mem_of_getElem? hS)
    refine ⟨?_, by simp [DFA.run]⟩
    intro j hj
    simp only [DFA.run, Option.some.injEq] at hj
    subst hj
    exact ⟨S, hS, fun q => (reach_nil hcl q).symm⟩
  | cons c w ih =>
    intro i S hS
    have hSm := List.mem_of_getElem? hS
    have hcl := hex.closed S hSm
    rw [DFA.run]
    cases hs : (DFA.mk (seen.map (mkDState m seen))).step i c with
    | none =>
      refine ⟨nofun, fun _ q => reach_dead hcl c (fun a ha => ?_) w q⟩
      exact (DFA.step_none_iff _ i c).1 hs _ (mem_trans_mkDState.2 ⟨S, hS, a, ha, rfl⟩)
    | some t =>
      -- the step is the transition on an input `a` of `S`, to the set `a` leads to
      obtain ⟨a, hat, h1, h2⟩ := DFA.step_some hs
      obtain ⟨S', hS', _, ha, e⟩ := mem_trans_mkDState.1 hat
      cases hS.symm.trans hS'
      cases e
      have hlt := List.idxOf_lt_length_of_mem (hex.succ S hSm _ (List.mem_map.2 ⟨a, ha, rfl⟩))
      obtain ⟨ih1, ih2⟩ := ih _ _ ((List.getElem?_eq_getElem hlt).trans
        (congrArg some (List.getElem_idxOf hlt)))
      refine ⟨fun j hj => ?_, fun hn q hq => ih2 hn q ((reach_step hPD hcl a ha c h1 h2 w q).1 hq)⟩
      obtain ⟨T, hT1, hT2⟩ := ih1 j hj
      exact ⟨T, hT1, fun q => (hT2 q).trans (reach_step hPD hcl a ha c h1 h2 w q).symm⟩

/-- For an NFA whose labels are pairwise equal or disjoint (what
`normalizeInputs` establishes), the DFA of `NFAToDFA` (before `optimize`) run on `w` from state 0
reaches the state whose NFA states are exactly those the NFA can be in after `w`; the run is
undefined iff the NFA cannot read `w`. -/
theorem subset_correct (m : NFA) (hPD : PD m.edges) (fuel : Nat) (d : DFA)
    (h : subset m fuel = some d) (w : List Int) :
    (∀ j, d.run 0 w = some j → ∃ s, d.states[j]? = some s ∧
      (∀ q, q ∈ s.nfa ↔ Path m.edges m.start w q) ∧ s.nfa.Pairwise (· < ·) ∧ s.nfa ≠ []) ∧
    (d.run 0 w = none → ∀ q, ¬ Path m.edges m.start w q) := by
  obtain ⟨seen, rfl, hex, hsorted⟩ := subset_eq h
  obtain ⟨h1, h2⟩ := run_explored m hPD seen hex w 0 _ hex.first
  have hstart : ∀ q, Reach m.edges (eclose m.edges [m.start]) w q ↔ Path m.edges m.start w q :=
    fun q => reach_eclose.trans (by simp [Reach])
  refine ⟨?_, fun hn q hq => h2 hn q ((hstart q).2 hq)⟩
  intro j hj
  obtain ⟨T, hT1, hT2⟩ := h1 j hj
  refine ⟨mkDState m seen T, by simp [List.getElem?_map, hT1], ?_, ?_, ?_⟩
  · intro q; simp only [mkDState]; exact (hT2 q).trans (hstart q)
  · simp only [mkDState]; exact hsorted T (List.mem_of_getElem? hT1)
  · simp only [mkDState]; exact hex.nonempty T (List.mem_of_getElem? hT1)

end Lox.Lex.Gen
