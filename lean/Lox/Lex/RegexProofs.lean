import Lox.Lex.Regex
import Lox.Util.OrdInsert
/-! Correctness of partial derivatives (Antimirov): `nullable_iff`, `pd_iff` (one induction over the
expression; `pd_sound`, `pd_complete` are its halves), folded over term sets, words and rule vectors;
every regex whose classes are non-empty matches some word; `pd c r` only depends on the membership of
`c` in the first classes of `r`. -/
namespace Lox.Lex

theorem matches_seq_iff (r s : Re) (w : List Int) :
    Matches (.seq r s) w ↔ ∃ u v, w = u ++ v ∧ Matches r u ∧ Matches s v := by
  constructor
  · intro h; cases h with
    | seq h1 h2 => exact ⟨_, _, rfl, h1, h2⟩
  · rintro ⟨u, v, rfl, h1, h2⟩; exact .seq h1 h2

theorem nullable_iff (r : Re) : nullable r = true ↔ Matches r [] := by
  induction r with
  | eps => simp [nullable]; exact .eps
  | cls cs => simp [nullable]; intro h; cases h
  | seq r s ihr ihs =>
    simp only [nullable, Bool.and_eq_true, ihr, ihs, matches_seq_iff, List.nil_eq_append_iff]
    constructor
    · rintro ⟨h1, h2⟩; exact ⟨[], [], ⟨rfl, rfl⟩, h1, h2⟩
    · rintro ⟨u, v, ⟨rfl, rfl⟩, h1, h2⟩; exact ⟨h1, h2⟩
  | alt r s ihr ihs =>
    simp [nullable, ihr, ihs]
    constructor
    · rintro (h | h)
      · exact .altl h
      · exact .altr h
    · intro h
      cases h with
      | altl h => exact .inl h
      | altr h => exact .inr h
  | star ng r _ => simp [nullable]; exact .star_nil

theorem mkSeq_matches (r s : Re) (w : List Int) :
    Matches (mkSeq r s) w ↔ Matches (.seq r s) w := by
  unfold mkSeq
  split
  · constructor
    · intro h; exact .seq (u := []) .eps h
    · intro h
      cases h with
      | seq h1 h2 => cases h1; simpa using h2
  · exact Iff.rfl

/-- The left quotient of `r s` by `c`: `r` reads `c`, or `r` matches `[]` and `s` reads `c`. -/
theorem matches_seq_cons_iff {r s : Re} {c : Int} {w : List Int} :
    Matches (.seq r s) (c :: w) ↔
      (∃ u v, w = u ++ v ∧ Matches r (c :: u) ∧ Matches s v) ∨ (Matches r [] ∧ Matches s (c :: w)) := by
  rw [matches_seq_iff]
  constructor
  · rintro ⟨u, v, e, h1, h2⟩
    cases u with
    | nil => exact .inr ⟨h1, e ▸ h2⟩
    | cons c' u =>
      obtain ⟨rfl, rfl⟩ := List.cons.inj e
      exact .inl ⟨u, v, rfl, h1, h2⟩
  · rintro (⟨u, v, rfl, h1, h2⟩ | ⟨h1, h2⟩)
    · exact ⟨c :: u, v, rfl, h1, h2⟩
    · exact ⟨[], c :: w, rfl, h1, h2⟩

theorem matches_star_cons_iff {ng : Bool} {r : Re} {c : Int} {w : List Int} :
    Matches (.star ng r) (c :: w) ↔
      ∃ u v, w = u ++ v ∧ Matches r (c :: u) ∧ Matches (.star ng r) v := by
  constructor
  · intro h
    generalize hx : c :: w = x at h
    cases h with
    | star_nil => cases hx
    | star_cons h1 h2 =>
      obtain ⟨rfl, rfl⟩ := List.cons.inj hx
      exact ⟨_, _, rfl, h1, h2⟩
  · rintro ⟨u, v, rfl, h1, h2⟩; exact .star_cons h1 h2

/-- Case by case, `pd c` is the left quotient by `c` of the language (`matches_seq_cons_iff`,
`matches_star_cons_iff`), with `mkSeq r' s` standing for `r' s`. -/
theorem pd_iff (c : Int) (r : Re) (w : List Int) :
    Matches r (c :: w) ↔ ∃ r' ∈ pd c r, Matches r' w := by
  induction r generalizing w with
  | eps =>
    simp only [pd, List.not_mem_nil, false_and, exists_false, iff_false]
    intro h; cases h
  | cls cs =>
    simp only [pd]
    constructor
    · intro h; cases h with
      | cls hin => exact ⟨.eps, by simp [hin], .eps⟩
    · rintro ⟨r', h, hm⟩
      split at h
      · cases List.mem_singleton.mp h; cases hm; exact .cls ‹_›
      · cases h
  | seq r s ihr ihs =>
    simp only [matches_seq_cons_iff, pd, List.mem_append, List.mem_map]
    constructor
    · rintro (⟨u, v, rfl, h1, h2⟩ | ⟨h1, h2⟩)
      · obtain ⟨r', hr', hm⟩ := (ihr u).1 h1
        exact ⟨_, .inl ⟨r', hr', rfl⟩, (mkSeq_matches ..).2 (.seq hm h2)⟩
      · obtain ⟨r', hr', hm⟩ := (ihs w).1 h2
        exact ⟨r', .inr (by rwa [if_pos ((nullable_iff r).2 h1)]), hm⟩
    · rintro ⟨_, ⟨r1, hr1, rfl⟩ | h, hm⟩
      · obtain ⟨u, v, rfl, h1, h2⟩ := (matches_seq_iff ..).1 ((mkSeq_matches ..).1 hm)
        exact .inl ⟨u, v, rfl, (ihr u).2 ⟨r1, hr1, h1⟩, h2⟩
      · split at h
        · exact .inr ⟨(nullable_iff r).1 ‹_›, (ihs w).2 ⟨_, h, hm⟩⟩
        · cases h
  | alt r s ihr ihs =>
    simp only [pd, List.mem_append, or_and_right, exists_or, ← ihr, ← ihs]
    constructor
    · intro h; cases h with
      | altl h => exact .inl h
      | altr h => exact .inr h
    · rintro (h | h)
      · exact .altl h
      · exact .altr h
  | star ng r ih =>
    simp only [matches_star_cons_iff, pd, List.mem_map]
    constructor
    · rintro ⟨u, v, rfl, h1, h2⟩
      obtain ⟨r', hr', hm⟩ := (ih u).1 h1
      exact ⟨_, ⟨r', hr', rfl⟩, (mkSeq_matches ..).2 (.seq hm h2)⟩
    · rintro ⟨_, ⟨r1, hr1, rfl⟩, hm⟩
      obtain ⟨u, v, rfl, h1, h2⟩ := (matches_seq_iff ..).1 ((mkSeq_matches ..).1 hm)
      exact ⟨u, v, rfl, (ih u).2 ⟨r1, hr1, h1⟩, h2⟩

theorem pd_sound (c : Int) (r : Re) :
    ∀ w, (∃ r' ∈ pd c r, Matches r' w) → Matches r (c :: w) :=
  fun w => (pd_iff c r w).2

theorem pd_complete (c : Int) : ∀ (r : Re) (w : List Int), Matches r (c :: w) →
    ∃ r' ∈ pd c r, Matches r' w :=
  fun r w => (pd_iff c r w).1

theorem inCls_iff (cs : Cls) (c : Int) : inCls cs c = true ↔ ∃ r ∈ cs, r.1 ≤ c ∧ c ≤ r.2 := by
  simp [inCls]

theorem inCls_single (c x : Int) : inCls [(c, c)] x = true ↔ x = c := by
  simp only [inCls, List.any_cons, List.any_nil, Bool.or_false, Bool.and_eq_true, decide_eq_true_eq]
  omega

theorem matches_single (c : Int) (w : List Int) : Matches (.cls [(c, c)]) w ↔ w = [c] := by
  constructor
  · intro h; cases h with
    | cls hin => rw [(inCls_single c _).mp hin]
  · rintro rfl; exact .cls ((inCls_single c c).mpr rfl)

theorem matches_lit : ∀ (p w : List Int), Matches (Re.lit p) w ↔ w = p := by
  intro p
  induction p with
  | nil =>
    intro w
    constructor
    · intro h; cases h; rfl
    · rintro rfl; exact .eps
  | cons c cs ih =>
    intro w
    cases cs with
    | nil => exact matches_single c w
    | cons c' cs' =>
      show Matches (.seq (.cls [(c, c)]) (Re.lit (c' :: cs'))) w ↔ _
      rw [matches_seq_iff]
      constructor
      · rintro ⟨u, v, rfl, h1, h2⟩
        rw [(matches_single c u).mp h1, (ih v).mp h2]; rfl
      · rintro rfl
        exact ⟨[c], c' :: cs', rfl, (matches_single c _).mpr rfl, (ih _).mpr rfl⟩

theorem matches_star_append {ng : Bool} {r : Re} {u v : List Int} (h1 : Matches r u)
    (h2 : Matches (.star ng r) v) : Matches (.star ng r) (u ++ v) := by
  cases u with
  | nil => simpa using h2
  | cons c u => exact .star_cons h1 h2

theorem matches_star_one {ng : Bool} {r : Re} {u : List Int} (h1 : Matches r u) :
    Matches (.star ng r) u := by
  simpa using matches_star_append (ng := ng) h1 .star_nil

theorem matches_star_ind {ng : Bool} {r : Re} {P : List Int → Prop} (hnil : P [])
    (hcons : ∀ u v, Matches r u → P v → P (u ++ v)) :
    ∀ {w}, Matches (.star ng r) w → P w := by
  intro w h
  generalize hx : Re.star ng r = x at h
  induction h with
  | eps => cases hx
  | cls _ => cases hx
  | seq _ _ _ _ => cases hx
  | altl _ _ => cases hx
  | altr _ _ => cases hx
  | star_nil => exact hnil
  | star_cons h1 _ _ ih2 =>
    cases hx
    exact hcons _ _ h1 (ih2 rfl)

theorem matches_star_snoc {ng : Bool} {r : Re} {u v : List Int} (h1 : Matches (.star ng r) u)
    (h2 : Matches r v) : Matches (.star ng r) (u ++ v) :=
  matches_star_ind (P := fun u => Matches (.star ng r) (u ++ v))
    (by simpa only [List.nil_append] using matches_star_one h2)
    (fun a b ha hb => List.append_assoc a b v ▸ matches_star_append ha hb) h1

/-- `r* r ⊆ r r*`. -/
theorem matches_star_snoc_plus {ng : Bool} {r : Re} {u v : List Int} (h1 : Matches (.star ng r) u)
    (h2 : Matches r v) : Matches (.seq r (.star ng r)) (u ++ v) :=
  matches_star_ind (P := fun u => Matches (.seq r (.star ng r)) (u ++ v))
    (by simpa only [List.nil_append, List.append_nil] using Matches.seq h2 (.star_nil (ng := ng)))
    (fun a b ha hb => by
      rw [List.append_assoc]
      obtain ⟨x, y, e, hx, hy⟩ := (matches_seq_iff ..).1 hb
      exact .seq ha (e ▸ matches_star_append hx hy)) h1

theorem ordIns_insTerm : Lox.Util.OrdIns (fun _ _ => True) insTerm where
  nil _ := rfl
  cons a b l := by
    rw [insTerm]
    by_cases e : a = b
    · exact .inr (.inr ⟨e, if_pos e⟩)
    · by_cases h : (Re.cmp a b == .lt) = true
      · exact .inl ⟨trivial, by rw [if_neg e, if_pos h]⟩
      · exact .inr (.inl ⟨trivial, by rw [if_neg e, if_neg h]⟩)

theorem mem_canon {x : Re} {l : List Re} : x ∈ canon l ↔ x ∈ l := ordIns_insTerm.mem_foldr

theorem mem_pdSet {c : Int} {ts : List Re} {x : Re} :
    x ∈ pdSet c ts ↔ ∃ t ∈ ts, x ∈ pd c t := by
  simp [pdSet, mem_canon, List.mem_flatMap]

theorem pdSet_nil (c : Int) : pdSet c [] = [] := rfl

def SetMatches (ts : List Re) (w : List Int) : Prop := ∃ t ∈ ts, Matches t w

theorem pdSet_iff (c : Int) (ts : List Re) (w : List Int) :
    SetMatches (pdSet c ts) w ↔ SetMatches ts (c :: w) := by
  unfold SetMatches
  constructor
  · rintro ⟨x, hx, hm⟩
    obtain ⟨t, ht, hxt⟩ := mem_pdSet.mp hx
    exact ⟨t, ht, (pd_iff c t w).2 ⟨x, hxt, hm⟩⟩
  · rintro ⟨t, ht, hm⟩
    obtain ⟨x, hx, hm'⟩ := (pd_iff c t w).1 hm
    exact ⟨x, mem_pdSet.mpr ⟨t, ht, hx⟩, hm'⟩

theorem pdSetW_nil (ts : List Re) : pdSetW [] ts = ts := rfl
theorem pdSetW_cons (c : Int) (w : List Int) (ts : List Re) :
    pdSetW (c :: w) ts = pdSetW w (pdSet c ts) := rfl
theorem pdSetW_append (u v : List Int) (ts : List Re) :
    pdSetW (u ++ v) ts = pdSetW v (pdSetW u ts) := by
  simp [pdSetW, List.foldl_append]

theorem pdSetW_iff (u : List Int) : ∀ (ts : List Re) (v : List Int),
    SetMatches (pdSetW u ts) v ↔ SetMatches ts (u ++ v) := by
  induction u with
  | nil => intro ts v; simp [pdSetW_nil]
  | cons c u ih =>
    intro ts v
    rw [pdSetW_cons, ih, pdSet_iff]; simp

theorem pdw_iff (r : Re) (u v : List Int) :
    Matches r (u ++ v) ↔ ∃ r' ∈ pdw u r, Matches r' v := by
  have := pdSetW_iff u [r] v
  simp only [SetMatches, List.mem_singleton, exists_eq_left] at this
  exact this.symm

theorem pdw_nullable_iff (r : Re) (u : List Int) :
    Matches r u ↔ ∃ r' ∈ pdw u r, nullable r' = true := by
  have := pdw_iff r u []
  simp only [List.append_nil] at this
  rw [this]
  constructor
  · rintro ⟨x, hx, hm⟩; exact ⟨x, hx, (nullable_iff x).mpr hm⟩
  · rintro ⟨x, hx, hm⟩; exact ⟨x, hx, (nullable_iff x).mp hm⟩

theorem pdVecW_nil (v : List (List Re)) : pdVecW [] v = v := rfl
theorem pdVecW_cons (c : Int) (w : List Int) (v : List (List Re)) :
    pdVecW (c :: w) v = pdVecW w (pdVec c v) := rfl

theorem vecDead_pdVec (c : Int) (v : List (List Re)) (h : vecDead v = true) :
    vecDead (pdVec c v) = true := by
  simp only [vecDead, pdVec, List.all_map, List.all_eq_true] at *
  intro ts hts
  have := h ts hts
  simp only [List.isEmpty_iff] at this
  subst this
  simp [pdSet_nil]

theorem clsNonEmpty_inCls {cs : Cls} (h : clsNonEmpty cs = true) : ∃ c, inCls cs c = true := by
  simp only [clsNonEmpty, List.any_eq_true, decide_eq_true_eq] at h
  obtain ⟨r, hr, hle⟩ := h
  refine ⟨r.1, ?_⟩
  simp only [inCls, List.any_eq_true, Bool.and_eq_true, decide_eq_true_eq]
  exact ⟨r, hr, Int.le_refl _, hle⟩

theorem clsOK_matches : ∀ (r : Re), r.clsOK = true → ∃ w, Matches r w := by
  intro r
  induction r with
  | eps => intro _; exact ⟨[], .eps⟩
  | cls cs =>
    intro h
    obtain ⟨c, hc⟩ := clsNonEmpty_inCls (by simpa [Re.clsOK] using h)
    exact ⟨[c], .cls hc⟩
  | seq r s ihr ihs =>
    intro h
    simp only [Re.clsOK, Bool.and_eq_true] at h
    obtain ⟨u, hu⟩ := ihr h.1
    obtain ⟨v, hv⟩ := ihs h.2
    exact ⟨u ++ v, .seq hu hv⟩
  | alt r s ihr _ =>
    intro h
    simp only [Re.clsOK, Bool.and_eq_true] at h
    obtain ⟨u, hu⟩ := ihr h.1
    exact ⟨u, .altl hu⟩
  | star ng r _ => intro _; exact ⟨[], .star_nil⟩

theorem clsOK_mkSeq {r s : Re} (hr : r.clsOK = true) (hs : s.clsOK = true) :
    (mkSeq r s).clsOK = true := by
  unfold mkSeq
  split
  · exact hs
  · simp [Re.clsOK, hr, hs]

theorem clsOK_pd (c : Int) : ∀ (r : Re), r.clsOK = true → ∀ t ∈ pd c r, t.clsOK = true := by
  intro r
  induction r with
  | eps => intro _ t ht; simp [pd] at ht
  | cls cs =>
    intro _ t ht
    simp only [pd] at ht
    split at ht
    · simp at ht; subst ht; rfl
    · simp at ht
  | seq r s ihr ihs =>
    intro h t ht
    simp only [Re.clsOK, Bool.and_eq_true] at h
    simp only [pd, List.mem_append, List.mem_map] at ht
    rcases ht with ⟨r1, hr1, rfl⟩ | ht
    · exact clsOK_mkSeq (ihr h.1 _ hr1) h.2
    · split at ht
      · exact ihs h.2 _ ht
      · simp at ht
  | alt r s ihr ihs =>
    intro h t ht
    simp only [Re.clsOK, Bool.and_eq_true] at h
    simp only [pd, List.mem_append] at ht
    rcases ht with ht | ht
    · exact ihr h.1 _ ht
    · exact ihs h.2 _ ht
  | star ng r ih =>
    intro h t ht
    simp only [pd, List.mem_map] at ht
    obtain ⟨r1, hr1, rfl⟩ := ht
    exact clsOK_mkSeq (ih (by simpa [Re.clsOK] using h) _ hr1) (by simpa [Re.clsOK] using h)

theorem clsOK_pdSet (c : Int) (ts : List Re) (h : ∀ t ∈ ts, t.clsOK = true) :
    ∀ t ∈ pdSet c ts, t.clsOK = true := by
  intro x hx
  obtain ⟨t, ht, hxt⟩ := mem_pdSet.mp hx
  exact clsOK_pd c t (h t ht) x hxt

theorem pd_congr (c c' : Int) : ∀ (r : Re),
    (∀ cs ∈ firstCls r, inCls cs c = inCls cs c') → pd c r = pd c' r := by
  intro r
  induction r with
  | eps => intro _; rfl
  | cls cs => intro h; simp only [pd]; rw [h cs (by simp [firstCls])]
  | seq r s ihr ihs =>
    intro h
    simp only [firstCls, List.mem_append] at h
    simp only [pd]
    rw [ihr (fun cs hcs => h cs (.inl hcs))]
    cases hn : nullable r with
    | false => simp
    | true =>
      simp only [hn, ↓reduceIte] at h ⊢
      rw [ihs (fun cs hcs => h cs (.inr hcs))]
  | alt r s ihr ihs =>
    intro h
    simp only [firstCls, List.mem_append] at h
    simp only [pd]
    rw [ihr (fun cs hcs => h cs (.inl hcs)), ihs (fun cs hcs => h cs (.inr hcs))]
  | star ng r ih =>
    intro h
    simp only [pd]
    rw [ih (fun cs hcs => h cs (by simpa [firstCls] using hcs))]

theorem pdSet_congr (c c' : Int) (ts : List Re)
    (h : ∀ t ∈ ts, ∀ cs ∈ firstCls t, inCls cs c = inCls cs c') : pdSet c ts = pdSet c' ts := by
  unfold pdSet
  congr 1
  induction ts with
  | nil => rfl
  | cons t ts ih =>
    simp only [List.flatMap_cons]
    rw [pd_congr c c' t (h t (by simp)), ih (fun t ht => h t (by simp [ht]))]

end Lox.Lex
