import Lox.Lex.EmitModel
import Lox.Lex.TableProofs
import Lox.Lex.GenOptProofs
import Lox.Rang3.Proofs.Heap
/-! The row `mode_table` writes for one DFA state (`EmitModel`): the keys sorted by
`rang3.Compare`, the triples, and the linear lookup over them (= `DState.next`), for a state of a
well-formed DFA over code points (`TransOK`). -/
namespace Lox.Lex.Gen
open Lox.Rang3 (Range cmp cmp_lt_iff cmp_eq_zero_iff)
open Lox.Lex (Triple lookup sortedFrom rowOK)

/-- The keys of the transition map are kept like the `rangeHeap` of `rang3.Normalize`: the two
insertions test `Compare < 0` and `Compare = 0` (the same range) in opposite order. -/
theorem insRangeKey_eq_heapPush (r : Range) (l : List Range) :
    insRangeKey r l = Lox.Rang3.heapPush r l := by
  induction l with
  | nil => rfl
  | cons x xs ih =>
    have hlt : r.lt x = decide (cmp r x < 0) := rfl
    simp only [insRangeKey, Lox.Rang3.heapPush, ih, hlt, decide_eq_true_eq, ← cmp_eq_zero_iff]
    split
    · rw [if_neg (by omega)]
    · rfl

theorem sortedKeys_eq (ts : List (Range × Nat)) :
    sortedKeys ts = (ts.map (·.1)).foldr Lox.Rang3.heapPush [] := by
  rw [sortedKeys, funext fun r => funext (insRangeKey_eq_heapPush r)]

theorem mem_sortedKeys {ts : List (Range × Nat)} {k : Range} :
    k ∈ sortedKeys ts ↔ ∃ t ∈ ts, t.1 = k := by
  rw [sortedKeys_eq, Lox.Rang3.ordIns_heapPush.mem_foldr, List.mem_map]

theorem sortedKeys_sorted (ts : List (Range × Nat)) :
    (sortedKeys ts).Pairwise fun a b => cmp a b < 0 :=
  sortedKeys_eq ts ▸
    (Lox.Rang3.ordIns_heapPush.pairwise_foldr Lox.Rang3.lt_trans _).imp of_decide_eq_true

def DFA.Runes (F : DFA) : Prop := ∀ s t, t ∈ F.trans s → 0 ≤ t.1.b ∧ t.1.e ≤ Lox.Lex.maxRune

/-- No state is non-greedy accepting (`stateFlags = 0` everywhere). -/
def DFA.Greedy (F : DFA) : Prop := ∀ st ∈ F.states, (st.accept && st.ng) = false

/-- What `DFA.WF` and the bounds on code points say about the transitions of one state. -/
structure TransOK (ts : List (Range × Nat)) (n : Nat) : Prop where
  det : ∀ x ∈ ts, ∀ y ∈ ts, ∀ c : Int, x.1.b ≤ c → c ≤ x.1.e → y.1.b ≤ c → c ≤ y.1.e → x = y
  valid : ∀ t ∈ ts, t.1.b ≤ t.1.e
  lo : ∀ t ∈ ts, 0 ≤ t.1.b
  hi : ∀ t ∈ ts, t.1.e ≤ Lox.Lex.maxRune
  tgt : ∀ t ∈ ts, t.2 < n

theorem transOK_of_wf {F : DFA} (hwf : F.WF) (hr : F.Runes) {s : Nat} {st : DState}
    (h : F.states[s]? = some st) : TransOK st.trans F.states.length := by
  rw [← DFA.trans_of_get h]
  exact ⟨fun x hx y hy c => hwf.det s x y c hx hy, hwf.valid s, fun t ht => (hr s t ht).1,
    fun t ht => (hr s t ht).2, hwf.tgt s⟩

theorem TransOK.target_eq {ts : List (Range × Nat)} {n : Nat} (h : TransOK ts n)
    {t : Range × Nat} (ht : t ∈ ts) : target ts t.1 = t.2 := by
  unfold target
  cases hf : ts.find? (fun x => decide (x.1 = t.1)) with
  | none => simpa using List.find?_eq_none.1 hf t ht
  | some x =>
    have hk : x.1 = t.1 := by simpa using List.find?_some hf
    have hv := h.valid t ht
    rw [h.det x (List.mem_of_find?_eq_some hf) t ht t.1.b (by rw [hk]; omega) (by rw [hk]; exact hv)
      (by omega) hv]
    rfl

theorem castU32_id {x : Int} (h0 : 0 ≤ x) (h1 : x ≤ Lox.Lex.maxRune) : Lox.Table.castU32 x = x := by
  unfold Lox.Table.castU32
  unfold Lox.Lex.maxRune at h1
  omega

def keyTriple (ts : List (Range × Nat)) (k : Range) : Triple :=
  (Lox.Table.castU32 k.b, Lox.Table.castU32 k.e, (target ts k : Int))

theorem stateTriples_eq (s : DState) : stateTriples s = (sortedKeys s.trans).map (keyTriple s.trans) :=
  rfl

theorem TransOK.keyTriple_eq {ts : List (Range × Nat)} {n : Nat} (h : TransOK ts n)
    {t : Range × Nat} (ht : t ∈ ts) : keyTriple ts t.1 = (t.1.b, t.1.e, (t.2 : Int)) := by
  have hv := h.valid t ht
  have hl := h.lo t ht
  have hh := h.hi t ht
  rw [keyTriple, h.target_eq ht, castU32_id hl (by omega), castU32_id (by omega) hh]

theorem TransOK.mem_triples {ts : List (Range × Nat)} {n : Nat} (h : TransOK ts n) {x : Triple} :
    x ∈ (sortedKeys ts).map (keyTriple ts) ↔ ∃ t ∈ ts, x = (t.1.b, t.1.e, (t.2 : Int)) := by
  simp only [List.mem_map, mem_sortedKeys]
  constructor
  · rintro ⟨k, ⟨t, ht, rfl⟩, rfl⟩
    exact ⟨t, ht, h.keyTriple_eq ht⟩
  · rintro ⟨t, ht, rfl⟩
    exact ⟨t.1, ⟨t, ht, rfl⟩, h.keyTriple_eq ht⟩

theorem TransOK.disjoint {ts : List (Range × Nat)} {n : Nat} (h : TransOK ts n)
    {x y : Range × Nat} (hx : x ∈ ts) (hy : y ∈ ts) (hne : x.1 ≠ y.1) :
    x.1.e < y.1.b ∨ y.1.e < x.1.b := by
  have hvx := h.valid x hx
  have hvy := h.valid y hy
  rcases Int.lt_or_le x.1.e y.1.b with h1 | h1
  · exact Or.inl h1
  rcases Int.lt_or_le y.1.e x.1.b with h2 | h2
  · exact Or.inr h2
  -- the two ranges overlap: they share the larger of the two lower ends
  refine absurd ?_ hne
  rcases Int.le_total x.1.b y.1.b with h3 | h3
  · rw [h.det x hx y hy y.1.b h3 h1 (by omega) hvy]
  · rw [h.det x hx y hy x.1.b (by omega) hvx h3 h2]

theorem TransOK.sorted {ts : List (Range × Nat)} {n : Nat} (h : TransOK ts n) :
    sortedFrom (-1) ((sortedKeys ts).map (keyTriple ts)) = true := by
  rw [← Lox.Lex.rt_sortedFrom_eq, Rt.sortedFrom_iff, List.pairwise_map]
  refine ⟨(sortedKeys_sorted ts).imp_of_mem fun {a b} ha hb hab => ?_, fun x hx => ?_, fun x hx => ?_⟩
  · obtain ⟨t, ht, rfl⟩ := mem_sortedKeys.1 ha
    obtain ⟨t', ht', rfl⟩ := mem_sortedKeys.1 hb
    -- `t.1 < t'.1` for `Compare`, and the two are disjoint: `t'` lies wholly above `t`
    rw [cmp_lt_iff] at hab
    have hd := h.disjoint ht ht' fun e => by rw [e] at hab; omega
    have hv' := h.valid t' ht'
    rw [h.keyTriple_eq ht, h.keyTriple_eq ht']
    show t.1.e < t'.1.b
    omega
  · obtain ⟨t, ht, rfl⟩ := h.mem_triples.1 hx
    exact h.valid t ht
  · obtain ⟨t, ht, rfl⟩ := h.mem_triples.1 hx
    exact Int.lt_of_lt_of_le (by decide) (h.lo t ht)

theorem TransOK.lookup_eq {ts : List (Range × Nat)} {n : Nat} (h : TransOK ts n) (c : Int) :
    lookup ((sortedKeys ts).map (keyTriple ts)) c =
      ((ts.find? fun t => decide (t.1.b ≤ c ∧ c ≤ t.1.e)).map (·.2)).map fun q => (q : Int) := by
  cases hf : ts.find? (fun t => decide (t.1.b ≤ c ∧ c ≤ t.1.e)) with
  | none =>
    apply Lox.Lex.lookup_eq_none
    intro x hx hc
    obtain ⟨t, ht, rfl⟩ := h.mem_triples.1 hx
    exact List.find?_eq_none.1 hf t ht (decide_eq_true (p := t.1.b ≤ c ∧ c ≤ t.1.e) hc)
  | some t =>
    have hc : t.1.b ≤ c ∧ c ≤ t.1.e := by simpa using List.find?_some hf
    exact Lox.Lex.lookup_eq_some (Lox.Lex.sortedFrom_spec _ _ h.sorted).2
      (h.mem_triples.2 ⟨t, List.mem_of_find?_eq_some hf, rfl⟩) hc

theorem rowOK_state {st : DState} {n : Nat} (h : TransOK st.trans n) (ps : List Pair) :
    rowOK n ⟨stateFlags st, stateTriples st, ps⟩ = true := by
  simp only [rowOK, Bool.and_eq_true, List.all_eq_true, decide_eq_true_eq]
  refine ⟨h.sorted, ?_⟩
  intro x hx
  obtain ⟨t, ht, rfl⟩ := h.mem_triples.1 hx
  have := h.hi t ht
  have := h.tgt t ht
  simp only
  omega

end Lox.Lex.Gen
