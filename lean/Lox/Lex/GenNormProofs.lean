import Lox.Lex.GenDFAProofs
import Lox.Rang3.Proofs.Normalize
/-! `normalizeInputs` (model: `normalizeEdges`, `Lox/Lex/GenDFA.lean`) changes no run of the NFA
and leaves labels that are pairwise equal or disjoint. Bridge to the proved facts about
`rang3.Normalize` (`Lox/Rang3/Proofs/Normalize.lean`, `Lox.Props.C15`). -/
namespace Lox.Lex.Gen
open Lox.Rang3

/-- `E'` makes the single steps of `E`: the same ε edges, and on every code point the same pairs of
states joined, whatever the ranges on the edges. What `normalizeInputs` keeps. -/
structure StepEq (E E' : List Edge) : Prop where
  eps : ∀ p q, (⟨p, none, q⟩ : Edge) ∈ E' ↔ (⟨p, none, q⟩ : Edge) ∈ E
  chr : ∀ p q (c : Int), (∃ rg, (⟨p, some rg, q⟩ : Edge) ∈ E' ∧ rg.b ≤ c ∧ c ≤ rg.e) ↔
    (∃ rg, (⟨p, some rg, q⟩ : Edge) ∈ E ∧ rg.b ≤ c ∧ c ≤ rg.e)

theorem StepEq.refl (E : List Edge) : StepEq E E := ⟨fun _ _ => Iff.rfl, fun _ _ _ => Iff.rfl⟩

theorem StepEq.trans {E1 E2 E3 : List Edge} (h12 : StepEq E1 E2) (h23 : StepEq E2 E3) :
    StepEq E1 E3 :=
  ⟨fun p q => (h23.eps p q).trans (h12.eps p q), fun p q c => (h23.chr p q c).trans (h12.chr p q c)⟩

theorem StepEq.pathN {E E' : List Edge} (h : StepEq E E') {k p w q} :
    PathN E' k p w q ↔ PathN E k p w q := by
  constructor
  · intro hp
    induction hp with
    | nil p => exact .nil p
    | eps he _ ih => exact .eps ((h.eps _ _).1 he) ih
    | chr he h1 h2 _ ih =>
      obtain ⟨rg, hrg, hb, he'⟩ := (h.chr _ _ _).1 ⟨_, he, h1, h2⟩
      exact .chr hrg hb he' ih
  · intro hp
    induction hp with
    | nil p => exact .nil p
    | eps he _ ih => exact .eps ((h.eps _ _).2 he) ih
    | chr he h1 h2 _ ih =>
      obtain ⟨rg, hrg, hb, he'⟩ := (h.chr _ _ _).2 ⟨_, he, h1, h2⟩
      exact .chr hrg hb he' ih

theorem StepEq.path {E E' : List Edge} (h : StepEq E E') {p w q} :
    Path E' p w q ↔ Path E p w q :=
  ⟨fun ⟨k, hk⟩ => ⟨k, h.pathN.1 hk⟩, fun ⟨k, hk⟩ => ⟨k, h.pathN.2 hk⟩⟩

/-- The range edges after the callback: those not labelled `o`, and for each edge labelled `o` one
labelled `a`, `b`, `c`. -/
theorem mem_relabelEdges_some (E : List Edge) (cb : NormCb) (p q : Nat) (r : Range) :
    (⟨p, some r, q⟩ : Edge) ∈ relabelEdges E cb ↔
      ((⟨p, some r, q⟩ : Edge) ∈ E ∧ r ≠ cb.o) ∨
      ((⟨p, some cb.o, q⟩ : Edge) ∈ E ∧ (r = cb.a ∨ r = cb.b ∨ r = cb.c)) := by
  simp only [relabelEdges, List.mem_flatMap, relabelEdge]
  constructor
  · rintro ⟨⟨s, l, d⟩, hed, hm⟩
    split at hm
    · rename_i hl
      simp only at hl; subst hl
      rw [cb.mem_pieces (fun x => (⟨s, some x, d⟩ : Edge))] at hm
      simp only [Edge.mk.injEq, Option.some.injEq] at hm
      obtain ⟨rfl, rfl⟩ : p = s ∧ q = d := by rcases hm with h | h | h <;> exact ⟨h.1, h.2.2⟩
      exact .inr ⟨hed, by simpa using hm⟩
    · rename_i hl
      cases List.mem_singleton.1 hm
      exact .inl ⟨hed, fun e => hl (congrArg some e)⟩
  · rintro (⟨hed, hne⟩ | ⟨hed, hr⟩)
    · exact ⟨_, hed, by rw [if_neg (fun e => hne (Option.some.inj e))]; exact List.mem_singleton.2 rfl⟩
    · refine ⟨_, hed, ?_⟩
      rw [if_pos rfl, cb.mem_pieces (fun x => (⟨p, some x, q⟩ : Edge))]
      simpa using hr

theorem mem_relabelEdges_none (E : List Edge) (cb : NormCb) (p q : Nat) :
    (⟨p, none, q⟩ : Edge) ∈ relabelEdges E cb ↔ (⟨p, none, q⟩ : Edge) ∈ E := by
  simp only [relabelEdges, List.mem_flatMap, relabelEdge]
  constructor
  · rintro ⟨⟨s, l, d⟩, hed, hm⟩
    split at hm
    · rename_i hl
      simp only at hl; subst hl
      simp at hm
    · exact List.mem_singleton.1 hm ▸ hed
  · exact fun hed => ⟨_, hed, by simp⟩

theorem stepEq_relabelEdges (E : List Edge) {s : List Range} (cb : NormCb) (h : GoodCb s cb) :
    StepEq E (relabelEdges E cb) :=
  ⟨mem_relabelEdges_none E cb, fun p q c => h.den_split (mem_relabelEdges_some E cb p q) c⟩

theorem mem_labels (E : List Edge) (r : Range) : r ∈ labels E ↔ ∃ ed ∈ E, ed.lbl = some r := by
  simp [labels, List.mem_filterMap]

theorem labels_relabelEdges (E : List Edge) (s : List Range) (cb : NormCb)
    (hs : ∀ r ∈ labels E, r ∈ s) : ∀ r ∈ labels (relabelEdges E cb), r ∈ applyNormCb s cb := by
  intro r hr
  obtain ⟨⟨p, l, q⟩, hm, rfl⟩ := (mem_labels _ r).1 hr
  rw [mem_applyNormCb]
  rcases (mem_relabelEdges_some E cb p q r).1 hm with ⟨hed, hne⟩ | ⟨_, rfl | rfl | rfl⟩
  · exact .inr (.inr (.inr ⟨hs r ((mem_labels E r).2 ⟨_, hed, rfl⟩), hne⟩))
  · exact .inr (.inr (.inl rfl))
  · exact .inr (.inl rfl)
  · exact .inl rfl

theorem fold_relabelEdges (log : List NormCb) : ∀ (E : List Edge) (s : List Range),
    CbsOk s log → (∀ r ∈ labels E, r ∈ s) →
    StepEq E (log.foldl relabelEdges E) ∧
      ∀ r ∈ labels (log.foldl relabelEdges E), r ∈ log.foldl applyNormCb s := by
  induction log with
  | nil => intro E s _ hs; exact ⟨StepEq.refl E, hs⟩
  | cons cb log ih =>
    intro E s hok hs
    obtain ⟨h1, h2⟩ := ih (relabelEdges E cb) (applyNormCb s cb) hok.2
      (labels_relabelEdges E s cb hs)
    exact ⟨(stepEq_relabelEdges E cb hok.1).trans h1, h2⟩

def ValidLabels (E : List Edge) : Prop := ∀ r ∈ labels E, Valid r

theorem normalizeEdges_spec (E : List Edge) (hv : ValidLabels E) :
    ∃ E', normalizeEdges E = some E' ∧ StepEq E E' ∧ PD E' ∧ ValidLabels E' := by
  obtain ⟨L, hL, hcbs, hval, hdis⟩ := normalize_spec (labels E) hv
  obtain ⟨hstep, hlab⟩ := fold_relabelEdges L E (heapOf (labels E)) hcbs
    (fun r hr => (mem_heapOf _ r).2 hr)
  refine ⟨L.foldl relabelEdges E, by simp [normalizeEdges, hL], hstep, ?_, ?_⟩
  · intro e1 he1 e2 he2 a b c ha hb h1 h2 h3 h4
    exact disjoint_eq_of_common hdis (hlab a ((mem_labels _ a).2 ⟨e1, he1, ha⟩))
      (hlab b ((mem_labels _ b).2 ⟨e2, he2, hb⟩)) ⟨h1, h2⟩ ⟨h3, h4⟩
  · intro r hr
    exact hval r (hlab r hr)

theorem normalizeNFA_spec (m : NFA) (hv : ValidLabels m.edges) :
    ∃ E', normalizeNFA m = some { m with edges := E' } ∧ StepEq m.edges E' ∧ PD E' ∧
      ValidLabels E' := by
  obtain ⟨E', hE, h⟩ := normalizeEdges_spec m.edges hv
  exact ⟨E', by simp only [normalizeNFA, hE, Option.map_some], h⟩

/-- Every edge of `E'` joins the ends of an edge of `E`: a range edge that is not empty shares a
code point, and with it the ends, with one. -/
theorem StepEq.ends {E E' : List Edge} (h : StepEq E E') (hv : ValidLabels E') :
    ∀ ed ∈ E', ∃ ed0 ∈ E, ed0.src = ed.src ∧ ed0.dst = ed.dst := by
  rintro ⟨p, l, q⟩ hed
  cases l with
  | none => exact ⟨_, (h.eps p q).1 hed, rfl, rfl⟩
  | some r =>
    obtain ⟨rg, hrg, _⟩ := (h.chr p q r.b).1
      ⟨r, hed, Int.le_refl _, hv r ((mem_labels _ r).2 ⟨_, hed, rfl⟩)⟩
    exact ⟨_, hrg, rfl, rfl⟩

end Lox.Lex.Gen
