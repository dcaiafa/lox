import Lox.Lex.BisimNG
import Lox.Lex.BisimProofs
/-! Soundness of the validator for modes with non-greedy rules (`bisimNG`). -/
namespace Lox.Lex

theorem vecBounds_cons (ts : List Re) (v : List (List Re)) :
    vecBounds (ts :: v) = (ts.flatMap fun t => (firstCls t).flatMap clsBounds) ++ vecBounds v := by
  simp [vecBounds]

theorem stepSet_congr (ng : Bool) (c c' : Int) (ts : List Re)
    (h : SamePiece (ts.flatMap fun t => (firstCls t).flatMap clsBounds) c c') :
    stepSet ng c ts = stepSet ng c' ts := by
  unfold stepSet
  split
  · rfl
  · exact pdSet_samePiece h

theorem pdVecNG_samePiece (c c' : Int) : ∀ (ngs : List Bool) (v : List (List Re)),
    SamePiece (vecBounds v) c c' → pdVecNG ngs c v = pdVecNG ngs c' v := by
  intro ngs
  induction ngs with
  | nil => intro v _; cases v <;> rfl
  | cons ng ngs ih =>
    intro v h
    cases v with
    | nil => rfl
    | cons ts v =>
      rw [vecBounds_cons] at h
      simp only [pdVecNG]
      rw [stepSet_congr ng c c' ts (h.mono (by intro b hb; simp [hb])),
        ih v (h.mono (by intro b hb; simp [hb]))]

theorem stepSet_nil (ng : Bool) (c : Int) : stepSet ng c [] = [] := by
  simp [stepSet, pdSet_nil]

theorem vecDead_pdVecNG (c : Int) : ∀ (ngs : List Bool) (v : List (List Re)),
    vecDead v = true → vecDead (pdVecNG ngs c v) = true := by
  intro ngs
  induction ngs with
  | nil => intro v _; cases v <;> rfl
  | cons ng ngs ih =>
    intro v h
    cases v with
    | nil => rfl
    | cons ts v =>
      simp only [vecDead, List.all_cons, Bool.and_eq_true, List.isEmpty_iff] at h
      obtain ⟨h1, h2⟩ := h
      subst h1
      simp only [pdVecNG, stepSet_nil, vecDead, List.all_cons, List.isEmpty_nil, Bool.true_and]
      exact ih v h2

def CfgOKNG (ngs : List Bool) (pss : List (List Pair)) (tbl : Mode) (R : List Cfg) (q : Nat)
    (v : List (List Re)) : Prop :=
  ∃ row, rowAt tbl q = some row ∧ row.acts = labelOf pss v ∧
    ∀ c : Int,
      match tableStep tbl q c with
      | none => vecDead (pdVecNG ngs c v) = true
      | some q' => vecDead (pdVecNG ngs c v) = false ∧ (q', pdVecNG ngs c v) ∈ R

theorem CfgOKNG.rowPairs {ngs : List Bool} {pss : List (List Pair)} {tbl : Mode} {R : List Cfg}
    {q : Nat} {v : List (List Re)} (h : CfgOKNG ngs pss tbl R q v) :
    rowPairs tbl q = labelOf pss v := by
  obtain ⟨row, hrow, hacts, _⟩ := h
  rw [rowPairs_eq hrow]; exact hacts

theorem checkCfgNG_sound {ngs : List Bool} {pss : List (List Pair)} {tbl : Mode} {R : List Cfg}
    {q : Nat} {v : List (List Re)} {n : Nat}
    (h : checkCfgNG ngs pss tbl (mkIndex n R) (q, v) = true) : CfgOKNG ngs pss tbl R q v := by
  unfold checkCfgNG at h
  simp only at h
  split at h
  · cases h
  · rename_i row hrow
    simp only [Bool.and_eq_true, decide_eq_true_eq] at h
    obtain ⟨hacts, hall⟩ := h
    have hstep : tableStep tbl q =
        fun c => if row.flags % 2 = 0 then (lookup row.trs c).map Int.toNat else none :=
      funext (tableStep_of_row hrow)
    rw [CfgOKNG, hstep]
    exact ⟨row, hrow, hacts, checkReps_sound
      (fun c c' hs => by
        rw [lookup_congr (hs.mono fun b hb => List.mem_append_left _ hb)])
      (fun c c' hs => pdVecNG_samePiece c c' ngs v (hs.mono fun b hb => List.mem_append_right _ hb))
      hall⟩

structure ClosedNG (rules : List Rule) (tbl : Mode) (R : List Cfg) : Prop where
  wf : wfTable tbl = true
  rulesOK : rulesOK rules = true
  init : (0, initVec rules) ∈ R
  step : ∀ q v, (q, v) ∈ R → CfgOKNG (rules.map (·.1.hasNG)) (rules.map (·.2)) tbl R q v

theorem checkAllNG_sound {rules : List Rule} {tbl : Mode} {R : List Cfg}
    (h : checkAllNG rules tbl R = true) : ClosedNG rules tbl R := by
  unfold checkAllNG at h
  simp only [Bool.and_eq_true, List.all_eq_true] at h
  obtain ⟨⟨⟨hwf, hrules⟩, hinit⟩, hall⟩ := h
  exact ⟨hwf, hrules, mkIndex_has hinit, fun q v hqv => checkCfgNG_sound (hall (q, v) hqv)⟩

theorem bisimNGN_ok {rules : List Rule} {tbl : Mode} {n : Nat} (h : bisimNGN rules tbl = .ok n) :
    ∃ R, checkAllNG rules tbl R = true := by
  unfold bisimNGN at h
  split at h
  · cases h
  · split at h
    · cases h
    · split at h
      · cases h
      · split at h
        · cases h
        · simp only at h
          split at h
          · cases h
          · rename_i R _
            split at h
            · rename_i hc; exact ⟨_, hc⟩
            · split at h <;> cases h

theorem bisimNG_ok {rules : List Rule} {tbl : Mode} (h : bisimNG rules tbl = .ok ()) :
    ∃ R, ClosedNG rules tbl R := by
  unfold bisimNG at h
  cases hb : bisimNGN rules tbl with
  | error e => rw [hb] at h; cases h
  | ok n =>
    obtain ⟨R, hR⟩ := bisimNGN_ok hb
    exact ⟨R, checkAllNG_sound hR⟩

theorem pdVecNG_map (f : Rule → Bool) (c : Int) (g : Rule → List Re) : ∀ rules : List Rule,
    pdVecNG (rules.map f) c (rules.map g) = rules.map fun r => stepSet (f r) c (g r)
  | [] => rfl
  | r :: rs => by rw [List.map_cons, List.map_cons, pdVecNG, pdVecNG_map f c g rs]; rfl

theorem foldl_pdVecNG (f : Rule → Bool) (rules : List Rule) : ∀ (s : List Int) (g : Rule → List Re),
    s.foldl (fun v c => pdVecNG (rules.map f) c v) (rules.map g) =
      rules.map fun r => stepW (f r) s (g r)
  | [], _ => rfl
  | c :: s, g => by
    rw [List.foldl_cons, pdVecNG_map]
    exact foldl_pdVecNG f rules s fun r => stepSet (f r) c (g r)

theorem closedNG_sound {rules : List Rule} {tbl : Mode} {R : List Cfg}
    (hC : ClosedNG rules tbl R) (s : List Int) : tableRun tbl s = specRunNG rules s := by
  obtain ⟨hne, hok⟩ := rulesOK_iff.mp hC.rulesOK
  have hrun := run_closed (fun c v => vecDead_pdVecNG c _ v)
    (fun q v h => (hC.step q v h).choose_spec.2.2) s 0 _ hC.init (initVec_not_dead hne)
  rw [initVec, foldl_pdVecNG] at hrun
  unfold specRunNG
  exact tableRun_eq_of_tracked hrun (fun q' h => (hC.step q' _ h).rowPairs)
    (vecDead_map_iff fun r hr => stepW_viable (hok r hr).1)
    (labelOf_map_eq (L := (labelNG · s)) rfl (fun _ _ => rfl) rules fun r _ => stepW_matches)

theorem tableSpec_of_closedNG {rules : List Rule} {tbl : Mode} {R : List Cfg}
    (hC : ClosedNG rules tbl R) : TableSpec tbl (viableNG rules) (labelNG rules) :=
  .of_run hC.wf (closedNG_sound hC)

theorem bisimNG_tableSpec {rules : List Rule} {tbl : Mode} (h : bisimNG rules tbl = .ok ()) :
    TableSpec tbl (viableNG rules) (labelNG rules) :=
  let ⟨_, hC⟩ := bisimNG_ok h
  tableSpec_of_closedNG hC

end Lox.Lex
