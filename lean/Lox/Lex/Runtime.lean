import Lox.Lex.Model
import Lox.Lex.Actions
/-! Definitions for the runtime theorems about the lexer state machine model (`Lox/Lex/Model.lean`):

* a *decoded-row view* of a `_lexerModeN` array (`Row`, `decodeRow`) and the abstract step
  function over decoded rows (`lookup`, `execPairs`, `stepRow`);
* the decidable well-formedness predicate `wfModes` / `WFModes` under which the theorems of
  C11 / C07 are proved;
* the abstract mode stack (`applyModeActs`, `applyModeActsT`, `applyW`);
* the ghost-instrumented driver `readTokenG` / `lexAllG` which, in addition to what
  `readToken` / `lexAll` do, writes an event log (`Ev`): which table rows fired, the *segments* of
  the input (emitted / discarded / error stretch / pending at EOF) and what each `ReadToken` call
  returned.

Core Lean only (this module is linked into the driver for the `lex.wfmodes` op).
Nothing here changes `Model.lean`; the lemmas are in `Lox/Lex/RuntimeWF.lean`, `RuntimeDecode.lean`,
`RuntimeStep.lean`, `RuntimeActions.lean`, `RuntimeDriver.lean` and `RuntimeProofs.lean`. -/
namespace Lox.Lex.Rt

/-! ## Decoded rows -/

/-- A transition `(rangeBegin, rangeEnd, gotoState)`. -/
abbrev Triple := Int × Int × Int

def Triple.lo (t : Triple) : Int := t.1
def Triple.hi (t : Triple) : Int := t.2.1
def Triple.target (t : Triple) : Int := t.2.2

/-- A decoded table row: `stateFlags`, the `gotoCount` transitions and the action pairs
(`internal/codegen/emit_lexer.go`, comment in `PushRune`). -/
structure Row where
  flags : Int
  triples : List Triple
  pairs : List Pair
  deriving DecidableEq, Repr, Inhabited

/-- `n` triples starting at index `k`. -/
def readTriples (m : Mode) : Nat → Int → Option (List Triple)
  | 0, _ => some []
  | n + 1, k =>
    match geti m k, geti m (k + 1), geti m (k + 2), readTriples m n (k + 3) with
    | some lo, some hi, some st, some rest => some ((lo, hi, st) :: rest)
    | _, _, _, _ => none

/-- `n` action pairs starting at index `k`. -/
def readPairs (m : Mode) : Nat → Int → Option (List Pair)
  | 0, _ => some []
  | n + 1, k =>
    match geti m k, geti m (k + 1), readPairs m n (k + 2) with
    | some a, some b, some rest => some ((a, b) :: rest)
    | _, _, _ => none

/-- The row of state `s`: `i = mode[s]`, `count = mode[i]`, `flags = mode[i+1]`,
`gotoN = mode[i+2]`, then `gotoN` triples, then `(count - 2 - 3·gotoN) / 2` pairs. `none` when any of
these reads is outside the array or the lengths do not add up (odd action section, negative
`gotoN`, row shorter than its transitions). -/
def decodeRow (m : Mode) (s : Int) : Option Row :=
  match geti m s with
  | none => none
  | some i =>
    match geti m i, geti m (i + 1), geti m (i + 2) with
    | some count, some flags, some gotoN =>
      if 0 ≤ gotoN ∧ 2 + 3 * gotoN ≤ count ∧ (count - 2 - 3 * gotoN) % 2 = 0 then
        match readTriples m gotoN.toNat (i + 3),
              readPairs m ((count - 2 - 3 * gotoN) / 2).toNat (i + 3 + gotoN * 3) with
        | some ts, some ps => some ⟨flags, ts, ps⟩
        | _, _ => none
      else none
    | _, _, _ => none

/-- Number of states of a mode. `table.Array` (`internal/codegen/table.go`) writes one offset per
state followed by the rows, and the row of state 0 is the first row, so `mode[0]` – the offset of
the first row – is the number of states. (Any `n` for which the rows of the states `< n` are
well-formed and closed under transitions would do for the theorems; this is the one that emitted
tables have.) -/
def nStates (m : Mode) : Nat :=
  match m[0]? with
  | some n => n.toNat
  | none => 0

/-! ## Abstract step over decoded rows -/

/-- Linear lookup: the target of the first triple containing `r`. -/
def lookup : List Triple → Int → Option Int
  | [], _ => none
  | (lo, hi, st) :: rest, r => if lo ≤ r ∧ r ≤ hi then some st else lookup rest r

/-- The action loop of `PushRune` over a decoded pair list. -/
def execPairs (nModes : Nat) (r : Int) : List Pair → SM → Res × SM
  | [], sm => if sm.state = 0 ∧ r = -1 then (.eof, sm) else (.error, sm)
  | (ty, p) :: rest, sm =>
    if ty = 1 then
      if p.toNat < nModes then
        execPairs nModes r rest
          { sm with modeStack := sm.mode.getD 0 :: sm.modeStack, mode := some p.toNat }
      else (.oob, sm)
    else if ty = 2 then
      match sm.modeStack with
      | [] => (.error, sm)
      | top :: st => execPairs nModes r rest { sm with mode := some top, modeStack := st }
    else if ty = 3 then (.accept, { sm with token := p, state := 0 })
    else if ty = 4 then (.discard, { sm with state := 0 })
    else if ty = 5 then (.tryAgain, { sm with state := 0 })
    else execPairs nModes r rest sm

/-- `PushRune` on a decoded row (the `l.mode == nil` normalisation already done). -/
def stepRow (nModes : Nat) (row : Row) (sm : SM) (r : Int) : Res × SM :=
  match (if row.flags % 2 = 0 then lookup row.triples r else none) with
  | some st => (.consume, { sm with state := st })
  | none => execPairs nModes r row.pairs sm

/-! ## Well-formedness -/

/-- Adjacent check: every `lo` is above the previous `hi` (initially `prev`), and `lo ≤ hi`. -/
def sortedFrom : Int → List Triple → Bool
  | _, [] => true
  | prev, (lo, hi, _) :: rest => decide (prev < lo) && decide (lo ≤ hi) && sortedFrom hi rest

def isModeAct (nModes : Nat) (p : Pair) : Bool :=
  (decide (p.1 = 1) && decide (p.2.toNat < nModes)) || decide (p.1 = 2)

def isTermAct (p : Pair) : Bool := decide (p.1 = 3) || decide (p.1 = 4) || decide (p.1 = 5)

/-- The action section is empty, or mode actions (push with a valid mode index / pop) followed by
exactly one terminal pair (accept / discard / accumulate) in last position. -/
def wfPairs (nModes : Nat) (ps : List Pair) : Bool :=
  ps.isEmpty || (ps.dropLast.all (isModeAct nModes) && ps.getLast?.any isTermAct)

/-- Well-formedness of the row of state `s` in a mode with `n` states. -/
def wfRow (nModes n s : Nat) (row : Row) : Bool :=
  sortedFrom (-1) row.triples
  && row.triples.all (fun t => decide (0 < t.target) && decide (t.target < (n : Int)))
  && wfPairs nModes row.pairs
  && (s != 0 || row.pairs.isEmpty)

def wfState (nModes : Nat) (m : Mode) (s : Nat) : Bool :=
  match decodeRow m s with
  | some row => wfRow nModes (nStates m) s row
  | none => false

def wfMode (nModes : Nat) (m : Mode) : Bool :=
  decide (0 < nStates m) && (List.range (nStates m)).all (wfState nModes m)

/-- The checker run on every emitted table (`lex.wfmodes`). -/
def wfModes (modes : Array Mode) : Bool :=
  decide (0 < modes.size) && modes.toList.all (wfMode modes.size)

/-- Rows sorted and disjoint, no range contains a negative number (so end of input `-1` never
takes a transition). -/
def SortedTriples (ts : List Triple) : Prop :=
  ts.Pairwise (fun a b => a.hi < b.lo) ∧ ∀ t ∈ ts, 0 ≤ t.lo ∧ t.lo ≤ t.hi

/-- Specification of `wfPairs`. -/
def PairsWF (nModes : Nat) (ps : List Pair) : Prop :=
  ps = [] ∨ ∃ pre t, ps = pre ++ [t] ∧
    (∀ p ∈ pre, (p.1 = 1 ∧ p.2.toNat < nModes) ∨ p.1 = 2) ∧ (t.1 = 3 ∨ t.1 = 4 ∨ t.1 = 5)

/-- Specification of `wfRow`:
* `sorted` – ranges sorted, disjoint, non-negative;
* `targets` – every target is a state of the mode and **not the start state**
  (`mode.splitStartState`);
* `pairs` – the last pair is the only terminal one, pushed mode indices in range;
* `start` – **state 0 is not accepting** (no rule matches the empty string; its failure is
  known finding K3). -/
structure RowWF (nModes n s : Nat) (row : Row) : Prop where
  sorted : SortedTriples row.triples
  targets : ∀ t ∈ row.triples, 0 < t.target ∧ t.target < (n : Int)
  pairs : PairsWF nModes row.pairs
  start : s = 0 → row.pairs = []

/-- Well-formed `_lexerModes`: at least one mode; every mode has at least one state; every state
below `nStates` has a decodable, well-formed row. -/
def WFModes (modes : Array Mode) : Prop :=
  0 < modes.size ∧
  ∀ (mi : Nat) (m : Mode), modes[mi]? = some m →
    0 < nStates m ∧
    ∀ s, s < nStates m → ∃ row, decodeRow m (s : Int) = some row ∧ RowWF modes.size (nStates m) s row

/-- Current mode and every saved mode exist. -/
def ModesOK (modes : Array Mode) (sm : SM) : Prop :=
  sm.mode.getD 0 < modes.size ∧ ∀ x ∈ sm.modeStack, x < modes.size

/-- `ModesOK` and the state is a state of the current mode. -/
def InRange (modes : Array Mode) (sm : SM) : Prop :=
  ModesOK modes sm ∧ 0 ≤ sm.state ∧
  ∃ m, modes[sm.mode.getD 0]? = some m ∧ sm.state.toNat < nStates m

/-- What `bytes.Reader.ReadRune` delivers: runes are never negative (in particular never the
end-of-input marker `-1`). -/
def ValidInput (inp : Input) : Prop := ∀ p ∈ inp.toList, 0 ≤ p.1

/-! ## Abstract mode stack (C07) -/

/-- Abstract `(current mode, saved modes)`. -/
abbrev MS := Nat × List Nat

/-- Apply the push/pop pairs of a list in order; other pairs are skipped. `none` = a pop on an
empty stack. -/
def applyModeActs : List Pair → MS → Option MS
  | [], ms => some ms
  | (ty, p) :: rest, (mode, stack) =>
    if ty = 1 then applyModeActs rest (p.toNat, mode :: stack)
    else if ty = 2 then
      match stack with
      | [] => none
      | top :: st => applyModeActs rest (top, st)
    else applyModeActs rest (mode, stack)

/-- Total variant: stops at the first pop on an empty stack and returns what had been reached
(this is what `PushRune` leaves behind when it returns `_lexerError` there). -/
def applyModeActsT : List Pair → MS → MS
  | [], ms => ms
  | (ty, p) :: rest, (mode, stack) =>
    if ty = 1 then applyModeActsT rest (p.toNat, mode :: stack)
    else if ty = 2 then
      match stack with
      | [] => (mode, stack)
      | top :: st => applyModeActsT rest (top, st)
    else applyModeActsT rest (mode, stack)

/-- The written mode actions of a rule applied in written order; `@emit`/`@discard` do not touch
the mode stack. -/
def applyW : List WAction → MS → Option MS
  | [], ms => some ms
  | .pushMode m :: rest, (mode, stack) => applyW rest (m, mode :: stack)
  | .popMode :: rest, (_, stack) =>
    match stack with
    | [] => none
    | top :: st => applyW rest (top, st)
  | _ :: rest, ms => applyW rest ms

/-- The terminal effect a written action list asks for: the written `@emit(T)` / `@discard`, else
`dflt` (accept of the rule's own terminal for a token rule, accumulate for a fragment). -/
def writtenTerminal (dflt : Pair) (ws : List WAction) : Pair :=
  match ws.find? WAction.isTerminal with
  | some w => w.pair
  | none => dflt

/-- Result code and state-machine update of a terminal pair. -/
def terminalEffect (t : Pair) (sm : SM) : Res × SM :=
  if t.1 = 3 then (.accept, { sm with token := t.2, state := 0 })
  else if t.1 = 4 then (.discard, { sm with state := 0 })
  else (.tryAgain, { sm with state := 0 })

/-! ## Ghost-instrumented driver (C11, C07) -/

inductive SegKind where
  | tok (ty : Int)        -- text of an emitted token of type `ty`
  | discarded             -- text dropped by a `@discard` rule
  | error (char : Int)    -- the stretch reported (by its start) by an ERROR token
  | pending               -- text pending when EOF was returned: reported by nothing (K5)
  deriving DecidableEq, Repr, Inhabited

/-- A stretch `[start, stop)` of byte offsets of the input. -/
structure Seg where
  kind : SegKind
  start : Nat
  stop : Nat
  deriving DecidableEq, Repr, Inhabited

/-- Ghost events. -/
inductive Ev where
  /-- A `PushRune` call found no transition and ran the action section of row `(mode, state)`;
  `start` is the token start and `off` the byte offset at that moment. -/
  | fire (mode : Nat) (state : Int) (res : Res) (start off : Nat)
  /-- A segment was closed. -/
  | seg (s : Seg)
  /-- `ReadToken` returned `t`; `(mode, stack)` of the state machine at that moment (after
  `Reset()` for an ERROR token; the Go `nil` mode is mode 0). -/
  | ret (t : Tok) (mode : Nat) (stack : List Nat)
  deriving DecidableEq, Repr, Inhabited

def Ev.seg? : Ev → Option Seg
  | .seg s => some s
  | _ => none

def segsOf (log : List Ev) : List Seg := log.filterMap Ev.seg?

/-- What the caller of `ReadToken` gets to see of a segment. -/
def Seg.report (s : Seg) : Option Tok :=
  match s.kind with
  | .tok ty => some (.tok ty s.start s.stop)
  | .error c => some (.err s.start c)
  | .pending => some (.eof s.start)
  | .discarded => none

/-- `readToken` with the ghost log `g` threaded through. Erasing the log gives `readToken`
(`readTokenG_erase`). -/
def readTokenG (modes : Array Mode) (inp : Input) :
    Nat → Option Nat → Lx → List Ev → Option (Option Tok × Lx × List Ev)
  | 0, _, _, _ => none
  | n + 1, start, l, g =>
    let start := start.getD l.offset
    let (res, sm) := pushRune modes l.sm (l.char inp)
    let l1 := { l with sm := sm }
    let g1 := g ++ [Ev.fire (l.sm.mode.getD 0) l.sm.state res start l.offset]
    match res with
    | .consume => readTokenG modes inp n (some start) (l1.consume inp) g
    | .accept =>
      let t := Tok.tok sm.token start l.offset
      some (some t, l1,
        g1 ++ [.seg ⟨.tok sm.token, start, l.offset⟩, .ret t (sm.mode.getD 0) sm.modeStack])
    | .discard => readTokenG modes inp n none l1 (g1 ++ [.seg ⟨.discarded, start, l.offset⟩])
    | .tryAgain => readTokenG modes inp n (some start) l1 g1
    | .eof =>
      let t := Tok.eof start
      some (some t, l1, g1 ++ [.seg ⟨.pending, start, l.offset⟩, .ret t (sm.mode.getD 0) sm.modeStack])
    | .oob => some (none, l1, g1)
    | .error =>
      let c := l1.char inp
      let l2 := (skipLine inp (inp.size + 1) l1).consume inp
      let l3 := { l2 with sm := l2.sm.reset }
      let t := Tok.err start c
      some (some t, l3,
        g1 ++ [.seg ⟨.error c, start, l2.offset⟩, .ret t (l3.sm.mode.getD 0) l3.sm.modeStack])

/-- `lexAll` with the ghost log. -/
def lexAllG (modes : Array Mode) (inp : Input) (fuel : Nat) :
    Nat → Lx → List Tok → List Ev → List Tok × String × List Ev
  | 0, _, acc, g => (acc.reverse, "timeout", g)
  | n + 1, l, acc, g =>
    match readTokenG modes inp fuel none l g with
    | none => (acc.reverse, "timeout", g)
    | some (none, _, g') => (acc.reverse, "panic", g')
    | some (some t, l', g') =>
      match t with
      | .eof _ => ((t :: acc).reverse, "ok", g')
      | _ => lexAllG modes inp fuel n l' (t :: acc) g'

/-- Byte offset of rune number `k`: the widths of the first `k` runes added up. -/
def offsetOf (inp : Input) (k : Nat) : Nat := ((inp.toList.take k).map (·.2)).sum

/-- Length of the input in bytes. -/
def totalBytes (inp : Input) : Nat := offsetOf inp inp.size

/-- The segments are contiguous and in order from `a` to `b`. -/
def Contig : List Seg → Nat → Nat → Prop
  | [], a, b => a = b
  | s :: rest, a, b => s.start = a ∧ s.start ≤ s.stop ∧ Contig rest s.stop b

/-- The action pairs of row `(mode, state)` (`[]` if there is no such row). -/
def rowPairs (modes : Array Mode) (mode : Nat) (state : Int) : List Pair :=
  match modes[mode]? with
  | some m =>
    match decodeRow m state with
    | some row => row.pairs
    | none => []
  | none => []

/-- One ghost event replayed on the abstract mode stack: a row that fired (the row of state
`state` *in the abstract current mode*) applies its push/pop pairs in order; an ERROR return resets
the mode to mode 0 and leaves the stack alone (`Reset()` does not clear `modeStack`). -/
def absStep (modes : Array Mode) : Ev → MS → MS
  | .fire _ state _ _ _, ms => applyModeActsT (rowPairs modes ms.1 state) ms
  | .ret (.err _ _) _ _, ms => (0, ms.2)
  | _, ms => ms

def absRun (modes : Array Mode) : List Ev → MS → MS
  | [], ms => ms
  | ev :: rest, ms => absRun modes rest (absStep modes ev ms)

/-- Walking the log with the abstract mode stack: at every `fire` the abstract current mode is the
mode whose row fired, and at every `ret` the state machine's `(mode, modeStack)` is the abstract
one. -/
def AbsAgrees (modes : Array Mode) : List Ev → MS → Prop
  | [], _ => True
  | ev :: rest, ms =>
    (match ev with
      | .fire mode _ _ _ _ => ms.1 = mode
      | .ret _ mo st => absStep modes ev ms = (mo, st)
      | _ => True) ∧
    AbsAgrees modes rest (absStep modes ev ms)

/-- The state of the driver after an ERROR token: skip to the next newline, step over it,
`Reset()`. -/
def afterError (inp : Input) (l : Lx) : Lx :=
  let l2 := (skipLine inp (inp.size + 1) l).consume inp
  { l2 with sm := l2.sm.reset }

/-- The driver's byte offset is the offset of its current rune. -/
def Sync (inp : Input) (l : Lx) : Prop := l.offset = offsetOf inp l.idx

/-- The mode-action pairs of a written action list, in written order. -/
def modePairs (ws : List WAction) : List Pair :=
  (ws.filter (fun w => !w.isTerminal)).map WAction.pair

/-- No row carries an accumulate pair (the specification has no action-less `@frag`). -/
def noAccum (modes : Array Mode) : Bool :=
  modes.toList.all fun m =>
    (List.range (nStates m)).all fun s =>
      match decodeRow m s with
      | some row => row.pairs.all fun p => decide (p.1 ≠ 5)
      | none => true

/-- Specification of `noAccum`. -/
def NoAccum (modes : Array Mode) : Prop :=
  ∀ (mi : Nat) (m : Mode), modes[mi]? = some m → ∀ s, s < nStates m →
    ∀ row, decodeRow m (s : Int) = some row → ∀ p ∈ row.pairs, p.1 ≠ 5


/-- The `@emit` test of `fragRulePairs`, named. -/
def isEmit : WAction → Bool
  | .emit _ => true
  | _ => false

/-- The `fire` event written by a `PushRune` call that did not consume. -/
def fireEv (start : Option Nat) (l : Lx) (res : Res) : Ev :=
  .fire (l.sm.mode.getD 0) l.sm.state res (start.getD l.offset) l.offset

end Lox.Lex.Rt
