import Lox.Lex.GenOptProofs
import Lox.Lex.GenLabelProofs
import Lox.Lex.GenNormProofs
import Lox.Rang3.Proofs.Flatten
/-! The remaining steps of `ModeBuilder.Build` (`splitStartState`, `mergeTransitions`) change
nothing observable: the first returns copies of the states it is given (`splitStart_spec`,
`DFA.Copies`), the second re-cuts the labels that lead to one target (`mem_mergeTransitions`,
`mergedLabels_canon`). `Sim` is the one relation between the automaton a stage is given and the one
it returns under which what the subset construction establishes (`DFA.Tracks`: `subset_tracks`,
beside `subset_wf`) travels through `optimize`, `splitStartState` and `mergeTransitions`. -/
namespace Lox.Lex.Gen
open Lox.Rang3

/-- No transition leads into state 0 (the generated state machine reads "state 0" as "no input
consumed since the last token"). -/
def NoEdgeIntoStart (d : DFA) : Prop := ∀ s t, t ∈ d.trans s → t.2 ≠ 0

/-- What a state shows to `pickAction` and to the code generator. -/
def DFA.view (d : DFA) (s : Nat) : Option (List Nat × Bool × Bool) :=
  d.states[s]?.map fun st => (st.nfa, st.accept, st.ng)

theorem split_states (d : DFA) (start : DState) (h0 : d.states[0]? = some start) (j : Nat) :
    ((d.states ++ [start]).map (redirect d.states.length))[j]? =
      (d.states[if j = d.states.length then 0 else j]?).map (redirect d.states.length) := by
  simp only [List.getElem?_map]
  rcases Nat.lt_trichotomy j d.states.length with hlt | rfl | hgt
  · rw [List.getElem?_append_left hlt, if_neg (Nat.ne_of_lt hlt)]
  · rw [List.getElem?_append_right (Nat.le_refl _), if_pos rfl, h0, Nat.sub_self]; rfl
  · rw [List.getElem?_eq_none (by simp only [List.length_append, List.length_singleton]; omega),
      if_neg (Nat.ne_of_gt hgt), List.getElem?_eq_none (Nat.le_of_lt hgt)]

/-- What `splitStartState` returns: state `j` is a copy of state `g j` of the automaton it is given,
a target `t` replaced by `r t`, which is never 0. Either nothing leads into state 0 and nothing
changes, or the start state gets a second copy at the end, and `r` sends 0 there. -/
theorem splitStart_spec (d : DFA) (hwf : d.WF) : ∃ r g : Nat → Nat,
    (splitStart d).Copies d r (fun j s => s = g j) ∧ g 0 = 0 ∧
    (∀ s y, y ∈ d.trans s → r y.2 ≠ 0 ∧ g (r y.2) = y.2) ∧
    ∀ j, (splitStart d).view j = d.view (g j) := by
  have hunchanged : NoEdgeIntoStart d → ∃ r g : Nat → Nat, d.Copies d r (fun j s => s = g j) ∧
      g 0 = 0 ∧ (∀ s y, y ∈ d.trans s → r y.2 ≠ 0 ∧ g (r y.2) = y.2) ∧
      ∀ j, d.view j = d.view (g j) :=
    fun h => ⟨id, id, ⟨fun j _ _ => ⟨j, rfl⟩,
      fun _ _ e x => e ▸ ⟨fun hx => ⟨x, hx, rfl⟩, fun ⟨_, hy, e⟩ => e ▸ hy⟩, fun _ ht => ht⟩, rfl,
      fun s y hy => ⟨h s y hy, rfl⟩, fun _ => rfl⟩
  unfold splitStart
  cases h0 : d.states[0]? with
  | none =>
    refine hunchanged fun s t ht => ?_
    have hlen : d.states.length = 0 :=
      Nat.eq_zero_of_not_pos fun h => by rw [List.getElem?_eq_getElem h] at h0; cases h0
    exact absurd (hwf.tgt s t ht) (hlen ▸ Nat.not_lt_zero _)
  | some start =>
    simp only
    split
    · generalize hd' : DFA.mk ((d.states ++ [start]).map (redirect d.states.length)) = d'
      have hkpos : 0 < d.states.length := (List.getElem?_eq_some_iff.1 h0).1
      let r : Nat → Nat := fun t => if t = 0 then d.states.length else t
      let g : Nat → Nat := fun j => if j = d.states.length then 0 else j
      have hget : ∀ j, d'.states[j]? = (d.states[g j]?).map (redirect d.states.length) :=
        fun j => hd' ▸ split_states d start h0 j
      refine ⟨r, g, ⟨fun j _ _ => ⟨_, rfl⟩, ?_, fun t ht => ?_⟩, if_neg (Nat.ne_of_lt hkpos),
        fun s y hy => ?_, fun j => ?_⟩
      · rintro j _ rfl x
        rw [← List.mem_map, DFA.trans, DFA.trans, hget j]
        cases d.states[g j]? <;> rfl
      · rw [← hd']
        simp only [r, List.length_map, List.length_append, List.length_singleton]
        split
        · exact Nat.lt_succ_self _
        · exact Nat.lt_succ_of_lt ht
      · have := hwf.tgt s y hy
        by_cases hy0 : y.2 = 0
        · simp only [g, r, hy0, if_true]
          exact ⟨Nat.ne_of_gt hkpos, trivial⟩
        · simp only [g, r, hy0, if_false, Nat.ne_of_lt this]
          exact ⟨hy0, trivial⟩
      · simp only [DFA.view, hget j]
        cases d.states[g j]? <;> rfl
    · rename_i hany
      refine hunchanged fun s t ht h0' => hany ?_
      obtain ⟨st, hs, ht⟩ := DFA.mem_trans_iff.1 ht
      simp only [List.any_eq_true, decide_eq_true_eq]
      exact ⟨st, List.mem_of_getElem? hs, t, ht, h0'⟩

/-- After `splitStartState` no transition leads into state 0, and the
automaton is unchanged up to the map `g` that sends the copy back to the start state: runs
correspond, and corresponding states show the same NFA states and flags. -/
theorem splitStart_correct (d : DFA) (hwf : d.WF) :
    NoEdgeIntoStart (splitStart d) ∧ (splitStart d).WF ∧
    ∃ g : Nat → Nat, g 0 = 0 ∧
      (∀ j, (splitStart d).view j = d.view (g j)) ∧
      ∀ w, ((splitStart d).run 0 w).map g = d.run 0 w := by
  obtain ⟨r, g, C, hg0, hr, hview⟩ := splitStart_spec d hwf
  refine ⟨fun j x hx => ?_, C.wf hwf, g, hg0, hview, fun w => ?_⟩
  · obtain ⟨y, hy, rfl⟩ := (C.trans j _ rfl x).1 hx
    exact (hr _ y hy).1
  · have := DFA.run_map (d := d) (d' := splitStart d) (g := g) (I := fun _ => True)
      (fun j c _ => ?_) (fun _ _ _ _ _ => trivial) w 0 trivial
    · rwa [hg0] at this
    rw [C.step hwf rfl c]
    cases hs : d.step (g j) c with
    | none => rfl
    | some t =>
      obtain ⟨a, ha, _⟩ := (DFA.step_some_iff hwf _ c t).1 hs
      exact congrArg some (hr _ _ ha).2

theorem splitStart_length (d : DFA) : d.states.length ≤ (splitStart d).states.length := by
  unfold splitStart
  cases d.states[0]? with
  | none => exact Nat.le_refl _
  | some st =>
    simp only
    split
    · simp
    · exact Nat.le_refl _

def labelsTo (st : DState) (q : Nat) : List Range := (st.trans.filter fun t => t.2 = q).map (·.1)

theorem mem_labelsTo {st : DState} {q : Nat} {a : Range} : a ∈ labelsTo st q ↔ (a, q) ∈ st.trans := by
  simp only [labelsTo, List.mem_map, List.mem_filter, decide_eq_true_eq]
  constructor
  · rintro ⟨⟨a', q'⟩, ⟨h, rfl⟩, rfl⟩; exact h
  · intro h; exact ⟨(a, q), ⟨h, rfl⟩, rfl⟩

def mergedLabels (st : DState) (q : Nat) : List Range :=
  if (labelsTo st q).length > 1 then flatten (labelsTo st q) else labelsTo st q

theorem mem_mergeState (st : DState) (r : Range) (q : Nat) :
    (r, q) ∈ (mergeState st).trans ↔ (∃ a, (a, q) ∈ st.trans) ∧ r ∈ mergedLabels st q := by
  simp only [mergeState, List.mem_flatMap, mem_dedup, List.mem_map]
  constructor
  · rintro ⟨q', ⟨x, hx, rfl⟩, r', hr', heq⟩
    simp only [Prod.mk.injEq] at heq
    obtain ⟨rfl, rfl⟩ := heq
    exact ⟨⟨x.1, hx⟩, hr'⟩
  · rintro ⟨⟨a, ha⟩, hr⟩
    exact ⟨q, ⟨(a, q), ha, rfl⟩, r, hr, rfl⟩

theorem labelsTo_valid {st : DState} (hv : ∀ t ∈ st.trans, t.1.b ≤ t.1.e) (q : Nat) :
    ∀ r ∈ labelsTo st q, Valid r := fun r hr => hv (r, q) (mem_labelsTo.1 hr)

/-- Both branches of `mergeTransitions` leave the canonical list of the code points that led to
`q`: `rang3.Flatten` does, and so is a list of at most one label. -/
theorem mergedLabels_canon {st : DState} (hv : ∀ t ∈ st.trans, t.1.b ≤ t.1.e) (q : Nat) :
    Canon (mergedLabels st q) fun c => ∃ a, (a, q) ∈ st.trans ∧ a.b ≤ c ∧ c ≤ a.e := by
  have hden : ∀ c, Den (labelsTo st q) c ↔ ∃ a, (a, q) ∈ st.trans ∧ a.b ≤ c ∧ c ≤ a.e := fun c =>
    ⟨fun ⟨r, hr, hc⟩ => ⟨r, mem_labelsTo.1 hr, hc⟩, fun ⟨a, ha, hc⟩ => ⟨a, mem_labelsTo.2 ha, hc⟩⟩
  unfold mergedLabels
  split
  · exact (flatten_canon _ (labelsTo_valid hv q)).congr hden
  · rename_i hlen
    refine ⟨⟨labelsTo_valid hv q, ?_⟩, hden⟩
    match labelsTo st q, hlen with
    | [], _ => exact .nil
    | [x], _ => exact List.pairwise_singleton _ _
    | _ :: _ :: _, hlen => simp at hlen

theorem mergeTransitions_trans (d : DFA) (s : Nat) :
    (mergeTransitions d).trans s = ((d.states[s]?.map mergeState).map (·.trans)).getD [] := by
  simp [DFA.trans, mergeTransitions, List.getElem?_map]

theorem mem_mergeTransitions {d : DFA} {s : Nat} {r : Range} {q : Nat} :
    (r, q) ∈ (mergeTransitions d).trans s ↔
      ∃ st, d.states[s]? = some st ∧ (∃ a, (a, q) ∈ st.trans) ∧ r ∈ mergedLabels st q := by
  rw [mergeTransitions_trans]
  cases hs : d.states[s]? with
  | none => simp
  | some st => simp [mem_mergeState]

/-- `mergeTransitions` re-cuts the labels and nothing else: on every code point a state has an
entry to `t` afterwards iff it had one before. -/
theorem mergeTransitions_entry {d : DFA} (hwf : d.WF) (s t : Nat) (c : Int) :
    (∃ r, (r, t) ∈ (mergeTransitions d).trans s ∧ r.b ≤ c ∧ c ≤ r.e) ↔
      ∃ a, (a, t) ∈ d.trans s ∧ a.b ≤ c ∧ c ≤ a.e := by
  have hcanon : ∀ st, d.states[s]? = some st →
      Canon (mergedLabels st t) fun c => ∃ a, (a, t) ∈ st.trans ∧ a.b ≤ c ∧ c ≤ a.e :=
    fun st hs => mergedLabels_canon (fun x hx => hwf.valid s x (DFA.mem_trans_iff.2 ⟨st, hs, hx⟩)) t
  constructor
  · rintro ⟨r, hr, hc⟩
    obtain ⟨st, hs, _, hrl⟩ := mem_mergeTransitions.1 hr
    obtain ⟨a, ha, hac⟩ := ((hcanon st hs).den c).1 ⟨r, hrl, hc⟩
    exact ⟨a, DFA.mem_trans_iff.2 ⟨st, hs, ha⟩, hac⟩
  · rintro ⟨a, ha, hc⟩
    obtain ⟨st, hs, ha'⟩ := DFA.mem_trans_iff.1 ha
    obtain ⟨r, hr, hrc⟩ := ((hcanon st hs).den c).2 ⟨a, ha', hc⟩
    exact ⟨r, mem_mergeTransitions.2 ⟨st, hs, ⟨a, ha'⟩, hr⟩, hrc⟩

/-- `mergeTransitions` changes no step: the merged automaton is well formed, has the same
states, and moves exactly as before on every code point. -/
theorem mergeTransitions_correct (d : DFA) (hwf : d.WF) :
    (mergeTransitions d).WF ∧ (∀ j, (mergeTransitions d).view j = d.view j) ∧
    (∀ s c, (mergeTransitions d).step s c = d.step s c) ∧
    (NoEdgeIntoStart d → NoEdgeIntoStart (mergeTransitions d)) := by
  -- an entry of the merged automaton: a merged label, of a state it had, for a target it had
  have hentry : ∀ s x, x ∈ (mergeTransitions d).trans s → ∃ st, d.states[s]? = some st ∧
      (∀ t ∈ st.trans, t.1.b ≤ t.1.e) ∧ (∃ a, (a, x.2) ∈ d.trans s) ∧
      x.1 ∈ mergedLabels st x.2 := by
    intro s x hx
    obtain ⟨st, hs, ⟨a, ha⟩, hxl⟩ := mem_mergeTransitions.1 hx
    exact ⟨st, hs, fun t ht => hwf.valid s t (DFA.mem_trans_iff.2 ⟨st, hs, ht⟩),
      ⟨a, DFA.mem_trans_iff.2 ⟨st, hs, ha⟩⟩, hxl⟩
  have hwf' : (mergeTransitions d).WF := by
    constructor
    · intro s x hx
      obtain ⟨_, _, _, ⟨a, ha⟩, _⟩ := hentry s x hx
      simpa [mergeTransitions] using hwf.tgt s (a, x.2) ha
    · intro s x y c hx hy h1 h2 h3 h4
      -- both lead where `d` goes on `c`, and the merged labels to one target are disjoint
      obtain ⟨a, ha, ha1, ha2⟩ := (mergeTransitions_entry hwf s x.2 c).1 ⟨x.1, hx, h1, h2⟩
      obtain ⟨b, hb, hb1, hb2⟩ := (mergeTransitions_entry hwf s y.2 c).1 ⟨y.1, hy, h3, h4⟩
      have hq : x.2 = y.2 := (Prod.mk.inj (hwf.det s _ _ c ha hb ha1 ha2 hb1 hb2)).2
      obtain ⟨st, hs, hv, _, hxl⟩ := hentry s x hx
      obtain ⟨st', hs', _, _, hyl⟩ := hentry s y hy
      cases hs.symm.trans hs'
      rw [← hq] at hyl
      exact Prod.ext (disjoint_eq_of_common ((mergedLabels_canon hv x.2).flat.2.imp fun h => by omega)
        hxl hyl ⟨h1, h2⟩ ⟨h3, h4⟩) hq
    · intro s x hx
      obtain ⟨st, _, hv, _, hxl⟩ := hentry s x hx
      exact (mergedLabels_canon hv x.2).valid _ hxl
  refine ⟨hwf', fun j => ?_, fun s c => Option.ext fun t => ?_, fun hno s x hx => ?_⟩
  · simp only [DFA.view, mergeTransitions, List.getElem?_map]
    cases d.states[j]? <;> rfl
  · rw [DFA.step_some_iff hwf' s c t, DFA.step_some_iff hwf s c t]
    exact mergeTransitions_entry hwf s t c
  · obtain ⟨_, _, _, ⟨a, ha⟩, _⟩ := hentry s x hx
    exact hno s (a, x.2) ha

theorem run_congr {d d' : DFA} (h : ∀ s c, d'.step s c = d.step s c) (w : List Int) (s : Nat) :
    d'.run s w = d.run s w := by
  rw [DFA.run_eq_foldlM, DFA.run_eq_foldlM, funext fun s => funext (h s)]

theorem pickAction_congr (m : NFA) (S S' : List Nat)
    (h : ∀ q, (q ∈ S ∧ m.isAcc q = true) ↔ (q ∈ S' ∧ m.isAcc q = true)) :
    pickAction m S = pickAction m S' := by
  have hmem : ∀ i, i ∈ actionSet m S ↔ i ∈ actionSet m S' := fun i => by
    simp only [mem_actionSet_acc, h]
  obtain ⟨n1, s1⟩ := pickAction_spec m S
  obtain ⟨n2, s2⟩ := pickAction_spec m S'
  cases h1 : pickAction m S with
  | none =>
    cases h2 : pickAction m S' with
    | none => rfl
    | some i => exact absurd ((hmem i).2 ((s2 i).1 h2).1) (n1.1 h1 i)
  | some i =>
    have := (s1 i).1 h1
    exact ((s2 i).2 ⟨(hmem i).1 this.1, fun j hj => this.2 j ((hmem j).2 hj)⟩).symm

theorem pickAction_acc (m m' : NFA) (h : m'.acc = m.acc) (S : List Nat) :
    pickAction m' S = pickAction m S := by
  simp only [pickAction, actionSet, h]

theorem accNFA_eq_of_view (m : NFA) {d d' : DFA} {s s' : Nat} (h : d.view s = d'.view s') :
    accNFA m d s = accNFA m d' s' := by
  have key : ∀ (d : DFA) s, accNFA m d s = (((d.view s).map (·.1)).getD []).filter m.isAcc := by
    intro d s; simp only [accNFA, DFA.view, Option.map_map]; rfl
  rw [key, key, h]

/-- `h` maps the states of `A` to states of `B`: runs from state 0 correspond, and a state reached
shows `pickAction` the same accepting NFA states as its image. `optimize` gives such a map from
the automaton it is given to the one it returns, `splitStartState` and `mergeTransitions` from
the one they return to the one they are given. -/
structure Sim (m : NFA) (A B : DFA) (h : Nat → Nat) : Prop where
  run : ∀ w, (A.run 0 w).map h = B.run 0 w
  acc : ∀ w j, A.run 0 w = some j → ∀ q, q ∈ accNFA m B (h j) ↔ q ∈ accNFA m A j

theorem Sim.of_view {m : NFA} {A B : DFA} {h : Nat → Nat}
    (hrun : ∀ w, (A.run 0 w).map h = B.run 0 w) (hview : ∀ j, A.view j = B.view (h j)) :
    Sim m A B h :=
  ⟨hrun, fun _ j _ q => by rw [accNFA_eq_of_view m (hview j)]⟩

/-- After `w` the automaton is in a state iff the NFA can read `w`, and the accepting NFA states
that state shows are the accepting states the NFA can then be in. -/
def DFA.Tracks (d : DFA) (m : NFA) : Prop := ∀ w,
  ((d.run 0 w).isSome ↔ ∃ q, Path m.edges m.start w q) ∧
  ∀ j, d.run 0 w = some j →
    ∀ q, q ∈ accNFA m d j ↔ Path m.edges m.start w q ∧ m.isAcc q = true

theorem DFA.Tracks.push {m : NFA} {A B : DFA} {h : Nat → Nat} (T : A.Tracks m) (S : Sim m A B h) :
    B.Tracks m := fun w => by
  refine ⟨by rw [← S.run w, Option.isSome_map]; exact (T w).1, fun j hj q => ?_⟩
  rw [← S.run w] at hj
  obtain ⟨i, hi, rfl⟩ := Option.map_eq_some_iff.1 hj
  rw [S.acc w i hi q]
  exact (T w).2 i hi q

theorem DFA.Tracks.pull {m : NFA} {A B : DFA} {h : Nat → Nat} (T : B.Tracks m) (S : Sim m A B h) :
    A.Tracks m := fun w => by
  refine ⟨by rw [← (T w).1, ← S.run w, Option.isSome_map], fun j hj q => ?_⟩
  rw [← S.acc w j hj q]
  exact (T w).2 (h j) (by rw [← S.run w, hj]; rfl) q

theorem subset_wf (m : NFA) (hPD : PD m.edges) (hv : ValidLabels m.edges) (fuel : Nat) (d : DFA)
    (h : subset m fuel = some d) : d.WF ∧ AccOK m d := by
  obtain ⟨seen, rfl, hex, _⟩ := subset_eq h
  refine ⟨⟨?_, ?_, ?_⟩, ?_⟩
  · intro s x hx
    obtain ⟨S, hS, a, ha, rfl⟩ := mem_trans_mkDState.1 hx
    simp only [List.length_map]
    exact List.idxOf_lt_length_of_mem
      (hex.succ S (List.mem_of_getElem? hS) _ (List.mem_map.2 ⟨a, ha, rfl⟩))
  · intro s x y c hx hy h1 h2 h3 h4
    obtain ⟨S, hS, a, ha, rfl⟩ := mem_trans_mkDState.1 hx
    obtain ⟨S', hS', b, hb, rfl⟩ := mem_trans_mkDState.1 hy
    rw [hS] at hS'; cases hS'
    obtain ⟨e1, he1, _, hl1⟩ := (mem_inputs m.edges S a).1 ha
    obtain ⟨e2, he2, _, hl2⟩ := (mem_inputs m.edges S b).1 hb
    have := hPD e1 he1 e2 he2 a b c hl1 hl2 h1 h2 h3 h4
    subst this; rfl
  · intro s x hx
    obtain ⟨S, _, a, ha, rfl⟩ := mem_trans_mkDState.1 hx
    obtain ⟨e1, he1, _, hl1⟩ := (mem_inputs m.edges S a).1 ha
    exact hv a ((mem_labels _ a).2 ⟨e1, he1, hl1⟩)
  · intro s st hst
    simp only [List.getElem?_map, Option.map_eq_some_iff] at hst
    obtain ⟨S, _, rfl⟩ := hst
    rfl

theorem subset_tracks (m : NFA) (hPD : PD m.edges) (fuel : Nat) (d : DFA)
    (h : subset m fuel = some d) : d.Tracks m := fun w => by
  obtain ⟨h1, h2⟩ := subset_correct m hPD fuel d h w
  refine ⟨⟨fun hs => ?_, fun ⟨q, hq⟩ => ?_⟩, fun j hj q => ?_⟩
  · obtain ⟨j, hj⟩ := Option.isSome_iff_exists.1 hs
    obtain ⟨s, _, hs2, _, hs4⟩ := h1 j hj
    obtain ⟨q, hq⟩ := List.exists_mem_of_ne_nil _ hs4
    exact ⟨q, (hs2 q).1 hq⟩
  · cases hr : d.run 0 w with
    | none => exact absurd hq (h2 hr q)
    | some j => rfl
  · obtain ⟨s, hs1, hs2, _, _⟩ := h1 j hj
    rw [mem_accNFA_of_get m hs1, hs2]

theorem buildDFA_stages {m : NFA} {F : DFA} (h : buildDFA m = some (.ok F)) :
    ∃ m' d d', normalizeNFA m = some m' ∧ subset m' (subsetFuel m') = some d ∧
      optimize m' d = .ok d' ∧ F = mergeTransitions (splitStart d') := by
  simp only [buildDFA, Option.bind_eq_some_iff, Option.map_eq_some_iff] at h
  obtain ⟨m', hm', d, hd, hres⟩ := h
  cases hopt : optimize m' d with
  | panic msg => rw [hopt] at hres; cases hres
  | fuel => rw [hopt] at hres; cases hres
  | ok d' =>
    rw [hopt] at hres
    exact ⟨m', d, d', hm', hd, hopt, (OptRes.ok.inj hres).symm⟩

theorem subset_pos {m : NFA} {fuel : Nat} {d : DFA} (h : subset m fuel = some d) :
    0 < d.states.length := by
  obtain ⟨seen, rfl, hex, _⟩ := subset_eq h
  simpa only [List.length_map] using (List.getElem?_eq_some_iff.1 hex.first).1

end Lox.Lex.Gen
