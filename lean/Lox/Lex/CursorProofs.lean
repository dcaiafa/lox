import Lox.Lex.Model
/-! The cursor of the reference driver (`Lx.char`, `Lx.consume`, `skipLine`): the lemmas that the run-time
side (`RuntimeDriver`) and the validator side (`MunchProofs`) both read it through. -/
namespace Lox.Lex.Rt

theorem char_eq_neg_one_of_ge {inp : Input} {l : Lx} (h : inp.size ≤ l.idx) : l.char inp = -1 := by
  unfold Lx.char
  rw [Array.getElem?_eq_none h]

theorem idx_lt_of_char_ne {inp : Input} {l : Lx} (h : l.char inp ≠ -1) : l.idx < inp.size :=
  Nat.lt_of_not_le fun hge => h (char_eq_neg_one_of_ge hge)

theorem char_of_lt {inp : Input} {l : Lx} (h : l.idx < inp.size) : l.char inp = inp[l.idx].1 := by
  unfold Lx.char
  rw [Array.getElem?_eq_getElem h]

theorem consume_lt {inp : Input} {l : Lx} (h : l.idx < inp.size) :
    (l.consume inp).idx = l.idx + 1 ∧ (l.consume inp).sm = l.sm ∧
    (l.consume inp).offset = l.offset + inp[l.idx].2 := by
  unfold Lx.consume
  rw [Array.getElem?_eq_getElem h]
  exact ⟨rfl, rfl, rfl⟩

theorem consume_ge {inp : Input} {l : Lx} (h : inp.size ≤ l.idx) : l.consume inp = l := by
  unfold Lx.consume
  rw [Array.getElem?_eq_none h]

theorem consume_cases (inp : Input) (l : Lx) :
    (l.idx < inp.size ∧ (l.consume inp).idx = l.idx + 1 ∧ (l.consume inp).sm = l.sm ∧
      (l.consume inp).offset = l.offset + inp[l.idx]!.2) ∨
    (inp.size ≤ l.idx ∧ l.consume inp = l) := by
  by_cases h : l.idx < inp.size
  · refine .inl ⟨h, ?_⟩
    rw [getElem!_pos inp l.idx h]
    exact consume_lt h
  · exact .inr ⟨Nat.le_of_not_lt h, consume_ge (Nat.le_of_not_lt h)⟩

theorem consume_sm (inp : Input) (l : Lx) : (l.consume inp).sm = l.sm := by
  rcases consume_cases inp l with ⟨_, _, h, _⟩ | ⟨_, h⟩
  · exact h
  · rw [h]

theorem consume_idx_le (inp : Input) (l : Lx) : l.idx ≤ (l.consume inp).idx := by
  rcases consume_cases inp l with ⟨_, h, _⟩ | ⟨_, h⟩
  · rw [h]; exact Nat.le_succ _
  · rw [h]; exact Nat.le_refl _

theorem consume_idx_le_size {inp : Input} {l : Lx} (h : l.idx ≤ inp.size) :
    (l.consume inp).idx ≤ inp.size := by
  rcases consume_cases inp l with ⟨hlt, h', _⟩ | ⟨_, h'⟩
  · rw [h']; exact hlt
  · rw [h']; exact h

theorem consume_offset_le (inp : Input) (l : Lx) : l.offset ≤ (l.consume inp).offset := by
  rcases consume_cases inp l with ⟨_, _, _, h⟩ | ⟨_, h⟩
  · rw [h]; exact Nat.le_add_right _ _
  · rw [h]; exact Nat.le_refl _
theorem consume_with_sm (inp : Input) (l : Lx) (sm' : SM) :
    (({ l with sm := sm' } : Lx).consume inp) = { l.consume inp with sm := sm' } := by
  simp only [Lx.consume]
  split <;> rfl

theorem skipLine_induct {inp : Input} (P : Lx → Prop) (hc : ∀ l, P l → P (l.consume inp)) :
    ∀ (n : Nat) (l : Lx), P l → P (skipLine inp n l)
  | 0, _, h => h
  | n + 1, l, h => by
    unfold skipLine
    split
    · exact skipLine_induct P hc n _ (hc l h)
    · exact h

theorem skipLine_sm (inp : Input) (n : Nat) (l : Lx) : (skipLine inp n l).sm = l.sm :=
  skipLine_induct (·.sm = l.sm) (fun l' h => (consume_sm inp l').trans h) n l rfl

theorem skipLine_idx_le (inp : Input) (n : Nat) (l : Lx) : l.idx ≤ (skipLine inp n l).idx :=
  skipLine_induct (l.idx ≤ ·.idx) (fun l' h => Nat.le_trans h (consume_idx_le inp l')) n l
    (Nat.le_refl _)

theorem skipLine_idx_le_size {inp : Input} (n : Nat) {l : Lx} (h : l.idx ≤ inp.size) :
    (skipLine inp n l).idx ≤ inp.size :=
  skipLine_induct (·.idx ≤ inp.size) (fun _ => consume_idx_le_size) n l h

theorem skipLine_offset_le (inp : Input) (n : Nat) (l : Lx) :
    l.offset ≤ (skipLine inp n l).offset :=
  skipLine_induct (l.offset ≤ ·.offset) (fun l' h => Nat.le_trans h (consume_offset_le inp l')) n l
    (Nat.le_refl _)

theorem skipLine_spec (inp : Input) (n : Nat) (l : Lx) (hn : inp.size - l.idx < n) :
    l.idx ≤ (skipLine inp n l).idx ∧
    (∀ j, l.idx ≤ j → j < (skipLine inp n l).idx → ∃ p, inp[j]? = some p ∧ p.1 ≠ 10 ∧ p.1 ≠ -1) ∧
    ((skipLine inp n l).char inp = 10 ∨ (skipLine inp n l).char inp = -1) := by
  induction n generalizing l with
  | zero => exact absurd hn (Nat.not_lt_zero _)
  | succ n ih =>
    unfold skipLine
    split
    · rename_i hc
      have hlt : l.idx < inp.size := idx_lt_of_char_ne hc.2
      obtain ⟨c1, _, _⟩ := consume_lt hlt
      obtain ⟨i1, i2, i3⟩ := ih (l.consume inp)
        (by rw [c1]; exact Nat.lt_of_lt_of_le (Nat.sub_succ_lt_self _ _ hlt) (Nat.le_of_lt_succ hn))
      rw [c1] at i1 i2
      refine ⟨Nat.le_of_succ_le i1, fun j hj1 hj2 => ?_, i3⟩
      rcases Nat.eq_or_lt_of_le hj1 with rfl | hj
      · exact ⟨inp[l.idx], Array.getElem?_eq_getElem hlt, by rw [← char_of_lt hlt]; exact hc⟩
      · exact i2 j hj hj2
    · rename_i hc
      refine ⟨Nat.le_refl _, fun j h1 h2 => absurd h2 (Nat.not_lt.2 h1), ?_⟩
      by_cases h10 : l.char inp = 10
      · exact .inl h10
      · exact .inr (Decidable.byContradiction fun h1 => hc ⟨h10, h1⟩)

end Lox.Lex.Rt
