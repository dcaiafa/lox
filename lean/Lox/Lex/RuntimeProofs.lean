import Lox.Lex.RuntimeDriver
/-! The ghost-instrumented driver (`readTokenG`, `lexAllG` of `Lox/Lex/Runtime.lean`) and whole
runs of the lexer runtime model (`Lox/Lex/Model.lean`). `Iter` lists what one iteration of the loop of
`ReadToken` can do, `lexAllG_spec` gives a whole run as iterations in sequence (`Run`) and how it ends;
a fact about every run is a property kept by the seven cases of `Iter` (`Run.inv`, `lexAllG_invWF`):
contiguous segments and conservation, the abstract mode stack replayed from the log, pending text
(C11, C07). -/
namespace Lox.Lex.Rt

theorem readTokenG_erase (modes : Array Mode) (inp : Input) (n : Nat) (start : Option Nat) (l : Lx)
    (g : List Ev) :
    (readTokenG modes inp n start l g).map (fun x => (x.1, x.2.1)) = readToken modes inp n start l := by
  induction n generalizing start l g with
  | zero => rfl
  | succ n ih =>
    rw [readTokenG, readToken]
    generalize pushRune modes l.sm (l.char inp) = pr
    obtain ⟨res, sm'⟩ := pr
    cases res with
    | consume => exact ih _ _ _
    | accept => rfl
    | discard => exact ih _ _ _
    | tryAgain => exact ih _ _ _
    | eof => rfl
    | oob => rfl
    | error => rfl

theorem lexAllG_erase (modes : Array Mode) (inp : Input) (fuel n : Nat) (l : Lx) (acc : List Tok)
    (g : List Ev) :
    ((lexAllG modes inp fuel n l acc g).1, (lexAllG modes inp fuel n l acc g).2.1)
      = lexAll modes inp fuel n l acc := by
  induction n generalizing l acc g with
  | zero => rfl
  | succ n ih =>
    have he := readTokenG_erase modes inp fuel none l g
    unfold lexAllG lexAll
    rw [← he]
    cases hr : readTokenG modes inp fuel none l g with
    | none => rfl
    | some x =>
      obtain ⟨ot, l', g'⟩ := x
      cases ot with
      | none => rfl
      | some t =>
        cases t with
        | eof p => rfl
        | tok ty a b => exact ih _ _ _
        | err a c => exact ih _ _ _

/-- The driver between two `PushRune` calls: the pending token start (`none` = Go `-1`), the lexer,
the ghost log. -/
structure Conf where
  start : Option Nat
  l : Lx
  g : List Ev

/-- The token start in force. -/
def Conf.st (c : Conf) : Nat := c.start.getD c.l.offset

abbrev Push (modes : Array Mode) (inp : Input) (l : Lx) (res : Res) (sm' : SM) : Prop :=
  pushRune modes l.sm (l.char inp) = (res, sm')

/-- One iteration of the loop of `ReadToken` from `c`, the `PushRune` call satisfying `K`: what
`ReadToken` returns if it returns here (`some none` = Go panic), and the configuration from which the
next iteration – of this call or of the next – starts. -/
inductive Iter (K : Lx → Res → SM → Prop) (inp : Input) (c : Conf) : Option (Option Tok) → Conf → Prop
  | consume {sm'} : K c.l .consume sm' →
      Iter K inp c none ⟨some c.st, ({ c.l with sm := sm' } : Lx).consume inp, c.g⟩
  | accept {sm'} : K c.l .accept sm' →
      Iter K inp c (some (some (.tok sm'.token c.st c.l.offset))) ⟨none, { c.l with sm := sm' },
        c.g ++ [fireEv c.start c.l .accept] ++
          [.seg ⟨.tok sm'.token, c.st, c.l.offset⟩,
           .ret (.tok sm'.token c.st c.l.offset) (sm'.mode.getD 0) sm'.modeStack]⟩
  | discard {sm'} : K c.l .discard sm' →
      Iter K inp c none ⟨none, { c.l with sm := sm' },
        c.g ++ [fireEv c.start c.l .discard] ++ [.seg ⟨.discarded, c.st, c.l.offset⟩]⟩
  | tryAgain {sm'} : K c.l .tryAgain sm' →
      Iter K inp c none ⟨some c.st, { c.l with sm := sm' }, c.g ++ [fireEv c.start c.l .tryAgain]⟩
  | eof {sm'} : K c.l .eof sm' →
      Iter K inp c (some (some (.eof c.st))) ⟨none, { c.l with sm := sm' },
        c.g ++ [fireEv c.start c.l .eof] ++
          [.seg ⟨.pending, c.st, c.l.offset⟩, .ret (.eof c.st) (sm'.mode.getD 0) sm'.modeStack]⟩
  | oob {sm'} : K c.l .oob sm' →
      Iter K inp c (some none) ⟨c.start, { c.l with sm := sm' }, c.g ++ [fireEv c.start c.l .oob]⟩
  | error {sm'} : K c.l .error sm' →
      Iter K inp c (some (some (.err c.st (c.l.char inp)))) ⟨none, afterError inp { c.l with sm := sm' },
        c.g ++ [fireEv c.start c.l .error] ++
          [.seg ⟨.error (c.l.char inp), c.st, (afterError inp { c.l with sm := sm' }).offset⟩,
           .ret (.err c.st (c.l.char inp)) ((afterError inp { c.l with sm := sm' }).sm.mode.getD 0)
             (afterError inp { c.l with sm := sm' }).sm.modeStack]⟩

/-- `readTokenG` is `Iter` iterated. -/
theorem readTokenG_iter (modes : Array Mode) (inp : Input) (n : Nat) (c : Conf) :
    ∃ r c', Iter (Push modes inp) inp c r c' ∧
      readTokenG modes inp (n + 1) c.start c.l c.g =
        match r with
        | some t => some (t, c'.l, c'.g)
        | none => readTokenG modes inp n c'.start c'.l c'.g := by
  generalize hpr : pushRune modes c.l.sm (c.l.char inp) = pr
  obtain ⟨res, sm'⟩ := pr
  rw [readTokenG, hpr]
  cases res
  · exact ⟨_, _, .consume hpr, rfl⟩
  · exact ⟨_, _, .accept hpr, rfl⟩
  · exact ⟨_, _, .discard hpr, rfl⟩
  · exact ⟨_, _, .tryAgain hpr, rfl⟩
  · exact ⟨_, _, .eof hpr, rfl⟩
  · exact ⟨_, _, .error hpr, rfl⟩
  · exact ⟨_, _, .oob hpr, rfl⟩

/-- The tokens a return hands to `lexAll`. -/
def retToks : Option (Option Tok) → List Tok
  | some (some t) => [t]
  | _ => []

/-- Iterations in sequence, across `ReadToken` calls, with the tokens returned on the way. -/
inductive Run (K : Lx → Res → SM → Prop) (inp : Input) : Conf → List Tok → Conf → Prop
  | refl (c) : Run K inp c [] c
  | step {c r c1 ts c2} : Iter K inp c r c1 → Run K inp c1 ts c2 → Run K inp c (retToks r ++ ts) c2

theorem Run.trans {K inp c ts c1 ts' c2} (h : Run K inp c ts c1) (h' : Run K inp c1 ts' c2) :
    Run K inp c (ts ++ ts') c2 := by
  induction h with
  | refl c => exact h'
  | step h _ ih => rw [List.append_assoc]; exact .step h (ih h')

theorem Run.snoc {K inp c ts c1 r c2} (h : Run K inp c ts c1) (hi : Iter K inp c1 r c2) :
    Run K inp c (ts ++ retToks r) c2 := by
  simpa using h.trans (.step hi (.refl _))

theorem Run.inv {K inp} {I : Conf → Prop} (hI : ∀ c r c', I c → Iter K inp c r c' → I c')
    {c ts c'} (h : Run K inp c ts c') (hc : I c) : I c' := by
  induction h with
  | refl c => exact hc
  | step h _ ih => exact ih (hI _ _ _ hc h)

/-- A `ReadToken` call that returns: iterations that go on, then one that returns. -/
theorem readTokenG_spec (modes : Array Mode) (inp : Input) (n : Nat) (c : Conf)
    (out : Option Tok × Lx × List Ev) (h : readTokenG modes inp n c.start c.l c.g = some out) :
    ∃ c1 c2, Run (Push modes inp) inp c [] c1 ∧ Iter (Push modes inp) inp c1 (some out.1) c2 ∧
      c2.l = out.2.1 ∧ c2.g = out.2.2 := by
  induction n generalizing c with
  | zero => cases h
  | succ n ih =>
    obtain ⟨r, c', hi, e⟩ := readTokenG_iter modes inp n c
    rw [e] at h
    cases r with
    | some t =>
      cases h
      exact ⟨c, c', .refl c, hi, rfl, rfl⟩
    | none =>
      obtain ⟨c1, c2, hr, hl⟩ := ih c' h
      exact ⟨c1, c2, .step hi hr, hl⟩

/-- How a run of `lexAllG` ends at `c0`: out of fuel there (the log of an unfinished call is dropped), a
Go panic, or EOF. -/
def Ends (modes : Array Mode) (inp : Input) (toks : List Tok) (c0 : Conf)
    (res : List Tok × String × List Ev) : Prop :=
  res = (toks, "timeout", c0.g) ∨
  (∃ c', Iter (Push modes inp) inp c0 (some none) c' ∧ res = (toks, "panic", c'.g)) ∨
  ∃ p c', Iter (Push modes inp) inp c0 (some (some (.eof p))) c' ∧ res = (toks ++ [.eof p], "ok", c'.g)

/-- Every statement about a whole run of `lexAllG` is read off this one. -/
theorem lexAllG_spec (modes : Array Mode) (inp : Input) (fuel n : Nat) (l : Lx) (acc : List Tok)
    (g : List Ev) : ∃ ts c0, Run (Push modes inp) inp ⟨none, l, g⟩ ts c0 ∧
      Ends modes inp (acc.reverse ++ ts) c0 (lexAllG modes inp fuel n l acc g) := by
  induction n generalizing l acc g with
  | zero => exact ⟨[], _, .refl _, .inl (by rw [List.append_nil]; rfl)⟩
  | succ n ih =>
    unfold lexAllG
    cases hr : readTokenG modes inp fuel none l g with
    | none => exact ⟨[], _, .refl _, .inl (by rw [List.append_nil])⟩
    | some out =>
      obtain ⟨ot, l', g'⟩ := out
      obtain ⟨c1, c2, h1, hl, rfl, rfl⟩ := readTokenG_spec modes inp fuel ⟨none, l, g⟩ _ hr
      -- a token that is not EOF: the run goes on from `c2`, which a returning iteration leaves
      -- without a token start
      have next : ∀ t, ot = some t → ∃ ts c0, Run (Push modes inp) inp ⟨none, l, g⟩ ts c0 ∧
          Ends modes inp (acc.reverse ++ ts) c0 (lexAllG modes inp fuel n c2.l (t :: acc) c2.g) := by
        rintro t rfl
        obtain ⟨ts, c0, h2, he⟩ := ih c2.l (t :: acc) c2.g
        have e : c2 = ⟨none, c2.l, c2.g⟩ := by
          cases hl with
          | accept _ => rfl
          | eof _ => rfl
          | error _ => rfl
        rw [List.reverse_cons, List.append_assoc] at he
        exact ⟨t :: ts, c0, (h1.snoc hl).trans (e ▸ h2), he⟩
      cases ot with
      | none => exact ⟨[], c1, h1, .inr (.inl ⟨c2, hl, by rw [List.append_nil]⟩)⟩
      | some t =>
        cases t with
        | eof p => exact ⟨[], c1, h1, .inr (.inr ⟨p, c2, hl, by simp only [List.append_nil, List.reverse_cons]⟩)⟩
        | tok ty a b => exact next _ rfl
        | err a b => exact next _ rfl

theorem lexAllG_log (modes : Array Mode) (inp : Input) (fuel n : Nat) (l : Lx) (acc : List Tok)
    (g : List Ev) : ∃ ts c, Run (Push modes inp) inp ⟨none, l, g⟩ ts c ∧
      (lexAllG modes inp fuel n l acc g).2.2 = c.g := by
  obtain ⟨ts, c0, hr, e | ⟨c', hi, e⟩ | ⟨p, c', hi, e⟩⟩ := lexAllG_spec modes inp fuel n l acc g
  · exact ⟨_, _, hr, by rw [e]⟩
  · exact ⟨_, _, hr.snoc hi, by rw [e]⟩
  · exact ⟨_, _, hr.snoc hi, by rw [e]⟩

@[simp] theorem segsOf_append (a b : List Ev) : segsOf (a ++ b) = segsOf a ++ segsOf b := by
  simp [segsOf, List.filterMap_append]

@[simp] theorem segsOf_nil : segsOf [] = [] := rfl

@[simp] theorem segsOf_cons_fire (start : Option Nat) (l : Lx) (res : Res) (rest : List Ev) :
    segsOf (fireEv start l res :: rest) = segsOf rest := rfl

@[simp] theorem segsOf_cons_seg (s : Seg) (rest : List Ev) :
    segsOf (.seg s :: rest) = s :: segsOf rest := rfl

@[simp] theorem segsOf_cons_ret (t : Tok) (mo : Nat) (st : List Nat) (rest : List Ev) :
    segsOf (.ret t mo st :: rest) = segsOf rest := rfl

/-- What the driver appends when a row fired and a segment `s0` was closed. -/
theorem segsOf_fire_seg (g : List Ev) (start : Option Nat) (l : Lx) (res : Res) (s0 : Seg)
    (extra : List Ev) (h : segsOf extra = []) :
    segsOf (g ++ [fireEv start l res] ++ .seg s0 :: extra) = segsOf g ++ [s0] := by
  rw [segsOf_append, segsOf_append, segsOf_cons_fire, segsOf_nil, List.append_nil, segsOf_cons_seg, h]

theorem segsOf_snoc_fire (g : List Ev) (start : Option Nat) (l : Lx) (res : Res) :
    segsOf (g ++ [fireEv start l res]) = segsOf g := by
  rw [segsOf_append]
  exact List.append_nil _

theorem forall_segsOf_fire_seg {Q : Seg → Prop} {g : List Ev} (hg : ∀ s ∈ segsOf g, Q s)
    (start : Option Nat) (l : Lx) (res : Res) {s0 : Seg} (h0 : Q s0) (extra : List Ev)
    (hextra : segsOf extra = []) :
    ∀ s ∈ segsOf (g ++ [fireEv start l res] ++ .seg s0 :: extra), Q s := by
  rw [segsOf_fire_seg _ _ _ _ _ _ hextra]
  exact fun s hs => (List.mem_append.1 hs).elim (hg s) fun h => List.mem_singleton.1 h ▸ h0

theorem contig_snoc (xs : List Seg) (s : Seg) (a b : Nat) :
    Contig (xs ++ [s]) a b ↔ Contig xs a s.start ∧ s.start ≤ s.stop ∧ s.stop = b := by
  induction xs generalizing a with
  | nil =>
    simp only [List.nil_append, Contig]
    constructor
    · rintro ⟨h1, h2, h3⟩; exact ⟨h1.symm, h2, h3⟩
    · rintro ⟨h1, h2, h3⟩; exact ⟨h1.symm, h2, h3⟩
  | cons x rest ih =>
    simp only [List.cons_append, Contig, ih]
    constructor
    · rintro ⟨h1, h2, h3, h4, h5⟩; exact ⟨⟨h1, h2, h3⟩, h4, h5⟩
    · rintro ⟨⟨h1, h2, h3⟩, h4, h5⟩; exact ⟨h1, h2, h3, h4, h5⟩

theorem contig_le {segs : List Seg} {a b : Nat} (h : Contig segs a b) : a ≤ b := by
  induction segs generalizing a with
  | nil => exact Nat.le_of_eq h
  | cons s rest ih =>
    obtain ⟨h1, h2, h3⟩ := h
    exact h1 ▸ Nat.le_trans h2 (ih h3)

theorem contig_concat {α : Type} (bytes : List α) {segs : List Seg} {a b : Nat}
    (h : Contig segs a b) :
    (segs.map fun s => (bytes.drop s.start).take (s.stop - s.start)).flatten
      = (bytes.drop a).take (b - a) := by
  induction segs generalizing a with
  | nil => simp only [Contig] at h; subst h; simp
  | cons s rest ih =>
    obtain ⟨h1, h2, h3⟩ := h
    have hle := contig_le h3
    simp only [List.map_cons, List.flatten_cons, ih h3]
    subst h1
    have e : b - s.start = (s.stop - s.start) + (b - s.stop) := by
      rw [Nat.add_comm, Nat.sub_add_sub_cancel hle h2]
    rw [e, List.take_add, List.drop_drop]
    congr 3
    exact (Nat.add_sub_cancel' h2).symm

theorem contig_unique {segs : List Seg} {a b : Nat} (h : Contig segs a b) (x : Nat)
    (hax : a ≤ x) (hxb : x < b) :
    (segs.filter fun s => decide (s.start ≤ x ∧ x < s.stop)).length = 1 := by
  have hnone : ∀ {segs : List Seg} {c b : Nat}, Contig segs c b → x < c →
      (segs.filter fun s => decide (s.start ≤ x ∧ x < s.stop)) = [] := by
    intro segs
    induction segs with
    | nil => intro _ _ _ _; rfl
    | cons s rest ih =>
      intro c b hc hx
      obtain ⟨h1, h2, h3⟩ := hc
      have : ¬ (s.start ≤ x ∧ x < s.stop) :=
        fun hh => Nat.lt_irrefl _ (Nat.lt_of_lt_of_le hx (h1 ▸ hh.1))
      simp only [List.filter_cons, this, decide_false]
      exact ih h3 (Nat.lt_of_lt_of_le hx (h1 ▸ h2))
  induction segs generalizing a with
  | nil => exact absurd (Nat.lt_of_le_of_lt hax hxb) (Nat.ne_of_lt · h)
  | cons s rest ih =>
    obtain ⟨h1, h2, h3⟩ := h
    by_cases hx : x < s.stop
    · have : s.start ≤ x ∧ x < s.stop := ⟨h1 ▸ hax, hx⟩
      simp only [List.filter_cons, this, decide_true, and_self, if_true, List.length_cons]
      rw [hnone h3 hx]; rfl
    · have : ¬ (s.start ≤ x ∧ x < s.stop) := fun hh => hx hh.2
      simp only [List.filter_cons, this, decide_false]
      exact ih h3 (Nat.le_of_not_lt hx)

theorem absRun_append (modes : Array Mode) (a b : List Ev) (ms : MS) :
    absRun modes (a ++ b) ms = absRun modes b (absRun modes a ms) := by
  induction a generalizing ms with
  | nil => rfl
  | cons ev rest ih => simp only [List.cons_append, absRun]; exact ih _

theorem absAgrees_append (modes : Array Mode) (a b : List Ev) (ms : MS) :
    AbsAgrees modes (a ++ b) ms ↔ AbsAgrees modes a ms ∧ AbsAgrees modes b (absRun modes a ms) := by
  induction a generalizing ms with
  | nil => simp [AbsAgrees, absRun]
  | cons ev rest ih =>
    simp only [List.cons_append, AbsAgrees, absRun, ih, and_assoc]

theorem abs_seg_ret {modes : Array Mode} {g : List Ev} {ms0 ms : MS} (hag : AbsAgrees modes g ms0)
    (hrun : absRun modes g ms0 = ms) (s : Seg) (t : Tok) (mo : Nat) (st : List Nat)
    (hret : absStep modes (.ret t mo st) ms = (mo, st)) :
    AbsAgrees modes (g ++ [.seg s, .ret t mo st]) ms0 ∧
      absRun modes (g ++ [.seg s, .ret t mo st]) ms0 = (mo, st) := by
  rw [absAgrees_append, absRun_append, hrun]
  exact ⟨⟨hag, trivial, hret, trivial⟩, hret⟩

theorem absAgrees_at_ret (modes : Array Mode) (pre post : List Ev) (t : Tok) (mo : Nat)
    (st : List Nat) (ms0 : MS) (h : AbsAgrees modes (pre ++ .ret t mo st :: post) ms0) :
    absRun modes (pre ++ [.ret t mo st]) ms0 = (mo, st) := by
  rw [absAgrees_append] at h
  rw [absRun_append]
  exact h.2.1

theorem absAgrees_at_fire (modes : Array Mode) (pre post : List Ev) (mode : Nat) (state : Int)
    (res : Res) (a b : Nat) (ms0 : MS)
    (h : AbsAgrees modes (pre ++ .fire mode state res a b :: post) ms0) :
    (absRun modes pre ms0).1 = mode := by
  rw [absAgrees_append] at h
  exact h.2.1

/-- One `PushRune` call of the driver on a well-formed table, with what it guarantees. -/
structure StepWF (modes : Array Mode) (inp : Input) (l : Lx) (res : Res) (sm' : SM) : Prop where
  inRange : InRange modes l.sm
  eq : pushRune modes l.sm (l.char inp) = (res, sm')
  ok : StepOK modes l.sm (l.char inp) res sm'
  abs : StepAbs (rowPairs modes (l.sm.mode.getD 0) l.sm.state) l.sm res sm'

theorem StepWF.inRange_afterError {modes : Array Mode} (hwf : WFModes modes) {inp : Input} {l : Lx}
    {res : Res} {sm' : SM} (h : StepWF modes inp l res sm') :
    InRange modes (afterError inp { l with sm := sm' }).sm := by
  rw [afterError_sm]; exact inRange_reset hwf h.ok.modesOK

theorem StepWF.abs_fire {modes : Array Mode} {inp : Input} {l : Lx} {res : Res} {sm' : SM}
    (h : StepWF modes inp l res sm') (hne : res ≠ .consume) (start : Option Nat) {g : List Ev}
    {ms0 : MS} (hag : AbsAgrees modes g ms0)
    (hrun : absRun modes g ms0 = (l.sm.mode.getD 0, l.sm.modeStack)) :
    AbsAgrees modes (g ++ [fireEv start l res]) ms0 ∧
      absRun modes (g ++ [fireEv start l res]) ms0 = (sm'.mode.getD 0, sm'.modeStack) := by
  rw [absAgrees_append, absRun_append, hrun]
  exact ⟨⟨hag, rfl, trivial⟩, (h.abs.fire hne).symm⟩

section
variable {modes : Array Mode} {inp : Input}

theorem Iter.sync {K} {c c' : Conf} {r : Option (Option Tok)} (h : Iter K inp c r c')
    (hs : Sync inp c.l) : Sync inp c'.l := by
  cases h with
  | @consume sm' _ => exact consume_sync (l := { c.l with sm := sm' }) hs
  | @error sm' _ => exact afterError_sync (l := { c.l with sm := sm' }) hs
  | _ _ => exact hs

theorem Iter.offset_le {K} {c c' : Conf} {r : Option (Option Tok)} (h : Iter K inp c r c') :
    c.l.offset ≤ c'.l.offset := by
  cases h with
  | @consume sm' _ => exact consume_offset_le inp { c.l with sm := sm' }
  | @error sm' _ => exact afterError_offset_le inp { c.l with sm := sm' }
  | _ _ => exact Nat.le_refl _

/-- What an iteration does to the segments: nothing, and the token start stays; or it closes the
segment from the token start to where the driver then stands, whose report is the token returned. -/
theorem Iter.segs {K} {c c' : Conf} {r : Option (Option Tok)} (h : Iter K inp c r c') :
    (segsOf c'.g = segsOf c.g ∧ c'.st = c.st ∧ retToks r = []) ∨
    ∃ s, segsOf c'.g = segsOf c.g ++ [s] ∧ s.start = c.st ∧ s.stop = c'.l.offset ∧
      c'.start = none ∧ [s].filterMap Seg.report = retToks r := by
  cases h with
  | consume _ => exact .inl ⟨rfl, rfl, rfl⟩
  | accept _ => exact .inr ⟨_, segsOf_fire_seg _ _ _ _ _ _ rfl, rfl, rfl, rfl, rfl⟩
  | discard _ => exact .inr ⟨_, segsOf_fire_seg _ _ _ _ _ [] rfl, rfl, rfl, rfl, rfl⟩
  | tryAgain _ => exact .inl ⟨segsOf_snoc_fire _ _ _ _, rfl, rfl⟩
  | eof _ => exact .inr ⟨_, segsOf_fire_seg _ _ _ _ _ _ rfl, rfl, rfl, rfl, rfl⟩
  | oob _ => exact .inl ⟨segsOf_snoc_fire _ _ _ _, rfl, rfl⟩
  | error _ => exact .inr ⟨_, segsOf_fire_seg _ _ _ _ _ _ rfl, rfl, rfl, rfl, rfl⟩

/-- The driver's offset is that of its rune; the segments closed so far run from `a` to the token
start; the token start is not ahead of the driver. -/
def SegInv (inp : Input) (a : Nat) (c : Conf) : Prop :=
  Sync inp c.l ∧ Contig (segsOf c.g) a c.st ∧ c.st ≤ c.l.offset

theorem SegInv.iter {K} {a : Nat} {c c' : Conf} {r : Option (Option Tok)} (hc : SegInv inp a c)
    (h : Iter K inp c r c') : SegInv inp a c' := by
  obtain ⟨hs, hg, hle⟩ := hc
  rcases h.segs with ⟨e, est, _⟩ | ⟨s, e, h1, h2, h3, _⟩
  · rw [SegInv, e, est]
    exact ⟨h.sync hs, hg, Nat.le_trans hle h.offset_le⟩
  · have hst : c'.st = c'.l.offset := by rw [Conf.st, h3]; rfl
    rw [SegInv, e, hst, contig_snoc, h1, h2]
    exact ⟨h.sync hs, ⟨hg, Nat.le_trans hle h.offset_le, rfl⟩, Nat.le_refl _⟩

theorem Run.reports {K} {c c' : Conf} {ts : List Tok} (h : Run K inp c ts c') :
    (segsOf c'.g).filterMap Seg.report = (segsOf c.g).filterMap Seg.report ++ ts := by
  induction h with
  | refl c => exact (List.append_nil _).symm
  | @step c r c1 ts c2 hi _ ih =>
    rw [ih, ← List.append_assoc]
    rcases hi.segs with ⟨e, _, er⟩ | ⟨s, e, _, _, _, er⟩
    · rw [e, er, List.append_nil]
    · rw [e, ← er, List.filterMap_append]

theorem lexAllG_conservation (modes : Array Mode) (inp : Input) (hv : ValidInput inp)
    (fuel n : Nat) (toks : List Tok) (log : List Ev)
    (h : lexAllG modes inp fuel n {} [] [] = (toks, "ok", log)) :
    Contig (segsOf log) 0 (totalBytes inp) ∧ (segsOf log).filterMap Seg.report = toks := by
  obtain ⟨ts, c0, hr, e | ⟨c', hi, e⟩ | ⟨p, c', hi, e⟩⟩ := lexAllG_spec modes inp fuel n {} [] []
  · exact absurd (congrArg (·.2.1) (h.symm.trans e)) (by decide : "ok" ≠ "timeout")
  · exact absurd (congrArg (·.2.1) (h.symm.trans e)) (by decide : "ok" ≠ "panic")
  · cases h.symm.trans e
    have hrun := hr.snoc hi
    obtain ⟨hs, hg, _⟩ := hrun.inv (fun _ _ _ => SegInv.iter (a := 0)) (c := ⟨none, {}, []⟩)
      ⟨sync_init inp, by simp [Contig, Conf.st], Nat.le_refl _⟩
    refine ⟨?_, hrun.reports⟩
    -- EOF is answered only to the end-of-input marker, which stands behind the last rune
    cases hi with
    | eof hpr =>
      have hge : inp.size ≤ c0.l.idx := size_le_of_char_eq hv (pushRune_eof _ _ _ _ hpr)
      have : c0.l.offset = totalBytes inp := by rw [hs, offsetOf_ge hge]
      exact this ▸ hg

/-- General form of `accum_prefix` (`Props/C07`): the first segment closed by a `ReadToken` call that
runs with token start `s` begins at `s` and ends at or after the current offset. -/
theorem readTokenG_first_seg (modes : Array Mode) (inp : Input) (n : Nat) (start : Option Nat)
    (l : Lx) (g : List Ev) (out : Option Tok × Lx × List Ev)
    (h : readTokenG modes inp n start l g = some out) (hno : out.1 ≠ none) :
    ∃ seg rest, segsOf out.2.2 = segsOf g ++ seg :: rest ∧ seg.start = start.getD l.offset ∧
      l.offset ≤ seg.stop := by
  induction n generalizing start l g with
  | zero => cases h
  | succ n ih =>
    obtain ⟨r, c', hi, e⟩ := readTokenG_iter modes inp n ⟨start, l, g⟩
    rw [e] at h
    have hoff : l.offset ≤ c'.l.offset := hi.offset_le
    rcases hi.segs with ⟨e1, est, er⟩ | ⟨s, e1, h1, h2, _, _⟩
    · -- nothing closed here: a return would be a Go panic
      cases r with
      | none =>
        obtain ⟨seg, rest, i1, i2, i3⟩ := ih _ _ _ h
        exact ⟨seg, rest, e1 ▸ i1, i2.trans est, Nat.le_trans hoff i3⟩
      | some t =>
        cases h
        cases t with
        | none => exact absurd rfl hno
        | some t => cases er
    · cases r with
      | none =>
        obtain ⟨seg, rest, i1, _, _⟩ := ih _ _ _ h
        exact ⟨s, seg :: rest, by rw [i1, e1, List.append_assoc]; rfl, h1, h2 ▸ hoff⟩
      | some t => cases h; exact ⟨s, [], e1, h1, h2 ▸ hoff⟩

/-- On a well-formed table, from an in-range state machine, an iteration comes with the guarantees
of its `PushRune` call, does not panic and leaves the state machine in range. -/
theorem Iter.wf (hwf : WFModes modes) {c c' : Conf} {r : Option (Option Tok)}
    (hin : InRange modes c.l.sm) (h : Iter (Push modes inp) inp c r c') :
    Iter (StepWF modes inp) inp c r c' ∧ r ≠ some none ∧ InRange modes c'.l.sm := by
  have step : ∀ {res sm'}, Push modes inp c.l res sm' → StepWF modes inp c.l res sm' := by
    intro res sm' hpr
    have h := pushRune_step hwf hin (c.l.char inp)
    rw [hpr] at h
    exact ⟨hin, hpr, h.1, h.2⟩
  cases h with
  | consume h => exact ⟨.consume (step h), nofun, by rw [consume_sm]; exact (step h).ok.inRange nofun⟩
  | accept h => exact ⟨.accept (step h), nofun, (step h).ok.inRange nofun⟩
  | discard h => exact ⟨.discard (step h), nofun, (step h).ok.inRange nofun⟩
  | tryAgain h => exact ⟨.tryAgain (step h), nofun, (step h).ok.inRange nofun⟩
  | eof h => exact ⟨.eof (step h), nofun, (step h).ok.inRange nofun⟩
  | oob h => exact absurd rfl (step h).ok.noOob
  | error h => exact ⟨.error (step h), nofun, (step h).inRange_afterError hwf⟩

/-- A run on a well-formed table keeps the state machine in range and every property that the
iterations on such a table keep. -/
theorem Run.invWF (hwf : WFModes modes) {I : Conf → Prop}
    (hI : ∀ c r c', I c → Iter (StepWF modes inp) inp c r c' → I c') {c ts c'}
    (h : Run (Push modes inp) inp c ts c') (hin : InRange modes c.l.sm) (hc : I c) :
    InRange modes c'.l.sm ∧ I c' :=
  h.inv (I := fun c => InRange modes c.l.sm ∧ I c)
    (fun _ _ _ hc hi => let ⟨hw, _, hin'⟩ := hi.wf hwf hc.1; ⟨hin', hI _ _ _ hc.2 hw⟩) ⟨hin, hc⟩

/-- The same for the log `lexAllG` returns, also of a run cut short. -/
theorem lexAllG_invWF (hwf : WFModes modes) {I : Conf → Prop}
    (hI : ∀ c r c', I c → Iter (StepWF modes inp) inp c r c' → I c') (fuel n : Nat) (l : Lx)
    (acc : List Tok) (g : List Ev) (hin : InRange modes l.sm) (hc : I ⟨none, l, g⟩) :
    ∃ c, I c ∧ (lexAllG modes inp fuel n l acc g).2.2 = c.g :=
  let ⟨_, c, hr, e⟩ := lexAllG_log modes inp fuel n l acc g
  ⟨c, (hr.invWF hwf hI hin hc).2, e⟩

theorem lexAll_no_panic (hwf : WFModes modes) (inp : Input) (fuel n : Nat) (l : Lx) (acc : List Tok)
    (hin : InRange modes l.sm) : (lexAll modes inp fuel n l acc).2 ≠ "panic" := by
  rw [← lexAllG_erase modes inp fuel n l acc []]
  obtain ⟨ts, c0, hr, e | ⟨c', hi, e⟩ | ⟨p, c', hi, e⟩⟩ := lexAllG_spec modes inp fuel n l acc []
  · rw [e]; exact (by decide : "timeout" ≠ "panic")
  · exact absurd rfl
      (hi.wf hwf (hr.invWF hwf (I := fun _ => True) (fun _ _ _ _ _ => trivial) hin trivial).1).2.1
  · rw [e]; exact (by decide : "ok" ≠ "panic")

/-- The abstract mode stack replayed from the log agrees with the state machine. -/
def AbsInv (modes : Array Mode) (ms0 : MS) (c : Conf) : Prop :=
  AbsAgrees modes c.g ms0 ∧ absRun modes c.g ms0 = (c.l.sm.mode.getD 0, c.l.sm.modeStack)

theorem AbsInv.iter {ms0 : MS} {c c' : Conf} {r : Option (Option Tok)} (hc : AbsInv modes ms0 c)
    (h : Iter (StepWF modes inp) inp c r c') : AbsInv modes ms0 c' := by
  obtain ⟨hag, hrun⟩ := hc
  cases h with
  | consume h =>
    obtain ⟨a1, a2⟩ := h.abs.consume rfl
    exact ⟨hag, by rw [consume_sm, hrun, a1, a2]⟩
  | accept h => obtain ⟨a, r⟩ := h.abs_fire nofun c.start hag hrun; exact abs_seg_ret a r _ _ _ _ rfl
  | discard h =>
    obtain ⟨a, r⟩ := h.abs_fire nofun c.start hag hrun
    exact ⟨(absAgrees_append modes _ _ ms0).2 ⟨a, trivial, trivial⟩, (absRun_append modes _ _ ms0).trans r⟩
  | tryAgain h => exact h.abs_fire nofun c.start hag hrun
  | eof h => obtain ⟨a, r⟩ := h.abs_fire nofun c.start hag hrun; exact abs_seg_ret a r _ _ _ _ rfl
  | oob h => exact h.abs_fire nofun c.start hag hrun
  | error h =>
    obtain ⟨a, r⟩ := h.abs_fire nofun c.start hag hrun
    -- `Reset()` sets the mode to `nil` and keeps the stack, as `absStep` does at an ERROR return
    exact abs_seg_ret a r _ _ _ _ (by rw [afterError_sm]; rfl)

theorem lexAllG_abs (hwf : WFModes modes) (inp : Input) (fuel : Nat) (ms0 : MS) (n : Nat) (l : Lx)
    (acc : List Tok) (g : List Ev) (hin : InRange modes l.sm) (hag : AbsAgrees modes g ms0)
    (hrun : absRun modes g ms0 = (l.sm.mode.getD 0, l.sm.modeStack)) :
    AbsAgrees modes (lexAllG modes inp fuel n l acc g).2.2 ms0 :=
  let ⟨_, hc, e⟩ := lexAllG_invWF hwf (fun _ _ _ => AbsInv.iter (ms0 := ms0)) fuel n l acc g hin
    ⟨hag, hrun⟩
  e ▸ hc.1

/-- At the start state the token start is the current offset, and every `pending` segment so far
is empty. -/
def PendInv (c : Conf) : Prop :=
  (c.l.sm.state = 0 → c.st = c.l.offset) ∧ ∀ s ∈ segsOf c.g, s.kind = .pending → s.start = s.stop

theorem PendInv.iter (hwf : WFModes modes) (hna : NoAccum modes) {c c' : Conf}
    {r : Option (Option Tok)} (hc : PendInv c) (h : Iter (StepWF modes inp) inp c r c') :
    PendInv c' := by
  obtain ⟨hst, hg⟩ := hc
  cases h with
  | consume h =>
    refine ⟨fun h0 => ?_, hg⟩
    rw [consume_sm] at h0
    exact absurd h0 (h.ok.consume rfl).1
  | accept h => exact ⟨fun _ => rfl, forall_segsOf_fire_seg hg _ _ _ (fun hk => by cases hk) _ rfl⟩
  | discard h => exact ⟨fun _ => rfl, forall_segsOf_fire_seg hg _ _ _ (fun hk => by cases hk) [] rfl⟩
  | tryAgain h => exact absurd (congrArg Prod.fst h.eq) (pushRune_no_tryAgain hwf hna h.inRange _)
  | eof h => exact ⟨fun _ => rfl, forall_segsOf_fire_seg hg _ _ _ (fun _ => hst (h.ok.eof rfl).1) _ rfl⟩
  | oob h => exact absurd rfl h.ok.noOob
  | error h => exact ⟨fun _ => rfl, forall_segsOf_fire_seg hg _ _ _ (fun hk => by cases hk) _ rfl⟩

theorem lexAllG_pending (hwf : WFModes modes) (hna : NoAccum modes) (inp : Input) (fuel n : Nat)
    (l : Lx) (acc : List Tok) (g : List Ev) (hin : InRange modes l.sm)
    (hg : ∀ s ∈ segsOf g, s.kind = .pending → s.start = s.stop) :
    ∀ s ∈ segsOf (lexAllG modes inp fuel n l acc g).2.2, s.kind = .pending → s.start = s.stop :=
  let ⟨_, hc, e⟩ := lexAllG_invWF hwf (fun _ _ _ hc => PendInv.iter hwf hna hc) fuel n l acc g hin
    ⟨fun _ => rfl, hg⟩
  e ▸ hc.2

end

end Lox.Lex.Rt
