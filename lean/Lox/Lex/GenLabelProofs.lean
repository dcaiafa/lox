import Lox.Lex.GenDFA
import Lox.Lex.GenNFASound
/-! `pickAction` on a set of NFA states that holds the accepting states the mode NFA can be in
after `w` returns the earliest rule matching `w` (`pickAction_winner`). -/
namespace Lox.Lex.Gen

theorem mem_actionSet (m : NFA) (S : List Nat) (i : Nat) :
    i ∈ actionSet m S ↔ ∃ q ∈ S, (q, i) ∈ m.acc := by
  simp only [actionSet, List.mem_flatMap, List.mem_filterMap]
  constructor
  · rintro ⟨q, hq, a, ha, h⟩
    split at h
    · rename_i hc; cases h; exact ⟨q, hq, by rw [← hc]; exact ha⟩
    · cases h
  · rintro ⟨q, hq, ha⟩
    exact ⟨q, hq, (q, i), ha, by simp⟩

theorem NFA.isAcc_of_mem {m : NFA} {q i : Nat} (h : (q, i) ∈ m.acc) : m.isAcc q = true :=
  List.any_eq_true.2 ⟨(q, i), h, beq_self_eq_true q⟩

/-- `actionSet` looks only at the accepting states among `S`. -/
theorem mem_actionSet_acc {m : NFA} {S : List Nat} {i : Nat} :
    i ∈ actionSet m S ↔ ∃ q, (q ∈ S ∧ m.isAcc q = true) ∧ (q, i) ∈ m.acc := by
  rw [mem_actionSet]
  exact ⟨fun ⟨q, hq, ha⟩ => ⟨q, ⟨hq, NFA.isAcc_of_mem ha⟩, ha⟩, fun ⟨q, hq, ha⟩ => ⟨q, hq.1, ha⟩⟩

theorem foldl_min_spec (rest : List Nat) : ∀ (a : Nat),
    (rest.foldl (fun w i => if i < w then i else w) a) ∈ a :: rest ∧
    ∀ j ∈ a :: rest, rest.foldl (fun w i => if i < w then i else w) a ≤ j := by
  induction rest with
  | nil => intro a; simp
  | cons b rest ih =>
    intro a
    simp only [List.foldl_cons]
    have hx : (if b < a then b else a) ≤ a ∧ (if b < a then b else a) ≤ b ∧
        ((if b < a then b else a) = a ∨ (if b < a then b else a) = b) := by
      split <;> omega
    generalize (if b < a then b else a) = x at hx
    obtain ⟨h1, h2⟩ := ih x
    refine ⟨?_, ?_⟩
    · rcases List.mem_cons.mp h1 with h | h
      · rw [h]; rcases hx.2.2 with h' | h' <;> simp [h']
      · simp [h]
    · intro j hj
      have hm := h2 x (by simp)
      rcases List.mem_cons.mp hj with rfl | hj
      · omega
      · rcases List.mem_cons.mp hj with rfl | hj
        · omega
        · exact h2 j (by simp [hj])

theorem pickAction_spec (m : NFA) (S : List Nat) :
    (pickAction m S = none ↔ ∀ i, i ∉ actionSet m S) ∧
    (∀ i, pickAction m S = some i ↔ i ∈ actionSet m S ∧ ∀ j ∈ actionSet m S, i ≤ j) := by
  unfold pickAction
  cases h : actionSet m S with
  | nil => simp
  | cons a rest =>
    obtain ⟨h1, h2⟩ := foldl_min_spec rest a
    refine ⟨⟨fun h => (by cases h), fun h => absurd List.mem_cons_self (h a)⟩, ?_⟩
    intro i
    simp only [Option.some.injEq]
    constructor
    · rintro rfl; exact ⟨h1, h2⟩
    · rintro ⟨hi, hle⟩
      have := hle _ h1
      have := h2 i hi
      omega

/-- `o` is the index of the earliest rule that matches `w` exactly, `none` if no rule does: what
`pickAction` is to return on the state reached by `w`. -/
def IsWinner (rules : List Rx) (w : List Int) : Option Nat → Prop
  | none => ∀ r ∈ rules, ¬ Matches r.toRe w
  | some i => (∃ r, rules[i]? = some r ∧ Matches r.toRe w) ∧
      ∀ j r, j < i → rules[j]? = some r → ¬ Matches r.toRe w

/-- `m` stands for the mode NFA after `normalizeInputs` (same `acc`, `start` and paths). `S` need
agree with the states reached by `w` on the accepting states only: that much `DFA.Tracks` carries
through `optimize`. -/
theorem pickAction_winner (rules : List Rx) (m : NFA) (hacc : m.acc = (modeNFA rules).acc)
    (hstart : m.start = (modeNFA rules).start)
    (hpath : ∀ p w q, Path m.edges p w q ↔ Path (modeNFA rules).edges p w q)
    (w : List Int) (S : List Nat)
    (hS : ∀ q, q ∈ S ∧ m.isAcc q = true ↔ Path m.edges m.start w q ∧ m.isAcc q = true) :
    IsWinner rules w (pickAction m S) := by
  have hmem : ∀ i, i ∈ actionSet m S ↔ ∃ r, rules[i]? = some r ∧ Matches r.toRe w := by
    intro i
    rw [mem_actionSet_acc, ← modeNFA_label, NFA.AcceptsRule, ← hacc, ← hstart]
    exact ⟨fun ⟨q, hq, ha⟩ => ⟨q, (hpath ..).1 ((hS q).1 hq).1, ha⟩,
      fun ⟨q, hq, ha⟩ => ⟨q, (hS q).2 ⟨(hpath ..).2 hq, NFA.isAcc_of_mem ha⟩, ha⟩⟩
  obtain ⟨hnone, hsome⟩ := pickAction_spec m S
  cases hp : pickAction m S with
  | none =>
    intro r hr hm
    obtain ⟨i, hi⟩ := List.mem_iff_getElem?.1 hr
    exact hnone.1 hp i ((hmem i).2 ⟨r, hi, hm⟩)
  | some i =>
    obtain ⟨hi, hle⟩ := (hsome i).1 hp
    refine ⟨(hmem i).1 hi, ?_⟩
    intro j r hj hr hm
    have := hle j ((hmem j).2 ⟨r, hr, hm⟩)
    omega

end Lox.Lex.Gen
