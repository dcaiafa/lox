import Lox.Lex.GenSpecProofs
import Lox.Lex.GenSpecMunch
/-! Run-level lemmas for generated lexers (`genModes`, `Lox/Lex/GenSpecModel.lean`): the abstract
mode stack folded over the actions WRITTEN on a rule (`applyWritten`, by mode NAME → index), what one
`PushRune` call does on the row of a rule (`pairs_exec`), what every table of a generated lexer
computes (`ModeOf.tableSpec`), and with it what a `fire` event of a run (`FireMatches`, for any
lexer in `Lox/Lex/GenSpecMunch.lean`) says at the level of the rules: the consumed text is the
LONGEST viable prefix under the rules of the current mode and the row stores the pairs of the
EARLIEST rule matching it (`fire_matched`). Used by `Lox/Props/C07_e2e.lean`. -/
namespace Lox.Lex.GenSpec
open Lox.Lex Lox.Lex.Rt Lox.Lex.Gen

/-- The abstract mode stack folded over the actions as written (modes by name): `@push_mode(M)`
saves the current mode and enters the mode called `M` (`modeIndex`: its place among the sorted mode
names), `@pop_mode` returns to the mode saved last (and stops the rule's actions if there is none),
`@emit` / `@discard` do not touch the modes – wherever they are written. -/
def applyWritten (s : LSpec) : List LAct → MS → MS
  | [], ms => ms
  | .pushMode n :: rest, (mode, stack) =>
    applyWritten s rest ((modeIndex s n).getD 0, mode :: stack)
  | .popMode :: rest, (mode, stack) =>
    match stack with
    | [] => (mode, stack)
    | top :: st => applyWritten s rest (top, st)
  | _ :: rest, ms => applyWritten s rest ms

theorem resolveActs_cons {s : LSpec} {a : LAct} {as : List LAct} {ws : List WAction}
    (h : resolveActs s (a :: as) = some ws) :
    ∃ w ws', resolveAct s a = some w ∧ resolveActs s as = some ws' ∧ ws = w :: ws' := by
  unfold resolveActs at h ⊢
  simp only [List.map_cons] at h
  cases hw : resolveAct s a with
  | none => rw [hw] at h; simp [allSome] at h
  | some w =>
    rw [hw] at h
    simp only [allSome, Option.map_eq_some_iff] at h
    obtain ⟨ws', h1, h2⟩ := h
    exact ⟨w, ws', rfl, h1, h2.symm⟩

/-- The stored mode pairs do to the abstract stack what the written actions do: each written
action resolves to one action, a mode action to its pair, a terminal action to none. -/
theorem modePairs_applyWritten {s : LSpec} : ∀ {as : List LAct} {ws : List WAction},
    resolveActs s as = some ws → ∀ ms, applyModeActsT (modePairs ws) ms = applyWritten s as ms
  | [], ws, h, ms => by
    cases h
    rfl
  | a :: as, ws, h, (mode, stack) => by
    obtain ⟨w, ws', hw, hws', rfl⟩ := resolveActs_cons h
    have ih := modePairs_applyWritten hws'
    cases a with
    | pushMode n =>
      obtain ⟨k, hk, rfl⟩ := Option.map_eq_some_iff.1 hw
      rw [modePairs_cons_mode _ _ rfl, applyWritten, hk]
      exact ih _
    | popMode =>
      cases hw
      rw [modePairs_cons_mode _ _ rfl]
      cases stack with
      | nil => rfl
      | cons top st => exact ih _
    | emit n =>
      obtain ⟨k, _, rfl⟩ := Option.map_eq_some_iff.1 hw
      rw [modePairs_cons_terminal _ _ rfl]
      exact ih _
    | discard =>
      cases hw
      rw [modePairs_cons_terminal _ _ rfl]
      exact ih _

theorem pairs_applyWritten {s : LSpec} {r : GRule} {ps : List Pair} (h : r.pairs s = some ps)
    (ms : MS) : applyModeActsT ps ms = applyWritten s r.acts ms := by
  obtain ⟨ws, dflt, hw, hd, hps, _⟩ := pairs_shape h
  rw [hps, applyModeActsT_append_terminal _ _ _ (writtenTerminal_type dflt ws hd),
    modePairs_applyWritten hw]

/-- Executing the pairs stored for the rule `r` applies every mode action written on `r`, in
written order, and then has the one terminal effect `t`: accept of the rule's own token for a token
rule; the written `@emit` / `@discard` wherever it stands, else accumulate, for a fragment. A
written `@pop_mode` that finds the stack empty gives `_lexerError`, the actions before it applied. -/
theorem pairs_exec {s : LSpec} {r : GRule} {ps : List Pair} (h : r.pairs s = some ps) (c : Int)
    (sm : SM) (mo : Nat) (hmo : sm.mode = some mo) :
    ∃ ws t, resolveActs s r.acts = some ws ∧
      ((∃ n k, r.name = some n ∧ tokenNumber s n = some k ∧ t = ((3 : Int), (k : Int))) ∨
        (r.name = none ∧ t = writtenTerminal accumPair ws)) ∧
      execPairs (modeNames s).length c ps sm =
        match applyW ws (mo, sm.modeStack) with
        | some ms => terminalEffect t { sm with mode := some ms.1, modeStack := ms.2 }
        | none =>
          (.error, { sm with mode := some (applyWritten s r.acts (mo, sm.modeStack)).1,
                             modeStack := (applyWritten s r.acts (mo, sm.modeStack)).2 }) := by
  obtain ⟨ws, dflt, hw, hd, hps, hsh⟩ := pairs_shape h
  refine ⟨ws, writtenTerminal dflt ws, hw, ?_, ?_⟩
  · rcases hsh with ⟨n, k, hn, hk, rfl, e⟩ | ⟨hnone, rfl, _⟩
    · exact .inl ⟨n, k, hn, hk, e⟩
    · exact .inr ⟨hnone, rfl⟩
  · rw [hps, execPairs_written _ c ws dflt sm mo hd (resolveActs_push hw) hmo,
      modePairs_applyWritten hw]
    rfl

/-- `ID = [A-Za-z] [A-Za-z0-9_]*` (`internal/parser/parser.lox`): the name of a `@mode` block starts
with a letter. -/
def startsWithLetter (n : String) : Bool :=
  match n.toList with
  | c :: _ => c.isAlpha
  | [] => false

/-- `$` sorts before every letter: `"$default"` is smaller than every identifier. -/
theorem default_lt_ident {n : String} (h : startsWithLetter n = true) : defaultName < n := by
  show defaultName.toList < n.toList
  unfold startsWithLetter at h
  cases hn : n.toList with
  | nil => rw [hn] at h; cases h
  | cons c cs =>
    rw [hn] at h
    simp only at h
    have hd : defaultName.toList = '$' :: ['d', 'e', 'f', 'a', 'u', 'l', 't'] := by decide
    rw [hd, List.cons_lt_cons_iff]
    left
    simp only [Char.isAlpha, Char.isUpper, Char.isLower, Bool.or_eq_true, Bool.and_eq_true,
      decide_eq_true_eq] at h
    show ('$' : Char).val < c.val
    have : ('$' : Char).val = 36 := by decide
    rw [this]
    rcases h with h | h <;> exact Nat.lt_of_lt_of_le (by decide) h.1

theorem insertName_min {n : String} {l : List String} (h : ∀ x ∈ l, n < x) :
    insertName n l = n :: l := by
  cases l with
  | nil => rfl
  | cons x xs => simp [insertName, h x (by simp)]

variable {s : LSpec} {modes : Array Mode} {i : Nat} {name : String} {rs : List GRule}
  {pss : List (List Pair)} {m : Mode}

/-- Every mode of a generated lexer computes the rule-level specification of its mode
(`genMode_tableSpec` for the mode `name` of the specification; greedy rules): on every word `w` the
automaton decoded from the table dies iff `w` is no prefix of a match of any rule of the mode, and
otherwise stops in a state storing the pairs of the EARLIEST rule of the mode matching `w`
exactly. -/
theorem ModeOf.tableSpec (h : ModeOf s modes i name rs pss m) (hok : s.ok = true)
    (hgreedy : s.greedy = true) (hne : modeRules s name ≠ []) :
    TableSpec m (viable (specRules s name)) (label (specRules s name)) := by
  have hR := h.rulesOK hok
  refine genMode_tableSpec h.spec hR.map (by simpa using hne) hR.cls hR.runes fun x hx => ?_
  obtain ⟨r, hr, rfl⟩ := List.mem_map.1 hx
  exact List.all_eq_true.1 hgreedy r (modeRules_sub s name r hr)

/-- State 0 of every generated table means "nothing consumed". -/
theorem ModeOf.startClean (h : ModeOf s modes i name rs pss m) (hok : s.ok = true) :
    startClean m = true :=
  have hR := h.rulesOK hok
  genMode_startClean h.spec hR.map hR.cls hR.runes hR.nonempty

/-- The mode actions stored on the row of a rule do to the abstract stack what the actions written
on the rule do. -/
theorem FiredRule.applyWritten {mode : Nat} {state : Int} {r : GRule}
    (h : FiredRule s modes mode state r) (ms : MS) :
    applyModeActsT (Rt.rowPairs modes mode state) ms = applyWritten s r.acts ms :=
  pairs_applyWritten h.pairs ms

def writtenModeActs (as : List LAct) : List LAct := as.filter fun a => !a.isTerminal

theorem applyWritten_modeActs (s : LSpec) (as : List LAct) (ms : MS) :
    applyWritten s as ms = applyWritten s (writtenModeActs as) ms := by
  induction as generalizing ms with
  | nil => rfl
  | cons a rest ih =>
    obtain ⟨mode, stack⟩ := ms
    cases a with
    | pushMode n => exact ih _
    | popMode =>
      cases stack with
      | nil => rfl
      | cons top st => exact ih _
    | emit n => exact ih _
    | discard => exact ih _

/-- Every generated table is a well-formed table (`Lox.Lex.wfTable`, the premise of the
table-automaton lemmas of `Lox/Lex/TableProofs.lean`; on such a table the two row decoders of the
framework agree, `decodeRow_of_rowAt`). -/
theorem genModes_tablesWF {s : LSpec} {modes : Array Mode} (hgen : genModes s = some modes)
    (hok : s.ok = true) : TablesWF modes := fun _ _ hm =>
  let ⟨_, _, _, hM⟩ := genModes_modeOf hgen hm
  genMode_wfTable hM.spec (hM.rulesOK hok).cls (hM.rulesOK hok).runes

/-- Every mode of the specification (also `$default`) has at least one rule. -/
def LSpec.modesNonempty (s : LSpec) : Bool := (modeDecls s).all fun d => !d.2.isEmpty

theorem modeRules_ne_nil {s : LSpec} (hne : s.modesNonempty = true) {n : String}
    (hn : n ∈ modeNames s) : modeRules s n ≠ [] := by
  unfold modeNames at hn
  rw [mem_sortNames] at hn
  obtain ⟨d, hd, hdn⟩ := List.mem_map.1 hn
  unfold modeRules
  cases hf : (modeDecls s).find? (fun d => d.1 == n) with
  | none =>
    have := List.find?_eq_none.1 hf d hd
    simp [hdn] at this
  | some d' =>
    simp only [Option.map_some, Option.getD_some]
    have hd' := List.mem_of_find?_eq_some hf
    have := List.all_eq_true.1 hne d' hd'
    simpa using this

/-- `r0` is the earliest rule of `rs` (order of `AddRule` = source order) that matches `w`. -/
def EarliestMatch (rs : List GRule) (w : List Int) (r0 : GRule) : Prop :=
  ∃ pre post, rs = pre ++ r0 :: post ∧ Matches r0.body.toRe w ∧
    ∀ r ∈ pre, ¬ Matches r.body.toRe w

theorem label_earliest (f : GRule → List Pair) {rs : List GRule} {w : List Int} {r0 : GRule}
    (h : EarliestMatch rs w r0) :
    label (rs.map fun r => (r.body.toRe, f r)) w = f r0 := by
  obtain ⟨pre, post, rfl, hm, hpre⟩ := h
  induction pre with
  | nil => simp only [List.nil_append, List.map_cons]; exact label_cons_pos hm
  | cons a rest ih =>
    simp only [List.cons_append, List.map_cons]
    rw [label_cons_neg (hpre a (by simp))]
    exact ih (fun r hr => hpre r (by simp [hr]))

/-- What a `fire` event of a generated lexer says at the level of the rules (greedy rules, every
mode has a rule): the runes `w = [i, j)` consumed since the boundary are a viable word of the mode
whose row fired, no longer stretch `[i, k)` of the input is viable – `w` is the LONGEST viable
prefix of the rest of the input – and the row that fired stores `label … w`: the pairs of the
EARLIEST rule of the mode matching `w` exactly, nothing if no rule does. -/
theorem fire_matched {s : LSpec} {modes : Array Mode} (hgen : genModes s = some modes)
    (hok : s.ok = true) (hgreedy : s.greedy = true) (hne : s.modesNonempty = true) {inp : Input}
    {bd mode : Nat} {state : Int} {res : Res} {a b : Nat}
    (h : FireMatches modes inp bd (.fire mode state res a b)) :
    ∃ mname i j, (modeNames s)[mode]? = some mname ∧ i ≤ j ∧ j ≤ inp.size ∧
      offsetOf inp i = bd ∧ offsetOf inp j = b ∧
      viable (specRules s mname) (runesBetween inp i j) ∧
      (∀ k, j < k → k ≤ inp.size → ¬ viable (specRules s mname) (runesBetween inp i k)) ∧
      (∀ r0, EarliestMatch (modeRules s mname) (runesBetween inp i j) r0 →
        FiredRule s modes mode state r0) ∧
      ((∀ r ∈ modeRules s mname, ¬ Matches r.body.toRe (runesBetween inp i j)) →
        Rt.rowPairs modes mode state = []) := by
  obtain ⟨m', i, j, hm, hij, hj, hbd, hoff, h0, hrun, hstep⟩ := h
  obtain ⟨name, rs, pss, hM⟩ := genModes_modeOf hgen hm
  have hS := hM.tableSpec hok hgreedy (modeRules_ne_nil hne (List.mem_of_getElem? hM.name_eq))
  have hwf := hS.wf
  obtain ⟨hv, hlab, hlong⟩ := hS.run_stop hrun
  have hq := tableRunFrom_lt hwf _ 0 _ (wfTable_nStates hwf) hrun
  have hrow : Rt.rowPairs modes mode state = label (specRules s name) (runesBetween inp i j) := by
    rw [← hlab, ← rt_rowPairs_eq hm hwf hq, Int.toNat_of_nonneg h0]
  refine ⟨name, i, j, hM.name_eq, hij, hj, hbd, hoff, hv, fun k hjk hk' => ?_, fun r0 hr0 => ?_,
    fun hnone => ?_⟩
  · have hjl : j < inp.size := by omega
    rw [runesBetween_append (j := j + 1) (by omega) (by omega), runesBetween_succ hij hjl,
      List.append_assoc]
    exact hlong _ (runeAt_lt hjl ▸ hstep) _
  · have hmem : r0 ∈ modeRules s name := by obtain ⟨_, _, e, _⟩ := hr0; simp [e]
    refine ⟨name, hM.name_eq, hmem, ?_⟩
    rw [hrow, specRules, label_earliest _ hr0]
    exact hM.rule_pairs hmem
  · rw [hrow]
    refine label_of_none _ _ fun x hx => ?_
    obtain ⟨g, hg, rfl⟩ := List.mem_map.1 hx
    exact hnone g hg

end Lox.Lex.GenSpec
