import Lox.Lex.RuntimeProofs
import Lox.Lex.TableProofs
/-! Run-level maximal munch, for every lexer with well-formed tables (`WFModes` for the run-time
reader, `TablesWF` for the table automaton `tableStep` / `tableRunFrom`): over a whole run of the
driver (`lexAllG`, any input, any fuel), every time a row fires the state machine has walked, in the
table of the current mode, from state 0 along exactly the runes consumed since the last firing (or
since the end of the last ERROR stretch), and has no transition on the next rune (`MunchLog`,
`lexAllG_munch`); `lexAllG_at_fire` adds what the event does to the abstract mode stack. Nothing
here knows where the tables come from: `Lox/Lex/GenSpecRun.lean` reads a `fire` event for
generated lexers (`fire_matched`). -/
namespace Lox.Lex.GenSpec
open Lox.Lex Lox.Lex.Rt

def runesBetween (inp : Input) (i j : Nat) : List Int :=
  ((inp.toList.drop i).take (j - i)).map (·.1)

def runeAt (inp : Input) (j : Nat) : Int :=
  match inp[j]? with
  | some (r, _) => r
  | none => -1

theorem runesBetween_self (inp : Input) (i : Nat) : runesBetween inp i i = [] := by
  simp [runesBetween]

theorem runesBetween_append {inp : Input} {i j k : Nat} (hij : i ≤ j) (hjk : j ≤ k) :
    runesBetween inp i k = runesBetween inp i j ++ runesBetween inp j k := by
  obtain ⟨d, rfl⟩ := Nat.exists_eq_add_of_le hij
  obtain ⟨e, rfl⟩ := Nat.exists_eq_add_of_le hjk
  have h1 : i + d + e - i = d + e := by rw [Nat.add_assoc, Nat.add_sub_cancel_left]
  simp only [runesBetween, h1, Nat.add_sub_cancel_left, List.take_add, List.drop_drop,
    List.map_append]

theorem runesBetween_succ {inp : Input} {i j : Nat} (hij : i ≤ j) (hj : j < inp.size) :
    runesBetween inp i (j + 1) = runesBetween inp i j ++ [inp[j].1] := by
  rw [runesBetween_append hij (Nat.le_add_right j 1)]
  simp only [runesBetween, Nat.add_sub_cancel_left, List.take_one, List.head?_drop,
    Array.getElem?_toList, Array.getElem?_eq_getElem hj, Option.toList_some, List.map_cons,
    List.map_nil]

theorem char_eq_runeAt (inp : Input) (l : Lx) : l.char inp = runeAt inp l.idx := rfl

theorem runeAt_lt {inp : Input} {j : Nat} (h : j < inp.size) : runeAt inp j = inp[j].1 := by
  unfold runeAt
  rw [Array.getElem?_eq_getElem h]

/-- The byte offset at which the state machine was last in state 0 with nothing consumed: the
offset of the last row that fired, or the end of the last ERROR stretch. -/
def nextBoundary (bd : Nat) : Ev → Nat
  | .fire _ _ _ _ off => off
  | .seg ⟨.error _, _, stop⟩ => stop
  | _ => bd

def boundaryRun : Nat → List Ev → Nat
  | bd, [] => bd
  | bd, e :: rest => boundaryRun (nextBoundary bd e) rest

/-- What a `fire` event says, `bd` being the boundary before it: the state whose row fired is the
state the table of that mode reaches from state 0 on the runes `[i, j)` – `i` at byte offset `bd`,
`j` at the byte offset of the event – and the table has no transition from it on rune `j` (or on
end of input). -/
def FireMatches (modes : Array Mode) (inp : Input) (bd : Nat) : Ev → Prop
  | .fire mode state _ _ off =>
    ∃ m i j, modes[mode]? = some m ∧ i ≤ j ∧ j ≤ inp.size ∧ offsetOf inp i = bd ∧
      offsetOf inp j = off ∧ 0 ≤ state ∧
      tableRunFrom m 0 (runesBetween inp i j) = some state.toNat ∧
      tableStep m state.toNat (runeAt inp j) = none
  | _ => True

def MunchLog (modes : Array Mode) (inp : Input) : Nat → List Ev → Prop
  | _, [] => True
  | bd, e :: rest => FireMatches modes inp bd e ∧ MunchLog modes inp (nextBoundary bd e) rest

theorem boundaryRun_append (a b : List Ev) (bd : Nat) :
    boundaryRun bd (a ++ b) = boundaryRun (boundaryRun bd a) b := by
  induction a generalizing bd with
  | nil => rfl
  | cons e rest ih => simp only [List.cons_append, boundaryRun]; exact ih _

theorem munchLog_append (modes : Array Mode) (inp : Input) (a b : List Ev) (bd : Nat) :
    MunchLog modes inp bd (a ++ b) ↔
      MunchLog modes inp bd a ∧ MunchLog modes inp (boundaryRun bd a) b := by
  induction a generalizing bd with
  | nil => simp [MunchLog, boundaryRun]
  | cons e rest ih => simp only [List.cons_append, MunchLog, boundaryRun, ih, and_assoc]

theorem munchLog_at_fire {modes : Array Mode} {inp : Input} {pre post : List Ev} {e : Ev}
    (h : MunchLog modes inp 0 (pre ++ e :: post)) :
    FireMatches modes inp (boundaryRun 0 pre) e := by
  rw [munchLog_append] at h
  exact h.2.1

/-- Every branch of the action loop either goes on with the next pair or returns a result that is
not `consume`. -/
theorem runPairs_ne_consume (modes : Array Mode) (r : Int) (ps : List Pair) (sm : SM) :
    (runPairs modes r ps sm).1 ≠ .consume := by
  fun_induction runPairs modes r ps sm
  all_goals first | assumption | exact Res.noConfusion

/-- Validator side for all modes: every table passes `Lex.wfTable` (ranges sorted and within
`0..maxRune`, targets in range). `Rt.WFModes` asks for the shape of targets and pairs instead; the
runs below need both, and a generated lexer has both (`genModes_wfModes`, `genModes_tablesWF`). -/
def TablesWF (modes : Array Mode) : Prop :=
  ∀ (mi : Nat) (m : Mode), modes[mi]? = some m → wfTable m = true

/-- A run-time state (`InRange`) on validator-side tables (`TablesWF`): a `PushRune` call consumes
exactly along `tableStep`. Carries the runs of `RuntimeProofs` over to the table automaton of
`TableProofs`. -/
theorem pushRune_table {modes : Array Mode} (hT : TablesWF modes) {sm : SM}
    (hin : InRange modes sm) (c : Int) :
    ∃ m, modes[sm.mode.getD 0]? = some m ∧
      (∀ sm', pushRune modes sm c = (.consume, sm') →
        ∃ q', tableStep m sm.state.toNat c = some q' ∧
          sm' = { sm with mode := some (sm.mode.getD 0), state := (q' : Int) }) ∧
      (∀ res sm', pushRune modes sm c = (res, sm') → res ≠ .consume →
        tableStep m sm.state.toNat c = none) := by
  obtain ⟨_, h0, m, hm, hlt⟩ := hin
  have hwf := hT _ m hm
  have hq : sm.state.toNat < Lox.Lex.nStates m := by rw [← rt_nStates_eq]; exact hlt
  have hst : sm.state = ((sm.state.toNat : Nat) : Int) := by omega
  refine ⟨m, hm, ?_⟩
  rw [pushRune_step modes sm m sm.state.toNat c hwf hm hst hq]
  cases tableStep m sm.state.toNat c with
  | some q' =>
    exact ⟨fun sm' h => ⟨q', rfl, (Prod.mk.inj h).2.symm⟩,
      fun res sm' h hne => absurd (Prod.mk.inj h).1.symm hne⟩
  | none =>
    exact ⟨fun sm' h => absurd (congrArg Prod.fst h) (runPairs_ne_consume _ _ _ _),
      fun _ _ _ _ => rfl⟩

/-- The driver is synchronised with the input, the log so far matches, and the current state is
the state the current mode's table reaches from state 0 on the runes consumed since the
boundary. -/
structure MunchInv (modes : Array Mode) (inp : Input) (l : Lx) (g : List Ev) : Prop where
  sync : Sync inp l
  idx : l.idx ≤ inp.size
  inRange : InRange modes l.sm
  log : MunchLog modes inp 0 g
  reach : ∃ i m, i ≤ l.idx ∧ offsetOf inp i = boundaryRun 0 g ∧
    modes[l.sm.mode.getD 0]? = some m ∧
    tableRunFrom m 0 (runesBetween inp i l.idx) = some l.sm.state.toNat

/-- The invariant holds wherever the state machine is in state 0 and the boundary of the log is
the current offset: at the start, after a row fired, after an ERROR stretch. -/
theorem MunchInv.restart {modes : Array Mode} {inp : Input} {l : Lx} {g : List Ev}
    (hsync : Sync inp l) (hidx : l.idx ≤ inp.size) (hin : InRange modes l.sm)
    (h0 : l.sm.state = 0) (hlog : MunchLog modes inp 0 g) (hbd : boundaryRun 0 g = l.offset) :
    MunchInv modes inp l g := by
  obtain ⟨m, hm, _⟩ := hin.2.2
  refine ⟨hsync, hidx, hin, hlog, l.idx, m, Nat.le_refl _, hbd ▸ hsync.symm, hm, ?_⟩
  rw [runesBetween_self, h0]
  rfl

theorem munchInv_init {modes : Array Mode} (hwf : WFModes modes) (inp : Input) :
    MunchInv modes inp {} [] :=
  .restart (sync_init inp) (Nat.zero_le _) (inRange_init hwf) rfl trivial rfl

theorem fire_matches {modes : Array Mode} (hT : TablesWF modes) {inp : Input} {l : Lx}
    {g : List Ev} (hI : MunchInv modes inp l g) (start : Option Nat) {res : Res} {sm' : SM}
    (hpr : pushRune modes l.sm (l.char inp) = (res, sm')) (hne : res ≠ .consume) :
    FireMatches modes inp (boundaryRun 0 g) (fireEv start l res) := by
  obtain ⟨i, m, hi, hoff, hm, hrun⟩ := hI.reach
  obtain ⟨m', hm', _, hfire⟩ := pushRune_table hT hI.inRange (l.char inp)
  rw [hm] at hm'
  cases hm'
  refine ⟨m, i, l.idx, hm, hi, hI.idx, hoff, hI.sync.symm, hI.inRange.2.1, hrun, ?_⟩
  rw [← char_eq_runeAt]
  exact hfire res sm' hpr hne

theorem MunchInv.iter {modes : Array Mode} {inp : Input} (hwf : WFModes modes)
    (hT : TablesWF modes) {c c' : Conf} {r : Option (Option Tok)} (hI : MunchInv modes inp c.l c.g)
    (h : Iter (StepWF modes inp) inp c r c') : MunchInv modes inp c'.l c'.g := by
  -- a row fired and the machine is back at state 0: the invariant starts afresh at the offset
  have fired : ∀ {res sm'}, StepWF modes inp c.l res sm' → res ≠ .consume → res ≠ .error →
      sm'.state = 0 → ∀ extra : List Ev,
      (∀ bd, MunchLog modes inp bd extra ∧ boundaryRun bd extra = bd) →
      MunchInv modes inp { c.l with sm := sm' } (c.g ++ [fireEv c.start c.l res] ++ extra) := by
    intro res sm' h hne hner h0 extra hx
    refine .restart hI.sync hI.idx (h.ok.inRange hner) h0 ?_ ?_
    · rw [munchLog_append, munchLog_append]
      exact ⟨⟨hI.log, fire_matches hT hI c.start h.eq hne, trivial⟩, (hx _).1⟩
    · rw [boundaryRun_append, (hx _).2, boundaryRun_append]
      rfl
  cases h with
  | @consume sm' h =>
    have hpr := h.eq
    obtain ⟨hs0, hc0⟩ := h.ok.consume rfl
    have hlt : c.l.idx < inp.size := idx_lt_of_char_ne (by omega)
    obtain ⟨i, m, hi, hoff, hm, hrun⟩ := hI.reach
    obtain ⟨m', hm', hcons, _⟩ := pushRune_table hT hI.inRange (c.l.char inp)
    rw [hm] at hm'
    cases hm'
    obtain ⟨q', hstep, hsm'⟩ := hcons sm' hpr
    have hl' : (({ c.l with sm := sm' } : Lx).consume inp).idx = c.l.idx + 1 :=
      (consume_lt (l := ({ c.l with sm := sm' } : Lx)) hlt).1
    refine ⟨consume_sync (l := { c.l with sm := sm' }) hI.sync, by rw [hl']; omega, ?_, hI.log,
      i, m, by rw [hl']; omega, hoff, ?_, ?_⟩
    · rw [Rt.consume_sm]; exact h.ok.inRange nofun
    · rw [Rt.consume_sm]; simp only; rw [hsm']; exact hm
    · rw [hl', Rt.consume_sm, runesBetween_succ hi hlt, tableRunFrom_append, hrun]
      simp only [Option.bind_some, tableRunFrom]
      rw [← char_of_lt hlt, hstep, hsm']
      simp
  | accept h =>
    exact fired h nofun nofun (h.ok.terminal (.inl rfl)).1 _ fun bd =>
      ⟨⟨trivial, trivial, trivial⟩, rfl⟩
  | discard h =>
    exact fired h nofun nofun (h.ok.terminal (.inr (.inl rfl))).1 _ fun bd =>
      ⟨⟨trivial, trivial⟩, rfl⟩
  | tryAgain h =>
    simpa using fired h nofun nofun (h.ok.terminal (.inr (.inr rfl))).1 [] fun bd => ⟨trivial, rfl⟩
  | eof h =>
    exact fired h nofun nofun (h.ok.eof rfl).2.2 _ fun bd => ⟨⟨trivial, trivial, trivial⟩, rfl⟩
  | oob h => exact absurd rfl h.ok.noOob
  | @error sm' h =>
    refine .restart (afterError_sync (l := { c.l with sm := sm' }) hI.sync)
      (afterError_idx_le_size (l := { c.l with sm := sm' }) hI.idx)
      (h.inRange_afterError hwf) (by rw [afterError_sm]; rfl) ?_ ?_
    · rw [List.append_assoc, munchLog_append]
      exact ⟨hI.log, fire_matches hT hI c.start h.eq nofun, trivial, trivial, trivial⟩
    · rw [List.append_assoc, boundaryRun_append]
      rfl

/-- Run-level maximal munch, any lexer with well-formed tables: every `fire` event of the log
of any run (any input, any fuel, also a run cut short) matches. -/
theorem lexAllG_munch {modes : Array Mode} (hwf : WFModes modes) (hT : TablesWF modes)
    (inp : Input) (fuel : Nat) (n : Nat) (l : Lx) (acc : List Tok) (g : List Ev)
    (hI : MunchInv modes inp l g) : MunchLog modes inp 0 (lexAllG modes inp fuel n l acc g).2.2 :=
  let ⟨_, hc, e⟩ := lexAllG_invWF (I := fun c : Conf => MunchInv modes inp c.l c.g) hwf
    (fun _ _ _ hc => MunchInv.iter hwf hT hc) fuel n l acc g hI.inRange hI
  e ▸ hc.log

theorem FireMatches.inRange {modes : Array Mode} (hT : TablesWF modes) {inp : Input} {bd mode : Nat}
    {state : Int} {res : Res} {a b : Nat} (h : FireMatches modes inp bd (.fire mode state res a b)) :
    0 ≤ state ∧ ∃ m, modes[mode]? = some m ∧ state.toNat < Rt.nStates m := by
  obtain ⟨m, _, _, hm, _, _, _, _, h0, hrun, _⟩ := h
  have hwf := hT _ m hm
  exact ⟨h0, m, hm, rt_nStates_eq m ▸ tableRunFrom_lt hwf _ 0 _ (wfTable_nStates hwf) hrun⟩

/-- What a `fire` event in the log of a run from the initial state says, for any lexer with
well-formed tables: the row is a row of the abstract current mode, the abstract stack moves by the
mode actions stored on it, and the state was reached from state 0 on the runes consumed since the
boundary (`FireMatches`). -/
theorem lexAllG_at_fire {modes : Array Mode} (hwf : WFModes modes) (hT : TablesWF modes)
    (inp : Input) (fuel n : Nat) {pre post : List Ev} {mode : Nat} {state : Int} {res : Res}
    {a b : Nat}
    (hlog : (lexAllG modes inp fuel n {} [] []).2.2 = pre ++ .fire mode state res a b :: post) :
    (absRun modes pre (0, [])).1 = mode ∧
    absRun modes (pre ++ [.fire mode state res a b]) (0, []) =
      applyModeActsT (Rt.rowPairs modes mode state) (absRun modes pre (0, [])) ∧
    FireMatches modes inp (boundaryRun 0 pre) (.fire mode state res a b) := by
  have hag := lexAllG_abs hwf inp fuel (0, []) n {} [] [] (inRange_init hwf) (by simp [AbsAgrees]) rfl
  have hmunch := lexAllG_munch hwf hT inp fuel n {} [] [] (munchInv_init hwf inp)
  rw [hlog] at hag hmunch
  have hmode := absAgrees_at_fire modes pre post mode state res a b (0, []) hag
  refine ⟨hmode, ?_, munchLog_at_fire hmunch⟩
  rw [absRun_append]
  simp only [absRun, absStep, hmode]

end Lox.Lex.GenSpec
