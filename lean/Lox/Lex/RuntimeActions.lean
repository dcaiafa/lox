import Lox.Lex.RuntimeModeActs
/-! Written rule actions (`Lox/Lex/Actions.lean`) against the pairs stored for them: what
`tokenRulePairs` / `fragRulePairs` store, and what executing the stored pairs does in terms of the
written list. -/
namespace Lox.Lex.Rt

theorem modePairs_cons_mode (w : WAction) (ws : List WAction) (h : w.isTerminal = false) :
    modePairs (w :: ws) = w.pair :: modePairs ws := by
  simp [modePairs, h]

theorem modePairs_cons_terminal (w : WAction) (ws : List WAction) (h : w.isTerminal = true) :
    modePairs (w :: ws) = modePairs ws := by
  simp [modePairs, h]

theorem applyModeActs_modePairs (ws : List WAction) (ms : MS) :
    applyModeActs (modePairs ws) ms = applyW ws ms := by
  induction ws generalizing ms with
  | nil => rfl
  | cons w rest ih =>
    obtain ⟨mode, stack⟩ := ms
    cases w with
    | pushMode k =>
      rw [modePairs_cons_mode _ _ rfl]
      simp only [WAction.pair, applyModeActs, applyW, if_true, Int.toNat_natCast]
      exact ih _
    | popMode =>
      rw [modePairs_cons_mode _ _ rfl]
      simp only [WAction.pair, applyModeActs, applyW]
      cases stack with
      | nil => simp
      | cons top st => simp; exact ih _
    | emit t => rw [modePairs_cons_terminal _ _ rfl]; simp only [applyW]; exact ih _
    | discard => rw [modePairs_cons_terminal _ _ rfl]; simp only [applyW]; exact ih _

theorem modePairs_wf (n : Nat) (ws : List WAction) (hn : ∀ k, WAction.pushMode k ∈ ws → k < n) :
    ∀ p ∈ modePairs ws, (p.1 = 1 ∧ p.2.toNat < n) ∨ p.1 = 2 := by
  intro p hp
  simp only [modePairs, List.mem_map, List.mem_filter] at hp
  obtain ⟨w, ⟨hw, hnt⟩, rfl⟩ := hp
  cases w with
  | pushMode k => left; exact ⟨rfl, by simpa [WAction.pair] using hn k hw⟩
  | popMode => right; rfl
  | emit t => simp [WAction.isTerminal] at hnt
  | discard => simp [WAction.isTerminal] at hnt

theorem writtenTerminal_type (dflt : Pair) (ws : List WAction)
    (hd : dflt.1 = 3 ∨ dflt.1 = 4 ∨ dflt.1 = 5) :
    (writtenTerminal dflt ws).1 = 3 ∨ (writtenTerminal dflt ws).1 = 4 ∨
      (writtenTerminal dflt ws).1 = 5 := by
  unfold writtenTerminal
  cases h : ws.find? WAction.isTerminal with
  | none => exact hd
  | some w =>
    have := List.find?_some h
    cases w with
    | pushMode k => simp [WAction.isTerminal] at this
    | popMode => simp [WAction.isTerminal] at this
    | emit t => left; rfl
    | discard => right; left; rfl

theorem filter_terminal_length (ws : List WAction) :
    (ws.filter WAction.isTerminal).length =
      (ws.filter (· == .discard)).length + (ws.filter isEmit).length := by
  induction ws with
  | nil => rfl
  | cons w rest ih =>
    cases w <;> simp [List.filter_cons, WAction.isTerminal, isEmit, ih] <;> omega

/-- `fragRulePairs` with the `@emit` test named. -/
theorem fragRulePairs_def (ws : List WAction) :
    fragRulePairs ws =
      if (ws.filter (· == .discard)).length > 1 ∨ (ws.filter isEmit).length > 1 ∨
          ((ws.filter (· == .discard)).length ≥ 1 ∧ (ws.filter isEmit).length ≥ 1) then none
      else
        some ((ws.filter (fun w => !w.isTerminal)).map WAction.pair ++
          (if ((ws.filter WAction.isTerminal).map WAction.pair).isEmpty then [accumPair]
           else (ws.filter WAction.isTerminal).map WAction.pair)) := by
  -- the anonymous `match` lambda in `fragRulePairs` is not syntactically `isEmit`: it is abstracted
  -- as `f`, and `f = isEmit` is shown by `funext`
  have key : ∀ f : WAction → Bool, f = isEmit →
      (let nd := (ws.filter (· == .discard)).length
       let ne := (ws.filter f).length
       if nd > 1 ∨ ne > 1 ∨ (nd ≥ 1 ∧ ne ≥ 1) then none
       else
        let modeActs := (ws.filter (fun w => !w.isTerminal)).map WAction.pair
        let termActs := (ws.filter WAction.isTerminal).map WAction.pair
        some (modeActs ++ (if termActs.isEmpty then [accumPair] else termActs))) =
      if (ws.filter (· == .discard)).length > 1 ∨ (ws.filter isEmit).length > 1 ∨
          ((ws.filter (· == .discard)).length ≥ 1 ∧ (ws.filter isEmit).length ≥ 1) then none
      else
        some ((ws.filter (fun w => !w.isTerminal)).map WAction.pair ++
          (if ((ws.filter WAction.isTerminal).map WAction.pair).isEmpty then [accumPair]
           else (ws.filter WAction.isTerminal).map WAction.pair)) := by
    intro f hf; subst hf; rfl
  unfold fragRulePairs
  exact key _ (by funext w; cases w <;> rfl)

theorem writtenTerminal_eq (dflt : Pair) (ws : List WAction) :
    writtenTerminal dflt ws =
      ((ws.filter WAction.isTerminal).head?.map WAction.pair).getD dflt := by
  unfold writtenTerminal
  rw [← List.head?_filter]
  cases (ws.filter WAction.isTerminal).head? <;> rfl

theorem filter_of_no_terminal {ws : List WAction} (h : ∀ w ∈ ws, w.isTerminal = false) :
    ws.filter WAction.isTerminal = [] ∧ ws.filter (fun w => !w.isTerminal) = ws :=
  ⟨List.filter_eq_nil_iff.2 fun w hw => by rw [h w hw]; nofun,
   List.filter_eq_self.2 fun w hw => by rw [h w hw]; rfl⟩

theorem writtenTerminal_none {ws : List WAction} (h : ∀ w ∈ ws, w.isTerminal = false)
    (dflt : Pair) : writtenTerminal dflt ws = dflt := by
  rw [writtenTerminal_eq, (filter_of_no_terminal h).1]
  rfl

theorem fragRulePairs_some {ws : List WAction} {ps : List Pair} (h : fragRulePairs ws = some ps) :
    (ws.filter WAction.isTerminal = [] ∧ ps = modePairs ws ++ [accumPair]) ∨
    ∃ w, ws.filter WAction.isTerminal = [w] ∧ ps = modePairs ws ++ [w.pair] := by
  rw [fragRulePairs_def] at h
  split at h
  · cases h
  · rename_i hc
    cases h
    have hlen := filter_terminal_length ws
    match hf : ws.filter WAction.isTerminal with
    | [] => exact .inl ⟨rfl, rfl⟩
    | [w] => exact .inr ⟨w, rfl, rfl⟩
    | _ :: _ :: _ => rw [hf] at hlen; simp only [List.length_cons] at hlen; omega

/-- What `FragRule.RunPass(GenerateGrammar)` stores: the written mode actions in written order,
then the one terminal pair – the written `@emit`/`@discard` wherever it was written, else
accumulate. -/
theorem fragRulePairs_eq {ws : List WAction} {ps : List Pair} (h : fragRulePairs ws = some ps) :
    ps = modePairs ws ++ [writtenTerminal accumPair ws] := by
  rcases fragRulePairs_some h with ⟨hf, rfl⟩ | ⟨w, hf, rfl⟩ <;> rw [writtenTerminal_eq, hf] <;> rfl

theorem writtenTerminal_of_mem {ws : List WAction} {ps : List Pair}
    (h : fragRulePairs ws = some ps) {w : WAction} (hw : w ∈ ws) (ht : w.isTerminal = true)
    (dflt : Pair) : writtenTerminal dflt ws = w.pair := by
  have hmem : w ∈ ws.filter WAction.isTerminal := List.mem_filter.2 ⟨hw, ht⟩
  rcases fragRulePairs_some h with ⟨hf, _⟩ | ⟨w', hf, _⟩
  · rw [hf] at hmem; cases hmem
  · rw [hf, List.mem_singleton] at hmem
    rw [writtenTerminal_eq, hf, hmem]
    rfl

/-- What `TokenRule.RunPass(GenerateGrammar)` stores: the written mode actions in written
order, then accept of the rule's own terminal. -/
theorem tokenRulePairs_eq {terminal : Nat} {ws : List WAction} {ps : List Pair}
    (h : tokenRulePairs terminal ws = some ps) :
    ps = modePairs ws ++ [writtenTerminal ((3 : Int), (terminal : Int)) ws] ∧
      writtenTerminal ((3 : Int), (terminal : Int)) ws = (3, (terminal : Int)) := by
  unfold tokenRulePairs at h
  split at h
  · cases h
  · rename_i hc
    cases h
    have hall : ∀ w ∈ ws, w.isTerminal = false := by
      simpa using hc
    rw [writtenTerminal_none hall, modePairs, (filter_of_no_terminal hall).2]
    exact ⟨rfl, rfl⟩

/-- Position independence: wherever the terminal action is written among the mode actions, the
stored pairs are the same. -/
theorem fragRulePairs_terminal_anywhere (ms1 ms2 : List WAction) (t : WAction)
    (h1 : ∀ w ∈ ms1, w.isTerminal = false) (h2 : ∀ w ∈ ms2, w.isTerminal = false)
    (ht : t.isTerminal = true) :
    fragRulePairs (ms1 ++ t :: ms2) = some ((ms1 ++ ms2).map WAction.pair ++ [t.pair]) := by
  obtain ⟨hf1, hn1⟩ := filter_of_no_terminal h1
  obtain ⟨hf2, hn2⟩ := filter_of_no_terminal h2
  have hfilter : (ms1 ++ t :: ms2).filter WAction.isTerminal = [t] := by
    simp [List.filter_append, hf1, hf2, ht]
  have hlen := filter_terminal_length (ms1 ++ t :: ms2)
  rw [hfilter] at hlen
  simp only [List.length_singleton] at hlen
  rw [fragRulePairs_def, if_neg (by omega)]
  simp [hfilter, List.filter_append, hn1, hn2, ht]

/-- Executing the pairs stored for a written action list `ws` (default terminal `dflt`): every
written mode action is applied, in written order, then the one terminal action takes effect; a
written `@pop_mode` that finds the stack empty gives `_lexerError`. -/
theorem execPairs_written (n : Nat) (r : Int) (ws : List WAction) (dflt : Pair) (sm : SM) (mo : Nat)
    (hd : dflt.1 = 3 ∨ dflt.1 = 4 ∨ dflt.1 = 5) (hn : ∀ k, WAction.pushMode k ∈ ws → k < n)
    (hmo : sm.mode = some mo) :
    execPairs n r (modePairs ws ++ [writtenTerminal dflt ws]) sm =
      match applyW ws (mo, sm.modeStack) with
      | some ms =>
        terminalEffect (writtenTerminal dflt ws) { sm with mode := some ms.1, modeStack := ms.2 }
      | none =>
        (.error, { sm with mode := some (applyModeActsT (modePairs ws) (mo, sm.modeStack)).1,
                           modeStack := (applyModeActsT (modePairs ws) (mo, sm.modeStack)).2 }) := by
  rw [execPairs_wf n r (modePairs ws) _ sm mo (modePairs_wf n ws hn)
    (writtenTerminal_type dflt ws hd) hmo, applyModeActs_modePairs]
  rfl

/-- A pop returns to the mode that was current before the matching push: if the actions `mid`
executed between them (by any number of rules) leave the saved modes as the push left them, the
push … pop bracket restores `(mode, stack)` exactly. -/
theorem applyModeActs_bracket (M : Int) (p : Int) (mid : List Pair) (mo : Nat) (st : List Nat)
    (M' : Nat) (hmid : applyModeActs mid (M.toNat, mo :: st) = some (M', mo :: st)) :
    applyModeActs ((1, M) :: mid ++ [(2, p)]) (mo, st) = some (mo, st) := by
  have : (1, M) :: mid ++ [(2, p)] = [(1, M)] ++ (mid ++ [(2, p)]) := rfl
  rw [this, applyModeActs_append]
  have h1 : applyModeActs [(1, M)] (mo, st) = some (M.toNat, mo :: st) := by
    simp [applyModeActs]
  rw [h1, Option.bind_some, applyModeActs_append, hmid, Option.bind_some]
  simp [applyModeActs]

end Lox.Lex.Rt
