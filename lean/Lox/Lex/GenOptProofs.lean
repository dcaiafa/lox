import Lox.Lex.GenOpt
import Lox.Lex.GenDFAProofs
import Lox.Util.List
import Lox.Util.FoldM
/-! Correctness of `optimize` (partition refinement as written in
`internal/lexergen/dfa/optimize.go`): the refinement loop ends within its fuel on groups that are
stable (`refineLoop_ok`), and the quotient automaton accepts, labels and dies on exactly the same
words. All that is used of the quotient's transitions is `Refined.mem_quotient_trans`: the state of
a group has the transitions of each state of the group, retargeted (`DFA.Copies`). -/
namespace Lox.Lex.Gen
open Lox.Rang3 (Range)

/-- What the subset construction guarantees and every later step preserves: targets are states,
two transitions of a state that share a code point are the same transition, labels are written
`lo ≤ hi`. -/
structure DFA.WF (d : DFA) : Prop where
  tgt : ∀ s t, t ∈ d.trans s → t.2 < d.states.length
  det : ∀ s x y (c : Int), x ∈ d.trans s → y ∈ d.trans s → x.1.b ≤ c → c ≤ x.1.e →
    y.1.b ≤ c → c ≤ y.1.e → x = y
  valid : ∀ s t, t ∈ d.trans s → t.1.b ≤ t.1.e

theorem DFA.step_some_iff {d : DFA} (hwf : d.WF) (s : Nat) (c : Int) (t : Nat) :
    d.step s c = some t ↔ ∃ a, (a, t) ∈ d.trans s ∧ a.b ≤ c ∧ c ≤ a.e := by
  refine ⟨DFA.step_some, ?_⟩
  · rintro ⟨a, hm, h1, h2⟩
    rw [DFA.step_eq]
    cases hf : (d.trans s).find? fun t => decide (t.1.b ≤ c ∧ c ≤ t.1.e) with
    | none =>
      have := List.find?_eq_none.1 hf (a, t) hm
      simp at this; omega
    | some x =>
      have hp := List.find?_some hf
      simp only [decide_eq_true_eq] at hp
      have := hwf.det s x (a, t) c (List.mem_of_find?_eq_some hf) hm hp.1 hp.2 h1 h2
      subst this; rfl

theorem DFA.WF.step_lt {d : DFA} (hwf : d.WF) {s t : Nat} {c : Int} (h : d.step s c = some t) :
    t < d.states.length :=
  let ⟨_, ha, _⟩ := (DFA.step_some_iff hwf s c t).1 h
  hwf.tgt s _ ha

theorem DFA.run_eq_foldlM (d : DFA) : ∀ (w : List Int) (i : Nat), d.run i w = w.foldlM d.step i
  | [], _ => rfl
  | c :: w, i => by
    rw [DFA.run, List.foldlM_cons]
    exact bind_congr fun j => DFA.run_eq_foldlM d w j

theorem DFA.run_map {d d' : DFA} {g : Nat → Nat} {I : Nat → Prop}
    (hstep : ∀ j c, I j → (d'.step j c).map g = d.step (g j) c)
    (hI : ∀ j c t, I j → d'.step j c = some t → I t) :
    ∀ w j, I j → (d'.run j w).map g = d.run (g j) w := by
  intro w
  induction w with
  | nil => intro j _; rfl
  | cons c w ih =>
    intro j hj
    simp only [DFA.run, ← hstep j c hj]
    cases hs : d'.step j c with
    | none => rfl
    | some t => exact ih t (hI j c t hj hs)

/-- The states of `A` are copies of states of `B`: where `P j s` (`j` is a copy of `s`), `j` has the
transitions of `s`, each target `t` replaced by its copy `h t`. `optimize` (one copy per group) and
`splitStartState` (two copies of the start state) return such an automaton; `mergeTransitions` does
not, it changes the labels. -/
structure DFA.Copies (A B : DFA) (h : Nat → Nat) (P : Nat → Nat → Prop) : Prop where
  src : ∀ j x, x ∈ A.trans j → ∃ s, P j s
  trans : ∀ j s, P j s → ∀ x, x ∈ A.trans j ↔ ∃ y ∈ B.trans s, (y.1, h y.2) = x
  lt : ∀ t, t < B.states.length → h t < A.states.length

theorem DFA.Copies.wf {A B : DFA} {h : Nat → Nat} {P : Nat → Nat → Prop} (C : A.Copies B h P)
    (hB : B.WF) : A.WF := by
  constructor
  · intro j x hx
    obtain ⟨s, hs⟩ := C.src j x hx
    obtain ⟨y, hy, rfl⟩ := (C.trans j s hs x).1 hx
    exact C.lt _ (hB.tgt s y hy)
  · intro j x x' c hx hx' h1 h2 h3 h4
    obtain ⟨s, hs⟩ := C.src j x hx
    obtain ⟨y, hy, rfl⟩ := (C.trans j s hs x).1 hx
    obtain ⟨y', hy', rfl⟩ := (C.trans j s hs x').1 hx'
    rw [hB.det s y y' c hy hy' h1 h2 h3 h4]
  · intro j x hx
    obtain ⟨s, hs⟩ := C.src j x hx
    obtain ⟨y, hy, rfl⟩ := (C.trans j s hs x).1 hx
    exact hB.valid s y hy

theorem DFA.Copies.step {A B : DFA} {h : Nat → Nat} {P : Nat → Nat → Prop} (C : A.Copies B h P)
    (hB : B.WF) {j s : Nat} (hP : P j s) (c : Int) : A.step j c = (B.step s c).map h := by
  apply Option.ext
  intro v
  rw [DFA.step_some_iff (C.wf hB), Option.map_eq_some_iff]
  constructor
  · rintro ⟨a, ha, hc⟩
    obtain ⟨y, hy, e⟩ := (C.trans j s hP _).1 ha
    cases e
    exact ⟨y.2, (DFA.step_some_iff hB s c y.2).2 ⟨y.1, hy, hc⟩, rfl⟩
  · rintro ⟨t, ht, rfl⟩
    obtain ⟨a, ha, hc⟩ := (DFA.step_some_iff hB s c t).1 ht
    exact ⟨a, (C.trans j s hP _).2 ⟨(a, t), ha, rfl⟩, hc⟩

theorem tgroup_some_iff {d : DFA} (hwf : d.WF) (gs : Groups) (s : Nat) (a : Range) (g : Nat) :
    tgroup d gs s a = some g ↔ ∃ t, (a, t) ∈ d.trans s ∧ g = groupIdx gs t := by
  unfold tgroup
  constructor
  · intro h
    simp only [Option.map_eq_some_iff] at h
    obtain ⟨⟨a', t⟩, hf, rfl⟩ := h
    have hp := List.find?_some hf
    simp only [decide_eq_true_eq] at hp
    subst hp
    exact ⟨t, List.mem_of_find?_eq_some hf, rfl⟩
  · rintro ⟨t, hm, rfl⟩
    cases hf : (d.trans s).find? fun x => decide (x.1 = a) with
    | none =>
      have := List.find?_eq_none.1 hf (a, t) hm
      simp at this
    | some x =>
      have hp := List.find?_some hf
      simp only [decide_eq_true_eq] at hp
      have hv := hwf.valid s (a, t) hm
      have hx := List.mem_of_find?_eq_some hf
      have := hwf.det s x (a, t) a.b hx hm (by rw [hp]; exact Int.le_refl _) (by rw [hp]; exact hv)
        (Int.le_refl _) hv
      subst this; rfl

theorem tgroup_none_iff (d : DFA) (gs : Groups) (s : Nat) (a : Range) :
    tgroup d gs s a = none ↔ ∀ t, (a, t) ∉ d.trans s := by
  unfold tgroup
  simp only [Option.map_eq_none_iff, List.find?_eq_none, decide_eq_true_eq]
  constructor
  · intro h t hm; exact h (a, t) hm rfl
  · intro h x hx hxa
    obtain ⟨a', t⟩ := x
    simp only at hxa; subst hxa
    exact h t hx

/-- A state is in at most one group, and the states of a group agree on `Accept`: under `disj`,
`groupIdx` inverts membership (`groupIdx_of_mem`). The loop of `optimize` is followed with `Part`
below, which does not ask for `disj`. -/
structure PartInv (d : DFA) (gs : Groups) : Prop where
  disj : ∀ (g g' : Nat) (G G' : List Nat) (s : Nat), gs[g]? = some G → gs[g']? = some G' → s ∈ G → s ∈ G' → g = g'
  acc : ∀ G ∈ gs, ∀ s ∈ G, ∀ s' ∈ G, d.accept s = d.accept s'

theorem groupIdx_of_mem {gs : Groups} {d : DFA} (hinv : PartInv d gs) {g : Nat} {G : List Nat}
    (hG : gs[g]? = some G) {s : Nat} (hs : s ∈ G) : groupIdx gs s = g := by
  have hex : ∃ x ∈ gs, decide (s ∈ x) = true := ⟨G, List.mem_of_getElem? hG, by simpa using hs⟩
  have hlt := List.findIdx_lt_length_of_exists hex
  have hp := List.findIdx_getElem (w := hlt)
  simp only [decide_eq_true_eq] at hp
  exact hinv.disj _ _ _ _ s (List.getElem?_eq_getElem hlt) hG hp hs

theorem mem_of_groupIdx_lt {gs : Groups} {s : Nat} (h : groupIdx gs s < gs.length) :
    ∃ G, gs[groupIdx gs s]? = some G ∧ s ∈ G := by
  have hp := List.findIdx_getElem (w := h)
  simp only [decide_eq_true_eq] at hp
  exact ⟨_, List.getElem?_eq_getElem h, hp⟩

/-- The labels `subPartition` looks at for a group. -/
def groupIns (d : DFA) (G : List Nat) : List Range := G.flatMap fun s => (d.trans s).map (·.1)

/-- `subPartition` leaves group `gi` as it is: no state of the group `differs` from its first state
(in the group a label leads to, or in the accepting NFA states). -/
def StableAt (m : NFA) (d : DFA) (gs : Groups) (gi : Nat) : Prop :=
  ∀ first rest, gs[gi]? = some (first :: rest) →
    ∀ s ∈ rest, differs m d gs (groupIns d (first :: rest)) first s = false

theorem differs_self (m : NFA) (d : DFA) (gs : Groups) (ins : List Range) (s : Nat) :
    differs m d gs ins s s = false := by
  simp [differs, sameSet]

theorem sum_length_split {gs : Groups} {gi : Nat} {G K M : List Nat} (h : gs[gi]? = some G)
    (hlen : K.length + M.length = G.length) :
    ((gs.set gi K ++ [M]).map List.length).sum = (gs.map List.length).sum := by
  obtain ⟨hi, rfl⟩ := List.getElem?_eq_some_iff.1 h
  have := Util.sum_map_set List.length gs gi K hi
  rw [List.map_append, List.sum_append_nat, List.map_singleton, List.sum_singleton]
  omega

theorem length_le_sum : ∀ (gs : Groups), (∀ G ∈ gs, G ≠ []) → gs.length ≤ (gs.map List.length).sum
  | [], _ => Nat.le_refl _
  | x :: gs, h => by
    rw [List.length_cons, List.map_cons, List.sum_cons, Nat.add_comm]
    exact Nat.add_le_add (List.length_pos_iff.2 (h x List.mem_cons_self))
      (length_le_sum gs fun G hG => h G (List.mem_cons_of_mem _ hG))

/-- Invariant of `partitions` during `optimize`, over the states `0 … n-1`: the groups are non-empty,
hold `n` states in all, leave no state out, and the states of a group agree on `Accept`. Non-empty
groups that hold `n` states in all are at most `n`: that bounds the passes of the loop. -/
structure Part (n : Nat) (d : DFA) (gs : Groups) : Prop where
  sum : (gs.map List.length).sum = n
  nonempty : ∀ G ∈ gs, G ≠ []
  cover : ∀ s, s < n → ∃ G ∈ gs, s ∈ G
  acc : ∀ G ∈ gs, ∀ s ∈ G, ∀ s' ∈ G, d.accept s = d.accept s'

theorem Part.length_le {n : Nat} {d : DFA} {gs : Groups} (h : Part n d gs) : gs.length ≤ n :=
  h.sum ▸ length_le_sum gs h.nonempty

theorem Part.groupIdx_lt {n : Nat} {d : DFA} {gs : Groups} (h : Part n d gs) {s : Nat} (hs : s < n) :
    groupIdx gs s < gs.length :=
  let ⟨G, hG, hsG⟩ := h.cover s hs
  List.findIdx_lt_length_of_exists ⟨G, hG, by simpa using hsG⟩

theorem Part.split {n : Nat} {d : DFA} {gs : Groups} (h : Part n d gs) {gi : Nat} {G K M : List Nat}
    (hG : gs[gi]? = some G) (hK : K ≠ []) (hM : M ≠ []) (hcut : (K ++ M).Perm G) :
    Part n d (gs.set gi K ++ [M]) := by
  have hgi : gi < gs.length := (List.getElem?_eq_some_iff.1 hG).1
  have hsub : ∀ s, s ∈ K ∨ s ∈ M ↔ s ∈ G := fun s => List.mem_append.symm.trans hcut.mem_iff
  have hmem : ∀ G' ∈ gs.set gi K ++ [M], G' ∈ gs ∨ G' = K ∨ G' = M := by
    intro G' hG'
    rcases List.mem_append.1 hG' with hG' | hG'
    · exact (List.mem_or_eq_of_mem_set hG').imp_right .inl
    · exact .inr (.inr (List.mem_singleton.1 hG'))
  refine ⟨?_, ?_, ?_, ?_⟩
  · exact (sum_length_split hG (List.length_append ▸ hcut.length_eq)).trans h.sum
  · intro G' hG'
    rcases hmem G' hG' with hG' | rfl | rfl
    · exact h.nonempty G' hG'
    · exact hK
    · exact hM
  · intro s hsn
    obtain ⟨G', hG', hsG⟩ := h.cover s hsn
    obtain ⟨j, hj⟩ := List.mem_iff_getElem?.1 hG'
    by_cases hji : j = gi
    · subst hji
      cases hG.symm.trans hj
      rcases (hsub s).2 hsG with hsK | hsM
      · exact ⟨K, List.mem_append_left _ (List.mem_set hgi K), hsK⟩
      · exact ⟨M, List.mem_append_right _ (List.mem_singleton.2 rfl), hsM⟩
    · exact ⟨G', List.mem_append_left _ (List.mem_iff_getElem?.2
        ⟨j, by rw [List.getElem?_set_ne (Ne.symm hji)]; exact hj⟩), hsG⟩
  · intro G' hG' s hs s' hs'
    have hold := h.acc G (List.mem_of_getElem? hG)
    rcases hmem G' hG' with hG' | rfl | rfl
    · exact h.acc G' hG' s hs s' hs'
    · exact hold s ((hsub s).1 (.inl hs)) s' ((hsub s').1 (.inl hs'))
    · exact hold s ((hsub s).1 (.inr hs)) s' ((hsub s').1 (.inr hs'))

/-- `subPartition` on group `gi`: either no state differs from the first one and nothing changes,
or those that differ move to a group of their own. -/
theorem subPartition_part (m : NFA) (d : DFA) {n : Nat} {gs : Groups} (gi : Nat) (h : Part n d gs) :
    Part n d (subPartition m d gs gi) ∧
      ((subPartition m d gs gi = gs ∧ StableAt m d gs gi) ∨
        gs.length < (subPartition m d gs gi).length) := by
  unfold subPartition
  cases hG : gs[gi]? with
  | none => exact ⟨h, .inl ⟨rfl, fun f r hfr => by rw [hG] at hfr; cases hfr⟩⟩
  | some G =>
    cases G with
    | nil => exact ⟨h, .inl ⟨rfl, fun f r hfr => by rw [hG] at hfr; cases hfr⟩⟩
    | cons first rest =>
      simp only
      split
      · rename_i hmove
        refine ⟨h, .inl ⟨rfl, fun f r hfr s hs => ?_⟩⟩
        rw [hG] at hfr
        cases hfr
        simpa [groupIns] using List.filter_eq_nil_iff.1 (List.isEmpty_iff.1 hmove) s hs
      · rename_i hmove
        exact ⟨h.split hG (List.cons_ne_nil _ _) (fun he => hmove (by rw [he]; rfl))
          (.cons first (List.perm_append_comm.trans (List.filter_append_perm _ rest))), .inr (by simp)⟩

theorem foldl_subPartition_part (m : NFA) (d : DFA) {n : Nat} : ∀ (l : List Nat) {gs : Groups},
    Part n d gs → Part n d (l.foldl (subPartition m d) gs) ∧
      ((l.foldl (subPartition m d) gs = gs ∧ ∀ gi ∈ l, StableAt m d gs gi) ∨
        gs.length < (l.foldl (subPartition m d) gs).length)
  | [], _, h => ⟨h, .inl ⟨rfl, nofun⟩⟩
  | gi :: l, gs, h => by
    obtain ⟨hp, hc⟩ := subPartition_part m d gi h
    obtain ⟨h1, h2⟩ := foldl_subPartition_part m d l hp
    rw [List.foldl_cons]
    refine ⟨h1, ?_⟩
    rcases hc with ⟨heq, hst⟩ | hlt
    · rw [heq] at h2 ⊢
      exact h2.imp_left fun ⟨e, hl⟩ => ⟨e, List.forall_mem_cons.2 ⟨hst, hl⟩⟩
    · exact .inr (h2.elim (fun ⟨e, _⟩ => by rw [e]; exact hlt) (Nat.lt_trans hlt))

theorem refinePass_part (m : NFA) (d : DFA) {n : Nat} {gs : Groups} (h : Part n d gs) :
    Part n d (refinePass m d gs) ∧
      ((refinePass m d gs = gs ∧ ∀ gi ∈ List.range gs.length, StableAt m d gs gi) ∨
        gs.length < (refinePass m d gs).length) :=
  foldl_subPartition_part m d (List.range gs.length) h

/-- The loop `for pcount != p.Count()` ends within the fuel, on groups that are all stable: a pass
that ends it changed nothing, and every other pass adds a group, of which there are at most `n`. -/
theorem refineLoop_ok (m : NFA) (d : DFA) {n : Nat} (f : Nat) : ∀ {gs : Groups}, Part n d gs →
    n - gs.length < f → ∃ gs', refineLoop m d f gs = some gs' ∧ Part n d gs' ∧
      ∀ gi, gi < gs'.length → StableAt m d gs' gi := by
  induction f with
  | zero => exact fun _ hf => absurd hf (Nat.not_lt_zero _)
  | succ f ih =>
    intro gs h hf
    obtain ⟨h1, ⟨e, hst⟩ | hlt⟩ := refinePass_part m d h
    · rw [refineLoop, e, if_pos rfl]
      exact ⟨gs, rfl, h, fun gi hgi => hst gi (List.mem_range.2 hgi)⟩
    · rw [refineLoop, if_neg (Nat.ne_of_gt hlt)]
      exact ih h1 (Nat.lt_of_lt_of_le
        (Nat.sub_lt_sub_left (Nat.lt_of_lt_of_le hlt h1.length_le) hlt) (Nat.le_of_lt_succ hf))

theorem differs_false {m : NFA} {d : DFA} {gs : Groups} {ins : List Range} {first s : Nat}
    (h : differs m d gs ins first s = false) :
    (∀ a ∈ ins, tgroup d gs first a = tgroup d gs s a) ∧
    (d.accept first = true → ∀ q, q ∈ accNFA m d first ↔ q ∈ accNFA m d s) := by
  simp only [differs, Bool.or_eq_false_iff, List.any_eq_false, Bool.and_eq_false_iff] at h
  obtain ⟨h1, h2⟩ := h
  refine ⟨?_, ?_⟩
  · intro a ha
    have := h1 a ha
    simpa using this
  · intro hacc q
    rcases h2 with h2 | h2
    · rw [hacc] at h2; cases h2
    · simp only [Bool.not_eq_false', sameSet, Bool.and_eq_true, List.all_eq_true,
        List.contains_eq_mem, decide_eq_true_eq] at h2
      exact ⟨fun hq => h2.1 q hq, fun hq => h2.2 q hq⟩

theorem mem_groupIns {d : DFA} {G : List Nat} {s : Nat} (hs : s ∈ G) {a : Range} {t : Nat}
    (h : (a, t) ∈ d.trans s) : a ∈ groupIns d G := by
  simp only [groupIns, List.mem_flatMap, List.mem_map]
  exact ⟨s, hs, (a, t), h, rfl⟩

theorem stable_labels {m : NFA} {d : DFA} (hwf : d.WF) {gs : Groups} {g : Nat} {first : Nat}
    {rest : List Nat} (hG : gs[g]? = some (first :: rest)) (hst : StableAt m d gs g)
    {s : Nat} (hs : s ∈ first :: rest) (a : Range) :
    tgroup d gs first a = tgroup d gs s a := by
  rcases List.mem_cons.mp hs with rfl | hs'
  · rfl
  · have hd := (differs_false (hst first rest hG s hs')).1
    cases h1 : tgroup d gs first a with
    | some x =>
      obtain ⟨t, ht, _⟩ := (tgroup_some_iff hwf gs first a x).1 h1
      rw [← hd a (mem_groupIns (List.mem_cons_self) ht), h1]
    | none =>
      cases h2 : tgroup d gs s a with
      | none => rfl
      | some x =>
        obtain ⟨t, ht, _⟩ := (tgroup_some_iff hwf gs s a x).1 h2
        rw [hd a (mem_groupIns hs ht), h2] at h1
        cases h1

theorem mem_putTrans {l : List (Range × Nat)} {a : Range} {t : Nat} {x : Range × Nat}
    (h : x ∈ putTrans l a t) : x ∈ l ∨ x = (a, t) := by
  unfold putTrans at h
  split at h
  · simp only [List.mem_map] at h
    obtain ⟨p, hp, rfl⟩ := h
    split
    · exact Or.inr rfl
    · exact Or.inl hp
  · simp only [List.mem_append, List.mem_singleton] at h; exact h

theorem key_putTrans (l : List (Range × Nat)) (a : Range) (t : Nat) (k : Range)
    (h : k = a ∨ ∃ v, (k, v) ∈ l) : ∃ v, (k, v) ∈ putTrans l a t := by
  unfold putTrans
  split
  · rename_i hany
    rcases h with rfl | ⟨v, hv⟩
    · simp only [List.any_eq_true, decide_eq_true_eq] at hany
      obtain ⟨p, hp, hpk⟩ := hany
      exact ⟨t, List.mem_map.2 ⟨p, hp, by simp [hpk]⟩⟩
    · by_cases hk : k = a
      · exact ⟨t, List.mem_map.2 ⟨(k, v), hv, by simp [hk]⟩⟩
      · exact ⟨v, List.mem_map.2 ⟨(k, v), hv, by simp [hk]⟩⟩
  · rcases h with rfl | ⟨v, hv⟩
    · exact ⟨t, by simp⟩
    · exact ⟨v, by simp [hv]⟩

theorem foldl_putTrans (f : Nat → Nat) (ts : List (Range × Nat)) : ∀ (l : List (Range × Nat)),
    (∀ x ∈ ts.foldl (fun l t => putTrans l t.1 (f t.2)) l,
      x ∈ l ∨ ∃ t ∈ ts, x = (t.1, f t.2)) ∧
    (∀ k, ((∃ v, (k, v) ∈ l) ∨ ∃ t ∈ ts, t.1 = k) →
      ∃ v, (k, v) ∈ ts.foldl (fun l t => putTrans l t.1 (f t.2)) l) := by
  induction ts with
  | nil =>
    intro l
    refine ⟨fun x hx => Or.inl hx, ?_⟩
    rintro k (h | ⟨t, ht, _⟩)
    · exact h
    · simp at ht
  | cons t ts ih =>
    intro l
    simp only [List.foldl_cons]
    obtain ⟨h1, h2⟩ := ih (putTrans l t.1 (f t.2))
    refine ⟨?_, ?_⟩
    · intro x hx
      rcases h1 x hx with h | ⟨t', ht', rfl⟩
      · rcases mem_putTrans h with h | rfl
        · exact Or.inl h
        · exact Or.inr ⟨t, by simp, rfl⟩
      · exact Or.inr ⟨t', by simp [ht'], rfl⟩
    · rintro k (h | ⟨t', ht', rfl⟩)
      · exact h2 k (Or.inl (key_putTrans l _ _ k (Or.inr h)))
      · rcases List.mem_cons.mp ht' with rfl | ht'
        · exact h2 _ (Or.inl (key_putTrans l _ _ _ (Or.inl rfl)))
        · exact h2 _ (Or.inr ⟨t', ht', rfl⟩)

theorem groupState_trans (d : DFA) (gs : Groups) (g : Nat) :
    (∀ a v, (a, v) ∈ (groupState d gs g).trans → ∃ s, s < d.states.length ∧ groupIdx gs s = g ∧
      ∃ t, (a, t) ∈ d.trans s ∧ v = groupIdx gs t) ∧
    (∀ s, s < d.states.length → groupIdx gs s = g → ∀ a t, (a, t) ∈ d.trans s →
      ∃ v, (a, v) ∈ (groupState d gs g).trans) := by
  have e : (groupState d gs g).trans =
      (((List.range d.states.length).filter fun s => groupIdx gs s = g).flatMap d.trans).foldl
        (fun l t => putTrans l t.1 (groupIdx gs t.2)) [] := List.foldl_flatMap.symm
  obtain ⟨h1, h2⟩ := foldl_putTrans (groupIdx gs)
    (((List.range d.states.length).filter fun s => groupIdx gs s = g).flatMap d.trans) []
  rw [e]
  refine ⟨?_, ?_⟩
  · intro a v hm
    rcases h1 (a, v) hm with h | ⟨t, ht, heq⟩
    · simp at h
    · obtain ⟨s, hs, ht⟩ := List.mem_flatMap.1 ht
      simp only [List.mem_filter, List.mem_range, decide_eq_true_eq] at hs
      cases heq
      exact ⟨s, hs.1, hs.2, t.2, ht, rfl⟩
  · intro s hs hg a t ht
    exact h2 a (Or.inr ⟨(a, t), List.mem_flatMap.2 ⟨s, by simp [hs, hg], ht⟩, rfl⟩)

theorem swap0_swap0 (sg i : Nat) : swap0 sg (swap0 sg i) = i := by
  unfold swap0
  by_cases h1 : i = 0
  · subst h1; by_cases h2 : sg = 0 <;> simp [h2]
  · by_cases h2 : i = sg
    · subst h2; simp [h1]
    · simp [h1, h2]

theorem swap0_lt {sg i n : Nat} (hsg : sg < n) (hi : i < n) : swap0 sg i < n := by
  unfold swap0; split
  · exact hsg
  · split
    · omega
    · exact hi

theorem quotient_get (d : DFA) (gs : Groups) (i : Nat) (hi : i < gs.length) :
    (quotient d gs).states[i]? = some
      { groupState d gs (swap0 (groupIdx gs 0) i) with
        trans := (groupState d gs (swap0 (groupIdx gs 0) i)).trans.map
          fun t => (t.1, swap0 (groupIdx gs 0) t.2) } := by
  simp [quotient, List.getElem?_map, List.getElem?_range hi]

theorem quotient_trans (d : DFA) (gs : Groups) (i : Nat) (hi : i < gs.length) :
    (quotient d gs).trans i = (groupState d gs (swap0 (groupIdx gs 0) i)).trans.map
      fun t => (t.1, swap0 (groupIdx gs 0) t.2) := by
  rw [DFA.trans_of_get (quotient_get d gs i hi)]

/-- `Accept` of a DFA state says whether one of its NFA states accepts (`eClosure` computes it so,
`optimize` keeps it so). -/
def AccOK (m : NFA) (d : DFA) : Prop :=
  ∀ (s : Nat) (st : DState), d.states[s]? = some st → st.accept = st.nfa.any m.isAcc

/-- Where the loop of `optimize` stops on a well-formed DFA: a partition of all states (`Part`)
every group of which is stable. -/
structure Refined (m : NFA) (d : DFA) (gs : Groups) : Prop where
  wf : d.WF
  inv : Part d.states.length d gs
  stable : ∀ gi, gi < gs.length → StableAt m d gs gi

theorem Refined.cov {m : NFA} {d : DFA} {gs : Groups} (h : Refined m d gs) (s : Nat)
    (hs : s < d.states.length) : groupIdx gs s < gs.length :=
  h.inv.groupIdx_lt hs

/-- The state of `quotient d gs` that stands for the state `s` of `d`: the index of its group, the
group of state 0 swapped to the front. -/
def newId (gs : Groups) (s : Nat) : Nat := swap0 (groupIdx gs 0) (groupIdx gs s)

theorem Refined.group {m : NFA} {d : DFA} {gs : Groups} (h : Refined m d gs) {s : Nat}
    (hs : s < d.states.length) : ∃ first rest, gs[groupIdx gs s]? = some (first :: rest) ∧
      s ∈ first :: rest ∧ StableAt m d gs (groupIdx gs s) := by
  obtain ⟨G, hG, hsG⟩ := mem_of_groupIdx_lt (h.cov s hs)
  cases G with
  | nil => simp at hsG
  | cons first rest => exact ⟨first, rest, hG, hsG, h.stable _ (h.cov s hs)⟩

theorem Refined.newId_lt {m : NFA} {d : DFA} {gs : Groups} (h : Refined m d gs) {s : Nat}
    (hs : s < d.states.length) : newId gs s < gs.length :=
  swap0_lt (h.cov 0 (Nat.zero_lt_of_lt hs)) (h.cov s hs)

theorem Refined.tgroup_eq {m : NFA} {d : DFA} {gs : Groups} (h : Refined m d gs) {s s2 : Nat}
    (hs : s < d.states.length) (hs2 : s2 < d.states.length) (hg : groupIdx gs s2 = groupIdx gs s)
    (a : Range) : tgroup d gs s2 a = tgroup d gs s a := by
  obtain ⟨first, rest, hG, hsG, hst⟩ := h.group hs
  obtain ⟨G2, hG2, hsG2⟩ := mem_of_groupIdx_lt (h.cov s2 hs2)
  cases (hg ▸ hG2).symm.trans hG
  rw [← stable_labels h.wf hG hst hsG a, ← stable_labels h.wf hG hst hsG2 a]

theorem quotient_length (d : DFA) (gs : Groups) : (quotient d gs).states.length = gs.length := by
  simp [quotient]

theorem quotient_src {d : DFA} {gs : Groups} {i : Nat} {x : Range × Nat}
    (hx : x ∈ (quotient d gs).trans i) : ∃ s, s < d.states.length ∧ newId gs s = i := by
  obtain ⟨st, hst, _⟩ := DFA.mem_trans_iff.1 hx
  have hi : i < gs.length := quotient_length d gs ▸ (List.getElem?_eq_some_iff.1 hst).1
  rw [quotient_trans d gs i hi] at hx
  obtain ⟨⟨a, v⟩, hm, _⟩ := List.mem_map.1 hx
  obtain ⟨s2, hs2, hg2, _⟩ := (groupState_trans d gs _).1 a v hm
  exact ⟨s2, hs2, by simp only [newId, hg2, swap0_swap0]⟩

/-- The state that stands for the group of `s` has the transitions of `s` — of every `s` in the
group alike —, each leading to the state that stands for the group of its target. -/
theorem Refined.mem_quotient_trans {m : NFA} {d : DFA} {gs : Groups} (h : Refined m d gs) {s : Nat}
    (hs : s < d.states.length) (x : Range × Nat) :
    x ∈ (quotient d gs).trans (newId gs s) ↔ ∃ y ∈ d.trans s, (y.1, newId gs y.2) = x := by
  have hmem : ∀ x, x ∈ (quotient d gs).trans (newId gs s) ↔
      ∃ u ∈ (groupState d gs (groupIdx gs s)).trans, (u.1, swap0 (groupIdx gs 0) u.2) = x := by
    intro x
    rw [quotient_trans d gs _ (h.newId_lt hs), List.mem_map]
    simp only [newId, swap0_swap0]
  -- an entry comes from some state of the group; `s` has the same label to the same group
  have hfwd : ∀ x, x ∈ (quotient d gs).trans (newId gs s) →
      ∃ y ∈ d.trans s, (y.1, newId gs y.2) = x := by
    intro x hx
    obtain ⟨⟨a, u⟩, hu, rfl⟩ := (hmem x).1 hx
    obtain ⟨s2, hs2, hg2, t2, ht2, rfl⟩ := (groupState_trans d gs _).1 a u hu
    have := (tgroup_some_iff h.wf gs s2 a _).2 ⟨t2, ht2, rfl⟩
    rw [h.tgroup_eq hs hs2 hg2] at this
    obtain ⟨t, ht, e⟩ := (tgroup_some_iff h.wf gs s a _).1 this
    exact ⟨(a, t), ht, by simp only [newId, e]⟩
  refine ⟨hfwd x, ?_⟩
  -- a label of `s` is a key of the merged state, and its entry is the one just described
  rintro ⟨⟨a, t⟩, ht, rfl⟩
  obtain ⟨u, hu⟩ := (groupState_trans d gs _).2 s hs rfl a t ht
  have hx := (hmem _).2 ⟨(a, u), hu, rfl⟩
  obtain ⟨⟨a', t'⟩, ht', e⟩ := hfwd _ hx
  cases (Prod.mk.inj e).1
  have hv := h.wf.valid s _ ht
  cases h.wf.det s _ _ a.b ht ht' (Int.le_refl _) hv (Int.le_refl _) hv
  exact e ▸ hx

theorem Refined.copies {m : NFA} {d : DFA} {gs : Groups} (h : Refined m d gs) :
    (quotient d gs).Copies d (newId gs) fun j s => s < d.states.length ∧ newId gs s = j :=
  ⟨fun _ _ => quotient_src, fun _ _ ⟨hs, e⟩ x => e ▸ h.mem_quotient_trans hs x,
    fun _ ht => quotient_length d gs ▸ h.newId_lt ht⟩

theorem Refined.quotient_run {m : NFA} {d : DFA} {gs : Groups} (h : Refined m d gs)
    (w : List Int) (s : Nat) (hs : s < d.states.length) :
    (quotient d gs).run (newId gs s) w = (d.run s w).map (newId gs) :=
  (DFA.run_map (I := (· < d.states.length)) (fun _ c hj => (h.copies.step h.wf ⟨hj, rfl⟩ c).symm)
    (fun _ _ _ _ => h.wf.step_lt) w s hs).symm

theorem newId_zero (gs : Groups) : newId gs 0 = 0 := by
  simp only [newId, swap0]
  by_cases h : groupIdx gs 0 = 0 <;> simp [h]

theorem run_lt {d : DFA} (hwf : d.WF) (w : List Int) (s j : Nat) (hs : s < d.states.length)
    (h : d.run s w = some j) : j < d.states.length :=
  Util.foldlM_inv d.step (fun _ s => s < d.states.length) (fun _ _ _ _ _ => hwf.step_lt) w s j hs
    (d.run_eq_foldlM w s ▸ h)

theorem mem_accNFA (m : NFA) (d : DFA) (s q : Nat) :
    q ∈ accNFA m d s ↔ ∃ st, d.states[s]? = some st ∧ q ∈ st.nfa ∧ m.isAcc q = true := by
  unfold accNFA
  cases h : d.states[s]? with
  | none => simp
  | some st => simp [List.mem_filter]

theorem mem_accNFA_of_get (m : NFA) {d : DFA} {s : Nat} {st : DState} (h : d.states[s]? = some st)
    {q : Nat} : q ∈ accNFA m d s ↔ q ∈ st.nfa ∧ m.isAcc q = true := by
  simp only [accNFA, h, Option.map_some, Option.getD_some, List.mem_filter]

theorem accept_eq_any {m : NFA} {d : DFA} (hacc : AccOK m d) (s : Nat) :
    d.accept s = ((d.states[s]?.map (·.nfa)).getD []).any m.isAcc := by
  unfold DFA.accept
  cases h : d.states[s]? with
  | none => simp
  | some st => simp [hacc s st h]

theorem accept_iff {m : NFA} {d : DFA} (hacc : AccOK m d) (s : Nat) :
    d.accept s = true ↔ ∃ q, q ∈ accNFA m d s := by
  simp only [accept_eq_any hacc, List.any_eq_true, accNFA, List.mem_filter]

theorem quotient_accOK {m : NFA} {d : DFA} (hacc : AccOK m d) (gs : Groups) :
    AccOK m (quotient d gs) := by
  intro i st hst
  have hi : i < gs.length := quotient_length d gs ▸ (List.getElem?_eq_some_iff.1 hst).1
  rw [quotient_get d gs i hi] at hst
  cases hst
  simp only [groupState, List.any_flatMap]
  congr 1
  funext s
  exact accept_eq_any hacc s

theorem Refined.mem_accNFA_quotient {m : NFA} {d : DFA} {gs : Groups} (h : Refined m d gs) {s : Nat}
    (hs : s < d.states.length) {G : List Nat} (hG : gs[groupIdx gs s]? = some G) (q : Nat) :
    q ∈ accNFA m (quotient d gs) (newId gs s) ↔ ∃ s2 ∈ G, q ∈ accNFA m d s2 := by
  have hget : gs.getD (groupIdx gs s) [] = G := by simp [List.getD_eq_getElem?_getD, hG]
  rw [mem_accNFA_of_get m (quotient_get d gs _ (h.newId_lt hs))]
  simp only [newId, swap0_swap0, groupState, hget, List.mem_flatMap, accNFA, List.mem_filter]
  exact ⟨fun ⟨⟨s2, h1, h2⟩, h3⟩ => ⟨s2, h1, h2, h3⟩, fun ⟨s2, h1, h2, h3⟩ => ⟨⟨s2, h1, h2⟩, h3⟩⟩

theorem Refined.quotient_accNFA {m : NFA} {d : DFA} {gs : Groups} (h : Refined m d gs)
    (hacc : AccOK m d) {s : Nat} (hs : s < d.states.length) (q : Nat) :
    q ∈ accNFA m (quotient d gs) (newId gs s) ↔ q ∈ accNFA m d s := by
  obtain ⟨first, rest, hG, hsG, hst⟩ := h.group hs
  have hall := h.inv.acc _ (List.mem_of_getElem? hG)
  have hno : ∀ s2, d.accept s2 = false → q ∉ accNFA m d s2 := fun s2 h2 hq =>
    Bool.false_ne_true (h2.symm.trans ((accept_iff hacc s2).2 ⟨q, hq⟩))
  -- the states of the group show the same accepting NFA states as the first one: `subPartition`
  -- compared them if the first one accepts; otherwise none accepts, and they show none
  have hmem : ∀ s2 ∈ first :: rest, q ∈ accNFA m d s2 ↔ q ∈ accNFA m d first := by
    intro s2 hs2
    cases hf : d.accept first with
    | true =>
      rcases List.mem_cons.mp hs2 with rfl | hs2'
      · exact Iff.rfl
      · exact ((differs_false (hst first rest hG s2 hs2')).2 hf q).symm
    | false =>
      exact ⟨fun hq => absurd hq (hno s2 ((hall first List.mem_cons_self s2 hs2).symm.trans hf)),
        fun hq => absurd hq (hno first hf)⟩
  rw [h.mem_accNFA_quotient hs hG]
  exact ⟨fun ⟨s2, hs2, hq⟩ => (hmem s hsG).2 ((hmem s2 hs2).1 hq), fun hq => ⟨s, hsG, hq⟩⟩

theorem Refined.quotient_accept {m : NFA} {d : DFA} {gs : Groups} (h : Refined m d gs)
    (hacc : AccOK m d) {s : Nat} (hs : s < d.states.length) :
    (quotient d gs).accept (newId gs s) = d.accept s :=
  Bool.eq_iff_iff.2 <| by
    simp only [accept_iff (quotient_accOK hacc gs), accept_iff hacc, h.quotient_accNFA hacc hs]

theorem initial_part (d : DFA)
    (h1 : ((List.range d.states.length).filter fun s => !d.accept s) ≠ [])
    (h2 : ((List.range d.states.length).filter fun s => d.accept s) ≠ []) :
    Part d.states.length d [(List.range d.states.length).filter fun s => !d.accept s,
      (List.range d.states.length).filter fun s => d.accept s] := by
  refine ⟨?_, ?_, ?_, ?_⟩
  · have := (List.filter_append_perm (fun s => d.accept s) (List.range d.states.length)).length_eq
    simp only [List.map_cons, List.map_nil, List.sum_cons, List.sum_nil, List.length_append,
      List.length_range] at this ⊢
    omega
  · intro G hG
    simp only [List.mem_cons, List.not_mem_nil, or_false] at hG
    rcases hG with rfl | rfl
    · exact h1
    · exact h2
  · intro s hs
    cases hacc : d.accept s with
    | false =>
      exact ⟨_, List.mem_cons_self, List.mem_filter.2 ⟨List.mem_range.2 hs, by simp [hacc]⟩⟩
    | true =>
      exact ⟨_, List.mem_cons_of_mem _ (List.mem_singleton.2 rfl),
        List.mem_filter.2 ⟨List.mem_range.2 hs, hacc⟩⟩
  · intro G hG s hs s' hs'
    simp only [List.mem_cons, List.not_mem_nil, or_false] at hG
    rcases hG with rfl | rfl
    · simp only [List.mem_filter, Bool.not_eq_true'] at hs hs'
      rw [hs.2, hs'.2]
    · simp only [List.mem_filter] at hs hs'
      rw [hs.2, hs'.2]

theorem covers_iff {d : DFA} {gs : Groups} : covers d gs = true ↔ ∀ s, s < d.states.length →
    groupIdx gs s < gs.length ∧ ∀ t ∈ d.trans s, groupIdx gs t.2 < gs.length := by
  simp only [covers, List.all_eq_true, List.mem_range, Bool.and_eq_true, decide_eq_true_eq]

theorem Part.covers {d : DFA} (hwf : d.WF) {gs : Groups} (h : Part d.states.length d gs) :
    covers d gs = true :=
  covers_iff.2 fun s hs => ⟨h.groupIdx_lt hs, fun t ht => h.groupIdx_lt (hwf.tgt s t ht)⟩

/-- On a well-formed DFA `optimize` neither runs out of fuel nor panics in `GetStateGroup`: it
returns the DFA itself (`p.Count() < 2`) or its quotient by groups refined until stable. -/
theorem optimize_spec (m : NFA) (d : DFA) (hwf : d.WF) : optimize m d = .ok d ∨
    ∃ gs, Refined m d gs ∧ 0 < d.states.length ∧ optimize m d = .ok (quotient d gs) := by
  unfold optimize
  simp only
  split
  · exact .inl rfl
  · rename_i hne
    simp only [Bool.or_eq_true, List.isEmpty_iff, not_or] at hne
    have hp := initial_part d hne.1 hne.2
    obtain ⟨gs, hgs, hp', hst⟩ := refineLoop_ok m d (d.states.length + 1) hp
      (Nat.lt_succ_of_le (Nat.sub_le _ _))
    rw [hgs]
    simp only [hp'.covers hwf, if_true]
    exact .inr ⟨gs, ⟨hwf, hp', hst⟩, Nat.lt_of_lt_of_le Nat.zero_lt_two hp.length_le, rfl⟩

/-- The automaton `optimize` returns is the image of the given one under a
map `f` of states with `f 0 = 0`: on every word the new run is the image of the old run (so the
same words die), and a state and its image have the same `Accept` flag and the same accepting NFA
states (so `pickAction` gives them the same actions). The result is again well formed. -/
theorem optimize_correct (m : NFA) (d : DFA) (hwf : d.WF) (hacc : AccOK m d) (d' : DFA)
    (h : optimize m d = .ok d') :
    d'.WF ∧ AccOK m d' ∧ (0 < d.states.length → 0 < d'.states.length) ∧
    ∃ f : Nat → Nat, f 0 = 0 ∧ ∀ w,
      d'.run 0 w = (d.run 0 w).map f ∧
      ∀ j, d.run 0 w = some j → d'.accept (f j) = d.accept j ∧
        ∀ q, q ∈ accNFA m d' (f j) ↔ q ∈ accNFA m d j := by
  rcases optimize_spec m d hwf with hd | ⟨gs, href, hn, hd⟩
  · cases hd.symm.trans h
    exact ⟨hwf, hacc, fun h => h, id, rfl, fun w => ⟨by simp, fun j _ => ⟨rfl, fun q => Iff.rfl⟩⟩⟩
  · cases hd.symm.trans h
    refine ⟨href.copies.wf hwf, quotient_accOK hacc gs,
      fun _ => by rw [quotient_length]; exact Nat.zero_lt_of_lt (href.cov 0 hn),
      newId gs, newId_zero gs, fun w => ⟨by simpa [newId_zero] using href.quotient_run w 0 hn, ?_⟩⟩
    intro j hj
    have hjl := run_lt hwf w 0 j hn hj
    exact ⟨href.quotient_accept hacc hjl, href.quotient_accNFA hacc hjl⟩

end Lox.Lex.Gen
