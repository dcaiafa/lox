import Lox.Lex.RuntimeModeActs
/-! One `PushRune` call on a well-formed table: what the call guarantees to the driver (`StepOK`) and
does to `(mode, modeStack)` (`StepAbs`). -/
namespace Lox.Lex.Rt

/-- Run-time side (`WFModes`, `InRange`): the current row decodes, is well formed (`RowWF`), and
`PushRune` is `stepRow` on it. -/
theorem pushRune_wf {modes : Array Mode} (hwf : WFModes modes) {sm : SM}
    (hin : InRange modes sm) (r : Int) :
    ∃ m row, modes[sm.mode.getD 0]? = some m ∧ sm.state.toNat < nStates m ∧
      decodeRow m sm.state = some row ∧ RowWF modes.size (nStates m) sm.state.toNat row ∧
      pushRune modes sm r = stepRow modes.size row { sm with mode := some (sm.mode.getD 0) } r := by
  obtain ⟨_, hst0, m, hm, hlt⟩ := hin
  obtain ⟨row, hrow, rwf⟩ := (hwf.2 _ m hm).2 _ hlt
  rw [Int.toNat_of_nonneg hst0] at hrow
  exact ⟨m, row, hm, hlt, hrow, rwf, pushRune_eq_stepRow modes sm r m row hm hrow rwf.sorted.1
    fun t ht => (rwf.sorted.2 t ht).2⟩

structure StepOK (modes : Array Mode) (sm : SM) (r : Int) (res : Res) (sm' : SM) : Prop where
  noOob : res ≠ .oob
  modesOK : ModesOK modes sm'
  /-- the state stays a state of the (possibly new) current mode, unless `_lexerError` was
  returned (the driver then calls `Reset()`) -/
  inRange : res ≠ .error → InRange modes sm'
  consume : res = .consume → sm'.state ≠ 0 ∧ 0 ≤ r
  /-- accept / discard / accumulate happen only after something was consumed and lead to state 0 -/
  terminal : (res = .accept ∨ res = .discard ∨ res = .tryAgain) → sm'.state = 0 ∧ sm.state ≠ 0
  eof : res = .eof → sm.state = 0 ∧ r = -1 ∧ sm'.state = 0
  start : sm.state = 0 → res = .consume ∨ res = .error ∨ res = .eof
  startEof : sm.state = 0 → r = -1 → res = .eof

structure StepAbs (ps : List Pair) (sm : SM) (res : Res) (sm' : SM) : Prop where
  consume : res = .consume → sm'.mode.getD 0 = sm.mode.getD 0 ∧ sm'.modeStack = sm.modeStack
  /-- otherwise the push/pop pairs of the current row are applied in order (up to the first pop on
  an empty stack) -/
  fire : res ≠ .consume → (sm'.mode.getD 0, sm'.modeStack) =
    applyModeActsT ps (sm.mode.getD 0, sm.modeStack)
  tryAgain : res = .tryAgain → ∃ p ∈ ps, p.1 = 5

/-- Both at once, by the five outcomes of `stepRow` on a well-formed row: a transition; no pairs at
the end of input in the start state; no pairs otherwise; a pop on the empty stack; the terminal pair. -/
theorem pushRune_step {modes : Array Mode} (hwf : WFModes modes) {sm : SM}
    (hin : InRange modes sm) (r : Int) :
    StepOK modes sm r (pushRune modes sm r).1 (pushRune modes sm r).2 ∧
    StepAbs (rowPairs modes (sm.mode.getD 0) sm.state) sm
      (pushRune modes sm r).1 (pushRune modes sm r).2 := by
  obtain ⟨m, row, hm, hlt, hrow, rwf, hpr⟩ := pushRune_wf hwf hin r
  rw [hpr, rowPairs_eq hm hrow, stepRow]
  cases hl : (if row.flags % 2 = 0 then lookup row.triples r else none) with
  | some st =>
    have hl' : lookup row.triples r = some st := by
      split at hl
      · exact hl
      · cases hl
    obtain ⟨t, ht, h1, h2, rfl⟩ := mem_of_lookup_eq_some hl'
    obtain ⟨htg0, htg1⟩ := rwf.targets t ht
    have hlo := (rwf.sorted.2 t ht).1
    exact ⟨⟨nofun, hin.1,
        fun _ => ⟨hin.1, Int.le_of_lt htg0, m, hm, (Int.toNat_lt (Int.le_of_lt htg0)).2 htg1⟩,
        fun _ => ⟨Int.ne_of_gt htg0, Int.le_trans hlo h1⟩, nofun, nofun, fun _ => .inl rfl,
        fun _ hr => absurd (Int.le_trans hlo h1) (by rw [hr]; decide)⟩,
      ⟨fun _ => ⟨rfl, rfl⟩, fun h => absurd rfl h, nofun⟩⟩
  | none =>
    rcases rwf.pairs with hnil | ⟨pre, t, hps, hpre, ht⟩
    · rw [hnil]
      unfold execPairs
      by_cases hc : sm.state = 0 ∧ r = -1
      · rw [if_pos hc]
        exact ⟨⟨nofun, hin.1, fun _ => hin, nofun, nofun, fun _ => ⟨hc.1, hc.2, hc.1⟩,
          fun _ => .inr (.inr rfl), fun _ _ => rfl⟩, ⟨nofun, fun _ => rfl, nofun⟩⟩
      · rw [if_neg hc]
        exact ⟨⟨nofun, hin.1, fun h => absurd rfl h, nofun, nofun, nofun,
          fun _ => .inr (.inl rfl), fun h0 hr => absurd ⟨h0, hr⟩ hc⟩, ⟨nofun, fun _ => rfl, nofun⟩⟩
    · -- an accepting row is not the row of the start state
      have hne : sm.state ≠ 0 := fun h0 => by
        have := rwf.start (by rw [h0]; rfl)
        rw [hps] at this
        exact List.append_ne_nil_of_right_ne_nil _ (List.cons_ne_nil _ _) this
      have hT := (execPairs_ok modes r (pre ++ [t]) { sm with mode := some (sm.mode.getD 0) }
        (fun p hp h1 => by
          rcases List.mem_append.1 hp with hp | hp
          · exact ((hpre p hp).resolve_right (by omega)).2
          · rw [List.mem_singleton.1 hp] at h1; omega) hin.1).2.1
      rw [execPairs_wf modes.size r pre t _ _ hpre ht rfl] at hT
      rw [hps, execPairs_wf modes.size r pre t _ _ hpre ht rfl]
      dsimp only at hT ⊢
      have hTt := applyModeActsT_append_terminal pre t (sm.mode.getD 0, sm.modeStack) ht
      cases ha : applyModeActs pre (sm.mode.getD 0, sm.modeStack) with
      | none =>
        rw [ha] at hT
        dsimp only
        exact ⟨⟨nofun, hT, fun h => absurd rfl h, nofun, nofun, nofun, fun h0 => absurd h0 hne,
          fun h0 => absurd h0 hne⟩, ⟨nofun, fun _ => by rw [hTt]; rfl, nofun⟩⟩
      | some ms =>
        rw [ha] at hT
        dsimp only at hT ⊢
        rw [applyModeActs_eq_T ha] at hTt
        obtain ⟨res, tok, hres, htry, he⟩ :=
          terminalEffect_eq t { sm with mode := some ms.1, modeStack := ms.2 } ht
        rw [he] at hT ⊢
        obtain ⟨m', hm'⟩ : ∃ m', modes[ms.1]? = some m' :=
          ⟨modes[ms.1]'hT.1, Array.getElem?_eq_getElem hT.1⟩
        have hnc : res ≠ .consume ∧ res ≠ .oob ∧ res ≠ .eof ∧ res ≠ .error := by
          rcases hres with h | h | h <;> subst h <;> exact ⟨nofun, nofun, nofun, nofun⟩
        exact ⟨⟨hnc.2.1, hT, fun _ => ⟨hT, Int.le_refl 0, m', hm', (hwf.2 _ m' hm').1⟩,
            fun h => absurd h hnc.1, fun _ => ⟨rfl, hne⟩, fun h => absurd h hnc.2.2.1,
            fun h0 => absurd h0 hne, fun h0 => absurd h0 hne⟩,
          ⟨fun h => absurd h hnc.1, fun _ => hTt.symm,
            fun h => ⟨t, List.mem_append_right _ (List.mem_singleton.2 rfl), htry h⟩⟩⟩

theorem runActions_eof (modes : Array Mode) (m : Mode) (r : Int) (fuel : Nat) (i stop : Int)
    (sm sm' : SM) (h : runActions modes m r fuel i stop sm = some (.eof, sm')) : r = -1 := by
  fun_induction runActions modes m r fuel i stop sm <;> simp_all

theorem pushRune_eof (modes : Array Mode) (sm sm' : SM) (r : Int)
    (h : pushRune modes sm r = (.eof, sm')) : r = -1 := by
  unfold pushRune at h
  simp only at h
  -- every way out of `pushRune` other than the action loop answers `oob` or `consume`
  split at h
  · cases h
  · split at h
    · cases h
    · split at h
      · split at h
        · cases h
        · cases h
        · split at h
          · rename_i hra
            exact runActions_eof _ _ _ _ _ _ _ _ (hra.trans (congrArg some h))
          · cases h
      · cases h

theorem pushRune_no_tryAgain {modes : Array Mode} (hwf : WFModes modes) (hna : NoAccum modes)
    {sm : SM} (hin : InRange modes sm) (r : Int) : (pushRune modes sm r).1 ≠ .tryAgain := by
  intro h
  obtain ⟨p, hp, h5⟩ := (pushRune_step hwf hin r).2.tryAgain h
  obtain ⟨m, row, hm, hlt, hrow, _⟩ := pushRune_wf hwf hin r
  rw [rowPairs_eq hm hrow] at hp
  rw [← Int.toNat_of_nonneg hin.2.1] at hrow
  exact hna _ m hm _ hlt row hrow p hp h5

end Lox.Lex.Rt
