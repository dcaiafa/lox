import Lox.Lex.RuntimeDecode
/-! The action pairs of a row against the abstract mode stack: a well-formed action section applies its
mode actions in order and then its terminal pair (`execPairs_wf`). -/
namespace Lox.Lex.Rt

/-! `applyModeActs`, `applyModeActsT` and the mode actions of `execPairs` all walk a pair list with the
same step, `stepModeAct`. -/

def stepModeAct (a : Pair) (ms : MS) : Option MS :=
  if a.1 = 1 then some (a.2.toNat, ms.1 :: ms.2)
  else if a.1 = 2 then
    match ms.2 with
    | [] => none
    | top :: st => some (top, st)
  else some ms

theorem applyModeActs_cons (a : Pair) (rest : List Pair) (ms : MS) :
    applyModeActs (a :: rest) ms = (stepModeAct a ms).bind (applyModeActs rest) := by
  obtain ⟨ty, p⟩ := a
  obtain ⟨mode, stack⟩ := ms
  simp only [applyModeActs, stepModeAct]
  by_cases c1 : ty = 1
  · simp only [c1, if_true, Option.bind_some]
  · by_cases c2 : ty = 2
    · simp only [c2, if_true]; cases stack <;> rfl
    · simp only [c1, c2, if_false, Option.bind_some]

theorem applyModeActsT_cons (a : Pair) (rest : List Pair) (ms : MS) :
    applyModeActsT (a :: rest) ms =
      match stepModeAct a ms with
      | some ms' => applyModeActsT rest ms'
      | none => ms := by
  obtain ⟨ty, p⟩ := a
  obtain ⟨mode, stack⟩ := ms
  simp only [applyModeActsT, stepModeAct]
  by_cases c1 : ty = 1
  · simp only [c1, if_true]
  · by_cases c2 : ty = 2
    · simp only [c2, if_true]; cases stack <;> rfl
    · simp only [c1, c2, if_false]

theorem execPairs_modeAct (n : Nat) (r : Int) (a : Pair) (rest : List Pair) (sm : SM)
    (ha : (a.1 = 1 ∧ a.2.toNat < n) ∨ a.1 = 2) :
    execPairs n r (a :: rest) sm =
      match stepModeAct a (sm.mode.getD 0, sm.modeStack) with
      | some ms => execPairs n r rest { sm with mode := some ms.1, modeStack := ms.2 }
      | none => (.error, sm) := by
  obtain ⟨ty, p⟩ := a
  rw [execPairs, stepModeAct]
  rcases ha with ⟨h1, hp⟩ | h2
  · simp only at h1 hp; subst h1
    simp only [if_true, hp]
  · simp only at h2; subst h2
    simp only [show ¬ ((2 : Int) = 1) by decide, if_false, if_true]
    cases sm.modeStack <;> rfl

theorem stepModeAct_terminal {t : Pair} (ht : t.1 = 3 ∨ t.1 = 4 ∨ t.1 = 5) (ms : MS) :
    stepModeAct t ms = some ms := by
  rw [stepModeAct, if_neg (by omega), if_neg (by omega)]

theorem applyModeActs_eq_T {ps : List Pair} {ms ms' : MS} (h : applyModeActs ps ms = some ms') :
    applyModeActsT ps ms = ms' := by
  induction ps generalizing ms with
  | nil => cases h; rfl
  | cons a rest ih =>
    rw [applyModeActs_cons] at h
    rw [applyModeActsT_cons]
    cases hs : stepModeAct a ms with
    | none => rw [hs] at h; cases h
    | some ms1 => rw [hs] at h; exact ih h

theorem applyModeActs_append (a b : List Pair) (ms : MS) :
    applyModeActs (a ++ b) ms = (applyModeActs a ms).bind (applyModeActs b) := by
  induction a generalizing ms with
  | nil => rfl
  | cons x rest ih =>
    rw [List.cons_append, applyModeActs_cons, applyModeActs_cons]
    cases stepModeAct x ms with
    | none => rfl
    | some ms1 => exact ih ms1

theorem applyModeActsT_append_terminal (pre : List Pair) (t : Pair) (ms : MS)
    (ht : t.1 = 3 ∨ t.1 = 4 ∨ t.1 = 5) :
    applyModeActsT (pre ++ [t]) ms = applyModeActsT pre ms := by
  induction pre generalizing ms with
  | nil => rw [List.nil_append, applyModeActsT_cons, stepModeAct_terminal ht]
  | cons a rest ih =>
    rw [List.cons_append, applyModeActsT_cons, applyModeActsT_cons]
    cases stepModeAct a ms with
    | none => rfl
    | some ms1 => exact ih ms1

theorem SM.eta_mode {sm : SM} {mo : Nat} (hmo : sm.mode = some mo) :
    ({ sm with mode := some mo, modeStack := sm.modeStack } : SM) = sm := by
  cases sm; cases hmo; rfl

theorem execPairs_modeActs (n : Nat) (r : Int) (pre tail : List Pair) (sm : SM) (mo : Nat)
    (hpre : ∀ p ∈ pre, (p.1 = 1 ∧ p.2.toNat < n) ∨ p.1 = 2) (hmo : sm.mode = some mo) :
    execPairs n r (pre ++ tail) sm =
      match applyModeActs pre (mo, sm.modeStack) with
      | some ms => execPairs n r tail { sm with mode := some ms.1, modeStack := ms.2 }
      | none =>
        (.error, { sm with mode := some (applyModeActsT pre (mo, sm.modeStack)).1,
                           modeStack := (applyModeActsT pre (mo, sm.modeStack)).2 }) := by
  induction pre generalizing sm mo with
  | nil => exact congrArg _ (SM.eta_mode hmo).symm
  | cons a rest ih =>
    obtain ⟨ha, hrest⟩ := List.forall_mem_cons.1 hpre
    have hmo' : sm.mode.getD 0 = mo := by rw [hmo]; rfl
    rw [List.cons_append, execPairs_modeAct n r a _ sm ha, applyModeActs_cons,
      applyModeActsT_cons, hmo']
    cases stepModeAct a (mo, sm.modeStack) with
    | none => exact congrArg _ (SM.eta_mode hmo).symm
    | some ms1 => exact ih _ _ hrest rfl

theorem execPairs_terminal (n : Nat) (r : Int) (t : Pair) (sm : SM)
    (ht : t.1 = 3 ∨ t.1 = 4 ∨ t.1 = 5) : execPairs n r [t] sm = terminalEffect t sm := by
  obtain ⟨ty, p⟩ := t
  simp only at ht
  unfold execPairs terminalEffect
  rcases ht with h | h | h <;> subst h <;> simp

/-- A well-formed action section `pre ++ [t]`: every mode action of `pre` is applied in order
to `(mode, stack)`, then the terminal pair takes effect; a pop on the empty stack gives
`_lexerError` (and then the terminal pair does not run). -/
theorem execPairs_wf (n : Nat) (r : Int) (pre : List Pair) (t : Pair) (sm : SM) (mo : Nat)
    (hpre : ∀ p ∈ pre, (p.1 = 1 ∧ p.2.toNat < n) ∨ p.1 = 2) (ht : t.1 = 3 ∨ t.1 = 4 ∨ t.1 = 5)
    (hmo : sm.mode = some mo) :
    execPairs n r (pre ++ [t]) sm =
      match applyModeActs pre (mo, sm.modeStack) with
      | some ms => terminalEffect t { sm with mode := some ms.1, modeStack := ms.2 }
      | none =>
        (.error, { sm with mode := some (applyModeActsT pre (mo, sm.modeStack)).1,
                           modeStack := (applyModeActsT pre (mo, sm.modeStack)).2 }) := by
  rw [execPairs_modeActs n r pre [t] sm mo hpre hmo]
  cases applyModeActs pre (mo, sm.modeStack) with
  | none => rfl
  | some ms => exact execPairs_terminal n r t _ ht

theorem terminalEffect_eq (t : Pair) (sm : SM) (ht : t.1 = 3 ∨ t.1 = 4 ∨ t.1 = 5) :
    ∃ res tok, (res = .accept ∨ res = .discard ∨ res = .tryAgain) ∧ (res = .tryAgain → t.1 = 5) ∧
      terminalEffect t sm = (res, { sm with token := tok, state := 0 }) := by
  unfold terminalEffect
  split
  · exact ⟨.accept, t.2, .inl rfl, nofun, rfl⟩
  · rename_i h3
    split
    · exact ⟨.discard, sm.token, .inr (.inl rfl), nofun, rfl⟩
    · rename_i h4
      exact ⟨.tryAgain, sm.token, .inr (.inr rfl), fun _ => (ht.resolve_left h3).resolve_left h4, rfl⟩

end Lox.Lex.Rt
