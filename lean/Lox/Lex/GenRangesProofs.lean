import Lox.Lex.GenNormProofs
import Lox.Lex.GenNFASound
/-! The range labels on the edges of a Thompson fragment are the ranges written in the expression
(`Rx.ranges`, `th_labels`); hence they are valid ranges when every class is written `lo ≤ hi`
(`modeNFA_validLabels`), which is what `normalizeInputs` asks of its input. `GenShapeProofs` reads
"code points only" off the same equation (`Rx.ranges_runes`). -/
namespace Lox.Lex.Gen
open Lox.Rang3


mutual
def Rx.ranges : Rx → List Range
  | .lit cps => cps.map fun c => ⟨c, c⟩
  | .cls cs => cs.map fun x => ⟨x.1, x.2⟩
  | .seq r s => r.ranges ++ s.ranges
  | .alt r rest => r.ranges ++ rest.ranges
  | .opt r => r.ranges
  | .star _ r => r.ranges
  | .plus _ r => r.ranges
def Alts.ranges : Alts → List Range
  | .last r => r.ranges
  | .more r rest => r.ranges ++ rest.ranges
end

theorem labels_append (A B : List Edge) : labels (A ++ B) = labels A ++ labels B :=
  List.filterMap_append ..

theorem labels_litEdges (cps : List Int) : ∀ p, labels (litEdges cps p) = cps.map fun c => ⟨c, c⟩ := by
  induction cps with
  | nil => intro p; rfl
  | cons c cs ih => intro p; exact congrArg (_ :: ·) (ih (p + 1))

theorem labels_clsEdges (cs : Cls) (b e : Nat) : ∀ p,
    labels (clsEdges cs b e p) = cs.map fun x => ⟨x.1, x.2⟩ := by
  induction cs with
  | nil => intro p; rfl
  | cons c cs ih => intro p; exact congrArg (_ :: ·) (ih (p + 2))

mutual
theorem th_labels : ∀ (r : Rx) (n : Nat), labels (th r n).edges = r.ranges
  | .lit cps, n => labels_litEdges cps n
  | .cls cs, n => labels_clsEdges cs ..
  | .seq r s, n => by
    simp only [th, labels_append, th_labels r n, th_labels s _, Rx.ranges]; exact List.append_nil _
  | .alt r rest, n => by
    simp only [th, labels_append, th_labels r _, thAlts_labels rest .., Rx.ranges]
    exact congrArg (· ++ _) (List.append_nil _)
  | .opt r, n => by simp only [th, labels_append, th_labels r n, Rx.ranges]; exact List.append_nil _
  | .star ng r, n => by
    simp only [th, labels_append, th_labels r n, Rx.ranges]; exact List.append_nil _
  | .plus ng r, n => by
    simp only [th, labels_append, th_labels r n, Rx.ranges]; exact List.append_nil _
theorem thAlts_labels : ∀ (a : Alts) (b e n : Nat), labels (thAlts a b e n).edges = a.ranges
  | .last r, b, e, n => by
    simp only [thAlts, labels_append, th_labels r n, Alts.ranges]; exact List.append_nil _
  | .more r rest, b, e, n => by
    simp only [thAlts, labels_append, th_labels r n, thAlts_labels rest .., Alts.ranges]
    exact congrArg (· ++ _) (List.append_nil _)
end

mutual
theorem Rx.ranges_valid : ∀ r : Rx, r.clsOK = true → ∀ x ∈ r.ranges, Valid x
  | .lit cps, _ => by
    simp only [Rx.ranges, List.forall_mem_map]; exact fun c _ => Int.le_refl c
  | .cls cs, h => by
    simp only [Rx.clsOK, Bool.and_eq_true, List.all_eq_true, decide_eq_true_eq] at h
    simp only [Rx.ranges, List.forall_mem_map]; exact h.2
  | .seq r s, h => by
    simp only [Rx.clsOK, Bool.and_eq_true] at h
    simp only [Rx.ranges, List.forall_mem_append]; exact ⟨r.ranges_valid h.1, s.ranges_valid h.2⟩
  | .alt r rest, h => by
    simp only [Rx.clsOK, Bool.and_eq_true] at h
    simp only [Rx.ranges, List.forall_mem_append]; exact ⟨r.ranges_valid h.1, rest.ranges_valid h.2⟩
  | .opt r, h => r.ranges_valid h
  | .star _ r, h => r.ranges_valid h
  | .plus _ r, h => r.ranges_valid h
theorem Alts.ranges_valid : ∀ a : Alts, a.clsOK = true → ∀ x ∈ a.ranges, Valid x
  | .last r, h => r.ranges_valid h
  | .more r rest, h => by
    simp only [Alts.clsOK, Bool.and_eq_true] at h
    simp only [Alts.ranges, List.forall_mem_append]; exact ⟨r.ranges_valid h.1, rest.ranges_valid h.2⟩
end

theorem th_labels_valid : ∀ (r : Rx) (n : Nat), r.clsOK = true →
    ∀ ed ∈ (th r n).edges, ∀ x, ed.lbl = some x → Valid x :=
  fun r n hok ed h x hx =>
    r.ranges_valid hok x (th_labels r n ▸ (mem_labels _ x).2 ⟨ed, h, hx⟩)

theorem thAlts_labels_valid : ∀ (a : Alts) (b e n : Nat), a.clsOK = true →
    ∀ ed ∈ (thAlts a b e n).edges, ∀ x, ed.lbl = some x → Valid x :=
  fun a b e n hok ed h x hx =>
    a.ranges_valid hok x (thAlts_labels a b e n ▸ (mem_labels _ x).2 ⟨ed, h, hx⟩)

theorem modeNFA_validLabels (rules : List Rx) (hok : ∀ r ∈ rules, r.clsOK = true) :
    ValidLabels (modeNFA rules).edges := by
  intro x hx
  obtain ⟨ed, hed, hl⟩ := (mem_labels _ x).1 hx
  obtain ⟨j, r, m, a, h | rfl⟩ := mem_modeNFA_edges.1 hed
  · exact th_labels_valid r m (hok r (List.mem_of_getElem? a.rule)) ed h x hl
  · cases hl

end Lox.Lex.Gen
