import Lox.Lex.RuntimeStep
import Lox.Lex.CursorProofs
/-! The reference driver (`readToken`, `lexAll`) on top of one `PushRune` call and of its cursor
(`CursorProofs`): byte offsets, the error stretch, and progress on a well-formed table. -/
namespace Lox.Lex.Rt

theorem size_le_of_char_eq {inp : Input} (hv : ValidInput inp) {l : Lx} (hc : l.char inp = -1) :
    inp.size ≤ l.idx := by
  refine Nat.le_of_not_lt fun hlt => ?_
  rw [char_of_lt hlt] at hc
  have := hv inp[l.idx] (Array.getElem_mem_toList hlt)
  rw [hc] at this
  exact absurd this (by decide)

theorem afterError_sm (inp : Input) (l : Lx) : (afterError inp l).sm = l.sm.reset :=
  congrArg SM.reset ((consume_sm inp _).trans (skipLine_sm inp _ l))

theorem afterError_idx_le (inp : Input) (l : Lx) : l.idx ≤ (afterError inp l).idx :=
  Nat.le_trans (skipLine_idx_le inp _ l) (consume_idx_le inp _)

theorem afterError_idx_le_size {inp : Input} {l : Lx} (h : l.idx ≤ inp.size) :
    (afterError inp l).idx ≤ inp.size :=
  consume_idx_le_size (skipLine_idx_le_size _ h)

theorem afterError_offset_le (inp : Input) (l : Lx) : l.offset ≤ (afterError inp l).offset :=
  Nat.le_trans (skipLine_offset_le inp _ l) (consume_offset_le inp _)

theorem offsetOf_succ {inp : Input} {k : Nat} (h : k < inp.size) :
    offsetOf inp (k + 1) = offsetOf inp k + inp[k].2 := by
  unfold offsetOf
  have hk : k < inp.toList.length := by simpa using h
  rw [List.take_succ_eq_append_getElem hk]
  simp [List.sum_append]

theorem offsetOf_ge {inp : Input} {k : Nat} (h : inp.size ≤ k) : offsetOf inp k = totalBytes inp := by
  unfold totalBytes offsetOf
  rw [List.take_of_length_le (by simpa using h), List.take_of_length_le (by simp)]

theorem offsetOf_le_succ (inp : Input) (k : Nat) : offsetOf inp k ≤ offsetOf inp (k + 1) := by
  by_cases hk : k < inp.size
  · rw [offsetOf_succ hk]; exact Nat.le_add_right _ _
  · rw [offsetOf_ge (Nat.le_of_not_lt hk), offsetOf_ge (Nat.le_succ_of_le (Nat.le_of_not_lt hk))]
    exact Nat.le_refl _

theorem offsetOf_mono (inp : Input) {j k : Nat} (h : j ≤ k) : offsetOf inp j ≤ offsetOf inp k := by
  induction h with
  | refl => exact Nat.le_refl _
  | step _ ih => exact Nat.le_trans ih (offsetOf_le_succ inp _)

theorem sync_init (inp : Input) : Sync inp {} := rfl

theorem consume_sync {inp : Input} {l : Lx} (h : Sync inp l) : Sync inp (l.consume inp) := by
  unfold Sync at *
  by_cases hlt : l.idx < inp.size
  · obtain ⟨c1, _, c3⟩ := consume_lt hlt
    rw [c1, c3, offsetOf_succ hlt, h]
  · rw [consume_ge (Nat.le_of_not_lt hlt)]; exact h

theorem skipLine_sync {inp : Input} (n : Nat) {l : Lx} (h : Sync inp l) :
    Sync inp (skipLine inp n l) :=
  skipLine_induct (Sync inp) (fun _ => consume_sync) n l h

theorem afterError_sync {inp : Input} {l : Lx} (h : Sync inp l) : Sync inp (afterError inp l) :=
  consume_sync (skipLine_sync (inp.size + 1) h)

/-- The error stretch: after an ERROR token on a valid input the driver stands just after the
first `'\n'` at or after the offending rune, or at the end of the input when there is none. -/
theorem afterError_spec (inp : Input) (hv : ValidInput inp) (l : Lx) (hidx : l.idx ≤ inp.size) :
    ∃ k, l.idx ≤ k ∧ k ≤ inp.size ∧
      (∀ j, l.idx ≤ j → j < k → ∃ p, inp[j]? = some p ∧ p.1 ≠ 10) ∧
      (k = inp.size ∨ ∃ p, inp[k]? = some p ∧ p.1 = 10) ∧
      (afterError inp l).idx = min (k + 1) inp.size := by
  obtain ⟨s1, s2, s3⟩ := skipLine_spec inp (inp.size + 1) l (Nat.lt_succ_of_le (Nat.sub_le _ _))
  have hle := skipLine_idx_le_size (inp.size + 1) hidx
  have hae : (afterError inp l).idx = ((skipLine inp (inp.size + 1) l).consume inp).idx := rfl
  generalize skipLine inp (inp.size + 1) l = l1 at s1 s2 s3 hle hae
  refine ⟨l1.idx, s1, hle, fun j h1 h2 => ?_, ?_, ?_⟩
  · obtain ⟨p, hp, h10, _⟩ := s2 j h1 h2
    exact ⟨p, hp, h10⟩
  · rcases Nat.eq_or_lt_of_le hle with h | hlt
    · exact .inl h
    · refine .inr ⟨inp[l1.idx], Array.getElem?_eq_getElem hlt, ?_⟩
      rw [char_of_lt hlt] at s3
      -- a rune of the input is not the end-of-input marker
      have := hv inp[l1.idx] (Array.getElem_mem_toList hlt)
      exact s3.resolve_right fun h => by rw [h] at this; exact absurd this (by decide)
  · rw [hae]
    rcases consume_cases inp l1 with ⟨hlt, h, _⟩ | ⟨hge, h⟩
    · rw [h]; exact (Nat.min_eq_left hlt).symm
    · rw [h, Nat.min_eq_right (Nat.le_succ_of_le hge)]; exact Nat.le_antisymm hle hge

theorem afterError_idx_lt {inp : Input} {l : Lx} (h : l.idx < inp.size) :
    l.idx < (afterError inp l).idx := by
  have h1 := skipLine_idx_le inp (inp.size + 1) l
  show _ < ((skipLine inp (inp.size + 1) l).consume inp).idx
  rcases consume_cases inp (skipLine inp (inp.size + 1) l) with ⟨_, h', _⟩ | ⟨hge, h'⟩
  · rw [h']; exact Nat.lt_succ_of_le h1
  · rw [h']; exact Nat.lt_of_lt_of_le h hge

theorem readToken_succ (modes : Array Mode) (inp : Input) (n : Nat) (start : Option Nat) (l : Lx)
    {res : Res} {sm' : SM} (h : pushRune modes l.sm (l.char inp) = (res, sm')) :
    readToken modes inp (n + 1) start l =
      match (generalizing := false) res with
      | .consume => readToken modes inp n (some (start.getD l.offset))
          (({ l with sm := sm' } : Lx).consume inp)
      | .accept => some (some (.tok sm'.token (start.getD l.offset) l.offset), { l with sm := sm' })
      | .discard => readToken modes inp n none { l with sm := sm' }
      | .tryAgain => readToken modes inp n (some (start.getD l.offset)) { l with sm := sm' }
      | .eof => some (some (.eof (start.getD l.offset)), { l with sm := sm' })
      | .oob => some (none, { l with sm := sm' })
      | .error => some (some (.err (start.getD l.offset) (l.char inp)),
          afterError inp { l with sm := sm' }) := by
  rw [readToken]
  simp only [h]
  cases res <;> rfl

/-- A `PushRune` call that answers try-again and leaves the state machine as it was is repeated for
ever: the `ReadToken` call does not return. -/
theorem readToken_stuck {modes : Array Mode} {inp : Input} {l : Lx}
    (h : pushRune modes l.sm (l.char inp) = (.tryAgain, l.sm)) :
    ∀ (k : Nat) (start : Option Nat), readToken modes inp k start l = none
  | 0, _ => rfl
  | k + 1, start => by
    rw [readToken_succ modes inp k start l h]
    exact readToken_stuck h k _

/-- A `ReadToken` call that hands out a token other than EOF and leaves the driver where it was is
repeated for ever: the run never reaches EOF. -/
theorem lexAll_stuck {modes : Array Mode} {inp : Input} {fuel : Nat} {l : Lx} {t : Tok}
    (ht : ∀ p, t ≠ .eof p) (h : readToken modes inp fuel none l = some (some t, l)) :
    ∀ (n : Nat) (acc : List Tok), (lexAll modes inp fuel n l acc).2 = "timeout"
  | 0, _ => rfl
  | n + 1, acc => by
    unfold lexAll
    rw [h]
    cases t with
    | eof p => exact absurd rfl (ht p)
    | tok ty a b => exact lexAll_stuck ht h n _
    | err a c => exact lexAll_stuck ht h n _

/-- After `Reset()` the state machine is in range again whatever `PushRune` left behind. -/
theorem inRange_reset {modes : Array Mode} (hwf : WFModes modes) {sm : SM}
    (hok : ModesOK modes sm) : InRange modes sm.reset :=
  ⟨⟨hwf.1, hok.2⟩, Int.le_refl 0, modes[0]'hwf.1, Array.getElem?_eq_getElem hwf.1,
    (hwf.2 0 _ (Array.getElem?_eq_getElem hwf.1)).1⟩

theorem inRange_init {modes : Array Mode} (hwf : WFModes modes) : InRange modes ({} : SM) :=
  inRange_reset hwf (sm := ({} : SM)) ⟨hwf.1, nofun⟩

/-- Progress of `ReadToken`: on a well-formed table, from any in-range state, with fuel above
`2 · remaining runes + (0 if at the start state, else 1)`, `readToken` returns a token (never
runs out of fuel, never panics); the state machine is back at the start state of an existing
mode; the position never moves backwards; an EOF token is returned only in front of the
end-of-input marker; and a call that began at the start state and returns a non-EOF token has
advanced by at least one rune. The measure: a consumed rune leaves the start state (`+1`) and
uses up a rune (`-2`); accept, discard and accumulate lead back to the start state (`-1`). -/
theorem readToken_progress {modes : Array Mode} (hwf : WFModes modes) (inp : Input) :
    ∀ (fuel : Nat) (start : Option Nat) (l : Lx), InRange modes l.sm →
      2 * (inp.size - l.idx) + (if l.sm.state = 0 then 0 else 1) < fuel →
      ∃ t l', readToken modes inp fuel start l = some (some t, l') ∧
        InRange modes l'.sm ∧ l'.sm.state = 0 ∧ l.idx ≤ l'.idx ∧
        (l.idx ≤ inp.size → l'.idx ≤ inp.size) ∧
        (∀ p, t = .eof p → l'.char inp = -1) ∧
        ((∀ p, t ≠ .eof p) → l.sm.state = 0 → l.idx < l'.idx) := by
  intro fuel
  induction fuel with
  | zero => exact fun _ _ _ h => absurd h (Nat.not_lt_zero _)
  | succ n ih =>
    intro start l hin hfuel
    have h := (pushRune_step hwf hin (l.char inp)).1
    generalize hpr : pushRune modes l.sm (l.char inp) = pr at h
    obtain ⟨res, sm'⟩ := pr
    rw [readToken_succ modes inp n start l hpr]
    -- after a terminal result the machine is at the start state and was not before
    have hterm : (res = .accept ∨ res = .discard ∨ res = .tryAgain) →
        ∀ start', ∃ t l', readToken modes inp n start' { l with sm := sm' } = some (some t, l') ∧
          InRange modes l'.sm ∧ l'.sm.state = 0 ∧ l.idx ≤ l'.idx ∧
          (l.idx ≤ inp.size → l'.idx ≤ inp.size) ∧ (∀ p, t = .eof p → l'.char inp = -1) ∧
          ((∀ p, t ≠ .eof p) → l.sm.state = 0 → l.idx < l'.idx) := fun hres start' => by
      obtain ⟨hs', hne⟩ := h.terminal hres
      obtain ⟨t, l', e, i1, i2, i3, i3', i4, _⟩ :=
        ih start' ({ l with sm := sm' } : Lx)
          (h.inRange (by rcases hres with h | h | h <;> rw [h] <;> nofun))
          (by
            show 2 * (inp.size - l.idx) + (if sm'.state = 0 then 0 else 1) < n
            rw [if_neg hne] at hfuel; rw [if_pos hs']; exact Nat.lt_of_succ_lt_succ hfuel)
      exact ⟨t, l', e, i1, i2, i3, i3', i4, fun _ h0 => absurd h0 hne⟩
    cases res with
    | consume =>
      obtain ⟨hs', hr⟩ := h.consume rfl
      have hlt : l.idx < inp.size := idx_lt_of_char_ne fun hc => by rw [hc] at hr; exact absurd hr (by decide)
      obtain ⟨c1, c2, _⟩ := consume_lt (l := { l with sm := sm' }) hlt
      dsimp only at c1 c2
      obtain ⟨t, l', e, i1, i2, i3, i3', i4, _⟩ :=
        ih (some (start.getD l.offset)) (({ l with sm := sm' } : Lx).consume inp)
          (by rw [c2]; exact h.inRange nofun)
          (by rw [c1, c2, if_neg hs']; omega)
      rw [c1] at i3 i3'
      exact ⟨t, l', e, i1, i2, Nat.le_of_succ_le i3, fun _ => i3' hlt, i4, fun _ _ => i3⟩
    | accept =>
      obtain ⟨hs', hne⟩ := h.terminal (.inl rfl)
      exact ⟨_, _, rfl, h.inRange nofun, hs', Nat.le_refl _, id, nofun, fun _ h0 => absurd h0 hne⟩
    | discard => exact hterm (.inr (.inl rfl)) _
    | tryAgain => exact hterm (.inr (.inr rfl)) _
    | eof =>
      obtain ⟨_, hr, hs'⟩ := h.eof rfl
      exact ⟨_, _, rfl, h.inRange nofun, hs', Nat.le_refl _, id, fun _ _ => hr,
        fun hne => absurd rfl (hne _)⟩
    | error =>
      refine ⟨_, _, rfl, ?_, ?_, afterError_idx_le inp { l with sm := sm' },
        afterError_idx_le_size (l := { l with sm := sm' }), nofun, fun _ h0 => ?_⟩
      · rw [afterError_sm]; exact inRange_reset hwf h.modesOK
      · rw [afterError_sm]; rfl
      · -- at the start state in front of the end of input the answer would have been EOF
        have hc : l.char inp ≠ -1 := fun hc => nomatch h.startEof h0 hc
        exact afterError_idx_lt (l := { l with sm := sm' }) (idx_lt_of_char_ne hc)
    | oob => exact absurd rfl h.noOob

/-- `lexAll` reaches EOF: from an in-range driver state at a start state, with per-call fuel
above `2 · inp.size` and more than `remaining runes` calls allowed, the status is `"ok"` and the
token list is what was accumulated, then non-EOF tokens, then exactly one EOF token. -/
theorem lexAll_progress {modes : Array Mode} (hwf : WFModes modes) (inp : Input) (fuel : Nat)
    (hfuel : 2 * inp.size < fuel) :
    ∀ (n : Nat) (l : Lx) (acc : List Tok), InRange modes l.sm → l.sm.state = 0 →
      l.idx ≤ inp.size → inp.size - l.idx < n →
      ∃ ts p, lexAll modes inp fuel n l acc = (acc.reverse ++ ts ++ [.eof p], "ok") ∧
        ∀ t ∈ ts, ∀ q, t ≠ .eof q := by
  intro n
  induction n with
  | zero => exact fun _ _ _ _ _ h => absurd h (Nat.not_lt_zero _)
  | succ n ih =>
    intro l acc hin h0 hidx hn
    obtain ⟨t, l', e, i1, i2, i3, i4, i5, i6⟩ :=
      readToken_progress hwf inp fuel none l hin 
        (by rw [if_pos h0]; exact Nat.lt_of_le_of_lt (Nat.mul_le_mul_left 2 (Nat.sub_le _ _)) hfuel)
    unfold lexAll
    rw [e]
    -- a non-EOF token: the call advanced, the rest of the run follows by induction
    have hrec : (∀ q, t ≠ .eof q) →
        ∃ ts p, lexAll modes inp fuel n l' (t :: acc) = (acc.reverse ++ ts ++ [.eof p], "ok") ∧
          ∀ t ∈ ts, ∀ q, t ≠ .eof q := fun hne => by
      have hlt := i6 hne h0
      obtain ⟨ts, p, e', hts⟩ := ih l' (t :: acc) i1 i2 (i4 hidx) (by omega)
      refine ⟨t :: ts, p, by rw [e', List.reverse_cons, List.append_assoc acc.reverse]; rfl, ?_⟩
      exact List.forall_mem_cons.2 ⟨hne, hts⟩
    cases t with
    | eof p => exact ⟨[], p, by simp only [List.reverse_cons, List.append_nil], nofun⟩
    | tok ty a b => exact hrec nofun
    | err a c => exact hrec nofun

end Lox.Lex.Rt
