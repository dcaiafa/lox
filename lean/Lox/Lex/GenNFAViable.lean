import Lox.Lex.GenNFASound
/-! Every state of a Thompson fragment can reach the exit (when every class is non-empty): the
mode NFA has no dead states, so "some NFA state is reachable by `w`" is the same as "`w` is a
prefix of a word matched by some rule". -/
namespace Lox.Lex.Gen
open Lox.Rang3 (Range)

/-- Every state in `[n, N)` can reach `e`. -/
def Coreach (E : List Edge) (n N e : Nat) : Prop := ∀ p, n ≤ p → p < N → ∃ v, Path E p v e

theorem Coreach.trans {E : List Edge} {n N x e : Nat} {v : List Int} (h : Coreach E n N x)
    (hx : Path E x v e) : Coreach E n N e := fun p h1 h2 =>
  let ⟨u, hu⟩ := h p h1 h2
  ⟨u ++ v, hu.trans hx⟩

theorem Coreach.append {E : List Edge} {n M N e : Nat} (h1 : Coreach E n M e)
    (h2 : Coreach E M N e) : Coreach E n N e := fun p a b =>
  (Nat.lt_or_ge p M).elim (h1 p a) fun c => h2 p c b

theorem Coreach.single {E : List Edge} {p e : Nat} {v : List Int} (h : Path E p v e) :
    Coreach E p (p + 1) e := fun _ a b =>
  Nat.le_antisymm (Nat.le_of_lt_succ b) a ▸ ⟨v, h⟩

/-- `? * +`: the body, then `B = N` (through the body) and `E = N + 1`. -/
theorem Coreach.wrap {E : List Edge} {n N fb fe : Nat} (h : Coreach E n N fe)
    (hb : n ≤ fb ∧ fb < N) (e1 : (⟨N, none, fb⟩ : Edge) ∈ E) (e3 : (⟨fe, none, N + 1⟩ : Edge) ∈ E) :
    Coreach E n (N + 2) (N + 1) := by
  have hf := h.trans (Path.eps_edge e3)
  obtain ⟨v, hv⟩ := hf fb hb.1 hb.2
  exact (hf.append (.single (Path.eps e1 hv))).append (.single (Path.refl E _))

/-- The states of the ranges of a class (two per range, `rangeFrag`) reach `e`. -/
theorem clsEdges_coreach {E : List Edge} {b e : Nat} : ∀ (cs : Cls) (p : Nat),
    (∀ r ∈ cs, r.1 ≤ r.2) → (∀ ed ∈ clsEdges cs b e p, ed ∈ E) → Coreach E p (p + 2 * cs.length) e
  | [], p, _, _ => fun _ h1 h2 => absurd h2 (Nat.not_lt.2 h1)
  | r :: cs, p, hv, hE => by
    simp only [clsEdges, List.forall_mem_cons] at hE hv
    obtain ⟨e1, _, e3, hE⟩ := hE
    have out := Path.eps_edge e3
    have ih := clsEdges_coreach cs (p + 2) hv.2 hE
    rw [Nat.add_right_comm p 2] at ih
    exact ((Coreach.single (Path.chr e1 (Int.le_refl _) hv.1 out)).append (.single out)).append ih

mutual
theorem th_coreach : ∀ (r : Rx) (n : Nat) (E : List Edge), r.clsOK = true →
    (∀ ed ∈ (th r n).edges, ed ∈ E) → Coreach E n (th r n).next (th r n).e
  | .lit cps, n, E, _, hE => fun p h1 h2 => by
    simp only [th] at h2 hE ⊢
    have := litEdges_path_from E cps n hE (n + cps.length - p) (p - n) (by omega)
    rw [Nat.add_sub_cancel' h1] at this
    exact ⟨_, this⟩
  | .cls cs, n, E, hok, hE => by
    simp only [Rx.clsOK, Bool.and_eq_true, Bool.not_eq_true', List.all_eq_true,
      decide_eq_true_eq] at hok
    have hf := clsEdges_coreach cs (n + 2) hok.2 hE
    -- `B` goes through the first range
    cases cs with
    | nil => exact absurd hok.1 (by decide)
    | cons r cs =>
      obtain ⟨v, hv⟩ := hf (n + 2) (Nat.le_refl _)
        (Nat.lt_add_of_pos_right (Nat.mul_pos (by decide) (Nat.succ_pos _)))
      exact ((Coreach.single (Path.eps (hE _ (.tail _ (.head _))) hv)).append
        (.single (Path.refl E _))).append hf
  | .seq r s, n, E, hok, hE => by
    simp only [Rx.clsOK, Bool.and_eq_true] at hok
    simp only [th, List.forall_mem_append, List.forall_mem_singleton] at hE ⊢
    have hg := th_coreach s _ E hok.2 hE.1.2
    have wg := th_wf s (th r n).next
    obtain ⟨v, hv⟩ := hg _ wg.hb.1 wg.hb.2
    exact ((th_coreach r n E hok.1 hE.1.1).trans (Path.eps hE.2 hv)).append hg
  | .alt r rest, n, E, hok, hE => by
    simp only [Rx.clsOK, Bool.and_eq_true] at hok
    simp only [th, List.forall_mem_append, List.forall_mem_cons, List.not_mem_nil, false_implies,
      implies_true, and_true] at hE ⊢
    have wf := th_wf r (n + 2)
    have hf := (th_coreach r (n + 2) E hok.1 hE.1.1).trans (Path.eps_edge hE.1.2.2)
    obtain ⟨v, hv⟩ := hf _ wf.hb.1 wf.hb.2
    exact (((Coreach.single (Path.eps hE.1.2.1 hv)).append (.single (Path.refl E _))).append
      hf).append (thAlts_coreach_in rest n (n + 1) _ E hok.2 hE.2)
  | .opt r, n, E, hok, hE => by
    simp only [th, List.forall_mem_append, List.forall_mem_cons, List.not_mem_nil, false_implies,
      implies_true, and_true] at hE ⊢
    exact (th_coreach r n E hok hE.1).wrap (th_wf r n).hb hE.2.2.1 hE.2.2.2
  | .star ng r, n, E, hok, hE => by
    simp only [th, List.forall_mem_append, List.forall_mem_cons, List.not_mem_nil, false_implies,
      implies_true, and_true] at hE ⊢
    exact (th_coreach r n E hok hE.1).wrap (th_wf r n).hb hE.2.2.1 hE.2.2.2.2
  | .plus ng r, n, E, hok, hE => by
    simp only [th, List.forall_mem_append, List.forall_mem_cons, List.not_mem_nil, false_implies,
      implies_true, and_true] at hE ⊢
    exact (th_coreach r n E hok hE.1).wrap (th_wf r n).hb hE.2.1 hE.2.2.2
theorem thAlts_coreach_in : ∀ (a : Alts) (b e n : Nat) (E : List Edge), a.clsOK = true →
    (∀ ed ∈ (thAlts a b e n).edges, ed ∈ E) → Coreach E n (thAlts a b e n).next e
  | .last r, b, e, n, E, hok, hE => by
    simp only [thAlts, List.forall_mem_append, List.forall_mem_cons, List.not_mem_nil,
      false_implies, implies_true, and_true] at hE ⊢
    exact (th_coreach r n E hok hE.1).trans (Path.eps_edge hE.2.2)
  | .more r rest, b, e, n, E, hok, hE => by
    simp only [Alts.clsOK, Bool.and_eq_true] at hok
    simp only [thAlts, List.forall_mem_append, List.forall_mem_cons, List.not_mem_nil,
      false_implies, implies_true, and_true] at hE ⊢
    exact ((th_coreach r n E hok.1 hE.1.1).trans (Path.eps_edge hE.1.2.2)).append
      (thAlts_coreach_in rest b e _ E hok.2 hE.2)
end

theorem thAlts_coreach : ∀ (a : Alts) (b e n : Nat), a.clsOK = true → ∀ p, n ≤ p →
    p < (thAlts a b e n).next → ∃ v, Path (thAlts a b e n).edges p v e :=
  fun a b e n hok => thAlts_coreach_in a b e n _ hok fun _ h => h

/-- `Lox.Lex.viable` on the rules' `Re`. -/
def Viable (rules : List Rx) (w : List Int) : Prop :=
  ∃ r ∈ rules, ∃ t, Matches r.toRe (w ++ t)

/-- `q` is a state of the fragment of some rule of the mode NFA. -/
def InRule (rules : List Rx) (q : Nat) : Prop :=
  ∃ (i : Nat) (r : Rx) (m : Nat), RuleAt rules i r m ∧ m ≤ q ∧ q < (th r m).next

theorem modeNFA_dst_inRule (rules : List Rx) : ∀ ed ∈ (modeNFA rules).edges, InRule rules ed.dst := by
  intro ed hed
  obtain ⟨j, r, m, a, h | rfl⟩ := mem_modeNFA_edges.1 hed
  · exact ⟨j, r, m, a, ((th_wf r m).edges ed h).2.2.1, ((th_wf r m).edges ed h).2.2.2.1⟩
  · exact ⟨j, r, m, a, (th_wf r m).hb⟩

/-- No dead states: in a mode with at least one rule and non-empty classes, some state is
reachable from the start state by `w` iff `w` is viable. -/
theorem modeNFA_viable (rules : List Rx) (hne : rules ≠ []) (hok : ∀ r ∈ rules, r.clsOK = true)
    (w : List Int) :
    (∃ q, Path (modeNFA rules).edges (modeNFA rules).start w q) ↔ Viable rules w := by
  constructor
  · rintro ⟨q, k, hk⟩
    -- a state of a rule's fragment can reach the accepting state of that rule
    have hin : ∀ q', InRule rules q' → Path (modeNFA rules).edges (modeNFA rules).start w q' →
        Viable rules w := by
      rintro q' ⟨i, r, m, a, h1, h2⟩ hq'
      obtain ⟨v, hv⟩ := th_coreach r m _ (hok r (List.mem_of_getElem? a.rule))
        (fun ed h => mem_modeNFA_edges.2 ⟨i, r, m, a, .inl h⟩) q' h1 h2
      obtain ⟨r', hr', hm⟩ := (modeNFA_label rules i (w ++ v)).1
        ⟨(th r m).e, hq'.trans hv, (mem_modeNFA_acc rules _ i).2 ⟨_, a.frag, rfl⟩⟩
      exact ⟨r', List.mem_of_getElem? hr', v, hm⟩
    rcases hk.end_cases with rfl | ⟨ed, hed, rfl⟩
    · -- still in the start state: step into the first rule
      cases rules with
      | nil => exact absurd rfl hne
      | cons r0 rs =>
        obtain ⟨m, a⟩ := ruleAt_of_rule (rules := r0 :: rs) (i := 0) rfl
        refine hin (th r0 m).b ⟨0, r0, m, a, (th_wf r0 m).hb⟩ ?_
        simpa using Path.trans ⟨k, hk⟩ (Path.eps_edge (mem_modeNFA_edges.2 ⟨0, r0, m, a, .inr rfl⟩))
    · exact hin _ (modeNFA_dst_inRule rules ed hed) ⟨k, hk⟩
  · rintro ⟨r, hr, t, hm⟩
    obtain ⟨i, hi⟩ := List.mem_iff_getElem?.1 hr
    obtain ⟨q, hq, _⟩ := (modeNFA_label rules i (w ++ t)).2 ⟨r, hi, hm⟩
    obtain ⟨m, hm1, _⟩ := hq.split
    exact ⟨m, hm1⟩

end Lox.Lex.Gen
