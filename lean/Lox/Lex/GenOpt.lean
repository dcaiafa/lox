import Lox.Lex.GenDFA
import Lox.Rang3.Model
/-! Model of `internal/lexergen/dfa/optimize.go` (`optimize`, `subPartition`) and of the last steps
of `mode.ModeBuilder.Build` (`splitStartState`, `mergeTransitions`; `pickAction` is in `GenDFA.lean`
and is applied per state by `statePairs` of `EmitModel.lean`). Core Lean only, executable. -/
namespace Lox.Lex.Gen
open Lox.Rang3 (Range flatten)

/-- `partitions`: group index ↦ the states of the group in insertion order (`groupToState` is a
map of insertion-ordered sets; `stateToGroup` is the inverse). -/
abbrev Groups := List (List Nat)

/-- `GetStateGroup(s)`. A state without a group answers `gs.length` (the Go code panics in
`assert.True(ok)`; `optimize` below checks `covers` first and reports that panic). -/
def groupIdx (gs : Groups) (s : Nat) : Nat := gs.findIdx fun g => decide (s ∈ g)

def DFA.trans (d : DFA) (s : Nat) : List (Range × Nat) := (d.states[s]?.map (·.trans)).getD []

/-- `transitionGroup(s, input)`; `none` is the `-1` of a missing transition. -/
def tgroup (d : DFA) (gs : Groups) (s : Nat) (a : Range) : Option Nat :=
  ((d.trans s).find? fun t => t.1 = a).map fun t => groupIdx gs t.2

/-- `acceptingNFAStates(s)`. -/
def accNFA (m : NFA) (d : DFA) (s : Nat) : List Nat :=
  ((d.states[s]?.map (·.nfa)).getD []).filter m.isAcc

def DFA.accept (d : DFA) (s : Nat) : Bool := (d.states[s]?.map (·.accept)).getD false

def sameSet (a b : List Nat) : Bool := a.all (b.contains ·) && b.all (a.contains ·)

/-- The test in `subPartition` that puts `s` into `move` (relative to the first state of its group). -/
def differs (m : NFA) (d : DFA) (gs : Groups) (ins : List Range) (first s : Nat) : Bool :=
  ins.any (fun a => tgroup d gs first a != tgroup d gs s a) ||
    (d.accept first && !sameSet (accNFA m d first) (accNFA m d s))

/-- `subPartition(p, group)`. -/
def subPartition (m : NFA) (d : DFA) (gs : Groups) (gi : Nat) : Groups :=
  match gs[gi]? with
  | none => gs
  | some [] => gs
  | some (first :: rest) =>
    let ins := (first :: rest).flatMap fun s => (d.trans s).map (·.1)
    let move := rest.filter fun s => differs m d gs ins first s
    if move.isEmpty then gs
    else gs.set gi (first :: rest.filter fun s => !differs m d gs ins first s) ++ [move]

/-- One pass of the `for i := 0; i < pcount; i++` loop. -/
def refinePass (m : NFA) (d : DFA) (gs : Groups) : Groups :=
  (List.range gs.length).foldl (subPartition m d) gs

/-- `for pcount != p.Count()`: passes until one of them creates no group. `none`: out of fuel. -/
def refineLoop (m : NFA) (d : DFA) : Nat → Groups → Option Groups
  | 0, _ => none
  | f + 1, gs =>
    let gs' := refinePass m d gs
    if gs'.length = gs.length then some gs' else refineLoop m d f gs'

/-- `stablemap.Map.Put`. -/
def putTrans (l : List (Range × Nat)) (a : Range) (t : Nat) : List (Range × Nat) :=
  if l.any (fun p => p.1 = a) then l.map fun p => if p.1 = a then (a, t) else p else l ++ [(a, t)]

/-- The swap `newStates[0], newStates[startGroup] = newStates[startGroup], newStates[0]` as a map
on indices (an involution). -/
def swap0 (sg i : Nat) : Nat := if i = 0 then sg else if i = sg then 0 else i

/-- The merged state of group `g` (before the swap; targets are group indices). -/
def groupState (d : DFA) (gs : Groups) (g : Nat) : DState :=
  let members := gs.getD g []
  { nfa := members.flatMap fun s => (d.states[s]?.map (·.nfa)).getD []
    accept := members.any fun s => d.accept s
    ng := members.any fun s => (d.states[s]?.map (·.ng)).getD false
    trans :=
      -- `for _, s := range d.States { … fromState.AddTransition(toState, input) }`
      ((List.range d.states.length).filter fun s => groupIdx gs s = g).foldl
        (fun l s => (d.trans s).foldl (fun l t => putTrans l t.1 (groupIdx gs t.2)) l) [] }

/-- The DFA of the groups, group of state 0 first. -/
def quotient (d : DFA) (gs : Groups) : DFA :=
  let sg := groupIdx gs 0
  { states := (List.range gs.length).map fun i =>
      let st := groupState d gs (swap0 sg i)
      { st with trans := st.trans.map fun t => (t.1, swap0 sg t.2) } }

inductive OptRes where
  | ok (d : DFA)
  | panic (msg : String)
  | fuel
  deriving Repr, DecidableEq

/-- Every state and every transition target has a group (otherwise `GetStateGroup` panics). -/
def covers (d : DFA) (gs : Groups) : Bool :=
  (List.range d.states.length).all fun s =>
    groupIdx gs s < gs.length && (d.trans s).all fun t => groupIdx gs t.2 < gs.length

/-- `optimize(d)`. -/
def optimize (m : NFA) (d : DFA) : OptRes :=
  let ids := List.range d.states.length
  let nonacc := ids.filter fun s => !d.accept s
  let acc := ids.filter fun s => d.accept s
  -- `p.Count() < 2`
  if nonacc.isEmpty || acc.isEmpty then .ok d
  else
    match refineLoop m d (d.states.length + 1) [nonacc, acc] with
    | none => .fuel
    | some gs => if covers d gs then .ok (quotient d gs) else .panic "GetStateGroup"

/-- Transitions into state 0 are redirected to state `k`. -/
def redirect (k : Nat) (s : DState) : DState :=
  { s with trans := s.trans.map fun t => (t.1, if t.2 = 0 then k else t.2) }

/-- `splitStartState(d)`: if some transition leads to the start state, a copy of the start state
(same `Accept`, `NonGreedy`, `NFAStates`, same transitions) is appended and every transition into
state 0 — of every state, the copy included — is redirected to the copy. -/
def splitStart (d : DFA) : DFA :=
  match d.states[0]? with
  | none => d
  | some start =>
    if d.states.any (fun s => s.trans.any fun t => t.2 = 0) then
      { states := (d.states ++ [start]).map (redirect d.states.length) }
    else d

/-- `mergeTransitions` for one state: for every target with more than one input, the inputs are
replaced by `rang3.Flatten` of them (the effect of the `onChange` callbacks:
`Lox.Props.C15.merge_sound`). Targets keep the order of their first transition. -/
def mergeState (s : DState) : DState :=
  let tgts := dedup (s.trans.map (·.2))
  { s with trans := tgts.flatMap fun q =>
      let ins := (s.trans.filter fun t => t.2 = q).map (·.1)
      (if ins.length > 1 then flatten ins else ins).map fun r => (r, q) }

def mergeTransitions (d : DFA) : DFA := { states := d.states.map mergeState }

/-- What `ModeBuilder.Build` computes for a mode: `none` for the panic of `rang3.Normalize` /
out of fuel in the subset construction. -/
def buildDFA (m : NFA) : Option OptRes :=
  (normalizeNFA m).bind fun m' =>
    (subset m' (subsetFuel m')).map fun d =>
      match optimize m' d with
      | .ok d' => .ok (mergeTransitions (splitStart d'))
      | r => r

end Lox.Lex.Gen
