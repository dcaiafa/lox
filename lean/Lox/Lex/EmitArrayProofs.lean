import Lox.Lex.EmitRowProofs
import Lox.Lex.GenBuildProofs
import Lox.Table.Proofs
/-! `emitMode` is total, and every state's row reads back as the state's flags, sorted triples and
action pairs under both readers (`Lox.Lex.rowAt` of the validator; `Rt.decodeRow` of the runtime
theorems, by `decodeRow_of_rowAt`). For a well-formed DFA over code points the array is a
well-formed table (`wfTable`) and mode (`Rt.wfMode`), and its decoded automaton (`tableStep`,
`tableRunFrom`, `rowPairs`) is the DFA with the action pairs of its states. -/
namespace Lox.Lex.Gen
open Lox.Rang3 (Range cmp)
open Lox.Lex (Triple lookup sortedFrom triplesAt pairsAt geti tableStep tableRunFrom rowPairs wfTable)
open Lox.Table (flattenTriples flattenPairs encodeLexRow addRows build numSlots HasRow)

theorem getD_toArray (a : List Int) (k : Nat) : a.toArray.getD k 0 = a.getD k 0 := by
  simp [Array.getD, List.getD]
  split <;> simp_all

theorem getD_of_drop {a : List Int} {k : Nat} {x : Int} {tl : List Int} (h : a.drop k = x :: tl) :
    a.getD k 0 = x := by
  have := (Util.getElem?_of_drop_eq_cons h).1
  simp [List.getD, this]

theorem triplesAt_of_drop (a : List Int) : ∀ (ts : List (Int × Int × Int)) (base : Nat) (rest : List Int),
    a.drop base = flattenTriples ts ++ rest → triplesAt a.toArray base ts.length = ts := by
  intro ts
  induction ts with
  | nil => intro base rest _; rfl
  | cons t ts ih =>
    intro base rest h
    obtain ⟨b, e, s⟩ := t
    simp only [flattenTriples, List.cons_append] at h
    obtain ⟨h0, h1⟩ := Util.getElem?_of_drop_eq_cons h
    obtain ⟨h2, h3⟩ := Util.getElem?_of_drop_eq_cons h1
    obtain ⟨h4, h5⟩ := Util.getElem?_of_drop_eq_cons h3
    rw [List.length_cons, triplesAt_succ, getD_toArray, getD_toArray, getD_toArray]
    simp only [List.getD, h0, h2, h4, Option.getD_some]
    rw [ih (base + 3) rest h5]

theorem pairsAt_of_drop (a : List Int) : ∀ (ps : List (Int × Int)) (base : Nat) (rest : List Int),
    a.drop base = flattenPairs ps ++ rest → pairsAt a.toArray base ps.length = ps := by
  intro ps
  induction ps with
  | nil => intro base rest _; rfl
  | cons t ps ih =>
    intro base rest h
    obtain ⟨k, v⟩ := t
    simp only [flattenPairs, List.cons_append] at h
    obtain ⟨h0, h1⟩ := Util.getElem?_of_drop_eq_cons h
    obtain ⟨h2, h3⟩ := Util.getElem?_of_drop_eq_cons h1
    rw [List.length_cons, Lox.Lex.pairsAt_succ, getD_toArray, getD_toArray]
    simp only [List.getD, h0, h2, Option.getD_some]
    rw [ih (base + 2) rest h3]

theorem encodeLexRow_length (f : Int) (ts : List (Int × Int × Int)) (ps : List (Int × Int)) :
    (encodeLexRow f ts ps).length = 2 + 3 * ts.length + 2 * ps.length := by
  simp [encodeLexRow, Lox.Table.flattenTriples_length, Lox.Table.flattenPairs_length]
  omega

theorem rowAt_core {a : List Int} {q off L : Nat} {f : Int} {ts : List (Int × Int × Int)}
    {ps : List (Int × Int)} {R : List Int} (hget : a[q]? = some (off : Int))
    (hL : L = 2 + 3 * ts.length + 2 * ps.length) (hfit : off + 1 + L ≤ a.length)
    (hdrop : a.drop off = (L : Int) :: f :: (ts.length : Int) ::
      (flattenTriples ts ++ (flattenPairs ps ++ R))) :
    Lox.Lex.rowAt a.toArray q = some ⟨f, ts, ps⟩ := by
  obtain ⟨h0, h1⟩ := Util.getElem?_of_drop_eq_cons hdrop
  obtain ⟨h2, h3⟩ := Util.getElem?_of_drop_eq_cons h1
  obtain ⟨h4, h5⟩ := Util.getElem?_of_drop_eq_cons h3
  have htr := triplesAt_of_drop a ts (off + 3) _ h5
  have h6 : a.drop (off + 3 + 3 * ts.length) = flattenPairs ps ++ R := by
    have := congrArg (List.drop (3 * ts.length)) h5
    rwa [List.drop_drop, List.drop_left' (Lox.Table.flattenTriples_length ts)] at this
  have hpa := pairsAt_of_drop a ps (off + 3 + 3 * ts.length) _ h6
  subst hL
  have ec : ((2 + 3 * ts.length + 2 * ps.length : Nat) : Int) - 2 - 3 * (ts.length : Int) =
      2 * (ps.length : Int) := by omega
  have hc : 0 ≤ (ts.length : Int) ∧
      2 + 3 * (ts.length : Int) ≤ ((2 + 3 * ts.length + 2 * ps.length : Nat) : Int) ∧
      ((off : Nat) : Int) + 1 + ((2 + 3 * ts.length + 2 * ps.length : Nat) : Int) ≤
        (a.toArray.size : Int) := by
    simp only [List.size_toArray]
    omega
  have en : 2 + 3 * ts.length + 2 * ps.length - 2 - 3 * ts.length = 2 * ps.length := by omega
  simp only [Lox.Lex.rowAt, List.getElem?_toArray, hget, Int.natCast_nonneg, Int.not_lt.2,
    ↓reduceIte, Int.toNat_natCast, h0, h2, h4, ec, hc, Int.mul_emod_right, and_self, en,
    Nat.mul_div_cancel_left _ (show 0 < 2 by decide), hpa, htr]

/-- For the reader `Lox.Lex.rowAt` (the addressing of `PushRune`; `Lox.Table.HasRow.rowAt` is the
counterpart for `Lox.Table.rowAt`, which returns the raw row): a row stored with the layout of
`AddRow` / `Array` decodes to what `mode_table` encoded. -/
theorem rowAt_of_hasRow {a : List Int} {q : Nat} {f : Int} {ts : List (Int × Int × Int)}
    {ps : List (Int × Int)} (h : HasRow a q (encodeLexRow f ts ps)) :
    Lox.Lex.rowAt a.toArray q = some ⟨f, ts, ps⟩ := by
  obtain ⟨off, hget, hdrop⟩ := h
  apply rowAt_core hget (encodeLexRow_length f ts ps) (Lox.Table.storedAt_bound hdrop)
    (R := a.drop (off + 1 + (encodeLexRow f ts ps).length))
  rw [hdrop]
  simp [encodeLexRow]

theorem emitRows_idx (F : DFA) (acts : Nat → List Pair) :
    (emitRows F acts).map (·.1) = List.range F.states.length := by
  unfold emitRows
  rw [List.map_map]
  apply List.ext_getElem
  · simp
  · intro i h1 h2
    simp

theorem mem_emitRows {F : DFA} {acts : Nat → List Pair} {s : Nat} {st : DState}
    (h : F.states[s]? = some st) : (s, stateRow st (acts s)) ∈ emitRows F acts := by
  unfold emitRows
  rw [List.mem_map]
  refine ⟨(st, s), ?_, rfl⟩
  rw [List.mem_zipIdx_iff_getElem?]
  simpa using h

theorem numSlots_of_range {rows : List (Nat × List Int)} {n : Nat}
    (h : rows.map (·.1) = List.range n) : numSlots rows = n := by
  have h1 := congrArg List.getLast? h
  rw [List.getLast?_map, List.getLast?_range] at h1
  unfold numSlots
  cases hl : rows.getLast? with
  | none =>
    rw [hl] at h1
    split at h1
    · show 0 = n
      omega
    · cases h1
  | some x =>
    rw [hl] at h1
    split at h1
    · cases h1
    · have : x.1 = n - 1 := Option.some.inj h1
      show x.1 + 1 = n
      omega

/-- `AddRow` never panics in `mode_table`: the state IDs are `0, 1, 2, …`. -/
theorem emitMode_total (F : DFA) (acts : Nat → List Pair) : ∃ tbl, emitMode F acts = some tbl := by
  have h : (addRows {} (emitRows F acts)).isSome := by
    rw [Lox.Table.addRows_isSome, emitRows_idx]
    exact ⟨fun i _ => show (-1 : Int) < (i : Int) by omega, List.pairwise_lt_range⟩
  obtain ⟨t, ht⟩ := Option.isSome_iff_exists.1 h
  exact ⟨_, by rw [emitMode, build, ht]; rfl⟩

theorem emit_rowAt {F : DFA} {acts : Nat → List Pair} {tbl : Mode} (h : emitMode F acts = some tbl)
    {s : Nat} {st : DState} (hst : F.states[s]? = some st) :
    Lox.Lex.rowAt tbl s = some ⟨stateFlags st, stateTriples st, acts s⟩ := by
  simp only [emitMode, Option.map_eq_some_iff] at h
  obtain ⟨a, hb, rfl⟩ := h
  exact rowAt_of_hasRow (Lox.Table.build_hasRow hb (mem_emitRows hst))

/-- `tbl[0]` is the number of states (the row of state 0 is stored right behind the offset
vector). -/
theorem emit_nStates {F : DFA} {acts : Nat → List Pair} {tbl : Mode} (h : emitMode F acts = some tbl)
    (hn : 0 < F.states.length) :
    Lox.Lex.nStates tbl = F.states.length ∧ F.states.length ≤ tbl.size := by
  simp only [emitMode, Option.map_eq_some_iff] at h
  obtain ⟨a, hb, rfl⟩ := h
  have hslots : numSlots (emitRows F acts) = F.states.length := numSlots_of_range (emitRows_idx F acts)
  constructor
  · obtain ⟨st0, rest, hs⟩ := List.exists_cons_of_length_pos hn
    have hrows : emitRows F acts =
        (0, stateRow st0 (acts 0)) :: (rest.zipIdx 1).map fun p => (p.2, stateRow p.1 (acts p.2)) := by
      rw [emitRows, hs]; rfl
    rw [Lox.Lex.nStates, getD_toArray, List.getD, Lox.Table.build_head (hrows ▸ hb), ← hrows, hslots]
    rfl
  · rw [List.size_toArray, ← hslots]
    exact Lox.Table.build_length hb

theorem emit_decodeRow {F : DFA} {acts : Nat → List Pair} {tbl : Mode}
    (h : emitMode F acts = some tbl) {s : Nat} {st : DState} (hst : F.states[s]? = some st) :
    Rt.decodeRow tbl (s : Int) = some ⟨stateFlags st, stateTriples st, acts s⟩ :=
  decodeRow_of_rowAt (emit_rowAt h hst)

theorem emit_rowPairs {F : DFA} {acts : Nat → List Pair} {tbl : Mode}
    (h : emitMode F acts = some tbl) {s : Nat} (hs : s < F.states.length) :
    rowPairs tbl s = acts s :=
  rowPairs_eq (emit_rowAt h (List.getElem?_eq_getElem hs))

theorem emit_wfTable {F : DFA} {acts : Nat → List Pair} {tbl : Mode}
    (h : emitMode F acts = some tbl) (hn : 0 < F.states.length) (hwf : F.WF) (hr : F.Runes) :
    wfTable tbl = true := by
  obtain ⟨h1, h2⟩ := emit_nStates h hn
  simp only [wfTable, Bool.and_eq_true, decide_eq_true_eq, List.all_eq_true, List.mem_range]
  rw [h1]
  refine ⟨⟨hn, h2⟩, ?_⟩
  intro q hq
  have hst : F.states[q]? = some F.states[q] := List.getElem?_eq_getElem hq
  rw [emit_rowAt h hst]
  exact rowOK_state (transOK_of_wf hwf hr hst) _

/-- One step of the decoded table is one step of the DFA (unless the state carries the
non-greedy-accepting flag, which switches its transitions off). -/
theorem emit_tableStep {F : DFA} {acts : Nat → List Pair} {tbl : Mode}
    (h : emitMode F acts = some tbl) (hwf : F.WF) (hr : F.Runes)
    {s : Nat} {st : DState} (hst : F.states[s]? = some st) (c : Int) :
    tableStep tbl s c = if stateFlags st % 2 = 0 then F.step s c else none := by
  simp only [tableStep, emit_rowAt h hst]
  split
  · rw [stateTriples_eq, (transOK_of_wf hwf hr hst).lookup_eq c]
    simp only [DFA.step, hst, DState.next, Option.map_map]
    show _ = (List.find? _ st.trans).map _
    cases List.find? (fun t => decide (t.1.b ≤ c ∧ c ≤ t.1.e)) st.trans <;> simp
  · rfl

theorem stateFlags_greedy {F : DFA} (hg : F.Greedy) {s : Nat} {st : DState}
    (hst : F.states[s]? = some st) : stateFlags st = 0 := by
  unfold stateFlags
  rw [hg st (List.mem_of_getElem? hst)]
  rfl

theorem emit_run {F : DFA} {acts : Nat → List Pair} {tbl : Mode}
    (h : emitMode F acts = some tbl) (hwf : F.WF) (hr : F.Runes)
    (hg : F.Greedy) : ∀ (w : List Int) (s : Nat), s < F.states.length →
      tableRunFrom tbl s w = F.run s w := by
  intro w
  induction w with
  | nil => intro s _; rfl
  | cons c w ih =>
    intro s hs
    have hst : F.states[s]? = some F.states[s] := List.getElem?_eq_getElem hs
    simp only [tableRunFrom, DFA.run]
    rw [emit_tableStep h hwf hr hst c, stateFlags_greedy hg hst]
    simp only [Int.zero_emod, ↓reduceIte]
    cases hstep : F.step s c with
    | none => rfl
    | some t =>
      obtain ⟨a, ha, _⟩ := (DFA.step_some_iff hwf s c t).1 hstep
      exact ih t (hwf.tgt s _ ha)

/-- State 0 of the emitted table means "nothing consumed since the last token" when no transition
of the automaton leads into state 0 and state 0 is given no pairs. -/
theorem emit_startClean {F : DFA} {acts : Nat → List Pair} {tbl : Mode}
    (h : emitMode F acts = some tbl) (hn : 0 < F.states.length) (hwf : F.WF) (hr : F.Runes)
    (hno : NoEdgeIntoStart F) (h0 : acts 0 = []) : startClean tbl = true := by
  simp only [startClean, Bool.and_eq_true, List.isEmpty_iff, List.all_eq_true, List.mem_range]
  refine ⟨(emit_rowPairs h hn).trans h0, fun q hq => ?_⟩
  rw [(emit_nStates h hn).1] at hq
  have hst : F.states[q]? = some F.states[q] := List.getElem?_eq_getElem hq
  rw [emit_rowAt h hst]
  simp only [List.all_eq_true, decide_eq_true_eq]
  intro x hx
  obtain ⟨t, htm, rfl⟩ := (transOK_of_wf hwf hr hst).mem_triples.1 hx
  have := hno q t (by rw [DFA.trans_of_get hst]; exact htm)
  simp only
  omega

/-- The emitted array is a well-formed mode (`Rt.wfMode`, the premise of the runtime theorems
of C11 / C07) when the DFA is well formed over code points, has no transition into state 0, the
pairs of every state have the shape `mode actions…, one terminal action` and state 0 has none. -/
theorem emit_wfMode {F : DFA} {acts : Nat → List Pair} {tbl : Mode} (nModes : Nat)
    (h : emitMode F acts = some tbl) (hn : 0 < F.states.length) (hwf : F.WF) (hr : F.Runes)
    (hno : NoEdgeIntoStart F) (hacts : ∀ s, s < F.states.length → Rt.wfPairs nModes (acts s) = true)
    (h0 : acts 0 = []) : Rt.wfMode nModes tbl = true := by
  refine Lox.Lex.wfMode_of_wfTable (emit_wfTable h hn hwf hr) (emit_startClean h hn hwf hr hno h0)
    fun q hq => ?_
  rw [(emit_nStates h hn).1] at hq
  rw [emit_rowPairs h hq]
  exact hacts q hq

end Lox.Lex.Gen
