import Lox.Lex.EmitRowProofs
import Lox.Lex.GenBuildProofs
import Lox.Lex.GenRangesProofs
/-! The automaton `ModeBuilder.Build` returns for rules over code points (`Rx.runesOK`) has only
code-point labels (`DFA.Runes`), and for rules without non-greedy operators (`Rx.greedy`) no state
is marked `NonGreedy` (`DFA.Greedy`): both facts travel through `normalizeInputs`, the subset
construction, `optimize`, `splitStartState` and `mergeTransitions`, stage by stage; `buildDFA_built`
(`GenModeProofs`) puts the stages together. -/
namespace Lox.Lex.Gen
open Lox.Rang3 (Range Den Valid)

def RuneRange (r : Range) : Prop := 0 ≤ r.b ∧ r.e ≤ Lox.Lex.maxRune

mutual
/-- Every literal code point and every class bound is a code point `0..0x10FFFF` (what the lox
front end produces: `unescape` / `hexToRune` reject anything else). -/
def Rx.runesOK : Rx → Bool
  | .lit cps => cps.all fun c => decide (0 ≤ c) && decide (c ≤ Lox.Lex.maxRune)
  | .cls cs => cs.all fun r => decide (0 ≤ r.1) && decide (r.2 ≤ Lox.Lex.maxRune)
  | .seq r s => r.runesOK && s.runesOK
  | .alt r rest => r.runesOK && rest.runesOK
  | .opt r => r.runesOK
  | .star _ r => r.runesOK
  | .plus _ r => r.runesOK
def Alts.runesOK : Alts → Bool
  | .last r => r.runesOK
  | .more r rest => r.runesOK && rest.runesOK
end

mutual
/-- The expression uses no `*?` / `+?`. -/
def Rx.greedy : Rx → Bool
  | .lit _ => true
  | .cls _ => true
  | .seq r s => r.greedy && s.greedy
  | .alt r rest => r.greedy && rest.greedy
  | .opt r => r.greedy
  | .star ng r => !ng && r.greedy
  | .plus ng r => !ng && r.greedy
def Alts.greedy : Alts → Bool
  | .last r => r.greedy
  | .more r rest => r.greedy && rest.greedy
end

mutual
theorem Rx.ranges_runes : ∀ r : Rx, r.runesOK = true → ∀ x ∈ r.ranges, RuneRange x
  | .lit cps, h => by
    simp only [Rx.runesOK, List.all_eq_true, Bool.and_eq_true, decide_eq_true_eq] at h
    simp only [Rx.ranges, List.forall_mem_map]; exact h
  | .cls cs, h => by
    simp only [Rx.runesOK, List.all_eq_true, Bool.and_eq_true, decide_eq_true_eq] at h
    simp only [Rx.ranges, List.forall_mem_map]; exact h
  | .seq r s, h => by
    simp only [Rx.runesOK, Bool.and_eq_true] at h
    simp only [Rx.ranges, List.forall_mem_append]; exact ⟨r.ranges_runes h.1, s.ranges_runes h.2⟩
  | .alt r rest, h => by
    simp only [Rx.runesOK, Bool.and_eq_true] at h
    simp only [Rx.ranges, List.forall_mem_append]; exact ⟨r.ranges_runes h.1, rest.ranges_runes h.2⟩
  | .opt r, h => r.ranges_runes h
  | .star _ r, h => r.ranges_runes h
  | .plus _ r, h => r.ranges_runes h
theorem Alts.ranges_runes : ∀ a : Alts, a.runesOK = true → ∀ x ∈ a.ranges, RuneRange x
  | .last r, h => r.ranges_runes h
  | .more r rest, h => by
    simp only [Alts.runesOK, Bool.and_eq_true] at h
    simp only [Alts.ranges, List.forall_mem_append]; exact ⟨r.ranges_runes h.1, rest.ranges_runes h.2⟩
end

theorem thAlts_labels_runes : ∀ (a : Alts) (b e n : Nat), a.runesOK = true →
    ∀ ed ∈ (thAlts a b e n).edges, ∀ x, ed.lbl = some x → RuneRange x :=
  fun a b e n hok ed h x hx =>
    a.ranges_runes hok x (thAlts_labels a b e n ▸ (mem_labels _ x).2 ⟨ed, h, hx⟩)

mutual
theorem th_ng_nil : ∀ (r : Rx) (n : Nat), r.greedy = true → (th r n).ng = []
  | .lit _, _, _ => rfl
  | .cls _, _, _ => rfl
  | .seq r s, n, h => by
    simp only [Rx.greedy, Bool.and_eq_true] at h
    simp only [th, th_ng_nil r n h.1, th_ng_nil s _ h.2, List.append_nil]
  | .alt r rest, n, h => by
    simp only [Rx.greedy, Bool.and_eq_true] at h
    simp only [th, th_ng_nil r _ h.1, thAlts_ng_nil rest _ _ _ h.2, List.append_nil]
  | .opt r, n, h => by
    simp only [Rx.greedy] at h
    simp only [th, th_ng_nil r n h]
  | .star ng r, n, h => by
    simp only [Rx.greedy, Bool.and_eq_true, Bool.not_eq_true'] at h
    simp only [th, th_ng_nil r n h.2, h.1, List.nil_append, Bool.false_eq_true, ↓reduceIte]
  | .plus ng r, n, h => by
    simp only [Rx.greedy, Bool.and_eq_true, Bool.not_eq_true'] at h
    simp only [th, th_ng_nil r n h.2, h.1, List.nil_append, Bool.false_eq_true, ↓reduceIte]
theorem thAlts_ng_nil : ∀ (a : Alts) (b e n : Nat), a.greedy = true → (thAlts a b e n).ng = []
  | .last r, b, e, n, h => by
    simp only [Alts.greedy] at h
    simp only [thAlts, th_ng_nil r n h]
  | .more r rest, b, e, n, h => by
    simp only [Alts.greedy, Bool.and_eq_true] at h
    simp only [thAlts, th_ng_nil r n h.1, thAlts_ng_nil rest _ _ _ h.2, List.append_nil]
end

theorem modeNFA_runes (rules : List Rx) (hok : ∀ r ∈ rules, r.runesOK = true) :
    ∀ ed ∈ (modeNFA rules).edges, ∀ x, ed.lbl = some x → RuneRange x := by
  intro ed hed x hl
  obtain ⟨j, r, m, a, h | rfl⟩ := mem_modeNFA_edges.1 hed
  · exact r.ranges_runes (hok r (List.mem_of_getElem? a.rule)) x
      (th_labels r m ▸ (mem_labels _ x).2 ⟨ed, h, hl⟩)
  · cases hl

theorem modeNFA_ng_nil (rules : List Rx) (hg : ∀ r ∈ rules, r.greedy = true) :
    (modeNFA rules).ng = [] := by
  simp only [modeNFA, List.flatMap_eq_nil_iff]
  intro g hgm
  obtain ⟨j, hj⟩ := List.mem_iff_getElem?.1 hgm
  obtain ⟨r, m, rfl, a⟩ := ruleAt_of_frag hj
  exact th_ng_nil r m (hg r (List.mem_of_getElem? a.rule))

/-! `normalizeInputs` keeps every label inside the old labels, because it preserves the single
steps. -/

theorem runeRange_of_covered {x : Range} (hv : x.b ≤ x.e)
    (h : ∀ c, x.b ≤ c → c ≤ x.e → ∃ a, RuneRange a ∧ a.b ≤ c ∧ c ≤ a.e) : RuneRange x := by
  obtain ⟨_, ⟨h1, _⟩, h2, _⟩ := h x.b (Int.le_refl _) hv
  obtain ⟨_, ⟨_, h3⟩, _, h4⟩ := h x.e hv (Int.le_refl _)
  exact ⟨Int.le_trans h1 h2, Int.le_trans h4 h3⟩

theorem normalized_runes {E E' : List Edge} (hstep : StepEq E E') (hval : ValidLabels E')
    (hr : ∀ ed ∈ E, ∀ x, ed.lbl = some x → RuneRange x) :
    ∀ ed ∈ E', ∀ x, ed.lbl = some x → RuneRange x := by
  rintro ⟨src, _, dst⟩ hed x rfl
  refine runeRange_of_covered (hval x ((mem_labels _ x).2 ⟨_, hed, rfl⟩)) fun c h1 h2 => ?_
  obtain ⟨rg, hrg, hc⟩ := (hstep.chr src dst c).1 ⟨x, hed, h1, h2⟩
  exact ⟨rg, hr _ hrg rg rfl, hc⟩

/-- `DFA.Runes`, which the emitter's theorems ask for, is `LabelsP RuneRange` by definition. -/
def DFA.LabelsP (P : Range → Prop) (d : DFA) : Prop := ∀ s t, t ∈ d.trans s → P t.1

def DFA.NoNG (d : DFA) : Prop := ∀ st ∈ d.states, st.ng = false

theorem subset_labelsP {P : Range → Prop} (m : NFA) (fuel : Nat) (d : DFA)
    (h : subset m fuel = some d) (hP : ∀ ed ∈ m.edges, ∀ x, ed.lbl = some x → P x) :
    d.LabelsP P := by
  obtain ⟨seen, rfl, _⟩ := subset_eq h
  intro s t ht
  obtain ⟨S, _, a, ha, rfl⟩ := mem_trans_mkDState.1 ht
  obtain ⟨ed, hed, _, hl⟩ := (mem_inputs _ _ _).1 ha
  exact hP ed hed a hl

theorem subset_noNG (m : NFA) (fuel : Nat) (d : DFA) (h : subset m fuel = some d)
    (hng : m.ng = []) : d.NoNG := by
  obtain ⟨seen, rfl, _⟩ := subset_eq h
  intro st hst
  obtain ⟨S, _, rfl⟩ := List.mem_map.1 hst
  simp [mkDState, hng]

theorem DFA.Copies.labelsP {Q : Range → Prop} {A B : DFA} {h : Nat → Nat} {P : Nat → Nat → Prop}
    (C : A.Copies B h P) (hB : B.LabelsP Q) : A.LabelsP Q := fun j x hx =>
  let ⟨s, hs⟩ := C.src j x hx
  let ⟨y, hy, e⟩ := (C.trans j s hs x).1 hx
  e ▸ hB s y hy

/-- `splitStartState` and `mergeTransitions` leave the `NonGreedy` marks as they are. -/
theorem DFA.NoNG.of_view {A B : DFA} {g : Nat → Nat}
    (hv : ∀ j, A.view j = B.view (g j)) (hB : B.NoNG) : A.NoNG := by
  intro st hst
  obtain ⟨j, hj⟩ := List.mem_iff_getElem?.1 hst
  have hvj := hv j
  simp only [DFA.view, hj, Option.map_some] at hvj
  obtain ⟨st', hst', e⟩ := Option.map_eq_some_iff.1 hvj.symm
  rw [← (Prod.mk.inj (Prod.mk.inj e).2).2]
  exact hB st' (List.mem_of_getElem? hst')

theorem quotient_noNG (d : DFA) (gs : Groups) (h : d.NoNG) : (quotient d gs).NoNG := by
  intro st hst
  obtain ⟨i, hi⟩ := List.mem_iff_getElem?.1 hst
  have hlt : i < gs.length := quotient_length d gs ▸ (List.getElem?_eq_some_iff.1 hi).1
  rw [quotient_get d gs i hlt] at hi
  cases hi
  refine List.any_eq_false.2 fun s _ => ?_
  cases hs : d.states[s]? with
  | none => simp
  | some st => simp [h st (List.mem_of_getElem? hs)]

theorem optimize_shape (m : NFA) (d d' : DFA) (hwf : d.WF) (h : optimize m d = .ok d') :
    (∀ Q, d.LabelsP Q → d'.LabelsP Q) ∧ (d.NoNG → d'.NoNG) := by
  rcases optimize_spec m d hwf with hd | ⟨gs, href, _, hd⟩
  · cases hd.symm.trans h
    exact ⟨fun _ => id, id⟩
  · cases hd.symm.trans h
    exact ⟨fun _ => href.copies.labelsP, quotient_noNG d gs⟩

theorem splitStart_labelsP {Q : Range → Prop} {d : DFA} (hwf : d.WF) (h : d.LabelsP Q) :
    (splitStart d).LabelsP Q :=
  let ⟨_, _, C, _⟩ := splitStart_spec d hwf
  C.labelsP h

/-- `mergeTransitions` replaces the labels leading to one target by their `rang3.Flatten`: every
new label is non-empty (`WF` of the result) and covered by old labels, so its ends are code
points. -/
theorem mergeTransitions_runes (d : DFA) (hwf : d.WF) (h : d.LabelsP RuneRange) :
    (mergeTransitions d).Runes := by
  intro s ⟨r, q⟩ hx
  refine runeRange_of_covered ((mergeTransitions_correct d hwf).1.valid s _ hx) fun c h1 h2 => ?_
  obtain ⟨a, ha, hc⟩ := (mergeTransitions_entry hwf s q c).1 ⟨r, hx, h1, h2⟩
  exact ⟨a, h s (a, q) ha, hc⟩

theorem greedy_of_noNG (d : DFA) (h : d.NoNG) : d.Greedy := by
  intro st hst
  rw [h st hst]
  simp

end Lox.Lex.Gen
