import Lox.Lex.Model
/-! The binary search of the generated `PushRune` (`bsearch` in `Model.lean`), independently of how
the row it searches was decoded: over any list of triples that the array holds from `base` on. -/
namespace Lox.Lex

abbrev inTriple (r : Int) (t : Int × Int × Int) : Bool := decide (t.1 ≤ r ∧ r ≤ t.2.1)

theorem find?_inTriple_of_sorted {ts : List (Int × Int × Int)}
    (hs : ts.Pairwise fun a b => a.2.1 < b.1) {r : Int} {t : Int × Int × Int} (ht : t ∈ ts)
    (hr : t.1 ≤ r ∧ r ≤ t.2.1) : ts.find? (inTriple r) = some t := by
  induction ts with
  | nil => cases ht
  | cons a rest ih =>
    rw [List.pairwise_cons] at hs
    rcases List.mem_cons.1 ht with rfl | ht'
    · exact List.find?_cons_of_pos (decide_eq_true hr)
    · have := hs.1 t ht'
      rw [List.find?_cons_of_neg (by simp only [inTriple, decide_eq_true_eq]; omega)]
      exact ih hs.2 ht'

private theorem sorted_mono {ts : List (Int × Int × Int)} (hs : ts.Pairwise fun a b => a.2.1 < b.1)
    (hle : ∀ t ∈ ts, t.1 ≤ t.2.1) {i j : Nat} (hij : i ≤ j) (hj : j < ts.length) :
    (ts[i]'(Nat.lt_of_le_of_lt hij hj)).1 ≤ (ts[j]'hj).1 ∧
    (ts[i]'(Nat.lt_of_le_of_lt hij hj)).2.1 ≤ (ts[j]'hj).2.1 := by
  have hi := Nat.lt_of_le_of_lt hij hj
  rcases Nat.eq_or_lt_of_le hij with rfl | hlt
  · exact ⟨Int.le_refl _, Int.le_refl _⟩
  · have h1 := List.pairwise_iff_getElem.mp hs i j hi hj hlt
    exact ⟨Int.le_trans (hle _ (List.getElem_mem hi)) (Int.le_of_lt h1),
      Int.le_trans (Int.le_of_lt h1) (hle _ (List.getElem_mem hj))⟩

theorem bsearch_mid {b e : Nat} (h : b < e) :
    (b : Int) + ((e : Int) - b) / 2 = ((b + (e - b) / 2 : Nat) : Int) ∧
    b ≤ b + (e - b) / 2 ∧ b + (e - b) / 2 < e := by
  refine ⟨?_, Nat.le_add_right _ _, Nat.add_lt_of_lt_sub' ?_⟩
  · rw [Int.natCast_add, Int.natCast_ediv, Int.natCast_sub (Nat.le_of_lt h)]; rfl
  · exact Nat.div_lt_self (Nat.sub_pos_of_lt h) (Nat.lt_succ_self 1)

/-- Loop invariant `hout`: no triple outside `[b, e)` contains `r`. The three reads of an iteration
stay inside the array because the array holds `ts` from `base` on (`hg`). -/
theorem bsearch_eq_find (m : Mode) (r base : Int) (ts : List (Int × Int × Int))
    (hg : ∀ (j : Nat) (t : Int × Int × Int), ts[j]? = some t →
      geti m (base + j * 3) = some t.1 ∧ geti m (base + j * 3 + 1) = some t.2.1 ∧
      geti m (base + j * 3 + 2) = some t.2.2)
    (hs : ts.Pairwise fun a b => a.2.1 < b.1) (hle : ∀ t ∈ ts, t.1 ≤ t.2.1)
    (fuel b e : Nat) (he : e ≤ ts.length) (hfuel : e - b < fuel)
    (hout : ∀ (j : Nat) (t : Int × Int × Int), ts[j]? = some t → j < b ∨ e ≤ j →
      ¬ (t.1 ≤ r ∧ r ≤ t.2.1)) :
    bsearch m r base fuel b e = some ((ts.find? (inTriple r)).map (·.2.2)) := by
  induction fuel generalizing b e with
  | zero => exact absurd hfuel (Nat.not_lt_zero _)
  | succ f ih =>
    unfold bsearch
    by_cases hlt : b < e
    · obtain ⟨hcast, hbj, hje⟩ := bsearch_mid hlt
      rw [if_pos (Int.ofNat_lt.mpr hlt), hcast]
      generalize b + (e - b) / 2 = j at hbj hje
      have hjn : j < ts.length := Nat.lt_of_lt_of_le hje he
      have hf : j - b < f ∧ e - (j + 1) < f := by omega
      obtain ⟨g1, g2, g3⟩ := hg j _ (List.getElem?_eq_getElem hjn)
      simp only [g1, g2, g3]
      by_cases hin : r ≥ (ts[j]'hjn).1 ∧ r ≤ (ts[j]'hjn).2.1
      · rw [if_pos hin, find?_inTriple_of_sorted hs (List.getElem_mem hjn) hin]
        rfl
      · rw [if_neg hin]
        by_cases hlo : r < (ts[j]'hjn).1
        · -- everything from `j` on lies above `r`
          rw [if_pos hlo]
          refine ih b j (Nat.le_of_lt hjn) hf.1 fun j' t' hj' hor => hor.elim
            (fun h => hout j' t' hj' (.inl h)) fun h hc => ?_
          obtain ⟨hj'n, rfl⟩ := List.getElem?_eq_some_iff.1 hj'
          exact Int.lt_irrefl _ (Int.lt_of_lt_of_le
            (Int.lt_of_lt_of_le hlo (sorted_mono hs hle h hj'n).1) hc.1)
        · -- everything up to `j` lies below `r`
          rw [if_neg hlo]
          have hhi : (ts[j]'hjn).2.1 < r :=
            Int.not_le.mp fun h => hin ⟨Int.not_lt.mp hlo, h⟩
          refine ih (j + 1) e he hf.2 fun j' t' hj' hor => hor.elim
            (fun h hc => ?_) fun h => hout j' t' hj' (.inr h)
          obtain ⟨_, rfl⟩ := List.getElem?_eq_some_iff.1 hj'
          exact Int.lt_irrefl _ (Int.lt_of_lt_of_le
            (Int.lt_of_le_of_lt (sorted_mono hs hle (Nat.le_of_lt_succ h) hjn).2 hhi) hc.2)
    · rw [if_neg (mt Int.ofNat_lt.mp hlt), List.find?_eq_none.2]
      · rfl
      · intro t ht
        obtain ⟨j, hj⟩ := List.mem_iff_getElem?.1 ht
        simpa only [inTriple, decide_eq_true_eq] using hout j t hj
          ((Nat.lt_or_ge j b).imp_right (Nat.le_trans (Nat.not_lt.mp hlt)))

end Lox.Lex
