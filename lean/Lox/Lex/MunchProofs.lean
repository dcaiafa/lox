import Lox.Lex.BisimProofs
import Lox.Lex.TableProofs
import Lox.Lex.CursorProofs
/-! Maximal munch: the table consumes exactly the longest viable prefix; the driver loop
(`readToken` of `Model.lean`) does the same and then executes the action pairs of the earliest rule
matching that prefix. Stated for any table that computes a specification `(V, L)` (`TableSpec`, in
`TableSpecProofs`). -/
namespace Lox.Lex

theorem scanLen_le (tbl : Mode) : ∀ (s : List Int) (q : Nat), scanLen tbl q s ≤ s.length := by
  intro s
  induction s with
  | nil => intro q; simp [scanLen]
  | cons c s ih =>
    intro q
    simp only [scanLen]
    cases tableStep tbl q c with
    | none => simp
    | some q' => have := ih q'; simp only [List.length_cons]; omega

theorem scanLen_cons_none {tbl : Mode} {q : Nat} {c : Int} (s : List Int)
    (h : tableStep tbl q c = none) : scanLen tbl q (c :: s) = 0 := by
  simp [scanLen, h]

theorem scanLen_cons_some {tbl : Mode} {q q' : Nat} {c : Int} (s : List Int)
    (h : tableStep tbl q c = some q') : scanLen tbl q (c :: s) = scanLen tbl q' s + 1 := by
  simp [scanLen, h]

theorem scan_spec (tbl : Mode) : ∀ (s : List Int) (q : Nat),
    ∃ q', tableRunFrom tbl q (s.take (scanLen tbl q s)) = some q' ∧
      ∀ c, s[scanLen tbl q s]? = some c → tableStep tbl q' c = none := by
  intro s
  induction s with
  | nil => intro q; exact ⟨q, rfl, fun c h => by simp at h⟩
  | cons c s ih =>
    intro q
    cases hstep : tableStep tbl q c with
    | none =>
      rw [scanLen_cons_none s hstep]
      refine ⟨q, rfl, ?_⟩
      intro c' hc'
      simp only [List.getElem?_cons_zero, Option.some.injEq] at hc'
      subst hc'; exact hstep
    | some q1 =>
      rw [scanLen_cons_some s hstep]
      obtain ⟨q', h1, h2⟩ := ih q1
      refine ⟨q', ?_, ?_⟩
      · simp only [List.take_succ_cons, tableRunFrom, hstep]
        exact h1
      · intro c' hc'
        simp only [List.getElem?_cons_succ] at hc'
        exact h2 c' hc'

namespace TableSpec

/-- Maximal munch at table level: for a table that computes the specification `(V, L)`, the
number of runes the table consumes from state 0 on `s` is the length of the LONGEST viable prefix
of `s`, and the state reached carries the label of that prefix. -/
theorem munch_table {tbl : Mode} {V : List Int → Prop} {L : List Int → List Pair}
    (hS : TableSpec tbl V L) (s : List Int) :
    V (s.take (scanLen tbl 0 s)) ∧
    (∀ j, scanLen tbl 0 s < j → j ≤ s.length → ¬ V (s.take j)) ∧
    ∃ q', tableRunFrom tbl 0 (s.take (scanLen tbl 0 s)) = some q' ∧
      rowPairs tbl q' = L (s.take (scanLen tbl 0 s)) := by
  obtain ⟨q', hrun, hstop⟩ := scan_spec tbl s 0
  obtain ⟨hv, hlab, hlong⟩ := hS.run_stop hrun
  refine ⟨hv, fun j hj hjl => ?_, q', hrun, hlab⟩
  have hlt : scanLen tbl 0 s < s.length := by omega
  obtain ⟨v, hv⟩ := List.take_prefix_take_left (l := s) (Nat.succ_le_of_lt hj)
  rw [← hv, List.take_succ_eq_append_getElem hlt, List.append_assoc]
  exact hlong _ (hstop _ (List.getElem?_eq_getElem hlt)) v

end TableSpec

theorem munch_table {rules : List Rule} {tbl : Mode} (hC : ∃ R, Closed rules tbl R)
    (s : List Int) :
    viable rules (s.take (scanLen tbl 0 s)) ∧
    (∀ j, scanLen tbl 0 s < j → j ≤ s.length → ¬ viable rules (s.take j)) ∧
    ∃ q', tableRunFrom tbl 0 (s.take (scanLen tbl 0 s)) = some q' ∧
      rowPairs tbl q' = label rules (s.take (scanLen tbl 0 s)) := by
  obtain ⟨R, hC⟩ := hC
  exact (tableSpec_of_closed hC).munch_table s

theorem readToken_eq_tokBody (modes : Array Mode) (inp : Input) (n : Nat) (start : Option Nat)
    (l : Lx) :
    readToken modes inp (n + 1) start l =
      tokBody modes inp n (start.getD l.offset) l (pushRune modes l.sm (l.char inp)) := by
  simp only [readToken, tokBody]
  cases pushRune modes l.sm (l.char inp) with
  | mk res sm => cases res <;> rfl

theorem rest_nil {inp : Input} {l : Lx} (h : l.rest inp = []) : l.char inp = -1 := by
  simp only [Lx.rest, List.map_eq_nil_iff, List.drop_eq_nil_iff, Array.length_toList] at h
  exact Rt.char_eq_neg_one_of_ge h

theorem rest_cons {inp : Input} {l : Lx} {c : Int} {s : List Int} (h : l.rest inp = c :: s) :
    l.char inp = c ∧ (l.consume inp).rest inp = s := by
  have hlt : l.idx < inp.size := Nat.lt_of_not_le fun hge => by
    rw [Lx.rest, List.drop_of_length_le (by simpa using hge)] at h
    cases h
  rw [Lx.rest, List.drop_eq_getElem_cons (by simpa using hlt), List.map_cons,
    Array.getElem_toList] at h
  rw [Rt.char_of_lt hlt, Lx.rest, (Rt.consume_lt hlt).1]
  exact List.cons.inj h

theorem advance_sm (inp : Input) : ∀ (k : Nat) (l : Lx), (l.advance inp k).sm = l.sm := by
  intro k
  induction k with
  | zero => intro l; rfl
  | succ k ih => intro l; simp only [Lx.advance, ih, Rt.consume_sm]

theorem readToken_stop (modes : Array Mode) (inp : Input) {m : Mode} (hwf : wfTable m = true)
    {q : Nat} {l : Lx} (start : Option Nat) (n : Nat) (hmode : modes[l.sm.mode.getD 0]? = some m)
    (hstate : l.sm.state = (q : Int)) (hq : q < nStates m)
    (hstep : tableStep m q (l.char inp) = none) :
    readToken modes inp (n + 1) start l =
      tokBody modes inp n (start.getD l.offset) l (runPairs modes (l.char inp) (rowPairs m q)
        { l.sm with mode := some (l.sm.mode.getD 0), state := (q : Int) }) := by
  rw [readToken_eq_tokBody, pushRune_step modes l.sm m q _ hwf hmode hstate hq, hstep]
  simp only [hstate]

/-- The scan loop of `ReadToken`: from state `q` of mode `m` the driver consumes
`scanLen m q (rest)` runes, walking the table, and then hands the result of the next `PushRune`
(the action pairs of the state reached, `pushRune_step`) to `tokBody`. The position `l` and the
state machine `sm` vary separately: `consume` moves only the former, `PushRune` only the latter. -/
theorem readToken_scan (modes : Array Mode) (inp : Input) (m : Mode) (hwf : wfTable m = true) :
    ∀ (s : List Int) (q : Nat) (l : Lx) (sm : SM) (start : Option Nat) (n : Nat),
      l.rest inp = s → modes[sm.mode.getD 0]? = some m → sm.state = (q : Int) → q < nStates m →
      ∃ q', tableRunFrom m q (s.take (scanLen m q s)) = some q' ∧ q' < nStates m ∧
        readToken modes inp (scanLen m q s + (n + 1)) start { l with sm := sm } =
          tokBody modes inp n (start.getD l.offset) (l.advance inp (scanLen m q s))
            (runPairs modes ((l.advance inp (scanLen m q s)).char inp) (rowPairs m q')
              { sm with mode := some (sm.mode.getD 0), state := (q' : Int) }) := by
  intro s
  induction s with
  | nil =>
    intro q l sm start n hrest hmode hstate hq
    refine ⟨q, rfl, hq, ?_⟩
    rw [scanLen, Nat.zero_add]
    refine readToken_stop modes inp hwf (l := { l with sm := sm }) start n hmode hstate hq ?_
    rw [show ({ l with sm := sm } : Lx).char inp = l.char inp from rfl, rest_nil hrest]
    exact tableStep_outside hwf hq (.inl (by decide))
  | cons c s ih =>
    intro q l sm start n hrest hmode hstate hq
    obtain ⟨hchar, hrest'⟩ := rest_cons hrest
    cases hstep : tableStep m q c with
    | none =>
      rw [scanLen_cons_none s hstep, Nat.zero_add]
      exact ⟨q, rfl, hq, readToken_stop modes inp hwf (l := { l with sm := sm }) start n hmode
        hstate hq (hchar ▸ hstep)⟩
    | some q1 =>
      rw [scanLen_cons_some s hstep]
      obtain ⟨q', hrun, hq', hread⟩ := ih q1 (l.consume inp)
        { sm with mode := some (sm.mode.getD 0), state := (q1 : Int) } (some (start.getD l.offset))
        n hrest' hmode rfl (tableStep_spec hwf hq hstep).1
      refine ⟨q', ?_, hq', ?_⟩
      · simp only [List.take_succ_cons, tableRunFrom, hstep]; exact hrun
      · have hpr := pushRune_step modes sm m q c hwf hmode hstate hq
        rw [hstep] at hpr
        rw [Nat.add_right_comm, readToken_eq_tokBody]
        show tokBody modes inp _ _ _ (pushRune modes sm (l.char inp)) = _
        rw [hchar, hpr]
        show readToken modes inp _ (some (start.getD l.offset))
          (({ l with sm := _ } : Lx).consume inp) = _
        rw [Rt.consume_with_sm]
        exact hread

theorem startClean_spec {tbl : Mode} (hwf : wfTable tbl = true) (h : startClean tbl = true) :
    rowPairs tbl 0 = [] ∧ ∀ q c q', q < nStates tbl → tableStep tbl q c = some q' → q' ≠ 0 := by
  obtain ⟨h0, hne⟩ := startClean_iff.1 h
  refine ⟨h0, fun q c q' hq hstep e => ?_⟩
  obtain ⟨_, _, _, row, hrow, _, hl⟩ := tableStep_spec hwf hq hstep
  obtain ⟨t, ht, _, hst⟩ := lookup_some_mem hl
  exact hne q hq row hrow t ht (by rw [hst, e]; rfl)

theorem tableRunFrom_ne_zero {tbl : Mode} (hwf : wfTable tbl = true) (hsc : startClean tbl = true)
    (u : List Int) (q q' : Nat) (hu : u ≠ []) (hq : q < nStates tbl)
    (h : tableRunFrom tbl q u = some q') : q' ≠ 0 :=
  -- no step ends in state 0, and at the end at least one step has been made
  (Util.foldlM_inv (tableStep tbl) (fun rem q => q < nStates tbl ∧ (rem.length < u.length → q ≠ 0))
    (fun _ _ q _ hQ hs =>
      ⟨(tableStep_spec hwf hQ.1 hs).1, fun _ => (startClean_spec hwf hsc).2 q _ _ hQ.1 hs⟩)
    u q q' ⟨hq, fun hlt => absurd hlt (Nat.lt_irrefl _)⟩ (tableRunFrom_eq_foldlM tbl u q ▸ h)).2
    (List.length_pos_iff.2 hu)

namespace TableSpec

/-- Maximal munch at driver level. `m` is the current mode, computing the specification
`(V, L)` (`TableSpec`); the state machine is in state 0 (between tokens). Let `s` be the remaining
runes, `k = scanLen m 0 s` and `p = s.take k`. Then `p` is the longest viable prefix of `s`, and
`ReadToken` consumes exactly `p` and then does what `tokBody` does with the result of executing the
action pairs `L p` (those of the earliest rule that matches `p`; `[]` when no rule matches `p`). The
state `q'` reached is `≠ 0` when `p ≠ []` and the table is `startClean`. -/
theorem munch_driver (modes : Array Mode) (inp : Input) (m : Mode) {V : List Int → Prop}
    {L : List Int → List Pair} (l : Lx) (hS : TableSpec m V L)
    (hmode : modes[l.sm.mode.getD 0]? = some m)
    (hstate : l.sm.state = 0) (start : Option Nat) (n : Nat) :
    V ((l.rest inp).take (scanLen m 0 (l.rest inp))) ∧
    (∀ j, scanLen m 0 (l.rest inp) < j → j ≤ (l.rest inp).length →
      ¬ V ((l.rest inp).take j)) ∧
    ∃ q', tableRunFrom m 0 ((l.rest inp).take (scanLen m 0 (l.rest inp))) = some q' ∧
      (startClean m = true → (l.rest inp).take (scanLen m 0 (l.rest inp)) ≠ [] → q' ≠ 0) ∧
      readToken modes inp (scanLen m 0 (l.rest inp) + (n + 1)) start l =
        tokBody modes inp n (start.getD l.offset) (l.advance inp (scanLen m 0 (l.rest inp)))
          (runPairs modes ((l.advance inp (scanLen m 0 (l.rest inp))).char inp)
            (L ((l.rest inp).take (scanLen m 0 (l.rest inp))))
            { l.sm with mode := some (l.sm.mode.getD 0), state := (q' : Int) }) := by
  obtain ⟨hv, hlong, q1, hrun1, hlab⟩ := hS.munch_table (l.rest inp)
  have hwf := hS.wf
  obtain ⟨q', hrun, _, hread⟩ := readToken_scan modes inp m hwf (l.rest inp) 0 l l.sm start n rfl hmode
    (by simpa using hstate) (wfTable_nStates hwf)
  have : q1 = q' := by rw [hrun1] at hrun; exact Option.some.inj hrun
  subst this
  refine ⟨hv, hlong, q1, hrun1, ?_, ?_⟩
  · intro hsc hne
    exact tableRunFrom_ne_zero hwf hsc _ 0 q1 hne (wfTable_nStates hwf) hrun1
  · rw [hread, hlab]

/-- Plain token rule wins (`label = [(3, t)]`, i.e. accept terminal `t`, no mode actions): the call
returns the token `t` whose text is exactly the longest viable prefix. -/
theorem munch_token (modes : Array Mode) (inp : Input) (m : Mode) {V : List Int → Prop}
    {L : List Int → List Pair} (l : Lx) (hS : TableSpec m V L)
    (hmode : modes[l.sm.mode.getD 0]? = some m)
    (hstate : l.sm.state = 0) (start : Option Nat) (n : Nat) (t : Int)
    (hlab : L ((l.rest inp).take (scanLen m 0 (l.rest inp))) = [(3, t)]) :
    readToken modes inp (scanLen m 0 (l.rest inp) + (n + 1)) start l =
      some (some (.tok t (start.getD l.offset) (l.advance inp (scanLen m 0 (l.rest inp))).offset),
        { l.advance inp (scanLen m 0 (l.rest inp)) with
          sm := { l.sm with token := t, mode := some (l.sm.mode.getD 0), state := 0 } }) := by
  obtain ⟨_, _, q', _, _, hread⟩ := hS.munch_driver modes inp m l hmode hstate start n
  rw [hread, hlab]
  simp [runPairs, tokBody]

/-- No rule matches the longest viable prefix `p`: the call returns an ERROR token starting at the
start offset and carrying the first rune that could not be consumed – provided that rune is not
end-of-input, or `p` is non-empty and the table is `startClean` (otherwise `PushRune` reports
`EOF`, see `munch_eof`). -/
theorem munch_error (modes : Array Mode) (inp : Input) (m : Mode) {V : List Int → Prop}
    {L : List Int → List Pair} (l : Lx) (hS : TableSpec m V L)
    (hmode : modes[l.sm.mode.getD 0]? = some m)
    (hstate : l.sm.state = 0) (start : Option Nat) (n : Nat)
    (hlab : L ((l.rest inp).take (scanLen m 0 (l.rest inp))) = [])
    (hne : (l.advance inp (scanLen m 0 (l.rest inp))).char inp ≠ -1 ∨
      (startClean m = true ∧ (l.rest inp).take (scanLen m 0 (l.rest inp)) ≠ [])) :
    ∃ l', readToken modes inp (scanLen m 0 (l.rest inp) + (n + 1)) start l =
      some (some (.err (start.getD l.offset)
        ((l.advance inp (scanLen m 0 (l.rest inp))).char inp)), l') := by
  obtain ⟨_, _, q', _, hq0, hread⟩ := hS.munch_driver modes inp m l hmode hstate start n
  rw [hread, hlab]
  have hcond : ¬ ((q' : Int) = 0 ∧ (l.advance inp (scanLen m 0 (l.rest inp))).char inp = -1) := by
    rintro ⟨h0, hc⟩
    rcases hne with h | ⟨hsc, hp⟩
    · exact h hc
    · exact hq0 hsc hp (by omega)
  simp only [runPairs, hcond, ↓reduceIte, tokBody]
  exact ⟨_, rfl⟩

/-- At end of input, between tokens, with a `startClean` table: EOF. -/
theorem munch_eof (modes : Array Mode) (inp : Input) (m : Mode) {V : List Int → Prop}
    {L : List Int → List Pair} (l : Lx) (hS : TableSpec m V L)
    (hmode : modes[l.sm.mode.getD 0]? = some m)
    (hstate : l.sm.state = 0) (start : Option Nat) (n : Nat) (hend : l.rest inp = [])
    (hsc : startClean m = true) :
    readToken modes inp (n + 1) start l =
      some (some (.eof (start.getD l.offset)),
        { l with sm := { l.sm with mode := some (l.sm.mode.getD 0) } }) := by
  have hwf := hS.wf
  have hq := wfTable_nStates hwf
  rw [readToken_stop modes inp hwf start n hmode hstate hq
    (by rw [rest_nil hend]; exact tableStep_outside hwf hq (.inl (by decide))), rest_nil hend]
  simp only [(startClean_spec hwf hsc).1, runPairs, hstate, tokBody]
  rfl

end TableSpec

end Lox.Lex
