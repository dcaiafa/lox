import Lox.Lex.GenNFA
import Lox.Lex.RegexProofs
/-! The Thompson construction of `Lox/Lex/GenNFA.lean` (`NFACons`): paths in an edge list, the shape of a
fragment (`th_wf`: its states are `[n, next)`, no edge leaves its exit) and completeness (`th_complete`:
every word of the expression leads from the entry to the exit). Soundness is in `GenNFASound`. -/
namespace Lox.Lex.Gen
open Lox.Rang3 (Range)

theorem PathN.mono {E E' : List Edge} (h : ∀ ed ∈ E, ed ∈ E') {k p w q} (hp : PathN E k p w q) :
    PathN E' k p w q := by
  induction hp with
  | nil p => exact .nil p
  | eps he _ ih => exact .eps (h _ he) ih
  | chr he h1 h2 _ ih => exact .chr (h _ he) h1 h2 ih

theorem PathN.trans {E : List Edge} {k1 p u m} (h1 : PathN E k1 p u m) :
    ∀ {k2 v q}, PathN E k2 m v q → PathN E (k1 + k2) p (u ++ v) q := by
  induction h1 with
  | nil p => intro k2 v q h2; simpa using h2
  | @eps k _ _ _ _ he _ ih =>
    intro k2 v q h2
    have := PathN.eps he (ih h2)
    rw [show k + 1 + k2 = k + k2 + 1 by omega]; exact this
  | @chr k _ _ _ _ _ _ he h1 h2' _ ih =>
    intro k2 v q h2
    have := PathN.chr he h1 h2' (ih h2)
    rw [show k + 1 + k2 = k + k2 + 1 by omega]; exact this

theorem Path.refl (E : List Edge) (p : Nat) : Path E p [] p := ⟨0, .nil p⟩

theorem Path.trans {E : List Edge} {p u m v q} (h1 : Path E p u m) (h2 : Path E m v q) :
    Path E p (u ++ v) q :=
  let ⟨_, a⟩ := h1; let ⟨_, b⟩ := h2; ⟨_, a.trans b⟩

theorem Path.eps {E : List Edge} {p q r w} (he : (⟨p, none, q⟩ : Edge) ∈ E) (h : Path E q w r) :
    Path E p w r := let ⟨k, hk⟩ := h; ⟨k + 1, .eps he hk⟩

theorem Path.chr {E : List Edge} {p q r w} {rg : Range} {c : Int}
    (he : (⟨p, some rg, q⟩ : Edge) ∈ E) (h1 : rg.b ≤ c) (h2 : c ≤ rg.e) (h : Path E q w r) :
    Path E p (c :: w) r := let ⟨k, hk⟩ := h; ⟨k + 1, .chr he h1 h2 hk⟩

theorem Path.eps_edge {E : List Edge} {p q} (he : (⟨p, none, q⟩ : Edge) ∈ E) : Path E p [] q :=
  Path.eps he (Path.refl E q)

theorem PathN.split {E : List Edge} {k p w q} (h : PathN E k p w q) :
    ∀ u v, w = u ++ v → ∃ m k1 k2, k1 + k2 = k ∧ PathN E k1 p u m ∧ PathN E k2 m v q := by
  induction h with
  | nil p =>
    intro u v huv
    have : u = [] ∧ v = [] := by simpa using huv.symm
    obtain ⟨rfl, rfl⟩ := this
    exact ⟨p, 0, 0, rfl, .nil p, .nil p⟩
  | @eps k p q r w he hp ih =>
    intro u v huv
    obtain ⟨m, k1, k2, hk, h1, h2⟩ := ih u v huv
    exact ⟨m, k1 + 1, k2, by omega, .eps he h1, h2⟩
  | @chr k p q r rg c w he hb he' hp ih =>
    intro u v huv
    cases u with
    | nil =>
      simp only [List.nil_append] at huv
      exact ⟨p, 0, k + 1, by omega, .nil p, huv ▸ .chr he hb he' hp⟩
    | cons c' u' =>
      simp only [List.cons_append, List.cons.injEq] at huv
      obtain ⟨rfl, huv⟩ := huv
      obtain ⟨m, k1, k2, hk, h1, h2⟩ := ih u' v huv
      exact ⟨m, k1 + 1, k2, by omega, .chr he hb he' h1, h2⟩

theorem Path.split {E : List Edge} {p u v q} (h : Path E p (u ++ v) q) :
    ∃ m, Path E p u m ∧ Path E m v q := by
  obtain ⟨k, hk⟩ := h
  obtain ⟨m, k1, k2, _, h1, h2⟩ := hk.split u v rfl
  exact ⟨m, ⟨k1, h1⟩, ⟨k2, h2⟩⟩

theorem PathN.end_cases {E : List Edge} {k p w q} (h : PathN E k p w q) :
    q = p ∨ ∃ ed ∈ E, ed.dst = q := by
  induction h with
  | nil p => exact Or.inl rfl
  | eps he _ ih => exact .inr (ih.elim (fun h => ⟨_, he, h.symm⟩) id)
  | chr he _ _ _ ih => exact .inr (ih.elim (fun h => ⟨_, he, h.symm⟩) id)

/-- All states of the fragment built at counter `n` lie in `[n, next)`, and no edge of the fragment
leaves its exit state. -/
structure FragWF (f : Frag) (n : Nat) : Prop where
  hb : n ≤ f.b ∧ f.b < f.next
  he : n ≤ f.e ∧ f.e < f.next
  edges : ∀ ed ∈ f.edges, n ≤ ed.src ∧ ed.src < f.next ∧ n ≤ ed.dst ∧ ed.dst < f.next ∧ ed.src ≠ f.e

/-- The edges of the factors of an alternation between `B = b` and `E = e`, the states of the factors
being `[n, N)`: `B -ε->` into that interval, or from inside it to inside it or `-ε-> E`. -/
def AltsShape (G : List Edge) (b e n N : Nat) : Prop :=
  ∀ ed ∈ G, (ed.src = b ∧ ed.lbl = none ∧ n ≤ ed.dst ∧ ed.dst < N) ∨
    (n ≤ ed.src ∧ ed.src < N ∧ ((n ≤ ed.dst ∧ ed.dst < N) ∨ (ed.dst = e ∧ ed.lbl = none)))

/-- What `thAlts a b e n` returns: the factors of an alternation after the first, built at `n`. -/
structure AltsWF (g : Frag) (b e n : Nat) : Prop where
  hn : n < g.next
  edges : AltsShape g.edges b e n g.next

theorem mem_litEdges_iff (cps : List Int) : ∀ (p : Nat) (ed : Edge),
    ed ∈ litEdges cps p ↔ ∃ i c, cps[i]? = some c ∧ ed = ⟨p + i, some ⟨c, c⟩, p + i + 1⟩ := by
  induction cps with
  | nil => intro p ed; simp [litEdges]
  | cons c0 cs ih =>
    intro p ed
    simp only [litEdges, List.mem_cons, ih]
    constructor
    · rintro (h | ⟨i, c, hi, h⟩)
      · exact ⟨0, c0, rfl, h⟩
      · exact ⟨i + 1, c, hi, by rwa [Nat.add_right_comm p 1 i, Nat.add_assoc p i 1] at h⟩
    · rintro ⟨i, c, hi, h⟩
      cases i with
      | zero => cases hi; exact .inl h
      | succ i => exact .inr ⟨i, c, hi, by rwa [Nat.add_right_comm p 1 i, Nat.add_assoc p i 1]⟩

theorem mem_clsEdges_iff (cs : Cls) (b e : Nat) : ∀ (p : Nat) (ed : Edge),
    ed ∈ clsEdges cs b e p ↔ ∃ i r, cs[i]? = some r ∧
      (ed = ⟨p + 2 * i, some ⟨r.1, r.2⟩, p + 2 * i + 1⟩ ∨ ed = ⟨b, none, p + 2 * i⟩ ∨
        ed = ⟨p + 2 * i + 1, none, e⟩) := by
  induction cs with
  | nil => intro p ed; simp [clsEdges]
  | cons r0 cs ih =>
    intro p ed
    simp only [clsEdges, List.mem_cons, ih]
    constructor
    · rintro (h | h | h | ⟨i, r, hi, h⟩)
      · exact ⟨0, r0, rfl, .inl h⟩
      · exact ⟨0, r0, rfl, .inr (.inl h)⟩
      · exact ⟨0, r0, rfl, .inr (.inr h)⟩
      · exact ⟨i + 1, r, hi, by rwa [show p + 2 * (i + 1) = p + 2 + 2 * i by omega]⟩
    · rintro ⟨i, r, hi, h⟩
      cases i with
      | zero => cases hi; exact h.elim .inl fun h => h.elim (.inr ∘ .inl) (.inr ∘ .inr ∘ .inl)
      | succ i =>
        exact .inr (.inr (.inr ⟨i, r, hi, by rwa [show p + 2 * (i + 1) = p + 2 + 2 * i by omega] at h⟩))

theorem clsEdges_get {cs : Cls} {i : Nat} {r : Int × Int} (h : cs[i]? = some r) (b e p : Nat) :
    (⟨p + 2 * i, some ⟨r.1, r.2⟩, p + 2 * i + 1⟩ : Edge) ∈ clsEdges cs b e p ∧
      (⟨b, none, p + 2 * i⟩ : Edge) ∈ clsEdges cs b e p ∧
      (⟨p + 2 * i + 1, none, e⟩ : Edge) ∈ clsEdges cs b e p :=
  ⟨(mem_clsEdges_iff ..).2 ⟨i, r, h, .inl rfl⟩, (mem_clsEdges_iff ..).2 ⟨i, r, h, .inr (.inl rfl)⟩,
    (mem_clsEdges_iff ..).2 ⟨i, r, h, .inr (.inr rfl)⟩⟩

theorem FragWF.le_next {f : Frag} {n : Nat} (wf : FragWF f n) : n ≤ f.next :=
  Nat.le_of_lt (Nat.lt_of_le_of_lt wf.hb.1 wf.hb.2)

theorem FragWF.edges_mono {f : Frag} {m n N x : Nat} (h : FragWF f m) (hlo : n ≤ m)
    (hhi : f.next ≤ N) (hx : x < m ∨ f.next ≤ x ∨ x = f.e) :
    ∀ ed ∈ f.edges, n ≤ ed.src ∧ ed.src < N ∧ n ≤ ed.dst ∧ ed.dst < N ∧ ed.src ≠ x :=
  fun ed hed =>
    let ⟨a, b, c, d, e⟩ := h.edges ed hed
    ⟨Nat.le_trans hlo a, Nat.lt_of_lt_of_le b hhi, Nat.le_trans hlo c, Nat.lt_of_lt_of_le d hhi,
      hx.elim (fun hx => Nat.ne_of_gt (Nat.lt_of_lt_of_le hx a)) fun hx =>
        hx.elim (fun hx => Nat.ne_of_lt (Nat.lt_of_lt_of_le b hx)) fun hx => hx ▸ e⟩

/-- Two fresh states `B = f.next`, `E = f.next + 1` around a fragment, joined to it by ε edges
from `B` or the exit of the body to `E` or the entry of the body (`? * +`). -/
theorem FragWF.card {f : Frag} {n : Nat} (wf : FragWF f n) {G : List Edge} (ng : List Nat)
    (hG : ∀ ed ∈ G, (ed.src = f.next ∨ ed.src = f.e) ∧ (ed.dst = f.next + 1 ∨ ed.dst = f.b)) :
    FragWF ⟨f.next, f.next + 1, f.next + 2, f.edges ++ G, ng⟩ n := by
  have hle := wf.le_next
  refine ⟨⟨hle, Nat.lt_add_of_pos_right (by decide)⟩,
    ⟨Nat.le_succ_of_le hle, Nat.lt_succ_self _⟩, List.forall_mem_append.2
      ⟨wf.edges_mono (Nat.le_refl n) (Nat.le_add_right _ 2) (.inr (.inl (Nat.le_succ _))), ?_⟩⟩
  intro ed hed
  have := hG ed hed; have := wf.hb; have := wf.he
  dsimp only
  omega

/-- One factor `f`, built at `n`, in front of the later factors `G`, built at `f.next`. -/
theorem AltsShape.cons {f : Frag} {n N b e : Nat} {G : List Edge} (wf : FragWF f n) (hN : f.next ≤ N)
    (hg : AltsShape G b e f.next N) :
    AltsShape (f.edges ++ [⟨b, none, f.b⟩, ⟨f.e, none, e⟩] ++ G) b e n N := by
  have hle := wf.le_next
  refine List.forall_mem_append.2 ⟨List.forall_mem_append.2 ⟨fun ed hed => ?_,
    List.forall_mem_cons.2 ⟨.inl ⟨rfl, rfl, wf.hb.1, Nat.lt_of_lt_of_le wf.hb.2 hN⟩,
      List.forall_mem_singleton.2 (.inr ⟨wf.he.1, Nat.lt_of_lt_of_le wf.he.2 hN, .inr ⟨rfl, rfl⟩⟩)⟩⟩,
    fun ed hed => ?_⟩
  · obtain ⟨a1, a2, a3, a4, _⟩ := wf.edges ed hed
    exact .inr ⟨a1, Nat.lt_of_lt_of_le a2 hN, .inl ⟨a3, Nat.lt_of_lt_of_le a4 hN⟩⟩
  · exact (hg ed hed).imp (fun a => ⟨a.1, a.2.1, Nat.le_trans hle a.2.2.1, a.2.2.2⟩) fun a =>
      ⟨Nat.le_trans hle a.1, a.2.1, a.2.2.imp_left fun c => ⟨Nat.le_trans hle c.1, c.2⟩⟩

/-- With `B = n`, `E = n + 1` allocated just below them, the factors make a fragment. -/
theorem AltsShape.fragWF {G : List Edge} {n N : Nat} (h : AltsShape G n (n + 1) (n + 2) N)
    (hN : n + 2 ≤ N) (ng : List Nat) : FragWF ⟨n, n + 1, N, G, ng⟩ n := by
  refine ⟨⟨Nat.le_refl n, Nat.lt_of_lt_of_le (Nat.lt_add_of_pos_right (by decide)) hN⟩,
    ⟨Nat.le_succ n, Nat.lt_of_lt_of_le (Nat.lt_succ_self _) hN⟩, fun ed hed => ?_⟩
  rcases h ed hed with a | a
  · dsimp only
    omega
  · dsimp only
    omega

/-- `LexerTermCharClass.NFACons` treats the ranges of a class as `LexerExpr.NFACons` treats the factors of
an alternation: the two states of a range and the edge between them, built at `p`, are a fragment `f`, and
`clsEdges (r :: cs) b e p` is, by definition,
`f.edges ++ [⟨b, none, f.b⟩, ⟨f.e, none, e⟩] ++ clsEdges cs b e f.next`. So what holds of a factor in front
of the later factors (`AltsShape.cons`, `AltsInv.cons`, `Coreach.append`) serves for a class as well. -/
abbrev rangeFrag (r : Int × Int) (p : Nat) : Frag := ⟨p, p + 1, p + 2, [⟨p, some ⟨r.1, r.2⟩, p + 1⟩], []⟩

theorem rangeFrag_wf (r : Int × Int) (p : Nat) : FragWF (rangeFrag r p) p :=
  have h1 : p < p + 2 := Nat.lt_add_of_pos_right (by decide)
  have h2 : p + 1 < p + 2 := Nat.lt_succ_self _
  ⟨⟨Nat.le_refl p, h1⟩, ⟨Nat.le_succ p, h2⟩, List.forall_mem_singleton.2
    ⟨Nat.le_refl p, h1, Nat.le_succ p, h2, Nat.ne_of_lt (Nat.lt_succ_self p)⟩⟩

theorem clsEdges_shape (b e : Nat) : ∀ (cs : Cls) (p : Nat),
    AltsShape (clsEdges cs b e p) b e p (p + 2 * cs.length)
  | [], _ => fun _ h => nomatch h
  | r :: cs, p => by
    have ih := clsEdges_shape b e cs (p + 2)
    rw [Nat.add_right_comm p 2] at ih
    exact AltsShape.cons (rangeFrag_wf r p) (Nat.add_le_add_left (Nat.le_add_left 2 _) p) ih

mutual
theorem th_wf : ∀ (r : Rx) (n : Nat), FragWF (th r n) n
  | .lit cps, n => by
    refine ⟨⟨Nat.le_refl n, Nat.lt_succ_of_le (Nat.le_add_right ..)⟩,
      ⟨Nat.le_add_right .., Nat.lt_succ_self _⟩, fun ed h => ?_⟩
    obtain ⟨i, c, hi, rfl⟩ := (mem_litEdges_iff ..).1 h
    have hi := (List.getElem?_eq_some_iff.1 hi).1
    exact ⟨Nat.le_add_right n i, Nat.lt_succ_of_lt (Nat.add_lt_add_left hi n),
      Nat.le_succ_of_le (Nat.le_add_right n i), Nat.succ_lt_succ (Nat.add_lt_add_left hi n),
      Nat.ne_of_lt (Nat.add_lt_add_left hi n)⟩
  | .cls cs, n => (clsEdges_shape n (n + 1) cs (n + 2)).fragWF (Nat.le_add_right ..) _
  | .seq r s, n => by
    have hf := th_wf r n
    have hg := th_wf s (th r n).next
    have h1 := hf.le_next
    have h2 := hg.le_next
    refine ⟨⟨hf.hb.1, Nat.lt_of_lt_of_le hf.hb.2 h2⟩, ⟨Nat.le_trans h1 hg.he.1, hg.he.2⟩, ?_⟩
    simp only [th, List.forall_mem_append, List.forall_mem_singleton]
    exact ⟨⟨hf.edges_mono (Nat.le_refl n) h2 (.inr (.inl hg.he.1)),
      hg.edges_mono h1 (Nat.le_refl _) (.inr (.inr rfl))⟩,
      hf.he.1, Nat.lt_of_lt_of_le hf.he.2 h2, Nat.le_trans h1 hg.hb.1, hg.hb.2,
      Nat.ne_of_lt (Nat.lt_of_lt_of_le hf.he.2 hg.he.1)⟩
  | .alt r rest, n => by
    have hf := th_wf r (n + 2)
    have hg := thAlts_wf rest n (n + 1) (th r (n + 2)).next
    exact (hg.edges.cons hf (Nat.le_of_lt hg.hn)).fragWF
      (Nat.le_of_lt (Nat.lt_of_le_of_lt hf.le_next hg.hn)) _
  | .opt r, n => by
    simp only [th]
    exact (th_wf r n).card _ (by simp only [List.forall_mem_cons, List.not_mem_nil, false_implies,
      implies_true, true_or, or_true, and_self])
  | .star ng r, n => by
    simp only [th]
    exact (th_wf r n).card _ (by simp only [List.forall_mem_cons, List.not_mem_nil, false_implies,
      implies_true, true_or, or_true, and_self])
  | .plus ng r, n => by
    simp only [th]
    exact (th_wf r n).card _ (by simp only [List.forall_mem_cons, List.not_mem_nil, false_implies,
      implies_true, true_or, or_true, and_self])
theorem thAlts_wf : ∀ (a : Alts) (b e n : Nat), AltsWF (thAlts a b e n) b e n
  | .last r, b, e, n => by
    have hf := th_wf r n
    have := AltsShape.cons (b := b) (e := e) hf (Nat.le_refl _) (G := []) fun _ h => nomatch h
    rw [List.append_nil] at this
    exact ⟨Nat.lt_of_le_of_lt hf.hb.1 hf.hb.2, this⟩
  | .more r rest, b, e, n =>
    have hf := th_wf r n
    have hg := thAlts_wf rest b e (th r n).next
    ⟨Nat.lt_of_le_of_lt hf.le_next hg.hn, hg.edges.cons hf (Nat.le_of_lt hg.hn)⟩
end

theorem litEdges_path_from (E : List Edge) (cps : List Int) (p : Nat)
    (hE : ∀ ed ∈ litEdges cps p, ed ∈ E) : ∀ d i, i + d = cps.length →
    Path E (p + i) (cps.drop i) (p + cps.length) := by
  intro d
  induction d with
  | zero => intro i h; obtain rfl : i = cps.length := h; rw [List.drop_length]; exact Path.refl _ _
  | succ d ih =>
    intro i h
    have hi : i < cps.length := by omega
    rw [List.drop_eq_getElem_cons hi]
    exact Path.chr (hE _ ((mem_litEdges_iff ..).2 ⟨i, _, List.getElem?_eq_getElem hi, rfl⟩))
      (Int.le_refl _) (Int.le_refl _) (ih (i + 1) (by omega))

/-- In `E` every word of `re` leads from `b` to `e`. -/
def Leads (E : List Edge) (b : Nat) (re : Re) (e : Nat) : Prop := ∀ w, Matches re w → Path E b w e

theorem Leads.enter {E : List Edge} {b p e : Nat} {re : Re} (he : (⟨b, none, p⟩ : Edge) ∈ E)
    (h : Leads E p re e) : Leads E b re e := fun w hm => Path.eps he (h w hm)

theorem Leads.leave {E : List Edge} {b q e : Nat} {re : Re} (h : Leads E b re q)
    (he : (⟨q, none, e⟩ : Edge) ∈ E) : Leads E b re e := fun w hm => by
  simpa only [List.append_nil] using (h w hm).trans (Path.eps_edge he)

theorem Leads.seq {E : List Edge} {b m e : Nat} {r s : Re} (h1 : Leads E b r m)
    (h2 : Leads E m s e) : Leads E b (.seq r s) e := fun _ hm => by
  cases hm with
  | seq a b => exact (h1 _ a).trans (h2 _ b)

theorem Leads.alt {E : List Edge} {b e : Nat} {r s : Re} (h1 : Leads E b r e)
    (h2 : Leads E b s e) : Leads E b (.alt r s) e := fun w hm => by
  cases hm with
  | altl a => exact h1 w a
  | altr a => exact h2 w a

/-- The loop shared by `*` and `+`: from the exit of the body back along the ε edge to its entry,
any number of rounds. -/
theorem Leads.loop {E : List Edge} {fb fe : Nat} {re : Re} (ng : Bool)
    (hback : (⟨fe, none, fb⟩ : Edge) ∈ E) (h : Leads E fb re fe) : Leads E fe (.star ng re) fe :=
  fun _ hm => matches_star_ind (P := fun w => Path E fe w fe) (Path.refl E fe)
    (fun u _ hu pv => (Path.eps hback (h u hu)).trans pv) hm

mutual
theorem th_complete : ∀ (r : Rx) (n : Nat) (E : List Edge),
    (∀ ed ∈ (th r n).edges, ed ∈ E) → Leads E (th r n).b r.toRe (th r n).e
  | .lit cps, n, E, hE => fun w hm => by
    have : w = cps := (matches_lit cps w).1 hm
    subst this
    exact litEdges_path_from E w n hE w.length 0 (Nat.zero_add _)
  | .cls cs, n, E, hE => fun w hm => by
    cases hm with
    | cls hc =>
      obtain ⟨r, hr, h1, h2⟩ := (inCls_iff cs _).1 hc
      obtain ⟨i, hi⟩ := List.mem_iff_getElem?.1 hr
      obtain ⟨e1, e2, e3⟩ := clsEdges_get hi n (n + 1) (n + 2)
      exact Path.eps (hE _ e2) (Path.chr (hE _ e1) h1 h2 (Path.eps_edge (hE _ e3)))
  | .seq r s, n, E, hE => by
    simp only [th, List.forall_mem_append, List.forall_mem_singleton] at hE
    exact (th_complete r n E hE.1.1).seq ((th_complete s _ E hE.1.2).enter hE.2)
  | .alt r rest, n, E, hE => by
    simp only [th, List.forall_mem_append, List.forall_mem_cons, List.not_mem_nil, false_implies,
      implies_true, and_true] at hE
    obtain ⟨⟨hf, e1, e2⟩, hg⟩ := hE
    refine (((th_complete r (n + 2) E hf).enter e1).leave e2).alt fun w hm => ?_
    obtain ⟨p, q, g1, pp, g2⟩ := thAlts_complete rest n (n + 1) _ E hg w hm
    simpa only [List.append_nil] using Path.eps g1 (pp.trans (Path.eps_edge g2))
  | .opt r, n, E, hE => by
    simp only [th, List.forall_mem_append, List.forall_mem_cons, List.not_mem_nil, false_implies,
      implies_true, and_true] at hE
    obtain ⟨hf, e0, e1, e2⟩ := hE
    refine (((th_complete r n E hf).enter e1).leave e2).alt fun w hm => ?_
    cases hm
    exact Path.eps_edge e0
  | .star ng r, n, E, hE => by
    simp only [th, List.forall_mem_append, List.forall_mem_cons, List.not_mem_nil, false_implies,
      implies_true, and_true] at hE
    obtain ⟨hf, e0, e1, e2, e3⟩ := hE
    have body := th_complete r n E hf
    -- no round: `B -> E`; otherwise into the body, a first round, the others, and out
    intro w hm
    cases hm with
    | star_nil => exact Path.eps_edge e0
    | star_cons h1 h2 => exact (((body.seq (body.loop ng e2)).enter e1).leave e3) _ (.seq h1 h2)
  | .plus ng r, n, E, hE => by
    simp only [th, List.forall_mem_append, List.forall_mem_cons, List.not_mem_nil, false_implies,
      implies_true, and_true] at hE
    obtain ⟨hf, e1, e2, e3⟩ := hE
    have body := th_complete r n E hf
    exact ((body.seq (body.loop ng e2)).enter e1).leave e3
theorem thAlts_complete : ∀ (a : Alts) (b e n : Nat) (E : List Edge),
    (∀ ed ∈ (thAlts a b e n).edges, ed ∈ E) → ∀ w, Matches a.toRe w →
    ∃ p q, (⟨b, none, p⟩ : Edge) ∈ E ∧ Path E p w q ∧ (⟨q, none, e⟩ : Edge) ∈ E
  | .last r, b, e, n, E, hE, w, hm => by
    simp only [thAlts, List.forall_mem_append, List.forall_mem_cons, List.not_mem_nil,
      false_implies, implies_true, and_true] at hE
    exact ⟨_, _, hE.2.1, th_complete r n E hE.1 _ hm, hE.2.2⟩
  | .more r rest, b, e, n, E, hE, w, hm => by
    simp only [thAlts, List.forall_mem_append, List.forall_mem_cons, List.not_mem_nil,
      false_implies, implies_true, and_true] at hE
    simp only [Alts.toRe] at hm
    cases hm with
    | altl h1 => exact ⟨_, _, hE.1.2.1, th_complete r n E hE.1.1 _ h1, hE.1.2.2⟩
    | altr h2 => exact thAlts_complete rest b e _ E hE.2 _ h2
end

end Lox.Lex.Gen
