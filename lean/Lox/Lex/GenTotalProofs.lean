import Lox.Lex.GenBuildProofs
import Lox.Lex.GenRangesProofs
import Lox.Util.PowerSet
/-! Totality of the model of `Build` (`buildDFA_total`). For `optimize` it is read off
`optimize_spec`; the subset construction makes at most `2^n` sets of NFA states. -/
namespace Lox.Lex.Gen
open Lox.Rang3 (Range NormCb)

/-- `optimize` is total on well-formed DFAs: the loop `for pcount != p.Count()` ends (at most
one pass per state), and no `assert.True` of `partitions` fails. -/
theorem optimize_total (m : NFA) (d : DFA) (hwf : d.WF) : ∃ d', optimize m d = .ok d' :=
  (optimize_spec m d hwf).elim (fun h => ⟨d, h⟩) fun ⟨_, _, _, h⟩ => ⟨_, h⟩

structure NFA.Bounded (m : NFA) : Prop where
  start : m.start < m.n
  dst : ∀ ed ∈ m.edges, ed.dst < m.n

theorem eclose_bounded (E : List Edge) (n : Nat) (hE : ∀ ed ∈ E, ed.dst < n) (S : List Nat)
    (hS : ∀ x ∈ S, x < n) : ∀ q ∈ eclose E S, q < n := by
  intro q hq
  obtain ⟨p, hp, k, hk⟩ := (mem_eclose E S q).1 hq
  rcases hk.end_cases with rfl | ⟨ed, hed, rfl⟩
  · exact hS _ hp
  · exact hE ed hed

theorem sorted_below_le_two_pow (n : Nat) (L : List (List Nat)) (hn : L.Nodup)
    (hL : ∀ l ∈ L, l.Pairwise (· < ·) ∧ ∀ x ∈ l, x < n) : L.length ≤ 2 ^ n := by
  have := Util.length_le_two_pow (List.range n) L hn fun l hl l' hl' h =>
    Util.pairwise_ext (fun _ _ => Nat.lt_asymm) (hL l hl).1 (hL l' hl').1 fun x =>
      ⟨fun hx => (h x (List.mem_range.2 ((hL l hl).2 x hx))).1 hx,
        fun hx => (h x (List.mem_range.2 ((hL l' hl').2 x hx))).2 hx⟩
  rwa [List.length_range] at this

/-- The subset construction ends within its fuel `2^n + 1`: every DFA state is a strictly
increasing list of NFA states below `n`, no two of them are equal, so there are at most `2^n`, and
every iteration of the loop either consumes a pending state or creates a new one. -/
theorem subset_total (m : NFA) (hb : m.Bounded) : ∃ d, subset m (subsetFuel m) = some d := by
  have hcl : ∀ S, (∀ x ∈ S, x < m.n) →
      (eclose m.edges S).Pairwise (· < ·) ∧ ∀ x ∈ eclose m.edges S, x < m.n :=
    fun S hS => ⟨eclose_sorted _ _, eclose_bounded m.edges m.n hb.dst S hS⟩
  have hs0 : ∀ T ∈ [eclose m.edges [m.start]], T.Pairwise (· < ·) ∧ ∀ x ∈ T, x < m.n :=
    fun T hT => List.mem_singleton.1 hT ▸ hcl _ fun y hy => List.mem_singleton.1 hy ▸ hb.start
  obtain ⟨R, hR⟩ := reachLoop_total (dfaSucc m.edges) _
    (fun S _ T hT => by
      obtain ⟨a, _, rfl⟩ := List.mem_map.1 hT
      exact hcl _ fun y hy => let ⟨p, _, hed⟩ := (mem_moveSet m.edges S a y).1 hy; hb.dst _ hed)
    (2 ^ m.n) (sorted_below_le_two_pow m.n) (subsetFuel m) _ _ (List.pairwise_singleton _ _) hs0 hs0
    (by simp only [subsetFuel, List.length_singleton]; omega)
  exact ⟨{ states := R.map (mkDState m R) }, by simp only [subset, hR, Option.map_some]⟩

theorem modeNFA_bounded (rules : List Rx) : (modeNFA rules).Bounded := by
  refine ⟨Nat.lt_succ_self _, fun ed hed => ?_⟩
  obtain ⟨j, r, m, a, h | rfl⟩ := mem_modeNFA_edges.1 hed
  · exact Nat.lt_succ_of_le (Nat.le_trans (Nat.le_of_lt ((th_wf r m).edges ed h).2.2.2.1) a.below)
  · exact Nat.lt_succ_of_le (Nat.le_trans (Nat.le_of_lt (th_wf r m).hb.2) a.below)

theorem NFA.Bounded.of_stepEq {m : NFA} (hb : m.Bounded) {E' : List Edge}
    (hstep : StepEq m.edges E') (hval : ValidLabels E') : NFA.Bounded { m with edges := E' } :=
  ⟨hb.start, fun ed hed =>
    let ⟨ed0, h0, _, e⟩ := hstep.ends hval ed hed
    e ▸ hb.dst ed0 h0⟩

/-- The model of `ModeBuilder.Build` always returns an automaton (for classes written
`lo ≤ hi`): `rang3.Normalize` does not panic, the subset construction and `optimize` end within
their fuel, `GetStateGroup` finds every state. -/
theorem buildDFA_total (rules : List Rx) (hok : ∀ r ∈ rules, r.clsOK = true) :
    ∃ F, buildDFA (modeNFA rules) = some (.ok F) := by
  obtain ⟨E', hm', hstep, hpd, hval⟩ :=
    normalizeNFA_spec (modeNFA rules) (modeNFA_validLabels rules hok)
  obtain ⟨d, hd⟩ := subset_total _ ((modeNFA_bounded rules).of_stepEq hstep hval)
  obtain ⟨hwf, _⟩ := subset_wf _ hpd hval _ d hd
  obtain ⟨d', hd'⟩ := optimize_total { modeNFA rules with edges := E' } d hwf
  refine ⟨mergeTransitions (splitStart d'), ?_⟩
  simp only [buildDFA, hm', Option.bind_some, hd, Option.map_some, hd']

end Lox.Lex.Gen
