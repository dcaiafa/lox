import Lox.Lex.BisimNG
import Lox.Lex.RegexProofs
/-! The shortest-match language of a rule of the shape `'prefix' body*? 'terminator'` (or `+?`):
the text ends at the first occurrence of the terminator after the prefix. -/
namespace Lox.Lex

/-- Holds of a class, of `.`, and of an alternation of such expressions. -/
def SingleChar (b : Re) (P : Int → Prop) : Prop := ∀ w, Matches b w ↔ ∃ c, w = [c] ∧ P c

theorem singleChar_cls (cs : Cls) : SingleChar (.cls cs) (fun c => inCls cs c = true) := by
  intro w
  constructor
  · intro h; cases h with
    | cls hin => exact ⟨_, rfl, hin⟩
  · rintro ⟨c, rfl, hc⟩; exact .cls hc

theorem singleChar_alt {a b : Re} {P Q : Int → Prop} (ha : SingleChar a P) (hb : SingleChar b Q) :
    SingleChar (.alt a b) (fun c => P c ∨ Q c) := by
  intro w
  constructor
  · intro h
    cases h with
    | altl h => obtain ⟨c, hw, hc⟩ := (ha w).mp h; exact ⟨c, hw, .inl hc⟩
    | altr h => obtain ⟨c, hw, hc⟩ := (hb w).mp h; exact ⟨c, hw, .inr hc⟩
  · rintro ⟨c, rfl, hc | hc⟩
    · exact .altl ((ha _).mpr ⟨c, rfl, hc⟩)
    · exact .altr ((hb _).mpr ⟨c, rfl, hc⟩)

theorem matches_star_single {b : Re} {P : Int → Prop} (hb : SingleChar b P) (ng : Bool)
    (w : List Int) : Matches (.star ng b) w ↔ ∀ c ∈ w, P c := by
  constructor
  · refine matches_star_ind (P := fun w => ∀ c ∈ w, P c) (fun _ h => nomatch h) fun u v hu hv => ?_
    obtain ⟨c, rfl, hc⟩ := (hb u).1 hu
    exact List.forall_mem_cons.2 ⟨hc, hv⟩
  · intro h
    induction w with
    | nil => exact .star_nil
    | cons c w ih =>
      obtain ⟨hc, hw⟩ := List.forall_mem_cons.1 h
      exact matches_star_append (u := [c]) ((hb _).2 ⟨c, rfl, hc⟩) (ih hw)

/-- `'p' b*? 't'`. -/
def ngStarRule (p : List Int) (b : Re) (t : List Int) : Re :=
  .seq (Re.lit p) (.seq (.star true b) (Re.lit t))

/-- `'p' b+? 't'` (`x+?` is `x x*?`). -/
def ngPlusRule (p : List Int) (b : Re) (t : List Int) : Re :=
  .seq (Re.lit p) (.seq (.seq b (.star true b)) (Re.lit t))

theorem ngStarRule_hasNG (p : List Int) (b : Re) (t : List Int) :
    (ngStarRule p b t).hasNG = true := by
  simp [ngStarRule, Re.hasNG]

theorem ngPlusRule_hasNG (p : List Int) (b : Re) (t : List Int) :
    (ngPlusRule p b t).hasNG = true := by
  simp [ngPlusRule, Re.hasNG]

theorem matches_delimited (p t : List Int) (B : Re) (s : List Int) :
    Matches (.seq (Re.lit p) (.seq B (Re.lit t))) s ↔ ∃ x, s = p ++ x ++ t ∧ Matches B x := by
  rw [matches_seq_iff]
  constructor
  · rintro ⟨u, v, rfl, h1, h2⟩
    obtain ⟨x, y, rfl, h3, h4⟩ := (matches_seq_iff _ _ _).mp h2
    rw [(matches_lit p u).mp h1, (matches_lit t y).mp h4]
    exact ⟨x, (List.append_assoc ..).symm, h3⟩
  · rintro ⟨x, rfl, hx⟩
    exact ⟨p, x ++ t, List.append_assoc .., (matches_lit p p).mpr rfl,
      (matches_seq_iff _ _ _).mpr ⟨x, t, rfl, hx, (matches_lit t t).mpr rfl⟩⟩

theorem matches_plus_single {b : Re} {P : Int → Prop} (hb : SingleChar b P) (ng : Bool)
    (w : List Int) : Matches (.seq b (.star ng b)) w ↔ 1 ≤ w.length ∧ ∀ c ∈ w, P c := by
  rw [matches_seq_iff]
  constructor
  · rintro ⟨u, v, rfl, h1, h2⟩
    obtain ⟨c, rfl, hc⟩ := (hb _).mp h1
    refine ⟨Nat.succ_pos _, fun d hd => ?_⟩
    rcases List.mem_cons.mp hd with rfl | hd
    · exact hc
    · exact (matches_star_single hb ng v).mp h2 d hd
  · rintro ⟨hlen, hx⟩
    cases w with
    | nil => cases hlen
    | cons c w =>
      exact ⟨[c], w, rfl, (hb _).mpr ⟨c, rfl, hx c (List.mem_cons_self ..)⟩,
        (matches_star_single hb ng w).mpr fun d hd => hx d (List.mem_cons_of_mem _ hd)⟩

theorem split_at_occurrence {x t : List Int} {i : Nat} (hi : i ≤ x.length)
    (hocc : t <+: (x ++ t).drop i) :
    ∃ rest, x ++ t = x.take i ++ t ++ rest ∧ rest.length = x.length - i := by
  obtain ⟨rest, hrest⟩ := hocc
  refine ⟨rest, ?_, ?_⟩
  · have := List.take_append_drop i (x ++ t)
    rw [← hrest, List.take_append_of_le_length hi] at this
    rw [← this, List.append_assoc]
  · have := congrArg List.length hrest
    simp only [List.length_append, List.length_drop] at this
    omega

/-- Shortest matches of a rule that matches the words `p ++ x ++ t` with `x` made of at least `k`
body code points: no occurrence of the terminator `t` in `x ++ t` from position `k` on, except
the final one (an earlier occurrence at `i` would make `p ++ x.take i ++ t` a shorter match). -/
theorem shortest_shape {r : Re} {P : Int → Prop} {p t : List Int} {k : Nat}
    (hM : ∀ s, Matches r s ↔ ∃ x, s = p ++ x ++ t ∧ k ≤ x.length ∧ ∀ c ∈ x, P c) (s : List Int) :
    Matches r s ∧ NoProperPrefix r s ↔
      ∃ x, s = p ++ x ++ t ∧ k ≤ x.length ∧ (∀ c ∈ x, P c) ∧
        ∀ i, k ≤ i → i < x.length → ¬ t <+: (x ++ t).drop i := by
  constructor
  · rintro ⟨hm, hnp⟩
    obtain ⟨x, rfl, hk, hx⟩ := (hM _).mp hm
    refine ⟨x, rfl, hk, hx, fun i hki hi hocc => ?_⟩
    obtain ⟨rest, hsplit, hlen⟩ := split_at_occurrence (Nat.le_of_lt hi) hocc
    apply hnp (p ++ x.take i ++ t) rest
    · rw [List.append_assoc p x t, hsplit]; simp
    · rintro rfl; rw [List.length_nil] at hlen; omega
    · exact (hM _).mpr ⟨x.take i, rfl, by rw [List.length_take]; omega,
        fun c hc => hx c (List.mem_of_mem_take hc)⟩
  · rintro ⟨x, rfl, hk, hx, hfirst⟩
    refine ⟨(hM _).mpr ⟨x, rfl, hk, hx⟩, fun u v huv hv hmu => ?_⟩
    obtain ⟨x', rfl, hk', _⟩ := (hM _).mp hmu
    have h1 : x ++ t = x' ++ (t ++ v) := by
      have : p ++ (x ++ t) = p ++ (x' ++ (t ++ v)) := by simpa using huv
      exact List.append_cancel_left this
    have hlen := congrArg List.length h1
    simp only [List.length_append] at hlen
    have hvl : 0 < v.length := List.length_pos_iff.mpr hv
    apply hfirst x'.length hk' (by omega)
    rw [h1, List.drop_left]
    exact ⟨v, rfl⟩

/-- For a literal prefix `p`, a body `b` matching one code point per repetition and a literal
terminator `t`, the non-greedy rule `'p' b*? 't'` matches `s` (shortest-match semantics) iff
`s = p ++ x ++ t` where all of `x` is body and the FIRST occurrence of `t` in `x ++ t` (the text after
the prefix) is the final one – even when `b` can match the terminator's code points. -/
theorem ng_shape_star {b : Re} {P : Int → Prop} (hb : SingleChar b P) (p t s : List Int) :
    RuleMatches (ngStarRule p b t).hasNG (ngStarRule p b t) s ↔
      ∃ x, s = p ++ x ++ t ∧ (∀ c ∈ x, P c) ∧
        ∀ i, i < x.length → ¬ t <+: (x ++ t).drop i := by
  have hM : ∀ s, Matches (ngStarRule p b t) s ↔
      ∃ x, s = p ++ x ++ t ∧ 0 ≤ x.length ∧ ∀ c ∈ x, P c := fun s => by
    simp only [ngStarRule, matches_delimited, matches_star_single hb, Nat.zero_le, true_and]
  simp only [RuleMatches, ngStarRule_hasNG, forall_const, shortest_shape hM, Nat.zero_le, true_and,
    forall_const]

/-- As `ng_shape_star` with at least one repetition: `x ≠ []`, and an
occurrence of `t` at position 0 (before any repetition) does not count. -/
theorem ng_shape_plus {b : Re} {P : Int → Prop} (hb : SingleChar b P) (p t s : List Int) :
    RuleMatches (ngPlusRule p b t).hasNG (ngPlusRule p b t) s ↔
      ∃ x, x ≠ [] ∧ s = p ++ x ++ t ∧ (∀ c ∈ x, P c) ∧
        ∀ i, 1 ≤ i → i < x.length → ¬ t <+: (x ++ t).drop i := by
  have hM : ∀ s, Matches (ngPlusRule p b t) s ↔
      ∃ x, s = p ++ x ++ t ∧ 1 ≤ x.length ∧ ∀ c ∈ x, P c := fun s => by
    simp only [ngPlusRule, matches_delimited, matches_plus_single hb]
  simp only [RuleMatches, ngPlusRule_hasNG, forall_const, shortest_shape hM]
  refine exists_congr fun x => ?_
  rw [← List.length_pos_iff, and_left_comm]; rfl

end Lox.Lex
