import Lox.Lex.BisimNG
import Lox.Lex.RegexProofs
/-! What a validator holds for one rule after the table has read a word: the rule's term set stepped
along the word (`stepW`), under the shortest-match reading of `*?`/`+?` (`Shortest`). `stepW_viable`
and `stepW_matches` read off that set whether the rule can still match and whether it matches (which
gives the label). With `ng = false` this is the greedy case (`BisimProofs`), with `ng = r.hasNG` the
non-greedy one (`BisimNGProofs`). -/
namespace Lox.Lex


/-- The shortest-match reading of `*?`/`+?`: a rule that contains one (`ng`) matches only the shortest
words of its language `L`, any other rule all of `L` (`RuleMatches ng r` is `Shortest ng (Matches r)`). -/
def Shortest (ng : Bool) (L : List Int → Prop) (w : List Int) : Prop :=
  L w ∧ (ng = true → ∀ u v, w = u ++ v → v ≠ [] → ¬ L u)

theorem ruleMatches_false {r : Re} {s : List Int} : RuleMatches false r s ↔ Matches r s :=
  ⟨And.left, fun h => ⟨h, fun e => nomatch e⟩⟩

theorem Shortest.congr {ng : Bool} {L L' : List Int → Prop} (h : ∀ w, L w ↔ L' w) (w : List Int) :
    Shortest ng L w ↔ Shortest ng L' w := by
  simp only [Shortest, h]

theorem shortest_nil {ng : Bool} {L : List Int → Prop} : Shortest ng L [] ↔ L [] :=
  ⟨And.left, fun h => ⟨h, fun _ _ _ e hv => absurd (List.append_eq_nil_iff.mp e.symm).2 hv⟩⟩

theorem shortest_cons {ng : Bool} {L : List Int → Prop} {c : Int} {w : List Int} :
    Shortest ng L (c :: w) ↔ (ng = true → ¬ L []) ∧ Shortest ng (fun w => L (c :: w)) w := by
  constructor
  · rintro ⟨h1, h2⟩
    exact ⟨fun hng => h2 hng [] _ rfl (List.cons_ne_nil _ _),
      h1, fun hng u v e hv => h2 hng (c :: u) v (by rw [e]; rfl) hv⟩
  · rintro ⟨h0, h1, h2⟩
    refine ⟨h1, fun hng u v e hv hu => ?_⟩
    cases u with
    | nil => exact h0 hng hu
    | cons c' u =>
      obtain ⟨rfl, rfl⟩ := List.cons.inj e
      exact h2 hng u v rfl hv hu

theorem exists_shortest {ng : Bool} : ∀ {L : List Int → Prop} (w : List Int), L w →
    ∃ w', Shortest ng L w'
  | L, [], h => ⟨[], shortest_nil.mpr h⟩
  | L, c :: w, h => by
    by_cases h0 : L []
    · exact ⟨[], shortest_nil.mpr h0⟩
    · obtain ⟨w', hw'⟩ := exists_shortest (L := fun w => L (c :: w)) w h
      exact ⟨c :: w', shortest_cons.mpr ⟨fun _ => h0, hw'⟩⟩

theorem setMatches_nil {ts : List Re} : SetMatches ts [] ↔ ts.any nullable = true := by
  rw [List.any_eq_true]
  exact exists_congr fun t => and_congr_right fun _ => (nullable_iff t).symm

/-- `stepSet ng c` is the derivative by `c` under the shortest-match reading of a term set
(`stepSet false c` is `pdSet c`). -/
theorem shortest_stepSet (ng : Bool) (c : Int) (ts : List Re) (w : List Int) :
    Shortest ng (SetMatches (stepSet ng c ts)) w ↔ Shortest ng (SetMatches ts) (c :: w) := by
  rw [shortest_cons, stepSet]
  split
  · rename_i h
    rw [Bool.and_eq_true] at h
    constructor
    · rintro ⟨⟨t, ht, _⟩, _⟩; cases ht
    · rintro ⟨h0, _⟩; exact absurd (setMatches_nil.mpr h.2) (h0 h.1)
  · rename_i h
    rw [Shortest.congr (pdSet_iff c ts)]
    exact (and_iff_right fun hng h0 => h (by rw [hng, setMatches_nil.mp h0]; rfl)).symm

/-- The derivative of a rule's term set by the word `s`: what a validator holds for the rule once the
table has read `s` (`stepW false` is `pdSetW`; a non-greedy rule's set is empty after its first match). -/
def stepW (ng : Bool) (s : List Int) (ts : List Re) : List Re :=
  s.foldl (fun ts c => stepSet ng c ts) ts

theorem shortest_stepW (ng : Bool) : ∀ (u : List Int) (ts : List Re) (w : List Int),
    Shortest ng (SetMatches (stepW ng u ts)) w ↔ Shortest ng (SetMatches ts) (u ++ w)
  | [], _, _ => Iff.rfl
  | c :: u, ts, w => (shortest_stepW ng u _ w).trans (shortest_stepSet ng c ts (u ++ w))

/-- After `u`, the term set of the rule `r` stands for what is left of the language of `r`. -/
theorem stepW_rep {ng : Bool} {r : Re} {u w : List Int} :
    Shortest ng (SetMatches (stepW ng u [r])) w ↔ RuleMatches ng r (u ++ w) :=
  (shortest_stepW ng u [r] w).trans (Shortest.congr (fun w => by simp [SetMatches]) _)

theorem clsOK_stepSet (ng : Bool) (c : Int) {ts : List Re} (h : ∀ t ∈ ts, t.clsOK = true) :
    ∀ t ∈ stepSet ng c ts, t.clsOK = true := by
  rw [stepSet]
  split
  · intro t ht; cases ht
  · exact clsOK_pdSet c ts h

theorem clsOK_stepW (ng : Bool) : ∀ (u : List Int) (ts : List Re), (∀ t ∈ ts, t.clsOK = true) →
    ∀ t ∈ stepW ng u ts, t.clsOK = true
  | [], _, h => h
  | c :: u, _, h => clsOK_stepW ng u _ (clsOK_stepSet ng c h)

theorem setMatches_of_clsOK {ts : List Re} (h : ∀ t ∈ ts, t.clsOK = true) (hne : ts ≠ []) :
    ∃ w, SetMatches ts w := by
  cases ts with
  | nil => exact absurd rfl hne
  | cons t ts =>
    obtain ⟨w, hw⟩ := clsOK_matches t (h t (by simp))
    exact ⟨w, t, by simp, hw⟩

theorem stepW_viable {ng : Bool} {r : Re} {u : List Int} (h : r.clsOK = true) :
    (∃ t, RuleMatches ng r (u ++ t)) ↔ stepW ng u [r] ≠ [] := by
  simp only [← stepW_rep]
  constructor
  · rintro ⟨w, ⟨t, ht, _⟩, _⟩ e; rw [e] at ht; cases ht
  · intro hne
    obtain ⟨w, hw⟩ := setMatches_of_clsOK
      (clsOK_stepW ng u [r] fun t ht => by rwa [List.mem_singleton.mp ht]) hne
    exact exists_shortest w hw

theorem stepW_matches {ng : Bool} {r : Re} {u : List Int} :
    RuleMatches ng r u ↔ (stepW ng u [r]).any nullable = true := by
  have := stepW_rep (ng := ng) (r := r) (u := u) (w := [])
  rw [List.append_nil, shortest_nil, setMatches_nil] at this
  exact this.symm

end Lox.Lex
