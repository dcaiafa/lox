import Lox.Lex.StepWProofs
import Lox.Lex.TableSpecProofs
import Lox.Lex.TableProofs
/-! Soundness of the lexer-table validator `bisim` (`Lox/Lex/Bisim.lean`): a table it accepts
computes `viable`/`label` of its rules (`tableSpec_of_closed`; `TableSpec` is in `TableSpecProofs`). -/
namespace Lox.Lex

/-- No boundary of `bs` separates `c` from `c'`. Row lookups and derivatives are constant on such a
piece (`lookup_congr`, `pdVec_samePiece`), so the validators test one rune per piece (`reps`). -/
def SamePiece (bs : List Int) (c c' : Int) : Prop := ∀ b ∈ bs, (b ≤ c ↔ b ≤ c')

theorem ordIns_insInt : Lox.Util.OrdIns (fun _ _ => True) insInt where
  nil _ := rfl
  cons a b l := by
    rw [insInt]
    by_cases e : a = b
    · exact .inr (.inr ⟨e, if_pos e⟩)
    · by_cases h : a < b
      · exact .inl ⟨trivial, by rw [if_neg e, if_pos h]⟩
      · exact .inr (.inl ⟨trivial, by rw [if_neg e, if_neg h]⟩)

theorem mem_reps {bs : List Int} {x : Int} :
    x ∈ reps bs ↔ x = bs.foldl min 0 - 1 ∨ x ∈ bs := by
  unfold reps
  rw [ordIns_insInt.mem_foldr]
  simp

theorem mkIndex_has {n : Nat} {R : List Cfg} {q : Nat} {v : List (List Re)}
    (h : (mkIndex n R).has (q, v) = true) : (q, v) ∈ R := by
  unfold Index.has mkIndex at h
  simp only [List.contains_eq_mem, decide_eq_true_eq] at h
  rw [Array.getD_eq_getD_getElem?] at h
  simp only [List.getElem?_toArray, List.getElem?_map] at h
  by_cases hq : q < n
  · rw [List.getElem?_range hq] at h
    simp only [Option.map_some, Option.getD_some, List.mem_filterMap] at h
    obtain ⟨cfg, hcfg, hif⟩ := h
    split at hif
    · rename_i he
      simp only [Option.some.injEq] at hif
      have : cfg = (q, v) := by
        cases cfg; simp only at he hif; subst he; subst hif; rfl
      rw [← this]; exact hcfg
    · cases hif
  · have : (List.range n)[q]? = none := by simp; omega
    rw [this] at h
    simp at h

private theorem foldl_min_le (bs : List Int) : ∀ (a : Int), bs.foldl min a ≤ a ∧ ∀ b ∈ bs, bs.foldl min a ≤ b := by
  induction bs with
  | nil => intro a; simp
  | cons x bs ih =>
    intro a
    simp only [List.foldl_cons, List.mem_cons, forall_eq_or_imp]
    obtain ⟨h1, h2⟩ := ih (min a x)
    exact ⟨Int.le_trans h1 (Int.min_le_left a x), Int.le_trans h1 (Int.min_le_right a x), h2⟩

private theorem exists_max : ∀ (l : List Int), l ≠ [] → ∃ m ∈ l, ∀ b ∈ l, b ≤ m
  | [x], _ => ⟨x, List.mem_singleton.mpr rfl, fun _ hb => Int.le_of_eq (List.mem_singleton.mp hb)⟩
  | x :: y :: l, _ => by
    obtain ⟨m, hm, hmax⟩ := exists_max (y :: l) (List.cons_ne_nil y l)
    by_cases hx : m ≤ x
    · exact ⟨x, List.mem_cons_self .., fun b hb => (List.mem_cons.mp hb).elim
        (fun h => Int.le_of_eq h) fun hb => Int.le_trans (hmax b hb) hx⟩
    · exact ⟨m, List.mem_cons_of_mem _ hm, fun b hb => (List.mem_cons.mp hb).elim
        (fun h => h ▸ Int.le_of_lt (Int.not_le.mp hx)) (hmax b)⟩

/-- The representative of `c` is the greatest boundary `≤ c`, or the point below all boundaries. -/
theorem reps_cover (bs : List Int) (c : Int) : ∃ c' ∈ reps bs, SamePiece bs c c' := by
  by_cases hex : ∃ b ∈ bs, b ≤ c
  · obtain ⟨b, hb, hbc⟩ := hex
    obtain ⟨m, hm, hmax⟩ := exists_max (bs.filter (· ≤ c))
      (List.ne_nil_of_mem (List.mem_filter.mpr ⟨hb, decide_eq_true hbc⟩))
    obtain ⟨hm, hmc⟩ := List.mem_filter.mp hm
    exact ⟨m, mem_reps.mpr (.inr hm), fun b hb =>
      ⟨fun h => hmax b (List.mem_filter.mpr ⟨hb, decide_eq_true h⟩),
        fun h => Int.le_trans h (of_decide_eq_true hmc)⟩⟩
  · refine ⟨bs.foldl min 0 - 1, mem_reps.mpr (.inl rfl), fun b hb => ?_⟩
    have h1 : ¬ b ≤ c := fun h => hex ⟨b, hb, h⟩
    have h2 := (foldl_min_le bs 0).2 b hb
    exact ⟨fun h => absurd h h1, fun h => by omega⟩

theorem SamePiece.mono {bs bs' : List Int} {c c' : Int} (h : SamePiece bs c c')
    (hsub : ∀ b ∈ bs', b ∈ bs) : SamePiece bs' c c' :=
  fun b hb => h b (hsub b hb)

theorem SamePiece.range_iff {α : Type} {f g : α → Int} {l : List α} {c c' : Int}
    (h : SamePiece (l.flatMap fun x => [f x, g x + 1]) c c') {x : α} (hx : x ∈ l) :
    (f x ≤ c ∧ c ≤ g x) ↔ (f x ≤ c' ∧ c' ≤ g x) := by
  have h1 := h (f x) (List.mem_flatMap.mpr ⟨x, hx, List.mem_cons_self ..⟩)
  have h2 := h (g x + 1)
    (List.mem_flatMap.mpr ⟨x, hx, List.mem_cons_of_mem _ (List.mem_cons_self ..)⟩)
  omega

theorem inCls_congr {cs : Cls} {c c' : Int} (h : SamePiece (clsBounds cs) c c') :
    inCls cs c = inCls cs c' := by
  rw [inCls, inCls, Bool.eq_iff_iff, List.any_eq_true, List.any_eq_true]
  refine exists_congr fun r => and_congr_right fun hr => ?_
  simp only [Bool.and_eq_true, decide_eq_true_eq]
  exact h.range_iff hr

theorem lookup_congr {trs : List Triple} {c c' : Int}
    (h : SamePiece (trs.flatMap fun t => [t.1, t.2.1 + 1]) c c') :
    lookup trs c = lookup trs c' := by
  induction trs with
  | nil => rfl
  | cons t trs ih =>
    obtain ⟨lo, hi, tg⟩ := t
    have hr := h.range_iff (x := (lo, hi, tg)) (List.mem_cons_self ..)
    simp only [lookup, hr, ih (h.mono fun b hb => by
      rw [List.flatMap_cons]; exact List.mem_append_right _ hb)]

theorem pdSet_samePiece {ts : List Re} {c c' : Int}
    (h : SamePiece (ts.flatMap fun t => (firstCls t).flatMap clsBounds) c c') :
    pdSet c ts = pdSet c' ts :=
  pdSet_congr c c' ts fun t ht cs hcs => inCls_congr (h.mono fun _ hb =>
    List.mem_flatMap.mpr ⟨t, ht, List.mem_flatMap.mpr ⟨cs, hcs, hb⟩⟩)

theorem pdVec_samePiece {v : List (List Re)} {c c' : Int} (h : SamePiece (vecBounds v) c c') :
    pdVec c v = pdVec c' v :=
  List.map_congr_left fun ts hts =>
    pdSet_samePiece (h.mono fun _ hb => List.mem_flatMap.mpr ⟨ts, hts, hb⟩)

/-- Both validators test, on one representative `c` per piece, that the table's move `g c` and
the successor vector `f c` agree. When `g` and `f` are uniform on the pieces, the test covers every
`c`. -/
theorem checkReps_sound {bs : List Int} {g : Int → Option Nat} {f : Int → List (List Re)} {n : Nat}
    {R : List Cfg} (hg : ∀ c c', SamePiece bs c c' → g c = g c')
    (hf : ∀ c c', SamePiece bs c c' → f c = f c')
    (h : ((reps bs).all fun c => match g c with
      | none => vecDead (f c)
      | some q' => !vecDead (f c) && (mkIndex n R).has (q', f c)) = true) (c : Int) :
    match g c with
    | none => vecDead (f c) = true
    | some q' => vecDead (f c) = false ∧ (q', f c) ∈ R := by
  obtain ⟨c', hc', hsame⟩ := reps_cover bs c
  have := List.all_eq_true.mp h c' hc'
  rw [hg c c' hsame, hf c c' hsame]
  split at this
  · exact this
  · rw [Bool.and_eq_true, Bool.not_eq_true'] at this
    exact ⟨this.1, mkIndex_has this.2⟩

def CfgOK (pss : List (List Pair)) (tbl : Mode) (R : List Cfg) (q : Nat) (v : List (List Re)) : Prop :=
  ∃ row, rowAt tbl q = some row ∧ row.flags % 2 = 0 ∧ row.acts = labelOf pss v ∧
    ∀ c : Int,
      match tableStep tbl q c with
      | none => vecDead (pdVec c v) = true
      | some q' => vecDead (pdVec c v) = false ∧ (q', pdVec c v) ∈ R

theorem checkCfg_sound {pss : List (List Pair)} {tbl : Mode} {R : List Cfg} {q : Nat}
    {v : List (List Re)} {n : Nat} (h : checkCfg pss tbl (mkIndex n R) (q, v) = true) :
    CfgOK pss tbl R q v := by
  unfold checkCfg at h
  simp only at h
  split at h
  · cases h
  · rename_i row hrow
    simp only [Bool.and_eq_true, decide_eq_true_eq] at h
    obtain ⟨⟨hflags, hacts⟩, hall⟩ := h
    have hstep : tableStep tbl q = fun c => (lookup row.trs c).map Int.toNat :=
      funext fun c => by rw [tableStep_of_row hrow, if_pos hflags]
    rw [CfgOK, hstep]
    exact ⟨row, hrow, hflags, hacts, checkReps_sound
      (fun c c' hs => congrArg _ (lookup_congr (hs.mono fun b hb => List.mem_append_left _ hb)))
      (fun c c' hs => pdVec_samePiece (hs.mono fun b hb => List.mem_append_right _ hb)) hall⟩

/-- What `checkAll rules tbl R = true` says (`checkAll_sound`): `R` holds the initial configuration,
and every configuration in `R` carries the label of its row and steps, on every rune, as the table
does, into `R` again (`CfgOK`). -/
structure Closed (rules : List Rule) (tbl : Mode) (R : List Cfg) : Prop where
  wf : wfTable tbl = true
  rulesOK : rulesOK rules = true
  init : (0, initVec rules) ∈ R
  step : ∀ q v, (q, v) ∈ R → CfgOK (rules.map (·.2)) tbl R q v

theorem checkAll_sound {rules : List Rule} {tbl : Mode} {R : List Cfg}
    (h : checkAll rules tbl R = true) : Closed rules tbl R := by
  unfold checkAll at h
  simp only [Bool.and_eq_true, List.all_eq_true] at h
  obtain ⟨⟨⟨hwf, hrules⟩, hinit⟩, hall⟩ := h
  exact ⟨hwf, hrules, mkIndex_has hinit, fun q v hqv => checkCfg_sound (hall (q, v) hqv)⟩

theorem bisimN_ok {rules : List Rule} {tbl : Mode} {n : Nat} (h : bisimN rules tbl = .ok n) :
    ∃ R, checkAll rules tbl R = true := by
  unfold bisimN at h
  split at h
  · cases h
  · split at h
    · cases h
    · split at h
      · cases h
      · split at h
        · cases h
        · simp only at h
          split at h
          · cases h
          · rename_i R _
            split at h
            · rename_i hc; exact ⟨_, hc⟩
            · split at h <;> cases h

theorem bisim_ok {rules : List Rule} {tbl : Mode} (h : bisim rules tbl = .ok ()) :
    ∃ R, Closed rules tbl R := by
  unfold bisim at h
  cases hb : bisimN rules tbl with
  | error e => rw [hb] at h; cases h
  | ok n =>
    obtain ⟨R, hR⟩ := bisimN_ok hb
    exact ⟨R, checkAll_sound hR⟩

theorem foldl_pdVec (rules : List Rule) : ∀ (s : List Int) (g : Rule → List Re),
    s.foldl (fun v c => pdVec c v) (rules.map g) = rules.map fun r => stepW false s (g r)
  | [], _ => rfl
  | c :: s, g => by
    rw [List.foldl_cons, pdVec, List.map_map]
    exact foldl_pdVec rules s fun r => pdSet c (g r)

theorem CfgOK.rowPairs {pss : List (List Pair)} {tbl : Mode} {R : List Cfg} {q : Nat}
    {v : List (List Re)} (h : CfgOK pss tbl R q v) : rowPairs tbl q = labelOf pss v := by
  obtain ⟨row, hrow, _, hacts, _⟩ := h
  rw [rowPairs_eq hrow]; exact hacts

theorem closed_sound {rules : List Rule} {tbl : Mode} {R : List Cfg} (hC : Closed rules tbl R)
    (s : List Int) : tableRun tbl s = specRun rules s := by
  obtain ⟨hne, hok⟩ := rulesOK_iff.mp hC.rulesOK
  have hrun := run_closed vecDead_pdVec (fun q v h => (hC.step q v h).choose_spec.2.2.2) s 0 _
    hC.init (initVec_not_dead hne)
  rw [initVec, foldl_pdVec] at hrun
  unfold specRun
  exact tableRun_eq_of_tracked hrun (fun q' h => (hC.step q' _ h).rowPairs)
    (vecDead_map_iff fun r hr => by simpa only [ruleMatches_false] using stepW_viable (ng := false) (u := s) (hok r hr).1)
    (labelOf_map_eq (L := (label · s)) rfl (fun _ _ => rfl) rules fun r _ =>
      ruleMatches_false.symm.trans stepW_matches)

theorem tableSpec_of_closed {rules : List Rule} {tbl : Mode} {R : List Cfg}
    (hC : Closed rules tbl R) : TableSpec tbl (viable rules) (label rules) :=
  .of_run hC.wf (closed_sound hC)

/-- What an `ok` of the validator means: the table computes `viable` and `label` of the rules. -/
theorem bisim_tableSpec {rules : List Rule} {tbl : Mode} (h : bisim rules tbl = .ok ()) :
    TableSpec tbl (viable rules) (label rules) :=
  let ⟨_, hC⟩ := bisim_ok h
  tableSpec_of_closed hC

end Lox.Lex
