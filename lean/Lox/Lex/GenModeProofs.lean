import Lox.Lex.EmitArrayProofs
import Lox.Lex.GenNFAViable
import Lox.Lex.GenShapeProofs
import Lox.Lex.GenTotalProofs
import Lox.Lex.SpecProofs
import Lox.Lex.TableSpecProofs
/-! One mode from rules to array. `Built xs F` says everything the later layers use of the
automaton `ModeBuilder.Build` returns for the rules `xs`, and `buildDFA_built` establishes it in one
pass over the stages. `genMode_inv` reads `genMode xs rules = some m` backwards, so that what the
array `m` does (`genMode_run`, `genMode_startClean`, `genMode_wfMode`) follows from `Built` and the
emission lemmas of `EmitArrayProofs`. -/
namespace Lox.Lex.Gen
open Lox.Lex

structure Built (xs : List Rx) (F : DFA) : Prop where
  wf : F.WF
  pos : 0 < F.states.length
  /-- `splitStartState`: state 0 is left and never entered. -/
  noStart : NoEdgeIntoStart F
  runes : (∀ r ∈ xs, r.runesOK = true) → F.Runes
  greedy : (∀ r ∈ xs, r.greedy = true) → F.Greedy
  /-- A mode without rules still has its start state: `F` reads the empty word. -/
  alive : ∀ w, (F.run 0 w).isSome → xs ≠ [] → Viable xs w
  viable : ∀ w, Viable xs w → (F.run 0 w).isSome
  winner : ∀ w j, F.run 0 w = some j → ∃ st, F.states[j]? = some st ∧
    IsWinner xs w (pickAction (modeNFA xs) st.nfa)

/-- `ModeBuilder.Build` computes the specification. If the model of `Build` (Thompson
construction, `normalizeInputs`, subset construction, `optimize`, `splitStartState`,
`mergeTransitions`) returns the automaton `F` for rules with non-empty classes, then `F` is fit for
`mode_table` (well formed, not empty, no transition into state 0, code-point labels for rules over
code points, no `NonGreedy` mark for rules without `*?` / `+?`); after any word `w` the run of `F`
is defined iff `w` is a prefix of a word some rule matches; and `pickAction` on the state reached
selects the earliest rule that matches `w` (none if no rule does). -/
theorem buildDFA_built (xs : List Rx) (hok : ∀ r ∈ xs, r.clsOK = true) (F : DFA)
    (h : buildDFA (modeNFA xs) = some (.ok F)) : Built xs F := by
  obtain ⟨m'', d, d', hm'', hd, hopt, rfl⟩ := buildDFA_stages h
  obtain ⟨E', hm', hstep, hpd, hval⟩ := normalizeNFA_spec (modeNFA xs) (modeNFA_validLabels xs hok)
  cases hm'.symm.trans hm''
  let m' : NFA := { modeNFA xs with edges := E' }
  have hpath : ∀ p w q, Path m'.edges p w q ↔ Path (modeNFA xs).edges p w q :=
    fun _ _ _ => hstep.path
  obtain ⟨hdwf, hdacc⟩ := subset_wf m' hpd hval _ d hd
  obtain ⟨hd'wf, _, hpos, f, _, hf⟩ := optimize_correct m' d hdwf hdacc d' hopt
  obtain ⟨hno, hswf, g, _, hgview, hgrun⟩ := splitStart_correct d' hd'wf
  obtain ⟨hFwf, hFview, hFstep, hFno⟩ := mergeTransitions_correct (splitStart d') hswf
  have hspos := Nat.lt_of_lt_of_le (hpos (subset_pos hd)) (splitStart_length d')
  have hFpos : 0 < (mergeTransitions (splitStart d')).states.length := by
    simpa only [mergeTransitions, List.length_map] using hspos
  have hshape := optimize_shape m' d d' hdwf hopt
  -- the subset construction tracks the normalised NFA; `optimize` carries this forward,
  -- `splitStartState` and `mergeTransitions` back
  have T : (mergeTransitions (splitStart d')).Tracks m' :=
    (((subset_tracks m' hpd _ d hd).push
      ⟨fun w => (hf w).1.symm, fun w j hj => ((hf w).2 j hj).2⟩).pull
      (.of_view hgrun hgview)).pull
      (.of_view (h := id) (fun w => by rw [Option.map_id_fun, id_eq, run_congr hFstep w 0]) hFview)
  have hreads : ∀ w, (∃ q, Path m'.edges m'.start w q) ↔
      ∃ q, Path (modeNFA xs).edges (modeNFA xs).start w q :=
    fun w => exists_congr fun q => hpath _ w q
  refine ⟨hFwf, hFpos, hFno hno, fun hr => ?_, fun hg => ?_, fun w hw hne => ?_, fun w hv => ?_,
    fun w j hj => ?_⟩
  · exact mergeTransitions_runes _ hswf (splitStart_labelsP hd'wf (hshape.1 _
      (subset_labelsP m' _ d hd
        (normalized_runes hstep hval (modeNFA_runes xs hr)))))
  · exact greedy_of_noNG _ (.of_view hFview (.of_view hgview (hshape.2
      (subset_noNG m' _ d hd (modeNFA_ng_nil xs hg)))))
  · exact (modeNFA_viable xs hne hok w).1 ((hreads w).1 ((T w).1.1 hw))
  · have ⟨x, hx, _⟩ := hv
    exact (T w).1.2 ((hreads w).2 ((modeNFA_viable xs (List.ne_nil_of_mem hx) hok w).2 hv))
  · have hFj := List.getElem?_eq_getElem (run_lt hFwf w 0 j hFpos hj)
    refine ⟨_, hFj, ?_⟩
    rw [← pickAction_acc (modeNFA xs) m' rfl]
    exact pickAction_winner xs m' rfl rfl hpath w _ fun q =>
      (mem_accNFA_of_get m' hFj).symm.trans ((T w).2 j hj q)

theorem genMode_inv {xs : List Rx} {rules : List Rule} {m : Mode} (h : genMode xs rules = some m) :
    ∃ F, buildDFA (modeNFA xs) = some (.ok F) ∧
      emitMode F (statePairs rules (modeNFA xs) F) = some m := by
  unfold genMode at h
  split at h
  · exact ⟨_, ‹_›, h⟩
  · cases h

/-- The generator never fails (classes written `lo ≤ hi`): no panic of `rang3.Normalize`,
`GetStateGroup` or `AddRow`, no loop of the model runs out of fuel. -/
theorem genMode_total (xs : List Rx) (rules : List Rule) (hok : ∀ r ∈ xs, r.clsOK = true) :
    ∃ m, genMode xs rules = some m := by
  obtain ⟨F, hF⟩ := buildDFA_total xs hok
  obtain ⟨m, hm⟩ := emitMode_total F (statePairs rules (modeNFA xs) F)
  exact ⟨m, by simp only [genMode, hF, hm]⟩

theorem genMode_built {xs : List Rx} {rules : List Rule} {m : Mode}
    (h : genMode xs rules = some m) (hok : ∀ r ∈ xs, r.clsOK = true) :
    ∃ F, Built xs F ∧ emitMode F (statePairs rules (modeNFA xs) F) = some m :=
  have ⟨F, hF, hm⟩ := genMode_inv h
  ⟨F, buildDFA_built xs hok F hF, hm⟩

theorem genMode_wfTable {xs : List Rx} {rules : List Rule} {m : Mode}
    (hgen : genMode xs rules = some m) (hok : ∀ r ∈ xs, r.clsOK = true)
    (hrunes : ∀ r ∈ xs, r.runesOK = true) : wfTable m = true :=
  have ⟨_, hB, hm⟩ := genMode_built hgen hok
  emit_wfTable hm hB.pos hB.wf (hB.runes hrunes)

/-- `Viable` on written expressions is `viable` on their `Re`. -/
theorem gen_viable (xs : List Rx) (rules : List Rule) (h : rules.map (·.1) = xs.map Rx.toRe)
    (w : List Int) : Viable xs w ↔ viable rules w := by
  constructor
  · rintro ⟨x, hx, t, hm⟩
    have : x.toRe ∈ rules.map (·.1) := by rw [h]; exact List.mem_map.2 ⟨x, hx, rfl⟩
    obtain ⟨r, hr, hre⟩ := List.mem_map.1 this
    exact ⟨r, hr, t, by rw [hre]; exact hm⟩
  · rintro ⟨r, hr, t, hm⟩
    have : r.1 ∈ xs.map Rx.toRe := by rw [← h]; exact List.mem_map.2 ⟨r, hr, rfl⟩
    obtain ⟨x, hx, hxe⟩ := List.mem_map.1 this
    exact ⟨x, hx, t, by rw [hxe]; exact hm⟩

/-- The action pairs stored on a DFA state whose `pickAction` winner is rule `i` (`Data`). -/
def winnerPairs (rules : List Rule) : Option Nat → List Pair
  | none => []
  | some i => (rules[i]?.map (·.2)).getD []

/-- The winner `pickAction` returns is the rule whose action pairs `label` returns. -/
theorem gen_label (xs : List Rx) (rules : List Rule) (h : rules.map (·.1) = xs.map Rx.toRe)
    (w : List Int) (o : Option Nat) (hw : IsWinner xs w o) :
    label rules w = winnerPairs rules o := by
  have hget : ∀ (i : Nat) (r : Rule), rules[i]? = some r →
      ∃ x, xs[i]? = some x ∧ x.toRe = r.1 := by
    intro i r hr
    have h1 := congrArg (·[i]?) h
    simp only [List.getElem?_map, hr, Option.map_some] at h1
    exact Option.map_eq_some_iff.1 h1.symm
  cases o with
  | none =>
    refine label_of_none rules w fun r hr hm => ?_
    obtain ⟨i, hi⟩ := List.mem_iff_getElem?.1 hr
    obtain ⟨x, hx, hxe⟩ := hget i r hi
    exact hw x (List.mem_of_getElem? hx) (hxe ▸ hm)
  | some i =>
    obtain ⟨⟨x, hx, hm⟩, hleast⟩ := hw
    have hi : i < rules.length := by
      have hlen := congrArg List.length h
      simp only [List.length_map] at hlen
      exact hlen ▸ (List.getElem?_eq_some_iff.1 hx).1
    obtain ⟨x', hx', hxe⟩ := hget i _ (List.getElem?_eq_getElem hi)
    cases hx.symm.trans hx'
    simp only [winnerPairs, List.getElem?_eq_getElem hi, Option.map_some, Option.getD_some]
    refine label_of_least rules w i hi (hxe ▸ hm) fun j hj hmj => ?_
    obtain ⟨xj, hxj, hxje⟩ := hget j _ (List.getElem?_eq_getElem (Nat.lt_trans hj hi))
    exact hleast j xj hj hxj (hxje ▸ hmj)

theorem statePairs_eq (rules : List Rule) (m : NFA) (F : DFA) (j : Nat) (st : DState)
    (h : F.states[j]? = some st) :
    statePairs rules m F j = winnerPairs rules (pickAction m st.nfa) := by
  simp only [statePairs, h, Option.map_some, Option.getD_some]
  cases pickAction m st.nfa <;> rfl

theorem statePairs_mem (rules : List Rule) (m : NFA) (F : DFA) (s : Nat) :
    statePairs rules m F s = [] ∨ ∃ r ∈ rules, statePairs rules m F s = r.2 := by
  unfold statePairs
  split
  · exact .inl rfl
  · rename_i i _
    cases hi : rules[i]? with
    | none => exact .inl rfl
    | some r => exact .inr ⟨r, List.mem_of_getElem? hi, rfl⟩

/-- The state reached by `w` stores the pairs of the earliest rule matching `w`. -/
theorem Built.pairs {xs : List Rx} {F : DFA} (hB : Built xs F) {rules : List Rule}
    (h : rules.map (·.1) = xs.map Rx.toRe) {w : List Int} {j : Nat} (hj : F.run 0 w = some j) :
    statePairs rules (modeNFA xs) F j = label rules w := by
  obtain ⟨st, hst, hw⟩ := hB.winner w j hj
  rw [statePairs_eq rules _ F j st hst, gen_label xs rules h w _ hw]

/-- State 0 stores nothing when no rule matches the empty word (also for a mode without rules). -/
theorem Built.start_pairs {xs : List Rx} {F : DFA} (hB : Built xs F) {rules : List Rule}
    (h : rules.map (·.1) = xs.map Rx.toRe) (hnonempty : ∀ r ∈ rules, ¬ Matches r.1 []) :
    statePairs rules (modeNFA xs) F 0 = [] :=
  (hB.pairs h (w := []) rfl).trans (label_of_none rules [] hnonempty)

/-- The array is a well-formed table, and on every word `s` the automaton decoded from it
(`tableRun`) dies exactly when `s` is not a prefix of a match of any rule, and otherwise stops in a
state whose stored action pairs are those of the earliest rule matching `s` exactly. -/
theorem genMode_run {xs : List Rx} {rules : List Rule} {m : Mode} (hgen : genMode xs rules = some m)
    (h : rules.map (·.1) = xs.map Rx.toRe) (hne : xs ≠ []) (hok : ∀ r ∈ xs, r.clsOK = true)
    (hrunes : ∀ r ∈ xs, r.runesOK = true) (hgreedy : ∀ r ∈ xs, r.greedy = true) :
    wfTable m = true ∧ ∀ s : List Int, tableRun m s = specRun rules s := by
  obtain ⟨F, hB, hm⟩ := genMode_built hgen hok
  refine ⟨genMode_wfTable hgen hok hrunes, fun s => ?_⟩
  simp only [tableRun, specRun,
    emit_run hm hB.wf (hB.runes hrunes) (hB.greedy hgreedy) s 0 hB.pos]
  cases hj : F.run 0 s with
  | none =>
    rw [if_neg fun hv => by
      have := hB.viable s ((gen_viable xs rules h s).2 hv)
      rw [hj] at this
      cases this]
    rfl
  | some j =>
    rw [if_pos ((gen_viable xs rules h s).1 (hB.alive s (by rw [hj]; rfl) hne)), Option.map_some,
      emit_rowPairs hm (run_lt hB.wf s 0 j hB.pos hj), hB.pairs h hj]

theorem genMode_tableSpec {xs : List Rx} {rules : List Rule} {m : Mode}
    (hgen : genMode xs rules = some m) (h : rules.map (·.1) = xs.map Rx.toRe) (hne : xs ≠ [])
    (hok : ∀ r ∈ xs, r.clsOK = true) (hrunes : ∀ r ∈ xs, r.runesOK = true)
    (hgreedy : ∀ r ∈ xs, r.greedy = true) : TableSpec m (viable rules) (label rules) :=
  have ⟨hwf, hrun⟩ := genMode_run hgen h hne hok hrunes hgreedy
  .of_run hwf hrun

/-- State 0 of the array means "nothing consumed since the last token": no transition leads into
it (`splitStartState`), and it stores no action pairs provided no rule matches the empty string. -/
theorem genMode_startClean {xs : List Rx} {rules : List Rule} {m : Mode}
    (hgen : genMode xs rules = some m) (h : rules.map (·.1) = xs.map Rx.toRe)
    (hok : ∀ r ∈ xs, r.clsOK = true) (hrunes : ∀ r ∈ xs, r.runesOK = true)
    (hnonempty : ∀ r ∈ rules, ¬ Matches r.1 []) : startClean m = true :=
  have ⟨_, hB, hm⟩ := genMode_built hgen hok
  emit_startClean hm hB.pos hB.wf (hB.runes hrunes) hB.noStart (hB.start_pairs h hnonempty)

/-- Every row of the array stores nothing or the pairs of a rule (the `pickAction` winner of that
state). -/
theorem genMode_rowPairs {xs : List Rx} {rules : List Rule} {m : Mode}
    (hgen : genMode xs rules = some m) (hok : ∀ r ∈ xs, r.clsOK = true) {q : Nat}
    (hq : q < Rt.nStates m) :
    ∃ row, Rt.decodeRow m (q : Int) = some row ∧ (row.pairs = [] ∨ ∃ r ∈ rules, row.pairs = r.2) := by
  obtain ⟨F, hB, hm⟩ := genMode_built hgen hok
  rw [rt_nStates_eq, (emit_nStates hm hB.pos).1] at hq
  exact ⟨_, emit_decodeRow hm (List.getElem?_eq_getElem hq), statePairs_mem rules _ F q⟩

/-- The array is a well-formed mode (`Rt.wfMode`) when the pairs of every rule are of the
documented shape and no rule matches the empty string; the mode may be without rules. -/
theorem genMode_wfMode {xs : List Rx} {rules : List Rule} {m : Mode} (nModes : Nat)
    (hgen : genMode xs rules = some m) (h : rules.map (·.1) = xs.map Rx.toRe)
    (hok : ∀ r ∈ xs, r.clsOK = true) (hrunes : ∀ r ∈ xs, r.runesOK = true)
    (hpairs : ∀ r ∈ rules, Rt.wfPairs nModes r.2 = true)
    (hnonempty : ∀ r ∈ rules, ¬ Matches r.1 []) : Rt.wfMode nModes m = true := by
  obtain ⟨F, hB, hm⟩ := genMode_built hgen hok
  refine emit_wfMode nModes hm hB.pos hB.wf (hB.runes hrunes) hB.noStart (fun s _ => ?_)
    (hB.start_pairs h hnonempty)
  rcases statePairs_mem rules (modeNFA xs) F s with h0 | ⟨r, hr, hs⟩
  · rw [h0]; rfl
  · rw [hs]; exact hpairs r hr

end Lox.Lex.Gen
