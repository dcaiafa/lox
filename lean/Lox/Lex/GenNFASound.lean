import Lox.Lex.GenNFAProofs
/-! Soundness of the Thompson construction by an inductive invariant: `I p u` says that the word `u`
may have been read when the automaton is in state `p`; every edge of a fragment keeps it
(`EdgeInv`), the entry holds what was read before the fragment (`K`) and the exit nothing outside
`K · L(r)` (`FragInv`, `th_inv`). Hence `th_correct`; the fragments of the rules of a mode do not
overlap (`RuleAt`), so their invariants make one of the mode NFA (`modeInv`) and a path from its start
state ends at the exit of rule `i` iff rule `i` matches (`modeNFA_label`). -/
namespace Lox.Lex.Gen
open Lox.Rang3 (Range)

abbrev Lang := List Int → Prop

/-- `K · L(re)`. -/
def cat (K : Lang) (re : Re) : Lang := fun u => ∃ k v, K k ∧ Matches re v ∧ u = k ++ v

theorem cat_nil {K : Lang} {re : Re} (h : Matches re []) {u : List Int} (hu : K u) : cat K re u :=
  ⟨u, [], hu, h, (List.append_nil u).symm⟩

theorem cat_mono {K : Lang} {r s : Re} (h : ∀ v, Matches r v → Matches s v) {u : List Int}
    (hu : cat K r u) : cat K s u :=
  let ⟨k, v, hk, hv, e⟩ := hu
  ⟨k, v, hk, h v hv, e⟩

theorem cat_cat {K : Lang} {r s t : Re}
    (h : ∀ u v, Matches r u → Matches s v → Matches t (u ++ v)) {u : List Int}
    (hu : cat (cat K r) s u) : cat K t u := by
  obtain ⟨_, v2, ⟨k, v1, hk, h1, rfl⟩, h2, rfl⟩ := hu
  exact ⟨k, v1 ++ v2, hk, h v1 v2 h1 h2, List.append_assoc ..⟩

theorem cat_nil_iff {re : Re} {u : List Int} : cat (· = []) re u ↔ Matches re u :=
  ⟨fun ⟨_, _, hk, hv, e⟩ => e ▸ hk ▸ hv, fun h => ⟨[], u, rfl, h, rfl⟩⟩

def Edge.Keeps (I : Nat → Lang) (ed : Edge) : Prop :=
  ∀ u, I ed.src u → match ed.lbl with
    | none => I ed.dst u
    | some rg => ∀ c, rg.b ≤ c → c ≤ rg.e → I ed.dst (u ++ [c])

def EdgeInv (E : List Edge) (I : Nat → Lang) : Prop := ∀ ed ∈ E, ed.Keeps I

theorem EdgeInv.pathN {E : List Edge} {I : Nat → Lang} (h : EdgeInv E I) {k p w q}
    (hp : PathN E k p w q) : ∀ u, I p u → I q (u ++ w) := by
  induction hp with
  | nil p => exact fun u hu => (List.append_nil u).symm ▸ hu
  | eps he _ ih => exact fun u hu => ih u (h _ he u hu)
  | chr he h1 h2 _ ih =>
    intro u hu
    have := ih _ (h _ he u hu _ h1 h2)
    rwa [List.append_assoc] at this

theorem EdgeInv.append {A B : List Edge} {I : Nat → Lang} :
    EdgeInv (A ++ B) I ↔ EdgeInv A I ∧ EdgeInv B I :=
  List.forall_mem_append

theorem EdgeInv.nil (I : Nat → Lang) : EdgeInv [] I := fun _ h => absurd h List.not_mem_nil

theorem EdgeInv.cons {ed : Edge} {E : List Edge} {I : Nat → Lang} (h : ed.Keeps I)
    (hE : EdgeInv E I) : EdgeInv (ed :: E) I := List.forall_mem_cons.2 ⟨h, hE⟩

theorem Edge.Keeps.congr {I J : Nat → Lang} {ed : Edge} (h : ed.Keeps I) (hs : J ed.src = I ed.src)
    (hd : J ed.dst = I ed.dst) : ed.Keeps J := by
  unfold Edge.Keeps
  rw [hs, hd]
  exact h

theorem keeps_eps {I : Nat → Lang} {p q : Nat} (h : ∀ u, I p u → I q u) :
    (⟨p, none, q⟩ : Edge).Keeps I := h

/-- `I` on the states below `N`, `J` from `N` on: the fragments of a construction occupy consecutive
intervals of states. -/
def glue (N : Nat) (I J : Nat → Lang) : Nat → Lang := fun p => if p < N then I p else J p

theorem glue_lt {N p : Nat} (I J : Nat → Lang) (h : p < N) : glue N I J p = I p := if_pos h

theorem glue_ge {N p : Nat} (I J : Nat → Lang) (h : N ≤ p) : glue N I J p = J p :=
  if_neg (Nat.not_lt.2 h)

/-- `I` shows that the fragment `f` is sound for `re`, `K` being what may have been read on entry. -/
structure FragInv (f : Frag) (re : Re) (K : Lang) (I : Nat → Lang) : Prop where
  entry : ∀ u, K u → I f.b u
  inv : EdgeInv f.edges I
  exit : ∀ u, I f.e u → cat K re u

theorem FragWF.inv_glue_left {f : Frag} {n : Nat} (wf : FragWF f n) {I : Nat → Lang}
    (h : EdgeInv f.edges I) (J : Nat → Lang) : EdgeInv f.edges (glue f.next I J) :=
  fun ed hed => (h ed hed).congr (glue_lt _ _ (wf.edges ed hed).2.1) (glue_lt _ _ (wf.edges ed hed).2.2.2.1)

theorem FragWF.inv_glue_right {f : Frag} {n : Nat} (wf : FragWF f n) {J : Nat → Lang}
    (h : EdgeInv f.edges J) (I : Nat → Lang) : EdgeInv f.edges (glue n I J) :=
  fun ed hed => (h ed hed).congr (glue_ge _ _ (wf.edges ed hed).1) (glue_ge _ _ (wf.edges ed hed).2.2.1)

/-- The fresh states `B = N`, `E = N + 1` of `? * +` above the states of the body. -/
def wrap (N : Nat) (I : Nat → Lang) (K Out : Lang) : Nat → Lang :=
  glue N I fun p => if p = N then K else Out

theorem wrap_b (N : Nat) (I : Nat → Lang) (K Out : Lang) : wrap N I K Out N = K := by
  simp only [wrap, glue, Nat.lt_irrefl, if_false, if_true]

theorem wrap_e (N : Nat) (I : Nat → Lang) (K Out : Lang) : wrap N I K Out (N + 1) = Out := by
  simp only [wrap, glue, if_neg (Nat.not_lt.2 (Nat.le_succ N)), if_neg (Nat.succ_ne_self N)]

/-! The ε edges `? * +` put around the body `f`: `B -> E` (skip), `B -> f.b` (enter), `f.e -> f.b`
(back), `f.e -> E` (out). -/

theorem keeps_wrap_skip {N : Nat} {I : Nat → Lang} {K Out : Lang} (h : ∀ u, K u → Out u) :
    (⟨N, none, N + 1⟩ : Edge).Keeps (wrap N I K Out) := keeps_eps fun u hu => by
  rw [wrap_b] at hu
  rw [wrap_e]
  exact h u hu

theorem FragWF.keeps_wrap_enter {f : Frag} {n : Nat} (wf : FragWF f n) {I : Nat → Lang}
    {K Out : Lang} (h : ∀ u, K u → I f.b u) :
    (⟨f.next, none, f.b⟩ : Edge).Keeps (wrap f.next I K Out) := keeps_eps fun u hu => by
  rw [wrap_b] at hu
  rw [wrap, glue_lt _ _ wf.hb.2]
  exact h u hu

theorem FragWF.keeps_wrap_back {f : Frag} {n : Nat} (wf : FragWF f n) {I : Nat → Lang}
    {K Out : Lang} (h : ∀ u, I f.e u → I f.b u) :
    (⟨f.e, none, f.b⟩ : Edge).Keeps (wrap f.next I K Out) := keeps_eps fun u hu => by
  rw [wrap, glue_lt _ _ wf.he.2] at hu
  rw [wrap, glue_lt _ _ wf.hb.2]
  exact h u hu

theorem FragWF.keeps_wrap_out {f : Frag} {n : Nat} (wf : FragWF f n) {I : Nat → Lang}
    {K Out : Lang} (h : ∀ u, I f.e u → Out u) :
    (⟨f.e, none, f.next + 1⟩ : Edge).Keeps (wrap f.next I K Out) := keeps_eps fun u hu => by
  rw [wrap, glue_lt _ _ wf.he.2] at hu
  rw [wrap_e]
  exact h u hu

theorem FragInv.wrap {f : Frag} {n : Nat} {re ro : Re} {K Kin : Lang} {I : Nat → Lang}
    (hf : FragInv f re Kin I) (wf : FragWF f n) (ng : List Nat) {G : List Edge}
    (hG : EdgeInv G (wrap f.next I K (cat K ro))) :
    FragInv ⟨f.next, f.next + 1, f.next + 2, f.edges ++ G, ng⟩ ro K
      (wrap f.next I K (cat K ro)) :=
  ⟨fun u hu => by rwa [wrap_b],
    EdgeInv.append.2 ⟨wf.inv_glue_left hf.inv _, hG⟩,
    fun u hu => by rwa [wrap_e] at hu⟩

/-- `I` shows that the factors of an alternation (edges `G`, states from `n` on) are sound between
`B = b` and `E = e`, both below `n`: what is read on entry reaches every factor, and what leaves for
`E` is in `Out`. Nothing is said of the states `b` and `e` themselves. -/
structure AltsInv (G : List Edge) (b e n : Nat) (K Out : Lang) (I : Nat → Lang) : Prop where
  entry : ∀ p, (⟨b, none, p⟩ : Edge) ∈ G → ∀ u, K u → I p u
  inner : ∀ ed ∈ G, n ≤ ed.src → n ≤ ed.dst → ed.Keeps I
  exit : ∀ ed ∈ G, n ≤ ed.src → ed.dst = e → ∀ u, I ed.src u → Out u

theorem AltsInv.nil (b e n : Nat) (K Out : Lang) (I : Nat → Lang) : AltsInv [] b e n K Out I :=
  ⟨fun _ h => absurd h List.not_mem_nil, fun _ h => absurd h List.not_mem_nil,
    fun _ h => absurd h List.not_mem_nil⟩

/-- One factor `f`, built at `n`, in front of the later factors `G`, built at `f.next`. -/
theorem AltsInv.cons {f : Frag} {n N b e : Nat} {re : Re} {K Out : Lang} {If Ig : Nat → Lang}
    {G : List Edge} (wf : FragWF f n) (hb : b < n) (he : e < n) (hf : FragInv f re K If)
    (hout : ∀ u, cat K re u → Out u) (sg : AltsShape G b e f.next N)
    (hg : AltsInv G b e f.next K Out Ig) :
    AltsInv (f.edges ++ [⟨b, none, f.b⟩, ⟨f.e, none, e⟩] ++ G) b e n K Out (glue f.next If Ig) := by
  have hle := wf.le_next
  have mem : ∀ {ed : Edge}, ed ∈ f.edges ++ [⟨b, none, f.b⟩, ⟨f.e, none, e⟩] ++ G →
      ed ∈ f.edges ∨ ed = ⟨b, none, f.b⟩ ∨ ed = ⟨f.e, none, e⟩ ∨ ed ∈ G := fun h => by
    simpa only [List.mem_append, List.mem_cons, List.not_mem_nil, or_false, or_assoc] using h
  -- an edge of `G` that starts at or above `n` starts inside `G`'s own interval
  have srcG : ∀ ed ∈ G, n ≤ ed.src → f.next ≤ ed.src := fun ed h h1 =>
    (sg ed h).elim (fun a => absurd (a.1 ▸ h1) (Nat.not_le.2 hb)) (·.1)
  refine ⟨fun p hp u hu => ?_, fun ed hed h1 h2 => ?_, fun ed hed h1 h2 u hu => ?_⟩
  · rcases mem hp with h | h | h | h
    · exact absurd (wf.edges _ h).1 (Nat.not_le.2 hb)
    · cases h
      rw [glue_lt _ _ wf.hb.2]
      exact hf.entry u hu
    · cases h
      exact absurd wf.he.1 (Nat.not_le.2 hb)
    · have : f.next ≤ p := (sg _ h).elim (·.2.2.1) fun a =>
        absurd (Nat.le_trans hle a.1) (Nat.not_le.2 hb)
      rw [glue_ge _ _ this]
      exact hg.entry p h u hu
  · rcases mem hed with h | rfl | rfl | h
    · exact wf.inv_glue_left hf.inv Ig ed h
    · exact absurd h1 (Nat.not_le.2 hb)
    · exact absurd h2 (Nat.not_le.2 he)
    · have a1 := srcG ed h h1
      have a2 : f.next ≤ ed.dst := (sg ed h).elim (·.2.2.1) fun a =>
        a.2.2.elim (·.1) fun c => absurd (c.1 ▸ h2) (Nat.not_le.2 he)
      exact (hg.inner ed h a1 a2).congr (glue_ge _ _ a1) (glue_ge _ _ a2)
  · rcases mem hed with h | rfl | rfl | h
    · exact absurd (h2 ▸ (wf.edges ed h).2.2.1) (Nat.not_le.2 he)
    · exact absurd h1 (Nat.not_le.2 hb)
    · rw [glue_lt _ _ wf.he.2] at hu
      exact hout u (hf.exit u hu)
    · have a1 := srcG ed h h1
      rw [glue_ge _ _ a1] at hu
      exact hg.exit ed h a1 h2 u hu

/-- `B` and `E` of an alternation as states of its fragment. -/
def alts (b e : Nat) (K Out : Lang) (I : Nat → Lang) : Nat → Lang :=
  fun p => if p = b then K else if p = e then Out else I p

/-- With `B = n`, `E = n + 1` allocated just below them, the factors make a sound fragment. -/
theorem AltsInv.fragInv {G : List Edge} {n N : Nat} {K : Lang} {re : Re} {I : Nat → Lang}
    (h : AltsInv G n (n + 1) (n + 2) K (cat K re) I) (sg : AltsShape G n (n + 1) (n + 2) N)
    (ng : List Nat) : FragInv ⟨n, n + 1, N, G, ng⟩ re K (alts n (n + 1) K (cat K re) I) := by
  have inner : ∀ p, n + 2 ≤ p → alts n (n + 1) K (cat K re) I p = I p := fun p hp => by
    rw [alts, if_neg (Nat.ne_of_gt (Nat.lt_of_lt_of_le (Nat.lt_add_of_pos_right (by decide)) hp)),
      if_neg (Nat.ne_of_gt (Nat.lt_of_lt_of_le (Nat.lt_succ_self _) hp))]
  have atb : alts n (n + 1) K (cat K re) I n = K := if_pos rfl
  have ate : alts n (n + 1) K (cat K re) I (n + 1) = cat K re := by
    rw [alts, if_neg (Nat.succ_ne_self n), if_pos rfl]
  refine ⟨fun u hu => by rwa [atb], fun ed hed => ?_, fun u hu => by rwa [ate] at hu⟩
  obtain ⟨s, l, d⟩ := ed
  rcases sg _ hed with ⟨a1, a2, a3, _⟩ | ⟨a1, _, ⟨a2, _⟩ | ⟨a2, a3⟩⟩
  · cases a1
    cases a2
    refine keeps_eps fun u hu => ?_
    rw [inner _ a3]
    rw [atb] at hu
    exact h.entry d hed u hu
  · exact (h.inner _ hed a1 a2).congr (inner _ a1) (inner _ a2)
  · cases a2
    cases a3
    refine keeps_eps fun u hu => ?_
    rw [ate]
    rw [inner _ a1] at hu
    exact h.exit _ hed a1 rfl u hu

/-- One range `r` of the class `cs`: nothing read yet in its first state, one code point of the class in
its second. -/
theorem rangeFrag_inv {cs : Cls} {r : Int × Int} (hr : r ∈ cs) (p : Nat) (K : Lang) :
    FragInv (rangeFrag r p) (.cls cs) K fun q => if q = p then K else cat K (.cls cs) := by
  refine ⟨fun u hu => ?_, List.forall_mem_singleton.2 fun u hu c h1 h2 => ?_, fun u hu => ?_⟩
  · rwa [if_pos rfl]
  · dsimp only at hu ⊢
    rw [if_pos rfl] at hu
    rw [if_neg (Nat.succ_ne_self p)]
    exact ⟨u, [c], hu, .cls ((inCls_iff cs c).2 ⟨r, hr, h1, h2⟩), rfl⟩
  · rwa [if_neg (Nat.succ_ne_self p)] at hu

theorem clsEdges_inv {b e : Nat} {cs₀ : Cls} (K : Lang) : ∀ (cs : Cls) (p : Nat),
    (∀ r ∈ cs, r ∈ cs₀) → b < p → e < p →
    ∃ I, AltsInv (clsEdges cs b e p) b e p K (cat K (.cls cs₀)) I
  | [], p, _, _, _ => ⟨fun _ _ => False, .nil ..⟩
  | r :: cs, p, hs, hb, he => by
    obtain ⟨Ig, hg⟩ := clsEdges_inv K cs (p + 2) (fun r h => hs r (List.mem_cons_of_mem _ h))
      (Nat.lt_add_right 2 hb) (Nat.lt_add_right 2 he)
    exact ⟨_, AltsInv.cons (rangeFrag_wf r p) hb he (rangeFrag_inv (hs r List.mem_cons_self) p K)
      (fun _ h => h) (clsEdges_shape b e cs (p + 2)) hg⟩

mutual
theorem th_inv : ∀ (r : Rx) (n : Nat) (K : Lang), ∃ I, FragInv (th r n) r.toRe K I
  | .lit cps, n, K => by
    -- state `n + i` has read `i` code points of the literal
    refine ⟨fun p u => ∃ i k, p = n + i ∧ K k ∧ u = k ++ cps.take i,
      fun u hu => ⟨0, u, rfl, hu, (List.append_nil u).symm⟩, fun ed hed => ?_, ?_⟩
    · obtain ⟨i, c, hi, rfl⟩ := (mem_litEdges_iff ..).1 hed
      obtain ⟨hlt, rfl⟩ := List.getElem?_eq_some_iff.1 hi
      rintro u ⟨j, k, hj, hk, rfl⟩ c' h1 h2
      cases Nat.add_left_cancel hj
      refine ⟨i + 1, k, Nat.add_assoc n i 1, hk, ?_⟩
      rw [List.take_succ_eq_append_getElem hlt, Int.le_antisymm h2 h1, List.append_assoc]
    · rintro u ⟨j, k, hj, hk, rfl⟩
      cases Nat.add_left_cancel hj
      exact ⟨k, cps, hk, (matches_lit cps cps).2 rfl, by rw [List.take_length]⟩
  | .cls cs, n, K => by
    obtain ⟨I, hI⟩ := clsEdges_inv (b := n) (e := n + 1) K cs (n + 2) (fun _ h => h)
      (Nat.lt_add_of_pos_right (by decide)) (Nat.lt_succ_self _)
    exact ⟨_, hI.fragInv (clsEdges_shape n (n + 1) cs (n + 2)) _⟩
  | .seq r s, n, K => by
    obtain ⟨If, hf⟩ := th_inv r n K
    obtain ⟨Ig, hg⟩ := th_inv s (th r n).next (cat K r.toRe)
    have wf := th_wf r n
    have wg := th_wf s (th r n).next
    refine ⟨glue (th r n).next If Ig, fun u hu => ?_, ?_, fun u hu => ?_⟩
    · rw [show (th (.seq r s) n).b = (th r n).b from rfl, glue_lt _ _ wf.hb.2]
      exact hf.entry u hu
    · refine EdgeInv.append.2 ⟨EdgeInv.append.2 ⟨wf.inv_glue_left hf.inv Ig,
        wg.inv_glue_right hg.inv If⟩, .cons (keeps_eps fun u hu => ?_) (.nil _)⟩
      rw [glue_lt _ _ wf.he.2] at hu
      rw [glue_ge _ _ wg.hb.1]
      exact hg.entry u (hf.exit u hu)
    · rw [show (th (.seq r s) n).e = (th s (th r n).next).e from rfl, glue_ge _ _ wg.he.1] at hu
      exact cat_cat (fun _ _ => .seq) (hg.exit u hu)
  | .alt r rest, n, K => by
    obtain ⟨If, hf⟩ := th_inv r (n + 2) K
    have wf := th_wf r (n + 2)
    have wg := thAlts_wf rest n (n + 1) (th r (n + 2)).next
    have hb : n < n + 2 := Nat.lt_add_of_pos_right (by decide)
    obtain ⟨Ig, hg⟩ := thAlts_inv rest n (n + 1) (th r (n + 2)).next K
      (cat K (.alt r.toRe rest.toRe)) (fun u hu => cat_mono (fun _ => .altr) hu)
      (Nat.lt_of_lt_of_le hb wf.le_next) (Nat.lt_of_lt_of_le (Nat.lt_succ_self _) wf.le_next)
    exact ⟨_, (AltsInv.cons wf hb (Nat.lt_succ_self _) hf (fun u hu => cat_mono (fun _ => .altl) hu)
      wg.edges hg).fragInv (wg.edges.cons wf (Nat.le_of_lt wg.hn)) _⟩
  | .opt r, n, K => by
    obtain ⟨If, hf⟩ := th_inv r n K
    have wf := th_wf r n
    exact ⟨_, hf.wrap wf _ <|
      .cons (keeps_wrap_skip fun u => cat_nil (.altr .eps)) <|
      .cons (wf.keeps_wrap_enter hf.entry) <|
      .cons (wf.keeps_wrap_out fun u hu => cat_mono (fun _ => .altl) (hf.exit u hu)) (.nil _)⟩
  | .star ng r, n, K => by
    -- the body is entered after any number of rounds
    obtain ⟨If, hf⟩ := th_inv r n (cat K (.star ng r.toRe))
    have wf := th_wf r n
    have hround : ∀ u, If (th r n).e u → cat K (.star ng r.toRe) u :=
      fun u hu => cat_cat (fun _ _ => matches_star_snoc) (hf.exit u hu)
    exact ⟨_, hf.wrap wf _ <|
      .cons (keeps_wrap_skip fun u => cat_nil .star_nil) <|
      .cons (wf.keeps_wrap_enter fun u hu => hf.entry u (cat_nil .star_nil hu)) <|
      .cons (wf.keeps_wrap_back fun u hu => hf.entry u (hround u hu)) <|
      .cons (wf.keeps_wrap_out hround) (.nil _)⟩
  | .plus ng r, n, K => by
    obtain ⟨If, hf⟩ := th_inv r n (cat K (.star ng r.toRe))
    have wf := th_wf r n
    exact ⟨_, hf.wrap wf _ <|
      .cons (wf.keeps_wrap_enter fun u hu => hf.entry u (cat_nil .star_nil hu)) <|
      .cons (wf.keeps_wrap_back fun u hu =>
        hf.entry u (cat_cat (fun _ _ => matches_star_snoc) (hf.exit u hu))) <|
      .cons (wf.keeps_wrap_out fun u hu =>
        cat_cat (fun _ _ => matches_star_snoc_plus) (hf.exit u hu)) (.nil _)⟩
theorem thAlts_inv : ∀ (a : Alts) (b e n : Nat) (K Out : Lang), (∀ u, cat K a.toRe u → Out u) →
    b < n → e < n → ∃ I, AltsInv (thAlts a b e n).edges b e n K Out I
  | .last r, b, e, n, K, Out, hout, hb, he => by
    obtain ⟨If, hf⟩ := th_inv r n K
    have := AltsInv.cons (N := (th r n).next) (th_wf r n) hb he hf hout
      (fun _ h => absurd h List.not_mem_nil) (.nil b e _ K Out If)
    rw [List.append_nil] at this
    exact ⟨_, this⟩
  | .more r rest, b, e, n, K, Out, hout, hb, he => by
    obtain ⟨If, hf⟩ := th_inv r n K
    have hle := (th_wf r n).le_next
    obtain ⟨Ig, hg⟩ := thAlts_inv rest b e (th r n).next K Out
      (fun u hu => hout u (cat_mono (fun _ => .altr) hu)) (Nat.lt_of_lt_of_le hb hle)
      (Nat.lt_of_lt_of_le he hle)
    exact ⟨_, AltsInv.cons (th_wf r n) hb he hf (fun u hu => hout u (cat_mono (fun _ => .altl) hu))
      (thAlts_wf rest b e _).edges hg⟩
end

/-- A path from inside `S` to outside, in an edge list that inside `S` has only edges of `F`: the
edge on which it leaves `S` first, and the invariant at the source of that edge. -/
theorem PathN.leave {E F : List Edge} {S : Nat → Prop} {I : Nat → Lang}
    (own : ∀ ed ∈ E, S ed.src → ed ∈ F)
    (keep : ∀ ed ∈ F, S ed.src → S ed.dst → ed.Keeps I) {k p w q} (hp : PathN E k p w q) :
    S p → ¬ S q → ∀ u0, I p u0 →
    ∃ ed ∈ F, ∃ u v k', S ed.src ∧ ¬ S ed.dst ∧ I ed.src (u0 ++ u) ∧ k' < k ∧
      PathN E k' ed.dst v q ∧
      match ed.lbl with
      | none => w = u ++ v
      | some rg => ∃ c, rg.b ≤ c ∧ c ≤ rg.e ∧ w = u ++ c :: v := by
  induction hp with
  | nil p => exact fun h1 h2 => absurd h1 h2
  | @eps k p q' r w he hp ih =>
    intro hs hq u0 hu
    have hF := own _ he hs
    by_cases hs' : S q'
    · obtain ⟨ed, hed, u, v, k', a, b, c, d, e⟩ := ih hs' hq u0 (keep _ hF hs hs' u0 hu)
      exact ⟨ed, hed, u, v, k', a, b, c, Nat.lt_succ_of_lt d, e⟩
    · exact ⟨_, hF, [], w, k, hs, hs', by rwa [List.append_nil], Nat.lt_succ_self k, hp, rfl⟩
  | @chr k p q' r rg c w he h1 h2 hp ih =>
    intro hs hq u0 hu
    have hF := own _ he hs
    by_cases hs' : S q'
    · obtain ⟨ed, hed, u, v, k', a, b, c', d, e, f⟩ := ih hs' hq _ (keep _ hF hs hs' u0 hu c h1 h2)
      rw [List.append_assoc] at c'
      refine ⟨ed, hed, c :: u, v, k', a, b, c', Nat.lt_succ_of_lt d, e, ?_⟩
      cases hl : ed.lbl with
      | none =>
        rw [hl] at f
        exact congrArg (c :: ·) f
      | some rg' =>
        rw [hl] at f
        exact f.imp fun x hx => ⟨hx.1, hx.2.1, congrArg (c :: ·) hx.2.2⟩
    · exact ⟨_, hF, [], w, k, hs, hs', by rwa [List.append_nil], Nat.lt_succ_self k, hp, c, h1, h2,
        rfl⟩

theorem thAlts_sound : ∀ (a : Alts) (b e n : Nat) (E : List Edge), b < n → e < n →
    (∀ ed ∈ E, n ≤ ed.src → ed.src < (thAlts a b e n).next → ed ∈ (thAlts a b e n).edges) →
    ∀ p, (⟨b, none, p⟩ : Edge) ∈ (thAlts a b e n).edges →
    ∀ k w q, PathN E k p w q → (q < n ∨ (thAlts a b e n).next ≤ q) →
    ∃ u v k', k' < k ∧ w = u ++ v ∧ Matches a.toRe u ∧ PathN E k' e v q :=
  fun a b e n E hb he own p hmem k w q hp hq => by
  obtain ⟨I, hI⟩ := thAlts_inv a b e n (· = []) _ (fun _ h => h) hb he
  have sg := (thAlts_wf a b e n).edges
  have hps : n ≤ p ∧ p < (thAlts a b e n).next := (sg _ hmem).elim (·.2.2) fun h =>
    absurd h.1 (Nat.not_le.2 hb)
  obtain ⟨ed, hed, u, v, k', hs, hd, hu, hk, hp', hw⟩ := hp.leave
    (S := fun p => n ≤ p ∧ p < (thAlts a b e n).next) (I := I)
    (fun ed hed hs => own ed hed hs.1 hs.2) (fun ed hed hs hd => hI.inner ed hed hs.1 hd.1)
    hps (fun h => hq.elim (fun a => Nat.not_le.2 a h.1) fun a => Nat.not_le.2 h.2 a) []
    (hI.entry p hmem [] rfl)
  rcases sg ed hed with h | ⟨_, _, h | ⟨h1, h2⟩⟩
  · exact absurd hs.1 (h.1 ▸ Nat.not_le.2 hb)
  · exact absurd h hd
  · rw [h2] at hw
    rw [h1] at hp'
    exact ⟨u, v, k', hk, hw, cat_nil_iff.1 (hI.exit ed hed hs.1 h1 _ hu), hp'⟩

/-- `NFACons` is correct for every expression and every state of the factory: the words leading
from `B` to `E` inside the fragment are exactly the words of the expression. -/
theorem th_correct (r : Rx) (n : Nat) (w : List Int) :
    Path (th r n).edges (th r n).b w (th r n).e ↔ Matches r.toRe w := by
  constructor
  · rintro ⟨k, hp⟩
    obtain ⟨I, hI⟩ := th_inv r n (· = [])
    exact cat_nil_iff.1 (hI.exit _ (hI.inv.pathN hp [] (hI.entry [] rfl)))
  · exact th_complete r n _ (fun _ h => h) w

theorem fragsNext_ruleFrags_ge : ∀ (rs : List Rx) (n : Nat), n ≤ fragsNext (ruleFrags rs n) n := by
  intro rs
  induction rs with
  | nil => intro n; exact Nat.le_refl n
  | cons r rs ih =>
    intro n
    simp only [ruleFrags, fragsNext]
    have := ih (th r n).next
    have := (th_wf r n).hb
    omega

theorem ruleFrags_get : ∀ (rs : List Rx) (n i : Nat) (f : Frag), (ruleFrags rs n)[i]? = some f →
    ∃ r m, rs[i]? = some r ∧ f = th r m ∧ n ≤ m ∧ f.next ≤ fragsNext (ruleFrags rs n) n ∧
      ∀ j g, (ruleFrags rs n)[j]? = some g → j < i → g.next ≤ m := by
  intro rs
  induction rs with
  | nil => intro n i f h; simp [ruleFrags] at h
  | cons r rs ih =>
    intro n i f h
    cases i with
    | zero =>
      simp only [ruleFrags, List.getElem?_cons_zero, Option.some.injEq] at h
      subst h
      refine ⟨r, n, by simp, rfl, Nat.le_refl n, ?_, fun j g _ hj => by omega⟩
      simp only [ruleFrags, fragsNext]
      exact fragsNext_ruleFrags_ge rs _
    | succ i =>
      simp only [ruleFrags, List.getElem?_cons_succ] at h
      obtain ⟨r', m, hr', hf, hm, hS, hprev⟩ := ih (th r n).next i f h
      have := (th_wf r n).hb
      refine ⟨r', m, by simpa using hr', hf, by omega, by simpa [ruleFrags, fragsNext] using hS, ?_⟩
      intro j g hg hj
      cases j with
      | zero =>
        simp only [ruleFrags, List.getElem?_cons_zero, Option.some.injEq] at hg
        subst hg; exact hm
      | succ j =>
        simp only [ruleFrags, List.getElem?_cons_succ] at hg
        exact hprev j g hg (by omega)

theorem ruleFrags_length : ∀ (rs : List Rx) (n : Nat), (ruleFrags rs n).length = rs.length := by
  intro rs
  induction rs with
  | nil => intro n; rfl
  | cons r rs ih => intro n; simp [ruleFrags, ih]

theorem mem_modeNFA_acc (rules : List Rx) (q i : Nat) :
    (q, i) ∈ (modeNFA rules).acc ↔ ∃ f, (ruleFrags rules 0)[i]? = some f ∧ q = f.e := by
  simp only [modeNFA, List.mem_map]
  constructor
  · rintro ⟨⟨f, j⟩, hmem, heq⟩
    simp only [Prod.mk.injEq] at heq
    obtain ⟨rfl, rfl⟩ := heq
    exact ⟨f, List.mem_zipIdx_iff_getElem?.1 hmem, rfl⟩
  · rintro ⟨f, hf, rfl⟩
    exact ⟨(f, i), List.mem_zipIdx_iff_getElem?.2 hf, rfl⟩

/-- Rule `i` of a mode is `r`, built when the counter is `m`: after all earlier rules and below
the start state. -/
structure RuleAt (rules : List Rx) (i : Nat) (r : Rx) (m : Nat) : Prop where
  rule : rules[i]? = some r
  frag : (ruleFrags rules 0)[i]? = some (th r m)
  below : (th r m).next ≤ (modeNFA rules).start
  prev : ∀ j g, (ruleFrags rules 0)[j]? = some g → j < i → g.next ≤ m

theorem ruleAt_of_frag {rules : List Rx} {i : Nat} {f : Frag} (h : (ruleFrags rules 0)[i]? = some f) :
    ∃ r m, f = th r m ∧ RuleAt rules i r m := by
  obtain ⟨r, m, hr, rfl, _, hS, hprev⟩ := ruleFrags_get rules 0 i f h
  exact ⟨r, m, rfl, hr, h, hS, hprev⟩

theorem ruleAt_of_rule {rules : List Rx} {i : Nat} {r : Rx} (h : rules[i]? = some r) :
    ∃ m, RuleAt rules i r m := by
  have hi : i < (ruleFrags rules 0).length := by
    rw [ruleFrags_length]; exact (List.getElem?_eq_some_iff.1 h).1
  obtain ⟨r', m, _, a⟩ := ruleAt_of_frag (List.getElem?_eq_getElem hi)
  cases h.symm.trans a.rule
  exact ⟨m, a⟩

theorem mem_modeNFA_edges {rules : List Rx} {ed : Edge} : ed ∈ (modeNFA rules).edges ↔
    ∃ i r m, RuleAt rules i r m ∧
      (ed ∈ (th r m).edges ∨ ed = ⟨(modeNFA rules).start, none, (th r m).b⟩) := by
  constructor
  · intro h
    simp only [modeNFA, List.mem_append, List.mem_flatMap, List.mem_map] at h
    rcases h with ⟨g, hg, h⟩ | ⟨g, hg, rfl⟩ <;> obtain ⟨j, hj⟩ := List.mem_iff_getElem?.1 hg <;>
      obtain ⟨r, m, rfl, a⟩ := ruleAt_of_frag hj
    · exact ⟨j, r, m, a, .inl h⟩
    · exact ⟨j, r, m, a, .inr rfl⟩
  · rintro ⟨i, r, m, a, h | rfl⟩ <;> simp only [modeNFA, List.mem_append, List.mem_flatMap, List.mem_map]
    · exact .inl ⟨_, List.mem_of_getElem? a.frag, h⟩
    · exact .inr ⟨_, List.mem_of_getElem? a.frag, rfl⟩

/-- A state lies in the fragment of at most one rule. -/
theorem RuleAt.eq_of_mem {rules : List Rx} {i j : Nat} {r r' : Rx} {m m' p : Nat}
    (a : RuleAt rules i r m) (b : RuleAt rules j r' m') (h1 : m ≤ p) (h2 : p < (th r m).next)
    (h3 : m' ≤ p) (h4 : p < (th r' m').next) : i = j ∧ r = r' ∧ th r m = th r' m' := by
  rcases Nat.lt_trichotomy j i with h | rfl | h
  · exact absurd (Nat.lt_of_lt_of_le h4 (a.prev j _ b.frag h)) (Nat.not_lt.2 h1)
  · exact ⟨rfl, Option.some.inj (a.rule.symm.trans b.rule), Option.some.inj (a.frag.symm.trans b.frag)⟩
  · exact absurd (Nat.lt_of_lt_of_le h2 (b.prev i _ a.frag h)) (Nat.not_lt.2 h3)

/-- What may have been read in a state of the mode NFA: nothing in the start state; in the fragment
of a rule, what every invariant of that fragment allows. -/
def modeInv (rules : List Rx) : Nat → Lang := fun p u =>
  (p = (modeNFA rules).start ∧ u = []) ∨
    ∃ i r m, RuleAt rules i r m ∧ m ≤ p ∧ p < (th r m).next ∧
      ∀ I, FragInv (th r m) r.toRe (· = []) I → I p u

theorem modeInv_inv (rules : List Rx) : EdgeInv (modeNFA rules).edges (modeInv rules) := by
  intro ed hed
  obtain ⟨i, r, m, a, h | rfl⟩ := mem_modeNFA_edges.1 hed
  · obtain ⟨s1, s2, d1, d2, _⟩ := (th_wf r m).edges ed h
    intro u hu
    have hsrc : ∀ I, FragInv (th r m) r.toRe (· = []) I → I ed.src u := by
      rcases hu with ⟨h1, _⟩ | ⟨j, r', m', b, h1, h2, h3⟩
      · exact absurd (h1 ▸ s2) (Nat.not_lt.2 a.below)
      · obtain ⟨_, rfl, he⟩ := a.eq_of_mem b s1 s2 h1 h2
        exact fun I hI => h3 I (he ▸ hI)
    obtain ⟨s, l, d⟩ := ed
    cases l with
    | none => exact .inr ⟨i, r, m, a, d1, d2, fun I hI => hI.inv _ h u (hsrc I hI)⟩
    | some rg =>
      exact fun c c1 c2 => .inr ⟨i, r, m, a, d1, d2, fun I hI => hI.inv _ h u (hsrc I hI) c c1 c2⟩
  · have wf := th_wf r m
    refine keeps_eps fun u hu => .inr ⟨i, r, m, a, wf.hb.1, wf.hb.2, fun I hI => hI.entry u ?_⟩
    rcases hu with ⟨_, h⟩ | ⟨j, r', m', b, _, h2, _⟩
    · exact h
    · exact absurd (Nat.lt_of_lt_of_le h2 b.below) (Nat.lt_irrefl _)

/-- The mode NFA labels words by rules exactly: some path from the start state reads `w` and
ends in the accepting state of rule `i` iff rule `i` exists and matches `w`. -/
theorem modeNFA_label (rules : List Rx) (i : Nat) (w : List Int) :
    (modeNFA rules).AcceptsRule i w ↔ ∃ r, rules[i]? = some r ∧ Matches r.toRe w := by
  constructor
  · rintro ⟨q, ⟨k, hp⟩, hacc⟩
    obtain ⟨f, hf, rfl⟩ := (mem_modeNFA_acc rules _ i).1 hacc
    obtain ⟨r, m, rfl, a⟩ := ruleAt_of_frag hf
    have wf := th_wf r m
    rcases (modeInv_inv rules).pathN hp [] (.inl ⟨rfl, rfl⟩) with ⟨h1, _⟩ | ⟨j, r', m', b, h1, h2, h3⟩
    · exact absurd (h1 ▸ wf.he.2) (Nat.not_lt.2 a.below)
    · obtain ⟨_, rfl, he⟩ := a.eq_of_mem b wf.he.1 wf.he.2 h1 h2
      obtain ⟨I, hI⟩ := th_inv r m (· = [])
      exact ⟨r, a.rule, cat_nil_iff.1 (hI.exit _ (h3 I (he ▸ hI)))⟩
  · rintro ⟨r, hr, hm⟩
    obtain ⟨m, a⟩ := ruleAt_of_rule hr
    exact ⟨(th r m).e, Path.eps (mem_modeNFA_edges.2 ⟨i, r, m, a, .inr rfl⟩)
      (th_complete r m _ (fun ed h => mem_modeNFA_edges.2 ⟨i, r, m, a, .inl h⟩) w hm),
      (mem_modeNFA_acc rules _ i).2 ⟨_, a.frag, rfl⟩⟩

end Lox.Lex.Gen
