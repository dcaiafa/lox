import Lox.Lex.Bisim
import Lox.Lex.RuntimeDecode
import Lox.Lex.RuntimeWF
import Lox.Util.FoldM
import Lox.Util.List
/-! Decoded mode tables, validator side. The decoded-row layer exists twice as model code: `rowAt`, `lookup`,
`sortedFrom`, `runPairs` of `Lex/Bisim` and `Rt.decodeRow`, `Rt.lookup`, `Rt.sortedFrom`, `Rt.execPairs` of
`Lex/Runtime`. The two agree: the small functions are equal, and `Rt.decodeRow` decodes every row that `rowAt`
accepts to the same row (`decodeRow_of_rowAt`). So what `RuntimeDecode` shows of the run-time reader holds of
the validator's: on a well-formed table `PushRune` follows `tableStep` or runs the pairs of the current state
(`pushRune_step`) and reads nothing out of range (`pushRune_no_oob`). -/
namespace Lox.Lex

theorem rt_lookup_eq : ∀ (l : List Triple) (c : Int), Rt.lookup l c = lookup l c
  | [], _ => rfl
  | (_, _, _) :: l, c => by rw [Rt.lookup, lookup, rt_lookup_eq l c]

theorem rt_sortedFrom_eq : ∀ (p : Int) (l : List Triple), Rt.sortedFrom p l = sortedFrom p l
  | _, [] => rfl
  | _, (_, hi, _) :: l => by rw [Rt.sortedFrom, sortedFrom, rt_sortedFrom_eq hi l]

theorem rt_execPairs_eq (modes : Array Mode) (r : Int) : ∀ (ps : List Pair) (sm : SM),
    Rt.execPairs modes.size r ps sm = runPairs modes r ps sm
  | [], _ => rfl
  | (ty, p) :: ps, sm => by
    rw [runPairs, Rt.execPairs]
    simp only [rt_execPairs_eq modes r ps]
    cases sm.modeStack <;> rfl

theorem rt_nStates_eq (tbl : Mode) : Rt.nStates tbl = nStates tbl := by
  unfold Rt.nStates nStates
  cases h : tbl[0]? with
  | none => simp [Array.getD, Array.getElem?_eq_none_iff.1 h |> fun h => Nat.not_lt.2 h]
  | some n =>
    obtain ⟨hlt, hv⟩ := Array.getElem?_eq_some_iff.1 h
    simp [Array.getD, hlt, hv]

theorem geti_ofNat (a : Array Int) (k : Nat) : geti a (k : Int) = a[k]? := by
  rw [geti, if_neg (Int.not_lt.mpr (Int.natCast_nonneg k)), Int.toNat_natCast]

theorem geti_eq_getD {m : Mode} {k : Nat} (h : k < m.size) : geti m (k : Int) = some (m.getD k 0) := by
  rw [geti_ofNat]
  simp [Array.getD, h]

theorem triplesAt_succ (tbl : Mode) (base n : Nat) :
    triplesAt tbl base (n + 1) =
      (tbl.getD base 0, tbl.getD (base + 1) 0, tbl.getD (base + 2) 0) :: triplesAt tbl (base + 3) n := by
  unfold triplesAt
  rw [List.range_succ_eq_map]
  simp only [List.map_cons, List.map_map, Nat.mul_zero, Nat.add_zero]
  congr 1
  apply List.map_congr_left
  intro j _
  simp only [Function.comp]
  have e1 : base + 3 * (j + 1) = base + 3 + 3 * j := by omega
  rw [e1]

theorem pairsAt_zero (tbl : Mode) (base : Nat) : pairsAt tbl base 0 = [] := rfl

theorem pairsAt_succ (tbl : Mode) (base n : Nat) :
    pairsAt tbl base (n + 1) =
      (tbl.getD base 0, tbl.getD (base + 1) 0) :: pairsAt tbl (base + 2) n := by
  unfold pairsAt
  rw [List.range_succ_eq_map]
  simp only [List.map_cons, List.map_map, Nat.mul_zero, Nat.add_zero]
  congr 1
  apply List.map_congr_left
  intro j _
  simp only [Function.comp]
  have e1 : base + 2 * (j + 1) = base + 2 + 2 * j := by omega
  rw [e1]

theorem readTriples_eq_triplesAt (m : Mode) : ∀ (n k : Nat), k + 3 * n ≤ m.size →
    Rt.readTriples m n (k : Int) = some (triplesAt m k n)
  | 0, _, _ => rfl
  | n + 1, k, h => by
    have e1 : (k : Int) + 1 = ((k + 1 : Nat) : Int) := rfl
    have e2 : (k : Int) + 2 = ((k + 2 : Nat) : Int) := rfl
    have e3 : (k : Int) + 3 = ((k + 3 : Nat) : Int) := rfl
    have ⟨h0, h1, h2, h3⟩ : k < m.size ∧ k + 1 < m.size ∧ k + 2 < m.size ∧
        k + 3 + 3 * n ≤ m.size := by omega
    simp only [Rt.readTriples, e1, e2, e3, geti_eq_getD h0, geti_eq_getD h1, geti_eq_getD h2,
      readTriples_eq_triplesAt m n (k + 3) h3, triplesAt_succ]

theorem readPairs_eq_pairsAt (m : Mode) : ∀ (n k : Nat), k + 2 * n ≤ m.size →
    Rt.readPairs m n (k : Int) = some (pairsAt m k n)
  | 0, _, _ => rfl
  | n + 1, k, h => by
    have e1 : (k : Int) + 1 = ((k + 1 : Nat) : Int) := rfl
    have e2 : (k : Int) + 2 = ((k + 2 : Nat) : Int) := rfl
    have ⟨h0, h1, h2⟩ : k < m.size ∧ k + 1 < m.size ∧ k + 2 + 2 * n ≤ m.size := by omega
    simp only [Rt.readPairs, e1, e2, geti_eq_getD h0, geti_eq_getD h1,
      readPairs_eq_pairsAt m n (k + 2) h2, pairsAt_succ]

/-- What `rowAt tbl q = some row` says about the raw array. -/
structure Layout (tbl : Mode) (q : Nat) (row : Row) (i g a : Nat) : Prop where
  off : tbl[q]? = some (i : Int)
  count : tbl[i]? = some ((2 + 3 * g + 2 * a : Nat) : Int)
  flags : tbl[i + 1]? = some row.flags
  gotoN : tbl[i + 2]? = some (g : Int)
  fit : i + 3 + 3 * g + 2 * a ≤ tbl.size
  trs : row.trs = triplesAt tbl (i + 3) g
  acts : row.acts = pairsAt tbl (i + 3 + 3 * g) a

/-- The length condition that `rowAt` tests, solved for `count`. -/
theorem count_eq {count gotoN : Int} (h0 : 0 ≤ gotoN) (h1 : 2 + 3 * gotoN ≤ count)
    (h2 : (count - 2 - 3 * gotoN) % 2 = 0) :
    count = ((2 + 3 * gotoN.toNat + 2 * ((count.toNat - 2 - 3 * gotoN.toNat) / 2) : Nat) : Int) := by
  obtain ⟨g, rfl⟩ := Int.eq_ofNat_of_zero_le h0
  obtain ⟨c, rfl⟩ := Int.eq_ofNat_of_zero_le (Int.le_trans (by omega) h1)
  have hx : (c : Int) - 2 - 3 * g = ((c - 2 - 3 * g : Nat) : Int) ∧ 2 + 3 * g ≤ c := by
    clear h2; omega
  rw [hx.1] at h2
  rw [Int.toNat_natCast, Int.toNat_natCast,
    Nat.mul_div_cancel' (Int.natCast_dvd_natCast.mp (Int.dvd_of_emod_eq_zero h2)),
    Nat.sub_sub, Nat.add_sub_cancel' hx.2]

theorem rowAt_layout {tbl : Mode} {q : Nat} {row : Row} (h : rowAt tbl q = some row) :
    ∃ i g a, Layout tbl q row i g a := by
  unfold rowAt at h
  split at h
  · cases h
  · rename_i off hoff
    split at h
    · cases h
    · rename_i hneg
      simp only at h
      split at h
      · rename_i count flags gotoN hc hf hg
        split at h
        · rename_i hcond
          obtain ⟨h0, h1, h2, h3⟩ := hcond
          cases h
          have hcnt := count_eq h0 h1 h2
          clear h2
          refine ⟨off.toNat, gotoN.toNat, (count.toNat - 2 - 3 * gotoN.toNat) / 2, ?_⟩
          generalize (count.toNat - 2 - 3 * gotoN.toNat) / 2 = a at hcnt ⊢
          exact ⟨hoff.trans (by rw [Int.toNat_of_nonneg (Int.not_lt.mp hneg)]),
            hc.trans (congrArg some hcnt), hf, hg.trans (by rw [Int.toNat_of_nonneg h0]),
            by omega, rfl, rfl⟩
        · cases h
      · cases h

/-- The two row decoders agree on every row `rowAt` accepts (it checks that the whole row lies
inside the array, so none of the reads of `Rt.decodeRow` can fail). -/
theorem decodeRow_of_rowAt {m : Mode} {q : Nat} {row : Row} (h : rowAt m q = some row) :
    Rt.decodeRow m (q : Int) = some ⟨row.flags, row.trs, row.acts⟩ := by
  obtain ⟨i, g, a, L⟩ := rowAt_layout h
  have e1 : (i : Int) + 1 = ((i + 1 : Nat) : Int) := rfl
  have e2 : (i : Int) + 2 = ((i + 2 : Nat) : Int) := rfl
  have e3 : (i : Int) + 3 = ((i + 3 : Nat) : Int) := rfl
  have ec : ((2 + 3 * g + 2 * a : Nat) : Int) - 2 - 3 * (g : Int) = 2 * (a : Int) := by omega
  have hc : 0 ≤ (g : Int) ∧ 2 + 3 * (g : Int) ≤ ((2 + 3 * g + 2 * a : Nat) : Int) := by omega
  have e4 : ((i + 3 : Nat) : Int) + (g : Int) * 3 = ((i + 3 + 3 * g : Nat) : Int) := by
    rw [Int.natCast_add (i + 3), Int.natCast_mul, Int.mul_comm]; rfl
  simp only [Rt.decodeRow, geti_ofNat, L.off, e1, e2, e3, L.count, L.flags, L.gotoN, ec, hc,
    Int.mul_emod_right, Int.mul_ediv_cancel_left _ (show (2 : Int) ≠ 0 by decide), and_self,
    ↓reduceIte, Int.toNat_natCast, e4,
    readTriples_eq_triplesAt m g (i + 3) (Nat.le_trans (Nat.le_add_right _ _) L.fit),
    readPairs_eq_pairsAt m a (i + 3 + 3 * g) L.fit, L.trs, L.acts]

def Triple.has (t : Triple) (c : Int) : Prop := t.1 ≤ c ∧ c ≤ t.2.1

theorem sortedFrom_spec (l : List Triple) (p : Int) (h : sortedFrom p l = true) :
    (∀ t ∈ l, p < t.1 ∧ t.1 ≤ t.2.1) ∧ List.Pairwise (fun a b => a.2.1 < b.1) l :=
  have ⟨h1, h2, h3⟩ := (Rt.sortedFrom_iff p l).1 ((rt_sortedFrom_eq p l).trans h)
  ⟨fun t ht => ⟨h3 t ht, h2 t ht⟩, h1⟩

theorem lookup_eq_none {l : List Triple} {c : Int} (h : ∀ t ∈ l, ¬ t.has c) : lookup l c = none :=
  (rt_lookup_eq l c).symm.trans (Rt.lookup_none_of h)

theorem lookup_eq_some {l : List Triple} {c : Int}
    (hp : List.Pairwise (fun a b : Triple => a.2.1 < b.1) l) {t : Triple} (ht : t ∈ l)
    (hc : t.has c) : lookup l c = some t.2.2 :=
  (rt_lookup_eq l c).symm.trans (Rt.lookup_of_sorted hp ht hc)

theorem lookup_some_mem {l : List Triple} {c st : Int} (h : lookup l c = some st) :
    ∃ t ∈ l, t.has c ∧ t.2.2 = st :=
  have ⟨t, ht, h1, h2, h3⟩ := Rt.mem_of_lookup_eq_some ((rt_lookup_eq l c).trans h)
  ⟨t, ht, ⟨h1, h2⟩, h3⟩

/-- For every `r`, including `-1` (end of input). -/
theorem bsearch_eq_lookup (tbl : Mode) (base n : Nat) (r : Int) (hfit : base + 3 * n ≤ tbl.size)
    (p : Int) (hs : sortedFrom p (triplesAt tbl base n) = true) :
    bsearch tbl r (base : Int) (n + 1) 0 (n : Int) = some (lookup (triplesAt tbl base n) r) := by
  obtain ⟨hrange, hpair⟩ := sortedFrom_spec _ _ hs
  rw [← rt_lookup_eq]
  exact Rt.bsearch_linear tbl r base n _ (readTriples_eq_triplesAt tbl n base hfit)
    (Int.natCast_nonneg n) hpair fun t ht => (hrange t ht).2

theorem lookup_neg (l : List Triple) (r : Int) (hr : r < 0) (hs : sortedFrom (-1) l = true) :
    lookup l r = none :=
  lookup_eq_none fun t ht hc =>
    absurd (Int.lt_of_lt_of_le ((sortedFrom_spec _ _ hs).1 t ht).1 hc.1) (by omega)

theorem length_pairsAt (tbl : Mode) (base n : Nat) : (pairsAt tbl base n).length = n := by
  rw [pairsAt, List.length_map, List.length_range]

theorem runActions_eq_runPairs (modes : Array Mode) (m : Mode) (r : Int) (n fuel a : Nat) (sm : SM)
    (hf : n < fuel) (hfit : a + 2 * n ≤ m.size) :
    runActions modes m r fuel (a : Int) ((a + 2 * n : Nat) : Int) sm =
      some (runPairs modes r (pairsAt m a n) sm) := by
  have h := Rt.runActions_eq modes m r (pairsAt m a n) a fuel sm
    (by rw [length_pairsAt]; exact readPairs_eq_pairsAt m n a hfit) (by rwa [length_pairsAt])
  rwa [length_pairsAt, rt_execPairs_eq,
    show (a : Int) + 2 * (n : Int) = ((a + 2 * n : Nat) : Int) by omega] at h

/-- Validator side, one sorted row (`rowAt`): `PushRune` in the terms of `Bisim.lean` (`lookup`,
`runPairs`). -/
theorem pushRune_eq (modes : Array Mode) (sm : SM) (m : Mode) (q : Nat) (row : Row) (c : Int)
    (hmode : modes[sm.mode.getD 0]? = some m) (hstate : sm.state = (q : Int))
    (hrow : rowAt m q = some row) (hs : sortedFrom (-1) row.trs = true) :
    pushRune modes sm c =
      match (if row.flags % 2 = 0 then lookup row.trs c else none) with
      | some st => (.consume, { sm with mode := some (sm.mode.getD 0), state := st })
      | none => runPairs modes c row.acts { sm with mode := some (sm.mode.getD 0) } := by
  obtain ⟨hrange, hpair⟩ := sortedFrom_spec _ _ hs
  rw [Rt.pushRune_eq_stepRow modes sm c m ⟨row.flags, row.trs, row.acts⟩ hmode
    (hstate ▸ decodeRow_of_rowAt hrow) hpair fun t ht => (hrange t ht).2, Rt.stepRow]
  simp only [rt_lookup_eq, rt_execPairs_eq]
  rfl

theorem wfTable_nStates {tbl : Mode} (h : wfTable tbl = true) : 1 ≤ nStates tbl := by
  simp only [wfTable, Bool.and_eq_true, decide_eq_true_eq] at h
  exact h.1.1

theorem wfTable_row {tbl : Mode} (h : wfTable tbl = true) {q : Nat} (hq : q < nStates tbl) :
    ∃ row, rowAt tbl q = some row ∧ rowOK (nStates tbl) row = true := by
  simp only [wfTable, Bool.and_eq_true, decide_eq_true_eq, List.all_eq_true, List.mem_range] at h
  have := h.2 q hq
  split at this
  · rename_i row hrow; exact ⟨row, hrow, this⟩
  · cases this

theorem rowPairs_eq {tbl : Mode} {q : Nat} {row : Row} (h : rowAt tbl q = some row) :
    rowPairs tbl q = row.acts := by
  rw [rowPairs, h]

theorem rt_rowPairs_eq {modes : Array Mode} {i : Nat} {m : Mode} (hm : modes[i]? = some m)
    (hwf : wfTable m = true) {q : Nat} (hq : q < nStates m) :
    Rt.rowPairs modes i (q : Int) = rowPairs m q := by
  obtain ⟨row, hr, _⟩ := wfTable_row hwf hq
  rw [Rt.rowPairs_eq hm (decodeRow_of_rowAt hr), rowPairs_eq hr]

theorem rowOK_spec {n : Nat} {row : Row} (h : rowOK n row = true) :
    sortedFrom (-1) row.trs = true ∧
    List.Pairwise (fun a b : Triple => a.2.1 < b.1) row.trs ∧
    ∀ t ∈ row.trs, 0 ≤ t.1 ∧ t.1 ≤ t.2.1 ∧ t.2.1 ≤ maxRune ∧ 0 ≤ t.2.2 ∧ t.2.2 < n := by
  simp only [rowOK, Bool.and_eq_true, List.all_eq_true, decide_eq_true_eq] at h
  obtain ⟨hs, hall⟩ := h
  obtain ⟨hr, hp⟩ := sortedFrom_spec _ _ hs
  refine ⟨hs, hp, ?_⟩
  intro t ht
  have h1 := hr t ht
  have h2 := hall t ht
  omega

theorem startClean_iff {tbl : Mode} : startClean tbl = true ↔
    rowPairs tbl 0 = [] ∧
      ∀ q, q < nStates tbl → ∀ row, rowAt tbl q = some row → ∀ t ∈ row.trs, t.2.2 ≠ 0 := by
  simp only [startClean, Bool.and_eq_true, List.isEmpty_iff, List.all_eq_true, List.mem_range]
  refine and_congr_right fun _ => forall_congr' fun q => imp_congr_right fun _ => ?_
  cases rowAt tbl q with
  | none => exact ⟨fun _ _ h => (nomatch h), fun _ => rfl⟩
  | some row =>
    simp only [List.all_eq_true, decide_eq_true_eq]
    exact ⟨fun h _ e => Option.some.inj e ▸ h, fun h => h row rfl⟩

/-- The validator's checks give the run-time ones: a well-formed table whose state 0 is clean
(`startClean`) and whose rows store pairs of the documented shape is a well-formed mode. -/
theorem wfMode_of_wfTable {m : Mode} {nModes : Nat} (hwf : wfTable m = true)
    (hsc : startClean m = true)
    (hp : ∀ q, q < nStates m → Rt.wfPairs nModes (rowPairs m q) = true) :
    Rt.wfMode nModes m = true := by
  obtain ⟨h0, hne⟩ := startClean_iff.1 hsc
  simp only [Rt.wfMode, rt_nStates_eq, Bool.and_eq_true, decide_eq_true_eq, List.all_eq_true,
    List.mem_range]
  refine ⟨wfTable_nStates hwf, fun s hs => ?_⟩
  obtain ⟨row, hrow, hok⟩ := wfTable_row hwf hs
  obtain ⟨hsorted, _, hall⟩ := rowOK_spec hok
  have hps := hp s hs
  rw [rowPairs_eq hrow] at hps
  simp only [Rt.wfState, decodeRow_of_rowAt hrow, rt_nStates_eq, Rt.wfRow, rt_sortedFrom_eq, hsorted,
    hps, Bool.and_eq_true, List.all_eq_true, decide_eq_true_eq, Bool.or_eq_true, bne_iff_ne, ne_eq,
    List.isEmpty_iff, true_and, and_true]
  refine ⟨fun t ht => ?_, ?_⟩
  · have := hall t ht
    have := hne s hs row hrow t ht
    simp only [Rt.Triple.target]
    omega
  · by_cases hs0 : s = 0
    · subst hs0; rw [rowPairs_eq hrow] at h0; exact .inr h0
    · exact .inl hs0

theorem tableStep_of_row {tbl : Mode} {q : Nat} {row : Row} (h : rowAt tbl q = some row) (c : Int) :
    tableStep tbl q c =
      if row.flags % 2 = 0 then (lookup row.trs c).map Int.toNat else none := by
  rw [tableStep, h]

theorem tableStep_spec {tbl : Mode} (h : wfTable tbl = true) {q : Nat} (hq : q < nStates tbl)
    {c : Int} {q' : Nat} (hstep : tableStep tbl q c = some q') :
    q' < nStates tbl ∧ 0 ≤ c ∧ c ≤ maxRune ∧
    ∃ row, rowAt tbl q = some row ∧ row.flags % 2 = 0 ∧ lookup row.trs c = some (q' : Int) := by
  obtain ⟨row, hrow, hok⟩ := wfTable_row h hq
  obtain ⟨_, _, hall⟩ := rowOK_spec hok
  rw [tableStep_of_row hrow] at hstep
  split at hstep
  · rename_i hf
    cases hl : lookup row.trs c with
    | none => rw [hl] at hstep; cases hstep
    | some st =>
      rw [hl] at hstep
      cases hstep
      obtain ⟨t, ht, hc, rfl⟩ := lookup_some_mem hl
      obtain ⟨h0, _, hmax, htg0, htgn⟩ := hall t ht
      exact ⟨by omega, Int.le_trans h0 hc.1, Int.le_trans hc.2 hmax, row, hrow, hf,
        by rw [hl, Int.toNat_of_nonneg htg0]⟩
  · cases hstep

theorem tableStep_outside {tbl : Mode} (h : wfTable tbl = true) {q : Nat} (hq : q < nStates tbl)
    {c : Int} (hc : c < 0 ∨ maxRune < c) : tableStep tbl q c = none := by
  cases hs : tableStep tbl q c with
  | none => rfl
  | some q' => have := tableStep_spec h hq hs; omega

theorem tableRunFrom_eq_foldlM (tbl : Mode) : ∀ (w : List Int) (q : Nat),
    tableRunFrom tbl q w = w.foldlM (tableStep tbl) q
  | [], _ => rfl
  | c :: w, q => by
    rw [tableRunFrom, List.foldlM_cons]
    cases tableStep tbl q c with
    | none => rfl
    | some q' => exact tableRunFrom_eq_foldlM tbl w q'

theorem tableRunFrom_lt {tbl : Mode} (hwf : wfTable tbl = true) (w : List Int) (q q' : Nat)
    (hq : q < nStates tbl) (h : tableRunFrom tbl q w = some q') : q' < nStates tbl :=
  Util.foldlM_inv (tableStep tbl) (fun _ q => q < nStates tbl)
    (fun _ _ _ _ hq hs => (tableStep_spec hwf hq hs).1) w q q' hq (tableRunFrom_eq_foldlM tbl w q ▸ h)

theorem tableRunFrom_append (tbl : Mode) (u v : List Int) (q : Nat) :
    tableRunFrom tbl q (u ++ v) = (tableRunFrom tbl q u).bind fun q' => tableRunFrom tbl q' v := by
  simp only [tableRunFrom_eq_foldlM, List.foldlM_append]
  rfl

/-- Validator side (`wfTable`): `PushRune` moves as `tableStep` does, and where `tableStep` has no
move it executes the pairs of the row. -/
theorem pushRune_step (modes : Array Mode) (sm : SM) (m : Mode) (q : Nat) (c : Int)
    (hwf : wfTable m = true) (hmode : modes[sm.mode.getD 0]? = some m)
    (hstate : sm.state = (q : Int)) (hq : q < nStates m) :
    pushRune modes sm c =
      match tableStep m q c with
      | some q' => (.consume, { sm with mode := some (sm.mode.getD 0), state := (q' : Int) })
      | none => runPairs modes c (rowPairs m q) { sm with mode := some (sm.mode.getD 0) } := by
  obtain ⟨row, hrow, hok⟩ := wfTable_row hwf hq
  obtain ⟨hs, _, hall⟩ := rowOK_spec hok
  rw [pushRune_eq modes sm m q row c hmode hstate hrow hs, tableStep_of_row hrow, rowPairs_eq hrow]
  by_cases hf : row.flags % 2 = 0
  · rw [if_pos hf, if_pos hf]
    cases hl : lookup row.trs c with
    | none => rfl
    | some st =>
      -- targets are states, so `Int.toNat` loses nothing
      obtain ⟨t, ht, _, rfl⟩ := lookup_some_mem hl
      simp only [Option.map_some, Int.toNat_of_nonneg (hall t ht).2.2.2.1]
  · rw [if_neg hf, if_neg hf]

theorem runPairs_ok (modes : Array Mode) (r : Int) (ps : List Pair) (sm : SM)
    (hok : pairsOK modes.size ps = true) (hin : Rt.ModesOK modes sm) :
    (runPairs modes r ps sm).1 ≠ .oob ∧ Rt.ModesOK modes (runPairs modes r ps sm).2 ∧
    ((runPairs modes r ps sm).1 ≠ .error → (runPairs modes r ps sm).2.state = 0) := by
  simp only [pairsOK, List.all_eq_true, Bool.or_eq_true, decide_eq_true_eq] at hok
  rw [← rt_execPairs_eq]
  exact Rt.execPairs_ok modes r ps sm (fun p hp h1 => (hok p hp).resolve_left (not_not_intro h1)) hin

theorem wfModes_spec {modes : Array Mode} (h : wfModes modes = true) :
    1 ≤ modes.size ∧ ∀ (i : Nat) (m : Mode), modes[i]? = some m →
      wfTable m = true ∧ ∀ q, q < nStates m → pairsOK modes.size (rowPairs m q) = true := by
  simp only [wfModes, Bool.and_eq_true, decide_eq_true_eq, List.all_eq_true, List.mem_range] at h
  refine ⟨h.1, ?_⟩
  intro i m hm
  exact h.2 m (Util.mem_toList_iff_getElem?.mpr ⟨i, hm⟩)

/-- After `Reset()` the state machine points into the tables whatever `PushRune` left behind. -/
theorem SMok.reset {modes : Array Mode} (hwf : wfModes modes = true) {sm : SM}
    (hst : ∀ x ∈ sm.modeStack, x < modes.size) : SMok modes sm.reset := by
  obtain ⟨hsz, hall⟩ := wfModes_spec hwf
  have hm0 := Array.getElem?_eq_getElem (xs := modes) (i := 0) (by omega)
  exact ⟨hst, _, hm0, 0, rfl, wfTable_nStates (hall 0 _ hm0).1⟩

/-- On well-formed tables `PushRune` never reads outside the arrays (the Go code cannot panic with
an index out of range), and it keeps the state machine inside the tables: after any result but
`_lexerError` directly, and after `_lexerError` once `Reset()` was called (as `simplelexer` does).
Validator side (`wfModes`, `SMok`); `Props.C11.no_oob` is the run-time side. -/
theorem pushRune_no_oob (modes : Array Mode) (sm : SM) (c : Int) (hwf : wfModes modes = true)
    (hsm : SMok modes sm) :
    (pushRune modes sm c).1 ≠ .oob ∧
    ((pushRune modes sm c).1 ≠ .error → SMok modes (pushRune modes sm c).2) ∧
    SMok modes (pushRune modes sm c).2.reset := by
  obtain ⟨_, hall⟩ := wfModes_spec hwf
  obtain ⟨hst, m, hm, q, hq, hqn⟩ := hsm
  have hin : Rt.ModesOK modes sm := ⟨(Array.getElem?_eq_some_iff.mp hm).1, hst⟩
  obtain ⟨hwfm, hpairs⟩ := hall _ m hm
  rw [pushRune_step modes sm m q c hwfm hm hq hqn]
  cases hstep : tableStep m q c with
  | some q' =>
    obtain ⟨hq', _⟩ := tableStep_spec hwfm hqn hstep
    simp only
    refine ⟨by simp, fun _ => ⟨hst, m, by simpa using hm, q', rfl, hq'⟩, .reset hwf hst⟩
  | none =>
    simp only
    have hin' : Rt.ModesOK modes { sm with mode := some (sm.mode.getD 0) } := ⟨hin.1, hin.2⟩
    obtain ⟨h1, h3, h4⟩ := runPairs_ok modes c (rowPairs m q) _ (hpairs q hqn) hin'
    refine ⟨h1, ?_, .reset hwf h3.2⟩
    intro hne
    have hs0 := h4 hne
    have hlt := h3.1
    have hm' := Array.getElem?_eq_getElem hlt
    exact ⟨h3.2, _, hm', 0, by simpa using hs0, wfTable_nStates (hall _ _ hm').1⟩

end Lox.Lex
