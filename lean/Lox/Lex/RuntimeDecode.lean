import Lox.Lex.Runtime
import Lox.Lex.BsearchProofs
/-! From the raw array to the decoded row: what the reads of `pushRune` return on a row that
`decodeRow` decodes, the binary search as the linear `lookup`, the action loop as `execPairs` (which
stays inside the tables on any pair list whose pushed modes exist, `execPairs_ok`), and so `pushRune`
as `stepRow`. -/
namespace Lox.Lex.Rt

theorem readTriples_spec (m : Mode) (n : Nat) (k : Int) (ts : List Triple)
    (h : readTriples m n k = some ts) :
    ts.length = n ∧ ∀ (j : Nat) (t : Triple), ts[j]? = some t →
      geti m (k + j * 3) = some t.lo ∧ geti m (k + j * 3 + 1) = some t.hi ∧
      geti m (k + j * 3 + 2) = some t.target := by
  induction n generalizing k ts with
  | zero => cases h; exact ⟨rfl, fun j t hj => by cases hj⟩
  | succ n ih =>
    unfold readTriples at h
    split at h
    · rename_i lo hi st rest h1 h2 h3 h4
      cases h
      obtain ⟨hl, hg⟩ := ih (k + 3) rest h4
      refine ⟨congrArg (· + 1) hl, fun j t hj => ?_⟩
      cases j with
      | zero =>
        cases hj
        rw [Int.natCast_zero, Int.zero_mul, Int.add_zero]
        exact ⟨h1, h2, h3⟩
      | succ j =>
        rw [Int.natCast_succ, Int.add_mul, Int.one_mul, Int.add_comm (_ * 3) 3, ← Int.add_assoc]
        exact hg j t hj
    · cases h

theorem readPairs_length (m : Mode) (n : Nat) (k : Int) (ps : List Pair)
    (h : readPairs m n k = some ps) : ps.length = n := by
  induction n generalizing k ps with
  | zero => cases h; rfl
  | succ n ih =>
    unfold readPairs at h
    split at h
    · rename_i h3
      cases h
      exact congrArg (· + 1) (ih _ _ h3)
    · cases h

theorem readPairs_cons {m : Mode} {n : Nat} {k : Int} {a : Pair} {rest : List Pair}
    (h : readPairs m (n + 1) k = some (a :: rest)) :
    geti m k = some a.1 ∧ geti m (k + 1) = some a.2 ∧ readPairs m n (k + 2) = some rest := by
  unfold readPairs at h
  split at h
  · rename_i h1 h2 h3
    cases h
    exact ⟨h1, h2, h3⟩
  · cases h

theorem decodeRow_some {m : Mode} {s : Int} {row : Row} (h : decodeRow m s = some row) :
    ∃ i count gotoN : Int,
      geti m s = some i ∧ geti m i = some count ∧ geti m (i + 1) = some row.flags ∧
      geti m (i + 2) = some gotoN ∧ 0 ≤ gotoN ∧
      count = 2 + 3 * gotoN + 2 * (row.pairs.length : Int) ∧
      readTriples m gotoN.toNat (i + 3) = some row.triples ∧
      readPairs m row.pairs.length (i + 3 + gotoN * 3) = some row.pairs := by
  unfold decodeRow at h
  split at h
  · cases h
  · rename_i i hi
    split at h
    · rename_i count flags gotoN h1 h2 h3
      split at h
      · rename_i hc
        split at h
        · rename_i ts ps ht hp
          cases h
          have hlen := readPairs_length _ _ _ _ hp
          refine ⟨i, count, gotoN, hi, h1, h2, h3, hc.1, ?_, ht, by rw [hlen]; exact hp⟩
          -- the action section has even length `count - 2 - 3·gotoN ≥ 0`, so halving loses nothing
          show count = 2 + 3 * gotoN + 2 * (ps.length : Int)
          rw [hlen, Int.toNat_of_nonneg (Int.ediv_nonneg (by omega) (by decide)),
            Int.mul_ediv_cancel' (Int.dvd_of_emod_eq_zero hc.2.2)]
          omega
        · cases h
      · cases h
    · cases h

theorem rowPairs_eq {modes : Array Mode} {i : Nat} {m : Mode} {s : Int} {row : Row}
    (hm : modes[i]? = some m) (hrow : decodeRow m s = some row) :
    rowPairs modes i s = row.pairs := by
  simp only [rowPairs, hm, hrow]

theorem lookup_eq_find (ts : List Triple) (r : Int) :
    lookup ts r = (ts.find? (inTriple r)).map (·.2.2) := by
  induction ts with
  | nil => rfl
  | cons t rest ih =>
    obtain ⟨lo, hi, st⟩ := t
    rw [lookup]
    by_cases h : lo ≤ r ∧ r ≤ hi
    · rw [if_pos h, List.find?_cons_of_pos (p := inTriple r) (decide_eq_true h)]; rfl
    · rw [if_neg h, List.find?_cons_of_neg (p := inTriple r) fun hh => h (of_decide_eq_true hh), ih]

theorem lookup_none_of {ts : List Triple} {r : Int}
    (h : ∀ t ∈ ts, ¬ (t.lo ≤ r ∧ r ≤ t.hi)) : lookup ts r = none := by
  rw [lookup_eq_find,
    (List.find?_eq_none (p := inTriple r)).2 fun t ht hh => h t ht (of_decide_eq_true hh)]
  rfl

theorem mem_of_lookup_eq_some {ts : List Triple} {r st : Int} :
    lookup ts r = some st → ∃ t ∈ ts, t.lo ≤ r ∧ r ≤ t.hi ∧ t.target = st := by
  rw [lookup_eq_find]
  intro h
  obtain ⟨t, ht, rfl⟩ := Option.map_eq_some_iff.1 h
  have hr := of_decide_eq_true (List.find?_some (p := inTriple r) ht)
  exact ⟨t, List.mem_of_find?_eq_some ht, hr.1, hr.2, rfl⟩

theorem lookup_of_sorted {ts : List Triple} (hs : ts.Pairwise (fun a b => a.hi < b.lo))
    {r : Int} {t : Triple} (ht : t ∈ ts) (hr : t.lo ≤ r ∧ r ≤ t.hi) :
    lookup ts r = some t.target := by
  rw [lookup_eq_find, find?_inTriple_of_sorted hs ht hr]; rfl

/-- `bsearch` as `pushRune` calls it: `b = 0`, `e = gotoN`, fuel `gotoN + 1`. -/
theorem bsearch_linear (m : Mode) (r base : Int) (gotoN : Int) (ts : List Triple)
    (hdec : readTriples m gotoN.toNat base = some ts) (h0 : 0 ≤ gotoN)
    (hs : ts.Pairwise (fun a b => a.hi < b.lo)) (hle : ∀ t ∈ ts, t.lo ≤ t.hi) :
    bsearch m r base (gotoN.toNat + 1) 0 gotoN = some (lookup ts r) := by
  obtain ⟨hlen, hg⟩ := readTriples_spec m _ base ts hdec
  have := bsearch_eq_find m r base ts hg hs hle (gotoN.toNat + 1) 0 gotoN.toNat
    (Nat.le_of_eq hlen.symm) (Nat.lt_succ_self _)
    fun j t hj h => absurd (List.getElem?_eq_some_iff.1 hj).1 (by omega)
  rw [Int.toNat_of_nonneg h0] at this
  rw [lookup_eq_find]
  exact this

/-- Both sides branch alike on the pair type; the branches agree by induction or literally. -/
theorem runActions_eq (modes : Array Mode) (m : Mode) (r : Int) (ps : List Pair) (i : Int)
    (fuel : Nat) (sm : SM) (hdec : readPairs m ps.length i = some ps) (hfuel : ps.length < fuel) :
    runActions modes m r fuel i (i + 2 * (ps.length : Int)) sm
      = some (execPairs modes.size r ps sm) := by
  induction ps generalizing i fuel sm with
  | nil =>
    obtain ⟨n, rfl⟩ : ∃ n, fuel = n + 1 :=
      ⟨fuel - 1, (Nat.succ_pred_eq_of_pos (Nat.zero_lt_of_lt hfuel)).symm⟩
    simp only [runActions, List.length_nil, Int.natCast_zero, Int.mul_zero, Int.add_zero,
      Int.lt_irrefl, if_false, execPairs, apply_ite some]
  | cons a rest ih =>
    obtain ⟨ty, p⟩ := a
    obtain ⟨n, rfl⟩ : ∃ n, fuel = n + 1 :=
      ⟨fuel - 1, (Nat.succ_pred_eq_of_pos (Nat.zero_lt_of_lt hfuel)).symm⟩
    obtain ⟨h1, h2, h3⟩ := readPairs_cons hdec
    have hstop : i + 2 * (((ty, p) :: rest).length : Int) = i + 2 + 2 * (rest.length : Int) := by
      rw [List.length_cons, Int.natCast_succ, Int.mul_add, Int.mul_one, Int.add_comm (2 * _) 2,
        Int.add_assoc]
    have hlt : i < i + 2 + 2 * (rest.length : Int) := by omega
    have ih' := fun sm' => ih (i + 2) n sm' h3 (Nat.lt_of_succ_lt_succ hfuel)
    rw [hstop, runActions, execPairs]
    simp only [hlt, if_true, h1, h2, apply_ite some]
    refine ite_congr rfl (fun _ => ite_congr rfl (fun _ => ih' _) fun _ => rfl) fun _ =>
      ite_congr rfl (fun _ => ?_) fun _ => ite_congr rfl (fun _ => rfl) fun _ =>
        ite_congr rfl (fun _ => rfl) fun _ => ite_congr rfl (fun _ => rfl) fun _ => ih' _
    cases sm.modeStack with
    | nil => rfl
    | cons top st => exact ih' _

/-- No hypothesis on the shape of the pair list, only that the pushed modes exist. -/
theorem execPairs_ok (modes : Array Mode) (r : Int) : ∀ (ps : List Pair) (sm : SM),
    (∀ p ∈ ps, p.1 = 1 → p.2.toNat < modes.size) → ModesOK modes sm →
    (execPairs modes.size r ps sm).1 ≠ .oob ∧ ModesOK modes (execPairs modes.size r ps sm).2 ∧
    ((execPairs modes.size r ps sm).1 ≠ .error → (execPairs modes.size r ps sm).2.state = 0)
  | [], sm, _, hin => by
    rw [execPairs]
    split
    · exact ⟨nofun, hin, fun _ => ‹_ ∧ _›.1⟩
    · exact ⟨nofun, hin, fun h => absurd rfl h⟩
  | (ty, pa) :: ps, sm, hok, hin => by
    have ih := fun sm' => execPairs_ok modes r ps sm' fun p hp => hok p (List.mem_cons_of_mem _ hp)
    rw [execPairs]
    -- the recursive branches keep `ModesOK`; `accept`, `discard` and `tryAgain` reset the state
    by_cases h1 : ty = 1
    · have hlt := hok _ (List.mem_cons_self ..) h1
      rw [if_pos h1, if_pos hlt]
      exact ih _ ⟨hlt, fun x hx => (List.mem_cons.mp hx).elim (· ▸ hin.1) (hin.2 x)⟩
    rw [if_neg h1]
    by_cases h2 : ty = 2
    · rw [if_pos h2]
      cases hst : sm.modeStack with
      | nil => exact ⟨nofun, hin, fun h => absurd rfl h⟩
      | cons top st =>
        have := hst ▸ hin.2
        exact ih _ ⟨this top (List.mem_cons_self ..), fun x hx => this x (List.mem_cons_of_mem _ hx)⟩
    rw [if_neg h2]
    by_cases h3 : ty = 3
    · rw [if_pos h3]; exact ⟨nofun, hin, fun _ => rfl⟩
    rw [if_neg h3]
    by_cases h4 : ty = 4
    · rw [if_pos h4]; exact ⟨nofun, hin, fun _ => rfl⟩
    rw [if_neg h4]
    by_cases h5 : ty = 5
    · rw [if_pos h5]; exact ⟨nofun, hin, fun _ => rfl⟩
    rw [if_neg h5]
    exact ih sm hin

/-- `PushRune` on any row that decodes, with sorted non-empty triples, is `stepRow` on the decoded
row; no hypothesis on the table. The validator side (`Lex.pushRune_eq`, for `wfTable`) and the
run-time side (`pushRune_wf`, for `WFModes`) are read off this. -/
theorem pushRune_eq_stepRow (modes : Array Mode) (sm : SM) (r : Int) (m : Mode) (row : Row)
    (hm : modes[sm.mode.getD 0]? = some m) (hrow : decodeRow m sm.state = some row)
    (hs : row.triples.Pairwise (fun a b => a.hi < b.lo)) (hle : ∀ t ∈ row.triples, t.lo ≤ t.hi) :
    pushRune modes sm r
      = stepRow modes.size row { sm with mode := some (sm.mode.getD 0) } r := by
  obtain ⟨i, count, gotoN, g0, g1, g2, g3, h0, hcount, htr, hpr⟩ := decodeRow_some hrow
  have hb := bsearch_linear m r (i + 3) gotoN row.triples htr h0 hs hle
  have hstop : i + 1 + count = i + 3 + gotoN * 3 + 2 * (row.pairs.length : Int) := by omega
  have hra := runActions_eq modes m r row.pairs (i + 3 + gotoN * 3) (count.toNat + 1)
    { sm with mode := some (sm.mode.getD 0) } hpr (by omega)
  unfold pushRune stepRow
  simp only [hm, g0, g1, g2, g3, hb, hstop, hra]
  by_cases hf : row.flags % 2 = 0
  · simp only [hf, if_true]
    cases lookup row.triples r <;> rfl
  · simp only [hf, if_false]

end Lox.Lex.Rt
