import Lox.Lex.Spec
import Lox.Lex.TableProofs
/-! What the maximal-munch theorems assume of a table (`TableSpec`) and the one fact they take from it
(`TableSpec.run_stop`), and the part of the validators' soundness proofs (`BisimProofs`,
`BisimNGProofs`) that does not depend on how a vector of term sets is stepped:
a set `R` of configurations closed under the step function tracks every run of the table
(`run_closed`), and a tracked run agrees with the specification (`tableRun_eq_of_tracked`). The
generator establishes `TableSpec` from the automaton it built (`Gen.genMode_tableSpec`). -/
namespace Lox.Lex

/-- The table computes a specification given by a viability predicate `V` and a labelling `L`
(`viable`/`label` for greedy modes, `viableNG`/`labelNG` for modes with non-greedy rules). -/
structure TableSpec (tbl : Mode) (V : List Int → Prop) (L : List Int → List Pair) : Prop where
  wf : wfTable tbl = true
  dead : ∀ s, tableRun tbl s = none ↔ ¬ V s
  lab : ∀ s ps, tableRun tbl s = some ps → ps = L s

open Classical in
theorem TableSpec.of_run {tbl : Mode} {V : List Int → Prop} {L : List Int → List Pair}
    (hwf : wfTable tbl = true) (h : ∀ s, tableRun tbl s = if V s then some (L s) else none) :
    TableSpec tbl V L := by
  refine ⟨hwf, fun s => ?_, fun s ps hs => ?_⟩
  · rw [h s]; by_cases hv : V s <;> simp [hv]
  · rw [h s] at hs
    by_cases hv : V s
    · rw [if_pos hv] at hs; exact (Option.some.inj hs).symm
    · rw [if_neg hv] at hs; cases hs

/-- A table that computes `(V, L)` has walked from state 0 along `w` to `q`: then `w` is viable and
`q` carries `L w`; and if `q` has no transition on `c`, no word that goes on with `c` is viable. -/
theorem TableSpec.run_stop {tbl : Mode} {V : List Int → Prop} {L : List Int → List Pair}
    (hS : TableSpec tbl V L) {w : List Int} {q : Nat} (hrun : tableRunFrom tbl 0 w = some q) :
    V w ∧ rowPairs tbl q = L w ∧ ∀ c, tableStep tbl q c = none → ∀ v, ¬ V (w ++ c :: v) := by
  have hk : tableRun tbl w = some (rowPairs tbl q) := by
    rw [tableRun, hrun]
    rfl
  refine ⟨Classical.byContradiction fun hv => ?_, hS.lab _ _ hk, fun c hc v => (hS.dead _).mp ?_⟩
  · rw [(hS.dead _).mpr hv] at hk
    cases hk
  · rw [tableRun, tableRunFrom_append, hrun]
    simp only [Option.bind_some, tableRunFrom, hc, Option.map_none]

theorem vecDead_foldl {stp : Int → List (List Re) → List (List Re)}
    (hdead : ∀ c v, vecDead v = true → vecDead (stp c v) = true) :
    ∀ (s : List Int) (v : List (List Re)), vecDead v = true →
      vecDead (s.foldl (fun v c => stp c v) v) = true
  | [], _, h => h
  | c :: s, v, h => vecDead_foldl hdead s _ (hdead c v h)

/-- `stp` is `pdVec` for `bisim` and `pdVecNG ngs` for `bisimNG`. -/
theorem run_closed {tbl : Mode} {R : List Cfg} {stp : Int → List (List Re) → List (List Re)}
    (hdead : ∀ c v, vecDead v = true → vecDead (stp c v) = true)
    (hstep : ∀ q v, (q, v) ∈ R → ∀ c : Int,
      match tableStep tbl q c with
      | none => vecDead (stp c v) = true
      | some q' => vecDead (stp c v) = false ∧ (q', stp c v) ∈ R) :
    ∀ (s : List Int) (q : Nat) (v : List (List Re)), (q, v) ∈ R → vecDead v = false →
      match tableRunFrom tbl q s with
      | none => vecDead (s.foldl (fun v c => stp c v) v) = true
      | some q' => vecDead (s.foldl (fun v c => stp c v) v) = false ∧
          (q', s.foldl (fun v c => stp c v) v) ∈ R := by
  intro s
  induction s with
  | nil => intro q v hqv hd; exact ⟨hd, hqv⟩
  | cons c s ih =>
    intro q v hqv hd
    have hc := hstep q v hqv c
    simp only [tableRunFrom, List.foldl_cons]
    split at hc
    · rename_i hnone
      rw [hnone]
      exact vecDead_foldl hdead s _ hc
    · rename_i q' hsome
      rw [hsome]
      exact ih q' _ hc.2 hc.1

theorem vecDead_map_iff {Q : Rule → Prop} {g : Rule → List Re} {rules : List Rule}
    (h : ∀ r ∈ rules, Q r ↔ g r ≠ []) : (∃ r ∈ rules, Q r) ↔ vecDead (rules.map g) = false := by
  rw [vecDead, List.all_map, List.all_eq_false]
  exact exists_congr fun r => and_congr_right fun hr => (h r hr).trans (by simp)

open Classical in
/-- `label` and `labelNG` are the recursion `L`: the pairs of the first rule with `M`. -/
theorem labelOf_map_eq {M : Rule → Prop} {g : Rule → List Re} {L : List Rule → List Pair}
    (hnil : L [] = []) (hcons : ∀ r rs, L (r :: rs) = if M r then r.2 else L rs) :
    ∀ rules : List Rule, (∀ r ∈ rules, M r ↔ (g r).any nullable = true) →
      L rules = labelOf (rules.map (·.2)) (rules.map g)
  | [], _ => hnil
  | r :: rs, h => by
    rw [hcons, List.map_cons, List.map_cons, labelOf,
      labelOf_map_eq hnil hcons rs fun r hr => h r (List.mem_cons_of_mem _ hr)]
    exact ite_congr (propext (h r (List.mem_cons_self ..))) (fun _ => rfl) fun _ => rfl

theorem rulesOK_iff {rules : List Rule} : rulesOK rules = true ↔
    rules ≠ [] ∧ ∀ r ∈ rules, r.1.clsOK = true ∧ r.2 ≠ [] := by
  simp [rulesOK, List.all_eq_true]

theorem initVec_not_dead {rules : List Rule} (h : rules ≠ []) : vecDead (initVec rules) = false := by
  cases rules with
  | nil => exact absurd rfl h
  | cons r rs => rfl

open Classical in
/-- The table run and the specification agree on `s` once the run invariant (`run_closed`) holds
for a vector `w` whose liveness is viability `V` and whose label is `L`. -/
theorem tableRun_eq_of_tracked {tbl : Mode} {R : List Cfg} {s : List Int} {w : List (List Re)}
    {pss : List (List Pair)} {V : Prop} {L : List Pair}
    (hrun : match tableRunFrom tbl 0 s with
      | none => vecDead w = true
      | some q' => vecDead w = false ∧ (q', w) ∈ R)
    (hlab : ∀ q', (q', w) ∈ R → rowPairs tbl q' = labelOf pss w)
    (hV : V ↔ vecDead w = false) (hL : L = labelOf pss w) :
    tableRun tbl s = if V then some L else none := by
  unfold tableRun
  split at hrun
  · rename_i hnone
    rw [hnone, if_neg (by rw [hV, hrun]; exact Bool.noConfusion)]; rfl
  · rename_i q' hsome
    rw [hsome, if_pos (hV.mpr hrun.1), hL, ← hlab q' hrun.2]; rfl

end Lox.Lex
