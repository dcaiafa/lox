import Lox.Lex.Runtime
/-! The Bool checkers of `Lox/Lex/Runtime.lean` decide their specifications: `wfModes` decides
`WFModes`, `noAccum` decides `NoAccum`. -/
namespace Lox.Lex.Rt

theorem sortedFrom_iff (p : Int) (ts : List Triple) :
    sortedFrom p ts = true ↔
      ts.Pairwise (fun a b => a.hi < b.lo) ∧ (∀ t ∈ ts, t.lo ≤ t.hi) ∧ ∀ t ∈ ts, p < t.lo := by
  induction ts generalizing p with
  | nil => simp [sortedFrom]
  | cons t rest ih =>
    obtain ⟨lo, hi, st⟩ := t
    simp only [sortedFrom, Bool.and_eq_true, decide_eq_true_eq, ih, List.pairwise_cons,
      List.mem_cons, forall_eq_or_imp, Triple.lo, Triple.hi]
    constructor
    · rintro ⟨⟨h1, h2⟩, h3, h4, h5⟩
      exact ⟨⟨h5, h3⟩, ⟨h2, h4⟩, h1, fun t ht => Int.lt_trans (Int.lt_of_lt_of_le h1 h2) (h5 t ht)⟩
    · rintro ⟨⟨h5, h3⟩, ⟨h2, h4⟩, h1, _⟩
      exact ⟨⟨h1, h2⟩, h3, h4, h5⟩

theorem sortedFrom_neg_one_iff (ts : List Triple) :
    sortedFrom (-1) ts = true ↔ SortedTriples ts := by
  rw [sortedFrom_iff, SortedTriples]
  exact and_congr_right fun _ =>
    ⟨fun h t ht => ⟨Int.add_one_le_of_lt (h.2 t ht), h.1 t ht⟩,
     fun h => ⟨fun t ht => (h t ht).2, fun t ht => Int.lt_of_lt_of_le (by decide) (h t ht).1⟩⟩

theorem isModeAct_iff (nModes : Nat) (p : Pair) :
    isModeAct nModes p = true ↔ (p.1 = 1 ∧ p.2.toNat < nModes) ∨ p.1 = 2 := by
  simp [isModeAct]

theorem isTermAct_iff (p : Pair) : isTermAct p = true ↔ (p.1 = 3 ∨ p.1 = 4 ∨ p.1 = 5) := by
  simp [isTermAct, or_assoc]

theorem wfPairs_iff (nModes : Nat) (ps : List Pair) :
    wfPairs nModes ps = true ↔ PairsWF nModes ps := by
  unfold wfPairs PairsWF
  rcases List.eq_nil_or_concat ps with rfl | ⟨pre, t, rfl⟩
  · simp
  · have hne : pre ++ [t] ≠ [] := by simp
    simp only [List.concat_eq_append, Bool.or_eq_true, List.isEmpty_iff, hne, false_or,
      List.dropLast_concat, List.getLast?_concat, Option.any_some, Bool.and_eq_true,
      List.all_eq_true, isModeAct_iff, isTermAct_iff]
    constructor
    · exact fun h => ⟨pre, t, rfl, h⟩
    · rintro ⟨pre', t', e, h⟩
      obtain ⟨rfl, e'⟩ := List.append_inj' e rfl
      cases e'
      exact h

theorem wfRow_iff (nModes n s : Nat) (row : Row) :
    wfRow nModes n s row = true ↔ RowWF nModes n s row := by
  unfold wfRow
  simp only [Bool.and_eq_true, sortedFrom_neg_one_iff, List.all_eq_true, decide_eq_true_eq,
    wfPairs_iff, Bool.or_eq_true, bne_iff_ne, ne_eq, List.isEmpty_iff]
  constructor
  · rintro ⟨⟨⟨h1, h2⟩, h3⟩, h4⟩
    exact ⟨h1, h2, h3, fun hs => h4.resolve_left (not_not_intro hs)⟩
  · rintro ⟨h1, h2, h3, h4⟩
    exact ⟨⟨⟨h1, h2⟩, h3⟩, (Decidable.em (s = 0)).elim (fun hs => .inr (h4 hs)) .inl⟩

theorem wfMode_iff (nModes : Nat) (m : Mode) :
    wfMode nModes m = true ↔
      0 < nStates m ∧ ∀ s, s < nStates m →
        ∃ row, decodeRow m (s : Int) = some row ∧ RowWF nModes (nStates m) s row := by
  unfold wfMode
  simp only [Bool.and_eq_true, decide_eq_true_eq, List.all_eq_true, List.mem_range]
  refine and_congr Iff.rfl (forall_congr' fun s => imp_congr Iff.rfl ?_)
  unfold wfState
  cases decodeRow m (s : Int) with
  | none => simp
  | some row => simp [wfRow_iff]

theorem forall_mem_toList_iff {α : Type} (a : Array α) (P : α → Prop) :
    (∀ x ∈ a.toList, P x) ↔ ∀ (i : Nat) (x : α), a[i]? = some x → P x := by
  simp only [List.mem_iff_getElem?, Array.getElem?_toList]
  exact ⟨fun h i x hx => h x ⟨i, hx⟩, fun h x ⟨i, hx⟩ => h i x hx⟩

theorem wfModes_iff (modes : Array Mode) : wfModes modes = true ↔ WFModes modes := by
  unfold wfModes WFModes
  simp only [Bool.and_eq_true, decide_eq_true_eq, List.all_eq_true, wfMode_iff,
    forall_mem_toList_iff]

instance (modes : Array Mode) : Decidable (WFModes modes) :=
  decidable_of_iff _ (wfModes_iff modes)

theorem noAccum_iff (modes : Array Mode) : noAccum modes = true ↔ NoAccum modes := by
  unfold noAccum NoAccum
  simp only [List.all_eq_true, List.mem_range, forall_mem_toList_iff]
  refine forall_congr' fun mi => forall_congr' fun m => imp_congr Iff.rfl <|
    forall_congr' fun s => imp_congr Iff.rfl ?_
  cases decodeRow m (s : Int) with
  | none => simp only [reduceCtorEq, false_imp_iff, implies_true]
  | some row => simp only [List.all_eq_true, decide_eq_true_eq, ne_eq, Option.some.injEq, forall_eq']

end Lox.Lex.Rt
