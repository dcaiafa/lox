/-! Small facts about lists, about `mapM` in `Option`, and about tables kept as lists or arrays of rows, that the
proofs of several areas (Dec, LR, Lex, Table) need alike. -/
namespace Lox.Util

variable {α β γ : Type}

theorem map_eq_pair {f : α → β} {l : List α} {u v : β} (h : l.map f = [u, v]) :
    ∃ x y, l = [x, y] ∧ f x = u ∧ f y = v := by
  match l, h with
  | [x, y], h =>
    simp only [List.map_cons, List.map_nil, List.cons.injEq, and_true] at h
    exact ⟨x, y, rfl, h.1, h.2⟩

theorem getElem?_of_drop_eq_cons {l : List α} {d : Nat} {x : α} {r : List α} (h : l.drop d = x :: r) :
    l[d]? = some x ∧ l.drop (d + 1) = r :=
  ⟨by simpa [List.head?_drop] using congrArg List.head? h,
    by simpa [List.tail_drop] using congrArg List.tail h⟩

theorem getElem?_inj_of_nodup {l : List α} (hn : l.Nodup) {i j : Nat} {a : α} (hi : l[i]? = some a)
    (hj : l[j]? = some a) : i = j :=
  (List.getElem?_inj (List.getElem?_eq_some_iff.mp hi).1 hn).mp (hi.trans hj.symm)

theorem pairwise_snoc {R : α → α → Prop} {l : List α} {a : α} (hl : l.Pairwise R) (ha : ∀ b ∈ l, R b a) :
    (l ++ [a]).Pairwise R :=
  List.pairwise_append.mpr
    ⟨hl, List.pairwise_singleton R a, fun b hb _ hc => List.mem_singleton.mp hc ▸ ha b hb⟩

theorem mem_toList_iff_getElem? {a : Array α} {x : α} : x ∈ a.toList ↔ ∃ i : Nat, a[i]? = some x :=
  Array.mem_toList_iff.trans Array.mem_iff_getElem?

theorem mem_getD_nil {o : Option (List α)} {x : α} : x ∈ o.getD [] ↔ ∃ l, o = some l ∧ x ∈ l := by
  cases o with
  | none => exact ⟨fun h => (nomatch h), fun ⟨_, h, _⟩ => (nomatch h)⟩
  | some l => exact ⟨fun h => ⟨l, rfl, h⟩, fun ⟨_, h, hx⟩ => Option.some.inj h ▸ hx⟩

theorem lt_size_of_mem_getD {a : Array (List α)} {s : Nat} {x : α} (h : x ∈ a[s]?.getD []) : s < a.size :=
  let ⟨_, e, _⟩ := mem_getD_nil.mp h
  (Array.getElem?_eq_some_iff.mp e).1

theorem sum_map_le (f : α → Nat) (k : Nat) (l : List α) (h : ∀ x ∈ l, f x ≤ k) :
    (l.map f).sum ≤ l.length * k := by
  induction l with
  | nil => simp
  | cons a l ih =>
    rw [List.map_cons, List.sum_cons, List.length_cons, Nat.add_mul, Nat.one_mul, Nat.add_comm]
    exact Nat.add_le_add (ih fun x hx => h x (List.mem_cons_of_mem _ hx)) (h a (List.mem_cons_self ..))

theorem sum_map_set (f : α → Nat) (l : List α) (i : Nat) (v : α) (hi : i < l.length) :
    ((l.set i v).map f).sum + f l[i] = (l.map f).sum + f v := by
  induction l generalizing i with
  | nil => cases hi
  | cons a l ih =>
    cases i with
    | zero => simp only [List.set_cons_zero, List.map_cons, List.sum_cons, List.getElem_cons_zero]; omega
    | succ i =>
      simp only [List.set_cons_succ, List.map_cons, List.sum_cons, List.getElem_cons_succ]
      have := ih i (Nat.lt_of_succ_lt_succ hi)
      omega

section mapM
variable {f : α → Option β} {l : List α} {r : List β}

theorem mapM_eq_some : ∀ {l : List α} {r : List β}, l.mapM f = some r ↔ l.map f = r.map some
  | [], r => by cases r <;> simp
  | a :: l, [] => by
    rw [List.mapM_cons]
    cases f a <;> cases l.mapM f <;> simp
  | a :: l, c :: r => by
    rw [List.mapM_cons, List.map_cons, List.map_cons, List.cons.injEq, ← mapM_eq_some]
    cases f a <;> cases l.mapM f <;> simp

theorem mapM_some_mem (h : l.mapM f = some r) {y : β} (hy : y ∈ r) : ∃ x ∈ l, f x = some y :=
  List.mem_map.mp (mapM_eq_some.mp h ▸ List.mem_map_of_mem hy)

theorem mapM_some_of_mem (h : l.mapM f = some r) {x : α} (hx : x ∈ l) : ∃ y ∈ r, f x = some y := by
  obtain ⟨y, hy, e⟩ := List.mem_map.mp (mapM_eq_some.mp h ▸ List.mem_map_of_mem (f := f) hx)
  exact ⟨y, hy, e.symm⟩

theorem mapM_eq_filterMap (h : l.mapM f = some r) : r = l.filterMap f := by
  have := List.filterMap_map (f := f) (g := id) (l := l)
  rw [mapM_eq_some.mp h, List.filterMap_map] at this
  simpa using this

theorem mapM_some_map (k : β → γ) (k' : α → γ) (hk : ∀ x y, f x = some y → k y = k' x)
    (h : l.mapM f = some r) : r.map k = l.map k' := by
  replace h := mapM_eq_some.mp h
  induction l generalizing r with
  | nil => cases r with
    | nil => rfl
    | cons _ _ => cases h
  | cons a l ih => cases r with
    | nil => cases h
    | cons b r =>
      rw [List.map_cons, List.map_cons, List.cons.injEq] at h
      rw [List.map_cons, List.map_cons, hk a b h.1, ih h.2]

theorem mapM_isSome : ∀ (l : List α), (∀ x ∈ l, ∃ y, f x = some y) → ∃ r, l.mapM f = some r
  | [], _ => ⟨[], rfl⟩
  | a :: l, h => by
    obtain ⟨b, hb⟩ := h a (by simp)
    obtain ⟨r, hr⟩ := mapM_isSome l (fun x hx => h x (List.mem_cons_of_mem _ hx))
    exact ⟨b :: r, by rw [List.mapM_cons]; simp [hb, hr]⟩

end mapM

end Lox.Util
