/-! The counting argument behind the termination of the two subset constructions: a duplicate-free family of subsets of a
list `u` has at most `2 ^ |u|` members. `LR/ConstructTerm` bounds the LALR states by it (`states_le`), `Lex/GenTotalProofs`
the DFA states (`sorted_below_le_two_pow`). -/
namespace Lox.Util

/-- Subsets are lists told apart by which elements of `u` they contain. By induction on `u`: the members with and
those without its first element are each told apart by the rest of `u`. -/
theorem length_le_two_pow {α : Type} [DecidableEq α] (u : List α) (L : List (List α)) (hn : L.Nodup)
    (h : ∀ l ∈ L, ∀ l' ∈ L, (∀ x ∈ u, x ∈ l ↔ x ∈ l') → l = l') : L.length ≤ 2 ^ u.length := by
  induction u generalizing L with
  | nil =>
    cases hn with
    | nil => exact Nat.zero_le _
    | @cons a r ha _ =>
      cases r with
      | nil => exact Nat.le_refl _
      | cons b r =>
        exact absurd (h a (List.mem_cons_self ..) b (List.mem_cons_of_mem _ (List.mem_cons_self ..))
          (fun _ hx => nomatch hx)) (ha b (List.mem_cons_self ..))
  | cons b u ih =>
    have part : ∀ p : List α → Bool, (∀ l l', p l = true → p l' = true → (b ∈ l ↔ b ∈ l')) →
        (L.filter p).length ≤ 2 ^ u.length := fun p hp =>
      ih _ (hn.filter p) fun l hl l' hl' hu => by
        obtain ⟨hl, hpl⟩ := List.mem_filter.mp hl
        obtain ⟨hl', hpl'⟩ := List.mem_filter.mp hl'
        refine h l hl l' hl' fun x hx => ?_
        rcases List.mem_cons.mp hx with rfl | hx
        · exact hp l l' hpl hpl'
        · exact hu x hx
    have h1 := part (fun l => decide (b ∈ l)) fun l l' hl hl' =>
      iff_of_true (of_decide_eq_true hl) (of_decide_eq_true hl')
    have h2 := part (fun l => decide (b ∉ l)) fun l l' hl hl' =>
      iff_of_false (of_decide_eq_true hl) (of_decide_eq_true hl')
    have := List.length_eq_countP_add_countP (fun l => decide (b ∈ l)) (l := L)
    simp only [List.countP_eq_length_filter, decide_eq_true_eq] at this
    rw [List.length_cons, Nat.pow_succ]
    omega

end Lox.Util
