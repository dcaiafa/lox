/-! Natural numbers as measures, for the LR proofs: the sum of a function over an initial segment (the size of a table that
grows entry by entry: `Grows.step` of `LR/FirstTheory`, for the FIRST tables of `LR/CheckFirst` and `LR/GenModelProofs`, an
entry of which is a duplicate-free list of terminals and so no longer than there are terminals),
folds that only go up (a maximum taken along a list, `LR/GenModelProofs`), induction along a rank in which `0` stands for
"no rank" (the ranked tables of `LR/JustifySound`). -/
namespace Lox.Util

def msum (f : Nat → Nat) : Nat → Nat
  | 0 => 0
  | n + 1 => msum f n + f n

theorem msum_le {f g : Nat → Nat} : ∀ {n : Nat}, (∀ B, B < n → f B ≤ g B) → msum f n ≤ msum g n
  | 0, _ => Nat.le_refl _
  | n + 1, h =>
    Nat.add_le_add (msum_le fun B hB => h B (Nat.lt_succ_of_lt hB)) (h n (Nat.lt_succ_self n))

theorem msum_lt {f g : Nat → Nat} : ∀ {n : Nat}, (∀ B, B < n → f B ≤ g B) → ∀ i, i < n → f i < g i →
    msum f n < msum g n
  | n + 1, h, i, hi, hlt => by
    have hle : ∀ B, B < n → f B ≤ g B := fun B hB => h B (Nat.lt_succ_of_lt hB)
    rcases Nat.lt_succ_iff_lt_or_eq.mp hi with hi | rfl
    · exact Nat.add_lt_add_of_lt_of_le (msum_lt hle i hi hlt) (h n (Nat.lt_succ_self n))
    · exact Nat.add_lt_add_of_le_of_lt (msum_le hle) hlt

theorem msum_bound {f : Nat → Nat} {k : Nat} : ∀ {n : Nat}, (∀ B, B < n → f B ≤ k) → msum f n ≤ n * k
  | 0, _ => by simp [msum]
  | n + 1, h => by
    rw [Nat.succ_mul]
    exact Nat.add_le_add (msum_bound fun B hB => h B (Nat.lt_succ_of_lt hB))
      (h n (Nat.lt_succ_self n))

theorem length_le_of_nodup_lt {l : List Nat} {n : Nat} (hn : l.Nodup) (hb : ∀ x ∈ l, x < n) :
    l.length ≤ n := by
  have := hn.length_le_of_subset (l₂ := List.range n) fun x hx => List.mem_range.mpr (hb x hx)
  rwa [List.length_range] at this

theorem le_foldl {α : Type} {g : Nat → α → Nat} (hg : ∀ m a, m ≤ g m a) (L : List α) (m : Nat) :
    m ≤ L.foldl g m :=
  List.foldlRecOn L g (Nat.le_refl m) fun _ h a _ => Nat.le_trans h (hg _ a)

theorem lt_foldl_of_mem {α : Type} {g : Nat → α → Nat} (hg : ∀ m a, m ≤ g m a) {L : List α} {a : α}
    (ha : a ∈ L) {x : Nat} (hx : ∀ m, x < g m a) (m : Nat) : x < L.foldl g m := by
  induction L generalizing m with
  | nil => cases ha
  | cons b L ih =>
    rcases List.mem_cons.mp ha with rfl | ha
    · exact Nat.lt_of_lt_of_le (hx m) (le_foldl hg L _)
    · exact ih ha _

theorem lt_size_of_getD_pos {a : Array Nat} {i : Nat} (h : 0 < a[i]?.getD 0) : i < a.size :=
  Nat.lt_of_not_le fun hle => by simp [Array.getElem?_eq_none hle] at h

theorem rank_induction {ι : Type} (rank : ι → Nat) {Q : ι → Prop}
    (step : ∀ i, 0 < rank i → (∀ j, 0 < rank j → rank j < rank i → Q j) → Q i) :
    ∀ i, 0 < rank i → Q i := by
  suffices ∀ n i, rank i = n → 0 < rank i → Q i from fun i => this _ i rfl
  intro n
  induction n using Nat.strongRecOn with
  | _ n ih => exact fun i hi h0 => step i h0 fun j hj hlt => ih _ (hi ▸ hlt) j rfl hj

end Lox.Util
