/-! "Add what is new": the candidates that a set kept as a list does not hold yet, each once, in order
of first occurrence. The worklist loops and set unions of the models have this step in several
spellings (`union`, `addNew`, `mergeInto` of the LR generator; `pushNew`, `dedup` of the lexer generator); in each the
set grows by `fresh`, and `fresh` is what is queued (or whether it is empty is the `changed` flag). -/
namespace Lox.Util
universe u
variable {α : Type u} [DecidableEq α]

def fresh (seen : List α) : List α → List α
  | [] => []
  | x :: xs => if x ∈ seen then fresh seen xs else x :: fresh (x :: seen) xs

theorem mem_fresh {seen xs : List α} {x : α} : x ∈ fresh seen xs ↔ x ∈ xs ∧ x ∉ seen := by
  induction xs generalizing seen with
  | nil => simp [fresh]
  | cons y xs ih =>
    rw [fresh]
    split
    · next hy =>
      rw [ih, List.mem_cons]
      exact and_congr_left fun hx => (or_iff_right fun (e : x = y) => hx (e ▸ hy)).symm
    · next hy =>
      rw [List.mem_cons, ih, List.mem_cons, List.mem_cons]
      by_cases e : x = y
      · subst e; simp [hy]
      · simp [e]

theorem mem_append_fresh {seen xs : List α} {x : α} :
    x ∈ seen ++ fresh seen xs ↔ x ∈ seen ∨ x ∈ xs := by
  rw [List.mem_append, mem_fresh]
  exact ⟨fun h => h.imp_right And.left,
    fun h => (Decidable.em (x ∈ seen)).imp_right fun hn => ⟨h.resolve_left hn, hn⟩⟩

/-- `fresh` looks at `seen` only through membership, so it does not matter at which end of the list
a model puts a new element. -/
theorem fresh_congr {s s' : List α} (h : ∀ x, x ∈ s ↔ x ∈ s') (xs : List α) :
    fresh s xs = fresh s' xs := by
  induction xs generalizing s s' with
  | nil => rfl
  | cons y xs ih =>
    rw [fresh, fresh, ih h,
      ih (s := y :: s) (s' := y :: s') fun x => by rw [List.mem_cons, List.mem_cons, h]]
    by_cases hy : y ∈ s
    · rw [if_pos hy, if_pos ((h y).1 hy)]
    · rw [if_neg hy, if_neg fun h' => hy ((h y).2 h')]

theorem nodup_append_fresh {seen : List α} (hs : seen.Nodup) (xs : List α) :
    (seen ++ fresh seen xs).Nodup := by
  induction xs generalizing seen with
  | nil => simpa [fresh] using hs
  | cons y xs ih =>
    rw [fresh]
    split
    · exact ih hs
    · next hy =>
      have := ih (List.nodup_cons.2 ⟨hy, hs⟩)
      rw [List.cons_append] at this
      exact List.perm_middle.nodup_iff.2 this

theorem fresh_eq_nil {seen xs : List α} (h : ∀ x ∈ xs, x ∈ seen) : fresh seen xs = [] :=
  List.eq_nil_iff_forall_not_mem.2 fun _ hx => (mem_fresh.1 hx).2 (h _ (mem_fresh.1 hx).1)

/-- The fold that appends what is absent (`set.Add` in a loop). -/
theorem foldl_add_eq (acc xs : List α) :
    xs.foldl (fun acc x => if x ∈ acc then acc else acc ++ [x]) acc = acc ++ fresh acc xs := by
  induction xs generalizing acc with
  | nil => simp [fresh]
  | cons x xs ih =>
    rw [List.foldl_cons, fresh]
    split
    · exact ih acc
    · rw [ih, fresh_congr (s' := x :: acc) (by simp [or_comm])]
      simp

end Lox.Util
