/-! Folds that may stop (`List.foldlM` in `Option`). The run of an automaton over a word is such a
fold of its step function (`DFA.run_eq_foldlM`, `tableRunFrom_eq_foldlM`), and so are the rounds of the LALR
construction (`procKey`, `procRound`); what holds at the end because the steps keep it is said here once. -/
namespace Lox.Util

variable {σ α : Type}

/-- An invariant of the steps, which may mention the elements still to come, holds at the end. -/
theorem foldlM_inv (f : σ → α → Option σ) (Q : List α → σ → Prop)
    (hf : ∀ a rem s s', Q (a :: rem) s → f s a = some s' → Q rem s') :
    ∀ (l : List α) (s s' : σ), Q l s → l.foldlM f s = some s' → Q [] s'
  | [], _, _, hq, h => Option.some.inj h ▸ hq
  | a :: l, s, s', hq, h => by
    rw [List.foldlM_cons] at h
    cases hfa : f s a with
    | none => rw [hfa] at h; cases h
    | some s1 => rw [hfa] at h; exact foldlM_inv f Q hf l s1 s' (hf a l s s1 hq hfa) h

theorem foldlM_isSome (f : σ → α → Option σ) (P : σ → Prop) :
    ∀ (l : List α), (∀ s, ∀ a ∈ l, P s → ∃ s', f s a = some s' ∧ P s') →
      ∀ s, P s → ∃ s', l.foldlM f s = some s' ∧ P s'
  | [], _, s, hp => ⟨s, rfl, hp⟩
  | a :: l, hf, s, hp => by
    obtain ⟨s1, h1, hp1⟩ := hf s a (List.mem_cons_self ..) hp
    obtain ⟨s2, h2, hp2⟩ :=
      foldlM_isSome f P l (fun s b hb => hf s b (List.mem_cons_of_mem _ hb)) s1 hp1
    exact ⟨s2, by rw [List.foldlM_cons, h1]; exact h2, hp2⟩

end Lox.Util
