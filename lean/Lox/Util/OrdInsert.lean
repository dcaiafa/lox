/-! Ordered insertion. The models insert into ordered lists with functions of their own: `sinsert` (LR/GenModel),
`heapPush`, `insertSorted` (Rang3), `insNat`, `insInt`, `insTerm`, `insertName` (Lex), `insertBy` (Dec/Order).
`OrdIns R f` says what all of them do at the head of the list; membership in the result, and in the sort that folds the
insertion, follows from it alone, and so does sortedness when `R` is the order `f` compares by. `insInt`, `insTerm` and
`insertName` are instances for membership only (`R` trivial); `insertName` keeps duplicates, so that it sorts strictly
when the name is new is proved where it is used. -/
namespace Lox.Util

variable {α : Type} {R : α → α → Prop} {f : α → List α → List α}

/-- At a head `b`, `f a` stops in front of it (`R a b`), passes it (`R b a`), or finds `a` there. Where only
membership matters `R` may be `fun _ _ => True`. -/
structure OrdIns (R : α → α → Prop) (f : α → List α → List α) : Prop where
  nil : ∀ a, f a [] = [a]
  cons : ∀ a b l, (R a b ∧ f a (b :: l) = a :: b :: l) ∨ (R b a ∧ f a (b :: l) = b :: f a l) ∨
    (a = b ∧ f a (b :: l) = b :: l)

theorem OrdIns.mem (h : OrdIns R f) {a x : α} : ∀ {l : List α}, x ∈ f a l ↔ x = a ∨ x ∈ l
  | [] => by rw [h.nil, List.mem_singleton, List.mem_nil_iff, or_false]
  | b :: l => by
    rcases h.cons a b l with ⟨_, e⟩ | ⟨_, e⟩ | ⟨rfl, e⟩
    · rw [e, List.mem_cons]
    · rw [e, List.mem_cons, h.mem (l := l), List.mem_cons, or_left_comm]
    · rw [e, List.mem_cons, or_self_left]

theorem OrdIns.pairwise (h : OrdIns R f) (htrans : ∀ {a b c}, R a b → R b c → R a c) {a : α} :
    ∀ {l : List α}, l.Pairwise R → (f a l).Pairwise R
  | [], _ => by rw [h.nil]; exact List.pairwise_singleton R a
  | b :: l, hl => by
    have hb := List.pairwise_cons.mp hl
    rcases h.cons a b l with ⟨r, e⟩ | ⟨r, e⟩ | ⟨rfl, e⟩
    · rw [e]
      refine List.pairwise_cons.mpr ⟨fun z hz => ?_, hl⟩
      rcases List.mem_cons.mp hz with rfl | hz
      · exact r
      · exact htrans r (hb.1 z hz)
    · rw [e]
      refine List.pairwise_cons.mpr ⟨fun z hz => ?_, h.pairwise htrans hb.2⟩
      rcases h.mem.mp hz with rfl | hz
      · exact r
      · exact hb.1 z hz
    · rw [e]
      exact hl

theorem OrdIns.mem_foldr (h : OrdIns R f) {x : α} : ∀ {l : List α}, x ∈ l.foldr f [] ↔ x ∈ l
  | [] => Iff.rfl
  | a :: l => by rw [List.foldr_cons, h.mem, h.mem_foldr, List.mem_cons]

theorem OrdIns.pairwise_foldr (h : OrdIns R f) (htrans : ∀ {a b c}, R a b → R b c → R a c) :
    ∀ l : List α, (l.foldr f []).Pairwise R
  | [] => List.Pairwise.nil
  | _ :: l => h.pairwise htrans (h.pairwise_foldr htrans l)

/-- `heapOf` and `sortRanges` of Rang3 sort by a `foldl`: the same insertions in the opposite order. -/
theorem OrdIns.mem_foldl (h : OrdIns R f) {x : α} {l : List α} :
    x ∈ l.foldl (fun acc a => f a acc) [] ↔ x ∈ l := by
  rw [List.foldl_eq_foldr_reverse]
  exact h.mem_foldr.trans List.mem_reverse

theorem OrdIns.pairwise_foldl (h : OrdIns R f) (htrans : ∀ {a b c}, R a b → R b c → R a c) (l : List α) :
    (l.foldl (fun acc a => f a acc) []).Pairwise R := by
  rw [List.foldl_eq_foldr_reverse]
  exact h.pairwise_foldr htrans _

theorem pairwise_ext (hasymm : ∀ a b, R a b → ¬ R b a) {l₁ l₂ : List α} (h₁ : l₁.Pairwise R)
    (h₂ : l₂.Pairwise R) (hm : ∀ x, x ∈ l₁ ↔ x ∈ l₂) : l₁ = l₂ :=
  have nd : ∀ {l : List α}, l.Pairwise R → l.Nodup := fun h =>
    h.imp fun {a b} hab (e : a = b) => hasymm a b hab (e ▸ hab)
  List.Perm.eq_of_pairwise (fun a b _ _ hab hba => absurd hba (hasymm a b hab)) h₁ h₂
    ((List.perm_ext_iff_of_nodup (nd h₁) (nd h₂)).mpr hm)

end Lox.Util
