/-! What a duplicate-free list with known members looks like. Used by the LR proofs: `nodup_filterMap_inj` for the calls of a
state (`LR/GenModelProofsActions`), the keys of an emitted row (`LR/TableRows`) and the terminals and rules of a symbol order
(`LR/EmitProofsCells`); the other two for the cells
of candidate actions in `LR/ConflictVerdict` and `Props/C04_gen` (a conflict is a cell of more than one action). -/
namespace Lox.Util

theorem nodup_filterMap_inj {α β : Type} (f : α → Option β)
    (hinj : ∀ x y b, f x = some b → f y = some b → x = y) {l : List α} (h : l.Nodup) :
    (l.filterMap f).Nodup :=
  List.Pairwise.filterMap (S := (· ≠ ·)) f
    (fun a a' hne b hb b' hb' (e : b = b') => hne (hinj a a' b hb (e ▸ hb'))) h

theorem nodup_pair {α : Type} {l : List α} {a b : α} (hn : l.Nodup)
    (hm : ∀ x, x ∈ l ↔ x = a ∨ x = b) (hab : a ≠ b) : l = [a, b] ∨ l = [b, a] := by
  have hp : l.Perm [a, b] :=
    (List.perm_ext_iff_of_nodup hn (by simpa using hab)).mpr
      fun x => by rw [hm, List.mem_cons, List.mem_singleton]
  match l, hp.length_eq, hn, hm with
  | [x, y], _, hn, hm =>
    have hxy : x ≠ y := fun e => by simp [e] at hn
    rcases (hm x).mp (by simp) with rfl | rfl <;> rcases (hm y).mp (by simp) with rfl | rfl
    · exact absurd rfl hxy
    · exact .inl rfl
    · exact .inr rfl
    · exact absurd rfl hxy

theorem one_lt_length_iff {α β : Type} {f : α → β} {l : List α} {P : β → Prop}
    (hn : (l.map f).Nodup) (hm : ∀ c, c ∈ l.map f ↔ P c) :
    1 < l.length ↔ ∃ x y, P x ∧ P y ∧ x ≠ y := by
  simp only [← hm]
  constructor
  · intro hl
    match l, hn, hl with
    | x :: y :: r, hn, _ =>
      rw [List.map_cons, List.map_cons, List.nodup_cons] at hn
      exact ⟨f x, f y, .head _, .tail _ (.head _), fun e => hn.1 (e ▸ .head _)⟩
  · rintro ⟨x, y, hx, hy, hne⟩
    match l, hx, hy with
    | [a], hx, hy =>
      simp at hx hy
      exact absurd (hx.trans hy.symm) hne
    | _ :: _ :: _, _, _ => simp

end Lox.Util
