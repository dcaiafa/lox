import Lox.Dec.ResolveProofs
/-!
# C04 – decision logic of conflict reporting

Property (verbatim): "lox refuses a grammar with 'grammar has conflicts' if and only if its LALR(1)
automaton has a state and lookahead with more than one action left after the documented precedence
rule is applied; it never silently picks an action and never rejects an LALR(1) grammar. Precedence
qualifiers settle only shift/reduce conflicts among productions of one rule that all carry explicit
qualifiers; they never hide reduce/reduce conflicts or conflicts spanning rules. For accepted
grammars the emitted action and goto tables are the LALR(1) tables."

This file holds the part that is about `resolveConflicts` (`/repo/internal/parsergen/lr1/construct.go`),
proved for **all** production tables `info` and **all** action cells / tables; the model is
`Lox.Dec.resolveOne` / `Lox.Dec.hasConflicts` (`Lox/Dec/Resolve.lean`), tied to the Go code by the
correspondence family `resolve`. That the cells are the LALR(1) cells is the other half of C04
(validator + certificate) and is not stated here.
-/
namespace Lox.Props.C04
open Lox.Dec

/-- **resolved ⇔ one-rule S/R pair with explicit precedences** (both directions): the precedence
rule settles exactly the cells described by `SRPairOfOneRule`. -/
theorem resolved_iff (info : Nat → ProdInfo) (acts : List Action) :
    (resolveOne info acts).2 = true ↔ SRPairOfOneRule info acts :=
  resolveOne_resolved_iff info acts

/-- An action is removed from a cell only if the cell is exactly one shift and
one reduce, every contributing shift production and the reduced production belong to one rule, all
contributing shift productions share one precedence, and that precedence and the precedence of the
reduced production are explicit (`> 0`). -/
theorem resolve_only_sr (info : Nat → ProdInfo) (acts : List Action)
    (h : (resolveOne info acts).1 ≠ acts) : SRPairOfOneRule info acts := by
  apply (resolved_iff info acts).1
  cases hb : (resolveOne info acts).2 with
  | true => rfl
  | false => exact absurd (unresolved_unchanged info acts hb) h

/-- The hypothesis of `resolve_only_sr` is satisfiable: `expr '+' expr . , '*'` with
`+ @left(1)` (production 0) and `* @left(2)` (production 1, three contributing items). -/
example :
    let info : Nat → ProdInfo := fun p => if p = 0 then ⟨0, 1, false⟩ else ⟨0, 2, false⟩
    (resolveOne info [.shift 7 [1, 1, 1], .reduce 0]).1 ≠ [.shift 7 [1, 1, 1], .reduce 0] := by
  decide +kernel

/-- A cell that is not a two-element shift/reduce cell – in particular any
cell whose length is not 2, any cell without a shift (two reduces; reduce and accept), any cell
containing an accept, any cell without a reduce – is never changed and never counts as resolved. -/
theorem resolve_never_rr (info : Nat → ProdInfo) (acts : List Action)
    (h : acts.length ≠ 2 ∨ (∀ a ∈ acts, ∀ t ps, a ≠ .shift t ps) ∨ Action.accept ∈ acts ∨
      (∀ a ∈ acts, ∀ p, a ≠ .reduce p)) :
    resolveOne info acts = (acts, false) := by
  apply resolveOne_other
  intro t ps rp
  constructor <;> rintro rfl
  · rcases h with h | h | h | h
    · exact h rfl
    · exact h (.shift t ps) (by simp) t ps rfl
    · simp at h
    · exact h (.reduce rp) (by simp) rp rfl
  · rcases h with h | h | h | h
    · exact h rfl
    · exact h (.shift t ps) (by simp) t ps rfl
    · simp at h
    · exact h (.reduce rp) (by simp) rp rfl

/-- Non-vacuity of `resolve_never_rr`: a reduce/reduce cell, a reduce/accept cell and a three-action
cell, all with qualified productions of one rule, stay as they are. -/
example :
    let info : Nat → ProdInfo := fun p => ⟨0, p + 1, false⟩
    resolveOne info [.reduce 0, .reduce 1] = ([.reduce 0, .reduce 1], false) ∧
      resolveOne info [.reduce 0, .accept] = ([.reduce 0, .accept], false) ∧
      resolveOne info [.shift 1 [0], .reduce 1, .reduce 2] = ([.shift 1 [0], .reduce 1, .reduce 2], false) := by
  decide +kernel

/-- Neither do qualifiers hide a conflict that spans rules, or one with an unqualified production
among the participants, or one whose contributing productions carry different precedences:
everything outside `SRPairOfOneRule` is left unchanged and unresolved. -/
theorem resolve_never_other (info : Nat → ProdInfo) (acts : List Action)
    (h : ¬ SRPairOfOneRule info acts) : resolveOne info acts = (acts, false) := by
  have hb : (resolveOne info acts).2 = false := by
    cases hb : (resolveOne info acts).2 with
    | false => rfl
    | true => exact absurd ((resolved_iff info acts).1 hb) h
  exact Prod.ext (unresolved_unchanged info acts hb) hb

/-- … and such a cell makes `resolveConflicts` set `HasConflicts`, unless it holds a single action. -/
theorem unresolvable_is_conflict (info : Nat → ProdInfo) (table : List (List Action))
    (acts : List Action) (hmem : acts ∈ table) (hlen : acts.length ≠ 1)
    (h : ¬ SRPairOfOneRule info acts) : hasConflicts info table = true :=
  (hasConflicts_iff info table).mpr
    ⟨acts, hmem, hlen, congrArg Prod.snd (resolve_never_other info acts h)⟩

/-- Non-vacuity of `unresolvable_is_conflict`: a reduce/reduce cell with qualified productions of
one rule. -/
example :
    let info : Nat → ProdInfo := fun _ => ⟨0, 1, false⟩
    hasConflicts info [[.reduce 0], [.reduce 0, .reduce 1]] = true ∧
      ¬ SRPairOfOneRule info [.reduce 0, .reduce 1] := by
  refine ⟨by decide +kernel, ?_⟩
  rintro ⟨t, ps, rp, h | h, -⟩ <;> simp at h

/-- When a cell is resolved, exactly one of its two actions remains, and it
is one of the original two. -/
theorem resolve_keeps_one (info : Nat → ProdInfo) (acts : List Action)
    (h : (resolveOne info acts).2 = true) :
    ∃ a b, acts = [a, b] ∧
      ((resolveOne info acts).1 = [a] ∨ (resolveOne info acts).1 = [b]) :=
  resolveOne_keeps_one info acts h

/-- Non-vacuity of `resolve_keeps_one` (and of `resolved_iff`): reduce listed first. -/
example :
    let info : Nat → ProdInfo := fun p => if p = 0 then ⟨0, 1, false⟩ else ⟨0, 2, true⟩
    resolveOne info [.reduce 1, .shift 3 [0, 0]] = ([.reduce 1], true) := by
  decide +kernel

/-- Length of a cell after `resolveOne`: 1 if resolved, unchanged otherwise. -/
theorem resolveOne_length (info : Nat → ProdInfo) (acts : List Action) :
    (resolveOne info acts).1.length = if (resolveOne info acts).2 then 1 else acts.length :=
  Lox.Dec.resolveOne_length info acts

/-- **conflict_iff**, unconditional form: `HasConflicts` is set exactly when some cell does not
end up with exactly one action after the precedence rule. -/
theorem conflict_iff_ne_one (info : Nat → ProdInfo) (table : List (List Action)) :
    hasConflicts info table = true ↔ ∃ cell ∈ table, (resolveOne info cell).1.length ≠ 1 := by
  simp only [hasConflicts_iff, resolveOne_length_ne_one]

/-- The verdict is exactly "some cell keeps more than one action after the
precedence rule". Cells are non-empty: `createActions` only creates a cell when it adds an action,
and `resolveConflicts` asserts it (`assert.True(!actions.Empty())`; `Lox.Dec.checkTable` models the
assertion as a panic). Without that hypothesis use `conflict_iff_ne_one`. -/
theorem conflict_iff (info : Nat → ProdInfo) (table : List (List Action))
    (hne : ∀ cell ∈ table, cell ≠ []) :
    hasConflicts info table = true ↔ ∃ cell ∈ table, 1 < (resolveOne info cell).1.length := by
  rw [conflict_iff_ne_one]
  constructor
  · rintro ⟨cell, hmem, h⟩
    refine ⟨cell, hmem, ?_⟩
    have hpos : 0 < (resolveOne info cell).1.length := by
      rw [resolveOne_length]
      split
      · exact Nat.one_pos
      · exact List.length_pos_iff.2 (hne cell hmem)
    omega
  · rintro ⟨cell, hmem, h⟩
    exact ⟨cell, hmem, by omega⟩

/-- Non-vacuity of `conflict_iff`: a table without empty cells on which both sides are true. -/
example :
    let info : Nat → ProdInfo := fun p => if p = 0 then ⟨0, 1, false⟩ else ⟨1, 1, false⟩
    let table : List (List Action) := [[.shift 1 [0]], [.shift 2 [0, 0], .reduce 1]]
    (∀ cell ∈ table, cell ≠ []) ∧ hasConflicts info table = true := by
  decide +kernel

/-- Accepted tables are deterministic: without conflicts every cell holds exactly one action after
`resolveConflicts` (`resolveTable` maps `resolveCell` over the cells), and that action was in the
cell before (nothing is invented). -/
theorem accepted_table_deterministic (info : Nat → ProdInfo) (table : List (List Action))
    (h : hasConflicts info table = false) :
    ∀ cell ∈ table, ∃ a, (resolveCell info cell).1 = [a] ∧ a ∈ cell := fun _ hmem =>
  let ⟨x, h1, h2, _⟩ := accepted_cell info h hmem
  ⟨x, h1, h2⟩

/-- Non-vacuity of `accepted_table_deterministic`: a conflict-free table with a resolved cell. -/
example :
    let info : Nat → ProdInfo := fun p => if p = 0 then ⟨0, 1, false⟩ else ⟨0, 2, false⟩
    hasConflicts info [[.accept], [.shift 7 [1, 1], .reduce 0], [.reduce 1, .shift 7 [0, 0]]] = false := by
  decide +kernel

end Lox.Props.C04
