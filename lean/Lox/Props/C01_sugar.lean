import Lox.Props.C01
import Lox.LR.DesugarLang
/-! # C01, sugar part — helper rules generate exactly the documented languages

Specification (read these): `Lox.LR.SDer` (Lox/LR/SugarSpec.lean) – the documented reading of
`x?`, `x*`, `x*!`, `x+`, `@list(x,s)`, `@list(x,s)?` directly on sugar grammars, without helper rules;
`Lox.LR.Der` – derivations of the plain grammar. Model: `Lox.LR.desugar` (Lox/LR/Desugar.lean) – the
grammar the front end builds, with the real numbering; tied to `internal/ast` by the `desugar`
correspondence family (harness/drv/ops_desugar.go).

Hypothesis `SG.wf`: there is a start rule, all references are defined, and token names, rule
names and `ERROR` are pairwise different. The front end enforces all of it (undefined / redefined
names are errors; `ERROR` and `EOF` are reserved for tokens and – since the repair of defect D23 –
for parser rules). The last part is necessary: a parser rule called `ERROR` shares the helper
`ERROR?` (`ERROR*`, …) with `@error?`, and then the statement fails (`names_needed` below; the
witness is corpus/C01/D23_error_rule_name.json and part of the `desugar` family). -/
namespace Lox.Props.C01
open Lox.LR Lox.LR.Abs

export Lox.LR (SDer)

theorem startSym_desugar (SG : SGrammar) : startSym (desugar SG).1 = 1 := by
  simp [startSym, desugar, SGrammar.prodList]

/-- **The desugared grammar generates exactly the documented language**: a token string is derived
from the start rule under the documented reading of the sugar iff it has a derivation tree in the
grammar the front end hands to the LALR construction. -/
theorem sugar_lang {SG : SGrammar} (hw : SG.wf = true) (w : List Nat) :
    SDer SG [.atom (.rule 0)] w ↔
      ∃ t, Der (desugar SG).1 [.n (startSym (desugar SG).1)] w [t] := by
  have hW := (SGrammar.wf_iff SG).1 hw
  rw [startSym_desugar, SGrammar.sder_iff_der hW (ts := [.atom (.rule 0)])
    fun t ht => List.mem_singleton.1 ht ▸ .start hW]
  constructor
  · rintro ⟨trees, hd⟩
    obtain ⟨t, rfl⟩ := hd.one_inv
    exact ⟨t, hd⟩
  · rintro ⟨t, hd⟩
    exact ⟨[t], hd⟩

/-- The same for every term sequence whose sugar terms occur in the grammar (e.g. any production
body): what it derives under the documented reading is what its desugared form derives. -/
theorem sugar_lang_seq {SG : SGrammar} (hw : SG.wf = true) {ts : List STerm}
    (hts : ∀ t ∈ ts, t ∈ SG.allTerms) (w : List Nat) :
    SDer SG ts w ↔ ∃ trees, Der (desugar SG).1 (ts.map SG.symOf) w trees := by
  have hW := (SGrammar.wf_iff SG).1 hw
  exact SGrammar.sder_iff_der hW (fun t ht => .of_mem hW (hts t ht)) w

variable {nTerms nRules : Nat} {T : Tables} {cert : Array (List Item)}

/-- **Composition with the validator theorem**: when `lr.validate` answered `ok` for the tables
emitted for the desugared grammar, the table-driven machine accepts exactly the token strings of
the DOCUMENTED language of the sugar grammar. -/
theorem sugar_tables_exact {SG : SGrammar} (hw : SG.wf = true)
    (hc : check (desugar SG).1 nTerms nRules T cert = .ok ()) {w : List Nat} (hw0 : eof ∉ w) :
    (∃ fuel t lg, run (desugar SG).1 (autoOf T cert) fuel (init w) = .acc t lg) ↔
      SDer SG [.atom (.rule 0)] w := by
  rw [sugar_lang hw]
  constructor
  · rintro ⟨fuel, t, lg, h⟩
    exact ⟨t, (tables_exact hc hw0 t).1 ⟨fuel, lg, h⟩⟩
  · rintro ⟨t, h⟩
    obtain ⟨fuel, lg, h'⟩ := (tables_exact hc hw0 t).2 h
    exact ⟨fuel, t, lg, h'⟩

/-- `s = TA* e @list(e, TA)? ;  e = TB | TB TB?` -/
def exSG : SGrammar :=
  ⟨["TA", "TB"],
   [⟨"s", [⟨[.star (.tok 0), .atom (.rule 1), .listOpt (.rule 1) (.tok 0)]⟩]⟩,
    ⟨"e", [⟨[.atom (.tok 1)]⟩, ⟨[.atom (.tok 1), .opt (.tok 1)]⟩]⟩]⟩

theorem exSG_wf : exSG.wf = true := by decide +kernel
example : exSG.wf = true := exSG_wf

/-- The numbering: rules `S' s e TA* TA+ @list(e,TA)? @list(e,TA) TB?`; `TA*` creates `TA+` right
after itself, `@list(..)?` creates `@list(..)`, the user productions come first. -/
example : (desugar exSG).1.prods =
    #[⟨0, [.n 1]⟩, ⟨1, [.n 3, .n 2, .n 5]⟩, ⟨2, [.t 3]⟩, ⟨2, [.t 3, .n 7]⟩,
      ⟨3, [.n 4]⟩, ⟨3, []⟩, ⟨4, [.n 4, .t 2]⟩, ⟨4, [.t 2]⟩,
      ⟨5, [.n 6]⟩, ⟨5, []⟩, ⟨6, [.n 6, .t 2, .n 2]⟩, ⟨6, [.n 2]⟩, ⟨7, [.t 3]⟩, ⟨7, []⟩] := by decide +kernel

example : (desugar exSG).2.1 = #[11, 0, 0, 0, 9, 10, 2, 1, 7, 12, 6, 5, 7, 8] := by decide +kernel

example : (desugar exSG).2.2 =
    #["S'", "s", "e", "TA*", "TA+", "@list(e,TA)?", "@list(e,TA)", "TB?"] := by decide +kernel

/-- `TA TA TB TB TA TB` is in the documented language: `TA*` takes the two `TA`, `e = TB`, and the
optional list is `e TA e` with `e = TB` twice. -/
theorem ex_member : SDer exSG [.atom (.rule 0)] [2, 2, 3, 3, 2, 3] := by
  have hTB : SDer exSG [.atom (.tok 1)] [3] := .tok 1
  have hTA : SDer exSG [.atom (.tok 0)] [2] := .tok 0
  have he : SDer exSG [.atom (.rule 1)] [3] :=
    .rule (A := 1) (r := ⟨"e", _⟩) (p := ⟨[.atom (.tok 1)]⟩) rfl (by simp) hTB
  have hstar : SDer exSG [.star (.tok 0)] [2, 2] :=
    SDer.star (x := .tok 0) [[2], [2]] (by simp; exact hTA)
  have hlist : SDer exSG [.list (.rule 1) (.tok 0)] [3, 2, 3] :=
    SDer.list (x := .rule 1) (s := .tok 0) [3] [([2], [3])] he (by simp; exact hTA) (by simp; exact he)
  have hopt : SDer exSG [.listOpt (.rule 1) (.tok 0)] [3, 2, 3] := .listOptSome hlist
  exact .rule (A := 0) (r := ⟨"s", _⟩) (p := ⟨[.star (.tok 0), .atom (.rule 1), .listOpt (.rule 1) (.tok 0)]⟩)
    rfl (by simp) (.cons hstar (.cons he hopt))

/-- … hence it has a derivation tree in the desugared grammar (and, for validated tables, the
generated parser accepts it). -/
example : ∃ t, Der (desugar exSG).1 [.n 1] [2, 2, 3, 3, 2, 3] [t] := by
  have := (sugar_lang exSG_wf _).1 ex_member
  rwa [startSym_desugar] at this

/-- **The name hypothesis is necessary** (defect D23 before its repair). In
`r0 = TB ERROR? | TA @error? ; ERROR = TA` the helper `ERROR?` is created for the RULE `ERROR` and
then found again, by name, for `@error?`: the desugared grammar derives `TA TA`, the documented
reading does not. -/
def badSG : SGrammar :=
  ⟨["TA", "TB"],
   [⟨"r0", [⟨[.atom (.tok 1), .opt (.rule 1)]⟩, ⟨[.atom (.tok 0), .opt .err]⟩]⟩,
    ⟨"ERROR", [⟨[.atom (.tok 0)]⟩]⟩]⟩

theorem names_needed :
    badSG.wf = false ∧
    (∃ t, Der (desugar badSG).1 [.n (startSym (desugar badSG).1)] [2, 2] [t]) ∧
    ¬ SDer badSG [.atom (.rule 0)] [2, 2] := by
  refine ⟨by decide, ?_, ?_⟩
  · rw [startSym_desugar]
    have h3 : Der (desugar badSG).1 [.n 2] [2] [.node 3 [.leaf 2]] :=
      Der.single (q := 3) (pr := ⟨2, [.t 2]⟩) (by decide) (Der.term Der.nil)
    have h4 := Der.single (q := 4) (pr := ⟨3, [.n 2]⟩) (by decide) h3
    exact ⟨_, Der.single (q := 2) (pr := ⟨1, [.t 2, .n 3]⟩) (by decide) (Der.term h4)⟩
  · intro h
    obtain ⟨r, p, hr, hp, hd⟩ := h.rule_inv
    simp only [badSG, List.getElem?_cons_zero, Option.some.injEq] at hr
    subst hr
    simp only [List.mem_cons, List.not_mem_nil, or_false] at hp
    rcases hp with rfl | rfl
    · obtain ⟨w1, w2, e, h1, _⟩ := hd.cons_inv
      rw [h1.tok_inv] at e
      simp at e
    · obtain ⟨w1, w2, e, h1, h2⟩ := hd.cons_inv
      rw [h1.tok_inv] at e
      simp at e
      subst e
      rcases h2.opt_inv with e | h3
      · simp at e
      · have := h3.err_inv
        simp at this

end Lox.Props.C01
