import Lox.Dec.Order
import Lox.Dec.AssocList
/-! C13 "Output is deterministic and independent of earlier runs" — the order-independence
arguments the Go code relies on (level *other*: that the Go code depends on map iteration order
only through the sites listed in `expect/map_ranges.json` is a checked static premise, not a
theorem). A map iteration is an arbitrary permutation of the entries. -/
namespace Lox.Props.C13
open Lox.Dec.Order Lox.Rang3

/-- Sorting by a unique key erases the input order: for every linear order on keys and every two
functions that return a sorted permutation (Go's unstable `slices.SortFunc`, `sort.Slice`,
`sort.Strings`, …), two permutations of a key-distinct list sort to the same list. -/
theorem sort_perm {α κ : Type} {le : κ → κ → Bool} (hle : IsLinearLe le) {key : α → κ}
    {sort₁ sort₂ : List α → List α} (hs₁ : IsSortBy le key sort₁) (hs₂ : IsSortBy le key sort₂)
    {l₁ l₂ : List α} (hp : l₁.Perm l₂) (hd : KeysDistinct key l₁) : sort₁ l₁ = sort₂ l₂ :=
  sorted_unique hle (((hs₁ l₁).1.trans hp).trans (hs₂ l₂).1.symm) (hd.perm (hs₁ l₁).1.symm)
    (hs₁ l₁).2 (hs₂ l₂).2

/-- String keys: terminal names (`lr1/action.go`), term names (`SortTerms`, `next.go`,
`transition_map.go`), mode names (`ast/spec.go`), import paths (`codegen/imports.go`). -/
theorem sort_perm_string {α : Type} (key : α → String) {l₁ l₂ : List α} (hp : l₁.Perm l₂)
    (hd : KeysDistinct key l₁) : sortBy leString key l₁ = sortBy leString key l₂ :=
  sort_perm leString_linear (sortBy_isSort leString_linear key) (sortBy_isSort leString_linear key)
    hp hd

/-- Nat keys: mode index (`emit_lexer.go`, `parse_lox.go`), state id (`nfa.go`, `dfa.go`,
`nfa_to_dfa.go`), pending item-set index (`construct.go`). -/
theorem sort_perm_nat {α : Type} (key : α → Nat) {l₁ l₂ : List α} (hp : l₁.Perm l₂)
    (hd : KeysDistinct key l₁) : sortBy leNat key l₁ = sortBy leNat key l₂ :=
  sort_perm leNat_linear (sortBy_isSort leNat_linear key) (sortBy_isSort leNat_linear key) hp hd

/-- `rang3.Compare` (`slices.SortFunc(inputs, rang3.Compare)` in `emit_lexer.go`): the key is the
range itself, so distinctness is `Nodup`. -/
theorem sort_perm_range {l₁ l₂ : List Range} (hp : l₁.Perm l₂) (hd : l₁.Nodup) :
    sortBy Range.le id l₁ = sortBy Range.le id l₂ :=
  sort_perm leRange_linear (sortBy_isSort leRange_linear id) (sortBy_isSort leRange_linear id) hp
    (List.nodup_iff_pairwise_ne.mp hd)

/-- Two different algorithms (insertion sort, merge sort) on two permutations: same result. -/
theorem sort_perm_two_algorithms {α κ : Type} {le : κ → κ → Bool} (hle : IsLinearLe le)
    (key : α → κ) {l₁ l₂ : List α} (hp : l₁.Perm l₂) (hd : KeysDistinct key l₁) :
    sortBy le key l₁ = mergeSortBy le key l₂ :=
  sort_perm hle (sortBy_isSort hle key) (mergeSortBy_isSort hle key) hp hd

/-- Non-vacuity: two different permutations with distinct keys, and the common result. -/
example :
    let l₁ := [("b", 1), ("a", 2), ("c", 3)]
    let l₂ := [("c", 3), ("b", 1), ("a", 2)]
    l₁ ≠ l₂ ∧ l₁.Perm l₂ ∧ KeysDistinct (·.1) l₁ ∧
      sortBy leString (·.1) l₁ = [("a", 2), ("b", 1), ("c", 3)] := by
  refine ⟨by decide +kernel, by decide +kernel, ?_, by decide +kernel⟩
  simp [KeysDistinct]

example :
    let l₁ : List Range := [⟨5, 9⟩, ⟨1, 3⟩, ⟨1, 2⟩]
    let l₂ : List Range := [⟨1, 2⟩, ⟨5, 9⟩, ⟨1, 3⟩]
    l₁.Perm l₂ ∧ l₁.Nodup ∧ sortBy Range.le id l₁ = [⟨1, 2⟩, ⟨1, 3⟩, ⟨5, 9⟩] := by decide +kernel

/-- Distinctness is needed: with equal keys the order of the input shows through. -/
example : sortBy leNat (·.1) [(1, "x"), (1, "y")] ≠ sortBy leNat (·.1) [(1, "y"), (1, "x")] := by
  decide +kernel

/-- Insert-only loop: the resulting set depends only on the set of elements visited, in every
set representation (`SetRep`: insert adds exactly its argument). -/
theorem fold_set_perm {α σ : Type} (R : SetRep α σ) (s : σ) {l₁ l₂ : List α}
    (h : ∀ x, x ∈ l₁ ↔ x ∈ l₂) (y : α) :
    R.mem y (R.addAll s l₁) ↔ R.mem y (R.addAll s l₂) := by
  rw [R.mem_addAll, R.mem_addAll, h y]

/-- … in particular for a permutation (one map iteration vs. another). -/
theorem fold_set_perm' {α σ : Type} (R : SetRep α σ) (s : σ) {l₁ l₂ : List α}
    (h : l₁.Perm l₂) (y : α) : R.mem y (R.addAll s l₁) ↔ R.mem y (R.addAll s l₂) :=
  fold_set_perm R s (fun _ => h.mem_iff) y

/-- Loop bodies that insert `f x` only for some `x` (`if … { set.Add(…) }`). -/
theorem fold_set_perm_filterMap {α β σ : Type} (R : SetRep β σ) (s : σ) (f : α → Option β)
    {l₁ l₂ : List α} (h : ∀ x, x ∈ l₁ ↔ x ∈ l₂) (y : β) :
    R.mem y (R.addAll s (l₁.filterMap f)) ↔ R.mem y (R.addAll s (l₂.filterMap f)) := by
  apply fold_set_perm
  intro b
  simp only [List.mem_filterMap, h]

/-- `m2[k] = v` for every entry `(k, v)` of a map (keys are distinct): the resulting map is the
same function for every iteration order. -/
theorem fold_map_perm {κ ν : Type} [DecidableEq κ] (m : κ → Option ν) {l₁ l₂ : List (κ × ν)}
    (hp : l₁.Perm l₂) (hn : (l₁.map (·.1)).Nodup) :
    l₁.foldl mapSet m = l₂.foldl mapSet m := by
  have hn₂ : (l₂.map (·.1)).Nodup := (hp.map _).nodup_iff.mp hn
  funext k
  apply Option.ext
  intro v
  rw [mapSet_foldl m l₁ hn, mapSet_foldl m l₂ hn₂, hp.mem_iff, (hp.map (·.1)).mem_iff]

example :
    let l₁ := [3, 1, 2, 1]
    let l₂ := [1, 2, 3, 3, 2]
    (∀ x, x ∈ l₁ ↔ x ∈ l₂) ∧ listSet.addAll [] l₁ = [2, 1, 3] ∧ listSet.addAll [] l₂ = [3, 2, 1] := by
  refine ⟨?_, by decide +kernel, by decide +kernel⟩
  intro x; simp only [List.mem_cons, List.not_mem_nil, or_false]; omega

example :
    let l₁ := [("a", 1), ("b", 2)]
    l₁.Perm l₁.reverse ∧ (l₁.map (·.1)).Nodup := by decide +kernel

/-- The range heap (`rang3.rangeHeap`: `Push` ignores a range already present, `Pop` returns the
`Compare`-minimum) pops a sequence that is a function of the *set* of pushed ranges. -/
theorem heap_perm (l₁ l₂ : List Range) (h : ∀ x, x ∈ l₁ ↔ x ∈ l₂) : heapOf l₁ = heapOf l₂ :=
  sortedLt_ext (sortedLt_heapOf l₁) (sortedLt_heapOf l₂) fun x => by rw [mem_heapOf, mem_heapOf, h]

/-- What the pop sequence is: strictly increasing, with exactly the pushed ranges. -/
theorem heap_pop_sequence (l : List Range) :
    (heapOf l).Pairwise (fun a b => a.lt b = true) ∧ ∀ x, x ∈ heapOf l ↔ x ∈ l :=
  ⟨sortedLt_heapOf l, mem_heapOf l⟩

/-- The same read as an insert-only loop into the set representation `heapSet`: it is canonical
(sorted, duplicate-free), so beyond `fold_set_perm` the two results are the *same list*. -/
theorem fold_set_perm_canonical (l₁ l₂ : List Range) (h : ∀ x, x ∈ l₁ ↔ x ∈ l₂) :
    heapSet.addAll [] l₁ = heapSet.addAll [] l₂ := by
  rw [← heapOf_eq_addAll, ← heapOf_eq_addAll]
  exact heap_perm l₁ l₂ h

/-- Hence `Normalize`'s callback log does not depend on the order in which the transitions'
ranges were collected from a map. -/
theorem normalize_perm (l₁ l₂ : List Range) (hp : l₁.Perm l₂) : normalize l₁ = normalize l₂ := by
  have hf : normalizeFuel l₁ = normalizeFuel l₂ := by
    simp only [normalizeFuel, hp.length_eq, (hp.map Range.len).sum_nat]
  simp only [normalize, heap_perm l₁ l₂ (fun _ => hp.mem_iff), hf]

example :
    let l₁ : List Range := [⟨5, 9⟩, ⟨1, 3⟩, ⟨5, 9⟩, ⟨1, 2⟩]
    let l₂ : List Range := [⟨1, 2⟩, ⟨1, 3⟩, ⟨5, 9⟩]
    heapOf l₁ = [⟨1, 2⟩, ⟨1, 3⟩, ⟨5, 9⟩] ∧ heapOf l₂ = heapOf l₁ := by decide +kernel

/-- `PreParseGo` never picks a generated file: its choice is a non-directory `.go` entry of the
listing whose name is none of `base.gen.go`, `lexer.gen.go`, `parser.gen.go`. -/
theorem pick_source_not_generated (es : List DirEntry) (n : String) (h : pickSource es = some n) :
    n ∉ generatedNames ∧ ∃ e ∈ es, e.name = n ∧ e.isDir = false ∧ hasGoExt n = true := by
  rw [pickSource_eq] at h
  obtain ⟨e, hl, rfl⟩ := Option.map_eq_some_iff.mp h
  have hm := List.mem_filter.mp (List.mem_of_getLast? hl)
  obtain ⟨hd, hg, hn⟩ := (isUserGo_iff e).mp hm.2
  exact ⟨hn, e, hm.1, rfl, hd, hg⟩

/-- The choice is a function of the non-generated entries only: two listings that agree after
removing the generated files give the same answer. -/
theorem pick_source_ignores_generated (es₁ es₂ : List DirEntry)
    (h : es₁.filter (fun e => !isGenerated e) = es₂.filter (fun e => !isGenerated e)) :
    pickSource es₁ = pickSource es₂ := by
  rw [pickSource_eq, pickSource_eq, ← filter_isUserGo_filter es₁, ← filter_isUserGo_filter es₂, h]

/-- Adding or removing a generated file anywhere in the listing changes nothing. -/
theorem pick_source_insert (l₁ l₂ : List DirEntry) (g : DirEntry) (hg : isGenerated g = true) :
    pickSource (l₁ ++ g :: l₂) = pickSource (l₁ ++ l₂) := by
  apply pick_source_ignores_generated
  simp [List.filter_append, hg]

/-- … in particular at the place where `os.ReadDir` (sorted by file name) shows it after the
first run has written it. -/
theorem pick_source_after_run (es : List DirEntry) (g : DirEntry) (hg : isGenerated g = true) :
    pickSource (insertByName g es) = pickSource es := by
  obtain ⟨l₁, l₂, h₁, h₂⟩ := insertByName_split g es
  rw [h₂, h₁]
  exact pick_source_insert l₁ l₂ g hg

/-- A listing before and after a run (all three generated files appear, a directory named like
a Go file is skipped). -/
example :
    let before : List DirEntry := [⟨"a.go", false⟩, ⟨"b.txt", false⟩, ⟨"z.go", true⟩]
    let after := insertByName ⟨"parser.gen.go", false⟩
      (insertByName ⟨"lexer.gen.go", false⟩ (insertByName ⟨"base.gen.go", false⟩ before))
    after.map (·.name) = ["a.go", "b.txt", "base.gen.go", "lexer.gen.go", "parser.gen.go", "z.go"] ∧
      pickSource before = some "a.go" ∧ pickSource after = some "a.go" := by decide +kernel

/-- The loop as it was on the pinned tree did depend on an earlier run (D12): once
`base.gen.go` exists it is the file that gets pre-parsed. -/
example :
    pickSourcePinned [⟨"a.go", false⟩] = some "a.go" ∧
    pickSourcePinned [⟨"a.go", false⟩, ⟨"base.gen.go", false⟩] = some "base.gen.go" := by decide +kernel

/-- `imports.WriteTo`: the emitted lines (and so the text) do not depend on the iteration order
of the `imports` map, whatever sorting algorithm `sort.Strings` is. -/
theorem imports_alias_deterministic {sort : List String → List String}
    (hs : IsSortBy leString id sort) {m₁ m₂ : ImportMap} (hp : m₁.Perm m₂)
    (hn : (m₁.map (·.1)).Nodup) (q : String → String) :
    writeLines sort m₁ = writeLines sort m₂ ∧
      renderImports q (writeLines sort m₁) = renderImports q (writeLines sort m₂) := by
  have hl : writeLines sort m₁ = writeLines sort m₂ := by
    unfold writeLines
    have hsort : sort (m₁.map (·.1)) = sort (m₂.map (·.1)) :=
      sort_perm leString_linear hs hs (hp.map _) (List.nodup_iff_pairwise_ne.mp hn)
    rw [hsort]
    apply List.map_congr_left
    intro p _
    rw [List.lookup_perm hp hn p]
  exact ⟨hl, by rw [hl]⟩

/-- `imports.Import`: the alias returned depends only on the content of the map (lookup and
size), and the updated maps are again permutations of each other with distinct paths. -/
theorem import_alias_perm {m₁ m₂ : ImportMap} (hp : m₁.Perm m₂) (hn : (m₁.map (·.1)).Nodup)
    (path : String) :
    (importPath m₁ path).1 = (importPath m₂ path).1 ∧
    (importPath m₁ path).2.Perm (importPath m₂ path).2 ∧
    ((importPath m₁ path).2.map (·.1)).Nodup := by
  unfold importPath
  rw [← List.lookup_perm hp hn path]
  cases hl : m₁.lookup path with
  | some a => exact ⟨rfl, hp, hn⟩
  | none =>
    simp only [hp.length_eq]
    refine ⟨trivial, hp.cons _, ?_⟩
    rw [List.map_cons, List.nodup_cons]
    exact ⟨List.not_mem_keys_of_lookup_eq_none hl, hn⟩

/-- A whole sequence of `Import` calls followed by `WriteTo`: the aliases handed out and the
text are functions of the call sequence alone. -/
theorem imports_run_deterministic {sort : List String → List String}
    (hs : IsSortBy leString id sort) (paths : List String) {m₁ m₂ : ImportMap} (hp : m₁.Perm m₂)
    (hn : (m₁.map (·.1)).Nodup) :
    (importAll m₁ paths).1 = (importAll m₂ paths).1 ∧
    writeLines sort (importAll m₁ paths).2 = writeLines sort (importAll m₂ paths).2 := by
  induction paths generalizing m₁ m₂ with
  | nil => exact ⟨rfl, (imports_alias_deterministic hs hp hn id).1⟩
  | cons p ps ih =>
    obtain ⟨h₁, h₂, h₃⟩ := import_alias_perm hp hn p
    obtain ⟨i₁, i₂⟩ := ih h₂ h₃
    simp only [importAll]
    exact ⟨by rw [h₁, i₁], i₂⟩

/-- Aliases in first-use order, lines sorted by path; two iteration orders of the same map. -/
example :
    let r := importAll [] ["fmt", "a/b", "fmt", "os"]
    r.1 = ["_i0", "_i1", "_i0", "_i2"] ∧
    r.2.Perm r.2.reverse ∧ (r.2.map (·.1)).Nodup ∧
    writeLines (sortBy leString id) r.2 = [("_i1", "a/b"), ("_i0", "fmt"), ("_i2", "os")] ∧
    writeLines (sortBy leString id) r.2.reverse = [("_i1", "a/b"), ("_i0", "fmt"), ("_i2", "os")] := by
  decide +kernel

end Lox.Props.C13
