import Lox.LR.ConflictVerdict
import Lox.Examples.ConflictRuns
/-!
# C04 – the verdict "grammar has conflicts" is the verdict of the definition, for refused and accepted grammars alike

Property (verbatim): "lox refuses a grammar with 'grammar has conflicts' if and only if its LALR(1)
automaton has a state and lookahead with more than one action left after the documented precedence
rule is applied; it never silently picks an action and never rejects an LALR(1) grammar."

**Definition** (read `Lox/LR/LALR.lean` and `Lox/LR/ConflictSpec.lean`; nothing algorithmic):
`LALRItem G A s` – the LALR(1) item set of state `s` (LR(1) items valid for the viable prefixes
that lead to `s`, semantic FIRST); `Cand` – the candidate actions an item set calls for on a
terminal; `Conflict` – two different candidates; `Settled` – the documented precedence rule applies
(exactly one shift and one reduce; every production contributing to the shift and the reduced one
belong to one rule; explicit precedences, equal among the contributors); `Unsettled` = `Conflict`
and not `Settled`.

**What is validated** (`Lox/LR/ConflictCheck.lean`, driver op `lr.conflict_check`, family
`conflict`): the item sets and the transitions of EVERY run of the real `ConstructLALR` – no emitted
tables are needed, so this covers the grammars lox refuses. `conflictCheckB` checks ⊇ (start item,
goto along the transitions, closure w.r.t. a closed FIRST table, every symbol after a dot has a
transition), ⊆ (ranked justification) and distinct kernels; `verdictB` recomputes
`ParserTable.HasConflicts` from the certificate with the models of `createActions`
(`Lox.LR.Gen.cellOn`) and of the loop of `resolveConflicts` (`Lox.Dec.hasConflicts`); the driver
answers `ok …` only if it equals the flag of the real run (`conflictVerdict`).

The automaton skeleton is `skelAuto tr cert`: its edges are exactly the given transitions.
`resolveOne` is the model of the code (with known finding K1 in which action SURVIVES); whether a
cell is settled at all does not depend on K1 (`CellOf.resolved_iff` is stated with `resolveOne`
and characterises it by `Settled`, which mentions no associativity).
-/
namespace Lox.Props.C04
open Lox.LR Lox.Dec

section
variable {G : Grammar} {nTerms nRules : Nat} {tr : TransTab} {cert : Array (List Item)}

/-- If the checks pass then (1) for every state `s` the generator's item
set is the LALR(1) item set of `s` BY DEFINITION; (2) every viable prefix (a prefix some LR(1) item
is valid for) leads from state 0 to exactly one state, which holds that item; (3) distinct states
have distinct LR(0) kernels. -/
theorem conflict_check_sound (h : conflictCheckB G nTerms nRules tr cert = true) :
    (∀ s it, it ∈ itemsOf cert s ↔ LALRItem G (skelAuto tr cert) s it) ∧
    (∀ γ it, LR1Item G γ it → ∃ s, Path (skelAuto tr cert) 0 γ s ∧
      (∀ s', Path (skelAuto tr cert) 0 γ s' → s' = s) ∧ s < cert.size ∧ it ∈ itemsOf cert s) ∧
    KernelsDistinct (skelAuto tr cert) cert.size :=
  have ok := conflictCheckB_spec h
  ⟨ok.items_exact, fun _ _ hit => ok.prefix_state hit, ok.kernels⟩

/-- In a productive grammar (checked by `productiveB`) the validated skeleton IS the LR(0)
automaton and the item sets are the textbook LALR(1) sets, no automaton mentioned: every LR(0)
viable prefix reaches a state; the cores of the state reached along `γ` are the LR(0) items valid
for `γ`; two prefixes reach the same state iff they have the same LR(0) items; the item set of the
state reached along `γ` is `LALRSet G γ`. -/
theorem skeleton_is_lr0_automaton (h : conflictCheckB G nTerms nRules tr cert = true)
    (hp : productiveB G nRules = true) :
    (∀ γ p d, LR0Item G γ p d → ∃ s, Path (skelAuto tr cert) 0 γ s) ∧
    (∀ γ s, Path (skelAuto tr cert) 0 γ s → ∀ p d,
      HasCore (itemsOf cert s) p d ↔ LR0Item G γ p d) ∧
    (∀ γ γ' s s', Path (skelAuto tr cert) 0 γ s → Path (skelAuto tr cert) 0 γ' s' →
      (s = s' ↔ SameLR0 G γ γ')) ∧
    (∀ γ s, Path (skelAuto tr cert) 0 γ s → ∀ it, it ∈ itemsOf cert s ↔ LALRSet G γ it) :=
  (conflictCheckB_spec h).lr0 (productiveB_sound hp)

/-- If the checks pass: some (state, terminal) cell of the LALR(1) automaton by
definition has two different candidate actions that the documented precedence rule does not settle
⇔ the conflict flag computed from the certificate (`createActions` + `resolveConflicts` models:
`hasConflicts` of the cells built from `cert`) is set. The driver compares this Boolean with the
`HasConflicts` flag of the real run. -/
theorem verdict_exact (h : conflictCheckB G nTerms nRules tr cert = true) (info : Nat → ProdInfo) :
    (∃ s a, Unsettled G info (skelAuto tr cert) (LALRItem G (skelAuto tr cert)) s a) ↔
      verdictB G nTerms info tr cert = true :=
  (verdictB_iff (conflictCheckB_spec h) info).symm

/-- The same with `resolveOne` on ANY listing of the candidate actions by definition (`CellOf`:
each candidate once, in any order; the shift carrying the contributing productions): the flag is
set ⇔ some cell lists at least two candidates and `resolveConflict` does not resolve it. -/
theorem verdict_exact_cells (h : conflictCheckB G nTerms nRules tr cert = true)
    (info : Nat → ProdInfo) :
    (∃ s a cell, CellOf G (skelAuto tr cert) (LALRItem G (skelAuto tr cert)) s a cell ∧
        2 ≤ cell.length ∧ (resolveOne info cell).2 = false) ↔
      verdictB G nTerms info tr cert = true :=
  ((conflictCheckB_spec h).verdict_cells fun hc => hc.unsettled_iff info).symm

/-- What an `ok` answer of the driver op `lr.conflict_check` means. -/
theorem conflictVerdict_ok_iff {info : Nat → ProdInfo} {flag v : Bool} :
    conflictVerdict G nTerms nRules info tr cert flag = .ok v ↔
      conflictCheckB G nTerms nRules tr cert = true ∧ verdictB G nTerms info tr cert = v ∧
        v = flag := by
  unfold conflictVerdict conflictCheck
  by_cases hc : conflictCheckB G nTerms nRules tr cert = true
  · simp only [hc, if_true, true_and]
    by_cases hv : verdictB G nTerms info tr cert = flag
    · simp only [hv, beq_self_eq_true, if_true, Except.ok.injEq]
      constructor
      · rintro rfl; exact ⟨rfl, rfl⟩
      · rintro ⟨rfl, _⟩; rfl
    · have : (verdictB G nTerms info tr cert == flag) = false := by simpa using hv
      simp only [this, Bool.false_eq_true, if_false]
      constructor
      · intro e; cases e
      · rintro ⟨rfl, e⟩; exact absurd e hv
  · simp [hc]

/-- **refused_has_lalr_conflict.** lox says "grammar has conflicts" (`flag = true`) and the
validator answers `ok`: then the LALR(1) automaton BY DEFINITION has a cell with two different
candidate actions that the documented precedence rule does not settle – lox did not reject an
LALR(1) grammar. -/
theorem refused_has_lalr_conflict {info : Nat → ProdInfo} {v : Bool}
    (h : conflictVerdict G nTerms nRules info tr cert true = .ok v) :
    ∃ s a, Unsettled G info (skelAuto tr cert) (LALRItem G (skelAuto tr cert)) s a := by
  obtain ⟨hc, hv, rfl⟩ := conflictVerdict_ok_iff.mp h
  exact (verdict_exact hc info).mpr hv

/-- **accepted_has_none.** lox accepts (`flag = false`) and the validator answers `ok`: then no
cell of the LALR(1) automaton by definition is left with two actions after the documented rule:
every cell has at most one candidate, or exactly a shift and a reduce that the rule settles. -/
theorem accepted_has_none {info : Nat → ProdInfo} {v : Bool}
    (h : conflictVerdict G nTerms nRules info tr cert false = .ok v) (s a : Nat) :
    ¬ Conflict G (skelAuto tr cert) (LALRItem G (skelAuto tr cert)) s a ∨
      Settled G info (skelAuto tr cert) (LALRItem G (skelAuto tr cert)) s a := by
  obtain ⟨hc, hv, rfl⟩ := conflictVerdict_ok_iff.mp h
  exact not_unsettled.mp ((conflictCheckB_spec hc).accepted hv s a)

/-- In a productive grammar the unsettled cell of a refused grammar sits in a textbook LALR(1) item
set: there is a viable prefix `γ` such that the state it reaches carries exactly `LALRSet G γ` and
has an unsettled cell. -/
theorem refused_conflict_in_lalr_set {info : Nat → ProdInfo} {v : Bool}
    (h : conflictVerdict G nTerms nRules info tr cert true = .ok v)
    (hp : productiveB G nRules = true) :
    ∃ γ s a, Path (skelAuto tr cert) 0 γ s ∧ (∀ it, it ∈ itemsOf cert s ↔ LALRSet G γ it) ∧
      Unsettled G info (skelAuto tr cert) (fun s it => it ∈ itemsOf cert s) s a := by
  obtain ⟨s, a, hu⟩ := refused_has_lalr_conflict h
  obtain ⟨hc, _, _⟩ := conflictVerdict_ok_iff.mp h
  obtain ⟨it, γ, hpath, _⟩ := hu.1.has_item
  exact ⟨γ, s, a, hpath, (skeleton_is_lr0_automaton hc hp).2.2.2 γ s hpath,
    (Unsettled.congr ((conflictCheckB_spec hc).items_exact s)).mpr hu⟩

end

/-! ## Non-vacuity: the three runs of the real `ConstructLALR` in `Lox/Examples/ConflictRuns.lean` -/

theorem verdictEx_amb_ok : conflictVerdict VerdictEx.Amb.G 4 2 VerdictEx.Amb.info VerdictEx.Amb.tr VerdictEx.Amb.cert true = .ok true :=
  conflictVerdict_ok_iff.mpr ⟨VerdictEx.Amb.recorded.1, VerdictEx.Amb.recorded.2, rfl⟩

/-- The hypotheses of `conflict_check_sound`, `verdict_exact`, `refused_has_lalr_conflict` hold on
the real output for the refused grammar `s = s s | A`; the conclusion: the definition has an
unsettled cell. -/
example : ∃ s a, Unsettled VerdictEx.Amb.G VerdictEx.Amb.info (skelAuto VerdictEx.Amb.tr VerdictEx.Amb.cert)
    (LALRItem VerdictEx.Amb.G (skelAuto VerdictEx.Amb.tr VerdictEx.Amb.cert)) s a :=
  refused_has_lalr_conflict verdictEx_amb_ok

/-- … and `[s → s s ·, A]` is an LALR(1) item of state 3 by definition. -/
example : LALRItem VerdictEx.Amb.G (skelAuto VerdictEx.Amb.tr VerdictEx.Amb.cert) 3 ⟨1, 2, 2⟩ :=
  ((conflict_check_sound (conflictVerdict_ok_iff.mp verdictEx_amb_ok).1).1 3 ⟨1, 2, 2⟩).mp (by decide +kernel)

example : productiveB VerdictEx.Amb.G 2 = true := by decide +kernel

theorem verdictEx_notLalr_ok :
    conflictVerdict VerdictEx.NotLalr.G 7 4 VerdictEx.NotLalr.info VerdictEx.NotLalr.tr VerdictEx.NotLalr.cert true = .ok true :=
  conflictVerdict_ok_iff.mpr ⟨VerdictEx.NotLalr.recorded.1, VerdictEx.NotLalr.recorded.2, rfl⟩

example : ∃ s a, Unsettled VerdictEx.NotLalr.G VerdictEx.NotLalr.info (skelAuto VerdictEx.NotLalr.tr VerdictEx.NotLalr.cert)
    (LALRItem VerdictEx.NotLalr.G (skelAuto VerdictEx.NotLalr.tr VerdictEx.NotLalr.cert)) s a :=
  refused_has_lalr_conflict verdictEx_notLalr_ok

/-- The automaton-free form applies (the grammar is productive). -/
example : ∃ γ s a, Path (skelAuto VerdictEx.NotLalr.tr VerdictEx.NotLalr.cert) 0 γ s ∧
    (∀ it, it ∈ itemsOf VerdictEx.NotLalr.cert s ↔ LALRSet VerdictEx.NotLalr.G γ it) ∧
    Unsettled VerdictEx.NotLalr.G VerdictEx.NotLalr.info (skelAuto VerdictEx.NotLalr.tr VerdictEx.NotLalr.cert)
      (fun s it => it ∈ itemsOf VerdictEx.NotLalr.cert s) s a :=
  refused_conflict_in_lalr_set verdictEx_notLalr_ok (by decide +kernel)

theorem verdictEx_precOk_ok : conflictVerdict VerdictEx.PrecOk.G 5 2 VerdictEx.PrecOk.info VerdictEx.PrecOk.tr VerdictEx.PrecOk.cert false = .ok false :=
  conflictVerdict_ok_iff.mpr ⟨VerdictEx.PrecOk.recorded.1, VerdictEx.PrecOk.recorded.2, rfl⟩

/-- The hypothesis of `accepted_has_none` holds on the real output for an accepted grammar WITH
conflicts by definition: state 5 (after `e A e`) on `A` has a conflict, and it is settled. -/
example : Settled VerdictEx.PrecOk.G VerdictEx.PrecOk.info (skelAuto VerdictEx.PrecOk.tr VerdictEx.PrecOk.cert)
    (LALRItem VerdictEx.PrecOk.G (skelAuto VerdictEx.PrecOk.tr VerdictEx.PrecOk.cert)) 5 2 := by
  rcases accepted_has_none verdictEx_precOk_ok 5 2 with h | h
  · refine absurd ?_ h
    have hc := (conflictVerdict_ok_iff.mp verdictEx_precOk_ok).1
    have ex := (conflict_check_sound hc).1
    refine ⟨.shift 3, .reduce 1, ?_, ?_, by decide⟩
    · exact .shift (p := 1) (d := 1) (b := 0) (pr := ⟨1, [.n 1, .t 2, .n 1]⟩)
        ((ex 5 ⟨1, 1, 0⟩).mp (by decide +kernel)) rfl rfl (by decide)
    · exact .reduce (p := 1) (pr := ⟨1, [.n 1, .t 2, .n 1]⟩) ((ex 5 ⟨1, 3, 2⟩).mp (by decide +kernel)) rfl
        (by decide)
  · exact h

/-- A wrong flag is rejected: the refused grammar presented as accepted. -/
example : ∀ v, conflictVerdict VerdictEx.Amb.G 4 2 VerdictEx.Amb.info VerdictEx.Amb.tr VerdictEx.Amb.cert false ≠ .ok v := by
  intro v h
  obtain ⟨_, hv, rfl⟩ := conflictVerdict_ok_iff.mp h
  have := (conflictVerdict_ok_iff.mp verdictEx_amb_ok).2.1
  rw [this] at hv
  cases hv

end Lox.Props.C04
