import Lox.Dec.AnalyzeWhere
import Lox.Dec.AnalyzeFaults
import Lox.Dec.AnalyzeDecide
/-! # C17 — ill-formed specifications are rejected at the right place, well-formed ones never

`analyze` (`Lox/Dec/Analyze.lean`) models `ParseLox` up to `Context.Analyze(spec, AllPasses)` of
`/repo/internal`: the list of diagnostics in the order they are printed, with the early exits of the
passes. `WellFormed` is the property's notion of a well-formed specification, written from its text.

Scope notes.
* `single_fault` injects by ADDING one faulty declaration at an arbitrary place (28 injectors, see
  `Injection`). Variants that MODIFY an existing declaration (emptying the literal of a token the
  parser uses, turning an existing rule into a second `@start`, closing a cycle through macros that
  tokens use), name faults placed inside a mode block, and several faults at once are covered by
  `analyze_nil_iff` (some diagnostic) and `diag_in_decl` (inside the blamed declaration) and are
  exercised against the real front end by the harness family `analyze`.
* "Conflicting lexer actions" (rules of two files that accept the same text in one mode) is raised
  while the automaton of the mode is built; it is not a property of the declarations' shape and is
  outside `analyze` (see the header of `Lox/Dec/Analyze.lean`). -/
namespace Lox.Props.C17
open Lox.Dec.Analyze

/-- The front end accepts a specification exactly when it is well formed: an ill-formed
specification gets at least one diagnostic, a well-formed one gets none. -/
theorem analyze_nil_iff (s : Spec) : analyze s = [] ↔ WellFormed s :=
  (analyze_nil_iff_clean s).trans (clean_iff_wellFormed s)

/-- `WellFormed` is decidable: `wellFormedB`, written clause by clause after the predicate (a bounded
walk search for macro cycles, no passes), decides it. The driver prints it next to the model's
diagnostics, so every harness case also compares it with what the generator intended. -/
theorem wellFormedB_decides (s : Spec) : wellFormedB s = true ↔ WellFormed s :=
  Lox.Dec.Analyze.wellFormedB_iff s

/-- Hence acceptance by the front end is the decision procedure's verdict. -/
theorem analyze_nil_iff_wellFormedB (s : Spec) : analyze s = [] ↔ wellFormedB s = true :=
  (analyze_nil_iff s).trans (wellFormedB_decides s).symm

/-- Every diagnostic that blames a declaration lies inside that declaration: there is a declaration
of the specification with the blamed identifier whose first line is not after, and whose last line
is not before, the diagnostic's line. (The only diagnostic that blames no declaration is
"@start rule undefined", which the Go code prints without position.) -/
theorem diag_in_decl (s : Spec) (d : Diag) (hd : d ∈ analyze s) (i : DeclId) (hi : d.decl = some i) :
    ∃ D ∈ s.decls, D.id = i ∧ D.lo ≤ d.line ∧ d.line ≤ D.hi := by
  obtain ⟨D, hD, hid, hl⟩ := analyze_inDecls hd i hi
  exact ⟨D, hD, hid, listMin_le hl, le_listMax hl⟩

/-- A small specification with a macro, a mode, actions, an alias and a cardinality. -/
def sample : Spec := ⟨[⟨[
  .rule (.macro 1 2 "DIGIT" [[.leaf .one (.cls ⟨2, false, [⟨48, 57⟩], 0⟩)]]),
  .rule (.token 2 3 "NUM" [[.leaf .plus (.ref 3 "DIGIT")]] []),
  .rule (.token 3 4 "PLUS" [[.leaf .one (.lit 4 "+" 0)]] [.pushMode 5 "Str"]),
  .mode 4 6 "Str" [.frag 5 7 [[.leaf .one (.dot 7)]] [.discard 7, .popMode 8]],
  .prule ⟨6, 10, true, "s", [⟨10, [⟨.name 10 "NUM", none⟩, ⟨.alias 11 "+" 0, some .opt⟩], none⟩]⟩]⟩]⟩

/-- `analyze_nil_iff` is not vacuous: the sample is accepted, hence well formed. -/
example : WellFormed sample := (analyze_nil_iff sample).1 (by decide +kernel)

/-- … and it has ill-formed neighbours: the same specification with the class reversed is rejected
at the macro, on its line. -/
example :
    analyze ⟨[⟨[.rule (.macro 1 2 "DIGIT" [[.leaf .one (.cls ⟨2, false, [⟨57, 48⟩], 0⟩)]])]⟩]⟩ =
      [⟨.reversedRange, 2, "", some 1⟩] := by decide +kernel

/-- `diag_in_decl` is not vacuous: a diagnostic on a continuation line of a declaration. -/
example : (⟨.undefinedMode, 5, "Nope", some 3⟩ : Diag) ∈
    analyze ⟨[⟨[.rule (.token 3 4 "PLUS" [[.leaf .one (.lit 4 "+" 0)]] [.pushMode 5 "Nope"])]⟩]⟩ := by decide +kernel


/-- Every single-fault variant is rejected with the expected diagnostic, which blames the injected
declaration and sits on the expected line of it. `Injection s s' k i l` (`Lox/Dec/AnalyzeFaults.lean`)
lists the injectors: `s'` is the well-formed `s` plus one declaration carrying one fault, placed
between any two statements of any file, in a new file or (lexer rules) inside any mode block. -/
theorem single_fault (s s' : Spec) (w : WellFormed s) (k : Kind) (i : Option DeclId) (l : Line)
    (inj : Injection s s' k i l) : ∃ d ∈ analyze s', d.kind = k ∧ d.decl = i ∧ d.line = l := by
  have isEmpty_false : ∀ {t : String}, t ≠ "" → t.isEmpty = false := fun ht =>
    Bool.eq_false_iff.2 (mt String.isEmpty_iff.1 ht)
  have names : ∀ {E₁ : List Ev} {ev : Ev}, ev.name ∈ (E₁.map Ev.entry).map (·.1) ↔ ev.name ∈ E₁.map (·.name) := by
    simp [Ev.entry, Function.comp_def]
  cases inj with
  | badName st E₁ h hsyn ev rest hev d ds hv =>
    exact ⟨d, fault_names h w hsyn hev (regEv_invalid hv ▸ List.mem_cons_self), rfl, rfl, rfl⟩
  | dupName st E₁ h hsyn ev rest hev hv hdup =>
    exact reported_of_mem (fault_names h w hsyn hev (by
      rw [regEv_redefined hv (names.2 hdup)]; exact List.mem_singleton.2 rfl))
  | secondStart st E₁ h hsyn ev rest hev hv hnew hs hfirst =>
    have hst : Env.hasStart (E₁.map Ev.entry) = true :=
      let ⟨e, he, hes⟩ := hfirst; List.any_eq_true.2 ⟨e.entry, List.mem_map.2 ⟨e, he, rfl⟩, hes⟩
    have hreg := regEv_new hv (mt names.1 hnew)
    rw [hs, hst] at hreg
    exact reported_of_mem (fault_names h w hsyn hev (by rw [hreg]; exact List.mem_singleton.2 rfl))
  | emptyLiteral r c ln b h => exact reported_of_mem (c.fault_leaf w h (List.mem_singleton.2 rfl))
  | reversedRange r c lf hl cl hc it hi hrev =>
    have hmem : (⟨.reversedRange, cl.line, "", some r.id⟩ : Diag) ∈ cl.check r.id :=
      List.mem_map.2 ⟨it, List.mem_filter.2 ⟨hi, decide_eq_true hrev⟩, rfl⟩
    refine reported_of_mem (n := "") (c.fault_leaf w hl ?_)
    cases lf with
    | cls c' => obtain rfl := List.mem_singleton.1 hc; exact hmem
    | diff a b =>
      rcases List.mem_cons.1 hc with rfl | hc
      · exact List.mem_append_left _ hmem
      · obtain rfl := List.mem_singleton.1 hc; exact List.mem_append_right _ hmem
    | _ => cases hc
  | undefinedRef r c ln n h hu =>
    exact reported_of_mem (c.fault_leaf w h (by rw [Leaf.check_ref, hu]; exact List.mem_singleton.2 rfl))
  | refNotMacro r c ln n h e hu hk =>
    exact reported_of_mem (n := n) (c.fault_leaf w h (by rw [Leaf.check_ref, hu]; simp [hk]))
  | undefinedMode r c ln m h hu =>
    exact reported_of_mem (c.fault_action w h (by rw [Action.check, hu]; exact List.mem_singleton.2 rfl))
  | emitUndefined r c ln n h hu =>
    exact reported_of_mem (c.fault_action w h (by rw [Action.check_emit, hu]; exact List.mem_singleton.2 rfl))
  | emitNonToken r c ln n h e hu hk =>
    exact reported_of_mem (n := n) (c.fault_action w h (by rw [Action.check_emit, hu]; simp [hk.1, hk.2]))
  | badEscapeLex r h ln t b hl =>
    exact reported_of_mem
      (h.fault_syntax w (LexRule.syntaxDiags_eq r ▸ List.mem_flatMap.2 ⟨_, hl, List.mem_cons_self⟩))
  | tokenDiscard id l n e acts c h1 h2 =>
    -- something is reported, and without `@emit` it can only be the `@discard`
    exact reported_of_forall
      (mt (tokenActionDiags_eq_nil id l acts).1 fun h => let ⟨a, ha, hda⟩ := h1; by simp [(h a ha).1] at hda)
      (fun d hd => c.fault_generate w (List.mem_append_right _ hd))
      fun d hd => let ⟨hl, hi, hk, _⟩ := tokenActionDiags_kind hd; ⟨hl, hi, hk h2⟩
  | tokenEmit id l n e acts c h1 h2 =>
    exact reported_of_forall
      (mt (tokenActionDiags_eq_nil id l acts).1 fun h => let ⟨a, ha, hea⟩ := h1; by simp [(h a ha).2] at hea)
      (fun d hd => c.fault_generate w (List.mem_append_right _ hd))
      fun d hd => let ⟨hl, hi, _, hk⟩ := tokenActionDiags_kind hd; ⟨hl, hi, hk h2⟩
  | fragTwoDiscard id l e acts c h1 h2 =>
    -- two `@discard` are too many, and without `@emit` nothing else can be reported
    have he : (acts.filter Action.isEmit).length = 0 :=
      List.length_eq_zero_iff.2 (List.filter_eq_nil_iff.2 fun a ha => by simp [h2 a ha])
    exact reported_of_forall
      (fragActionDiags_ne_nil id l (Nat.le_trans h1 (Nat.le_add_right ..)))
      (fun d hd => c.fault_generate w (List.mem_append_right _ hd))
      fun d hd => let ⟨hl, hi, hk, _⟩ := fragActionDiags_kind hd; ⟨hl, hi, hk he⟩
  | fragTwoEmit id l e acts c h1 h2 =>
    have hdz : (acts.filter Action.isDiscard).length = 0 :=
      List.length_eq_zero_iff.2 (List.filter_eq_nil_iff.2 fun a ha => by simp [h2 a ha])
    exact reported_of_forall
      (fragActionDiags_ne_nil id l (Nat.le_trans h1 (Nat.le_add_left ..)))
      (fun d hd => c.fault_generate w (List.mem_append_right _ hd))
      fun d hd => let ⟨hl, hi, _, hk, _⟩ := fragActionDiags_kind hd; ⟨hl, hi, hk hdz⟩
  | fragBoth id l e acts c h1 h2 =>
    exact reported_of_forall
      (fragActionDiags_ne_nil id l (by rw [h1, h2]; exact Nat.le_refl 2))
      (fun d hd => c.fault_generate w (List.mem_append_right _ hd))
      fun d hd => let ⟨hl, hi, _, _, hk⟩ := fragActionDiags_kind hd; ⟨hl, hi, hk h1 h2⟩
  | macroCycle id l n e c hsh hn =>
    -- the body is in good shape, so the macro is expanded; it is its own entry and meets itself at once
    have hl : s'.declared.lookup n = some (.macro id l e) :=
      lookup_of_mem (c.ins1.clean1 w).nodup (declared_of_macro_rule c.placed.ins.mem_new_lex)
    refine reported_of_mem (n := "") (c.fault_generate w ?_)
    obtain ⟨k, hk⟩ : ∃ k, s'.declared.length = k + 1 :=
      ⟨_, (Nat.succ_pred_eq_of_pos (List.length_pos_of_mem (mem_of_lookup hl))).symm⟩
    simp only [LexRule.generate, hsh, Bool.not_true, Bool.false_eq_true, if_false, hk, expandMacro, hl,
      List.contains_nil, List.mem_flatMap]
    exact ⟨n, hn, by simp [hl]⟩
  | parserUndefined r c ln n h hu =>
    exact reported_of_mem (c.fault_atom w h (by
      rw [PAtom.checkSelf_name, hu]
      exact List.mem_singleton.2 rfl))
  | parserNotRuleOrToken r c ln n h e hu hk =>
    exact reported_of_mem (n := n) (c.fault_atom w h (by
      rw [PAtom.checkSelf_name, hu]
      simp [hk.1, hk.2.1, hk.2.2]))
  | unknownAlias r c ln t b h ht hu =>
    exact reported_of_mem (n := t) (c.fault_atom w h (by simp [PAtom.checkSelf, PAtom.check, isEmpty_false ht, hu]))
  | ambiguousAlias r c ln t b h ht hu =>
    obtain ⟨k, hk⟩ : ∃ k, s'.declared.aliasCount t = k + 2 := ⟨_, (Nat.sub_add_cancel hu).symm⟩
    exact reported_of_mem (n := t) (c.fault_atom w h (by simp [PAtom.checkSelf, PAtom.check, isEmpty_false ht, hk]))
  | listEntryNotSimple r c ln e sp h hk =>
    exact reported_of_mem (n := "") (c.fault_atom w h (by simp [PAtom.checkSelf, hk]))
  | listSepNotSimple r c ln e sp h hk hk' =>
    exact reported_of_mem (n := "") (c.fault_atom w h (by simp [PAtom.checkSelf, hk, hk']))
  | emptyAlias r h ln b ha =>
    exact reported_of_mem (n := "") (h.fault_syntax w (PRule.mem_syntaxDiags.2 (Or.inl ⟨_, ha, by
      simp [PAtom.syntaxSelf, PAtom.syntaxDiags]⟩)))
  | badEscapePar r h ln t b ha =>
    exact reported_of_mem (h.fault_syntax w (PRule.mem_syntaxDiags.2 (Or.inl ⟨_, ha,
      List.mem_append_left _ List.mem_cons_self⟩)))
  | badPrecedence r h p hp q hq hb =>
    exact reported_of_mem (n := "") (h.fault_syntax w (PRule.mem_syntaxDiags.2 (Or.inr (Or.inr ⟨p, hp, by
      simp [hq, Qual.syntaxDiags, hb]⟩))))
  | noStart r c hnone hck => exact reported_of_mem (fault_noStart c w hnone hck)
  | listCard r h t ht hb =>
    exact reported_of_mem (h.fault_syntax w (PRule.mem_syntaxDiags.2 (Or.inr (Or.inl ⟨t, ht, hb, rfl⟩))))

/-- … and that diagnostic lies inside the span of the injected declaration. -/
theorem single_fault_in_decl (s s' : Spec) (w : WellFormed s) (k : Kind) (i : DeclId) (l : Line)
    (inj : Injection s s' k (some i) l) :
    ∃ d ∈ analyze s', d.kind = k ∧ d.line = l ∧ ∃ D ∈ s'.decls, D.id = i ∧ D.lo ≤ d.line ∧ d.line ≤ D.hi := by
  obtain ⟨d, hd, hk, hi, hl⟩ := single_fault s s' w k (some i) l inj
  exact ⟨d, hd, hk, hl, diag_in_decl s' d hd i hi⟩


/-- `single_fault` is not vacuous: a fragment with an empty literal put into a new file after the
sample's file is an injection, … -/
def sampleUnit : Lox.Dec.Analyze.Unit := ⟨[
  .rule (.macro 1 2 "DIGIT" [[.leaf .one (.cls ⟨2, false, [⟨48, 57⟩], 0⟩)]]),
  .rule (.token 2 3 "NUM" [[.leaf .plus (.ref 3 "DIGIT")]] []),
  .rule (.token 3 4 "PLUS" [[.leaf .one (.lit 4 "+" 0)]] [.pushMode 5 "Str"]),
  .mode 4 6 "Str" [.frag 5 7 [[.leaf .one (.dot 7)]] [.discard 7, .popMode 8]],
  .prule ⟨6, 10, true, "s", [⟨10, [⟨.name 10 "NUM", none⟩, ⟨.alias 11 "+" 0, some .opt⟩], none⟩]⟩]⟩

def badFrag : LexRule := .frag 7 1001 [[.leaf .one (.lit 1001 "x" 0), .leaf .star (.lit 1002 "" 0)]] [.discard 1003]

example : Injection ⟨[sampleUnit]⟩ ⟨[sampleUnit, ⟨[.rule badFrag]⟩]⟩ .emptyLiteral (some 7) 1002 :=
  .emptyLiteral badFrag
    { placed := Or.inl (AddedStmt.newUnit [sampleUnit] [])
      fresh := ⟨by simp [badFrag, LexRule.events], by simp [badFrag, LexRule.events], by simp [badFrag, LexRule.events],
        by simp [badFrag, LexRule.events]⟩
      syn := by decide +kernel }
    1002 0 (by decide +kernel)

/-- A name fault: a macro named like the token `NUM`, put between the mode block and the parser rule
of the sample's file (the registrations before that place include `NUM`). -/
def dupMacro : Stmt := .rule (.macro 8 9 "NUM" [[.leaf .one (.lit 9 "n" 0)]])

example : Injection ⟨[sampleUnit]⟩
    ⟨[⟨sampleUnit.stmts.take 4 ++ dupMacro :: sampleUnit.stmts.drop 4⟩]⟩ .redefined (some 8) 9 :=
  .dupName dupMacro _ (AddedStmtAt.inUnit [] [] (sampleUnit.stmts.take 4) (sampleUnit.stmts.drop 4))
    ⟨by decide +kernel, by simp [dupMacro, Stmt.prules]⟩ ⟨8, 9, "NUM", .macro 8 9 [[.leaf .one (.lit 9 "n" 0)]], .lexical⟩ [] rfl
    (by decide +kernel) (by decide +kernel)

/-- A fault of the last pass: a token with `@discard`, inside the mode block. -/
def discardedToken : LexRule := .token 9 8 "WS" [[.leaf .plus (.lit 8 " " 0)]] [.discard 8]

example : Injection ⟨[sampleUnit]⟩
    ⟨[⟨sampleUnit.stmts.take 3 ++
        .mode 4 6 "Str" ([.frag 5 7 [[.leaf .one (.dot 7)]] [.discard 7, .popMode 8]] ++ discardedToken :: []) ::
        sampleUnit.stmts.drop 4⟩]⟩ .tokenDiscard (some 9) 8 :=
  .tokenDiscard 9 8 "WS" _ _
    { placed := Or.inr (AddedInMode.mk [] [] (sampleUnit.stmts.take 3) (sampleUnit.stmts.drop 4) 4 6 "Str"
        [.frag 5 7 [[.leaf .one (.dot 7)]] [.discard 7, .popMode 8]] [])
      fresh := ⟨by decide +kernel, by decide +kernel, by decide +kernel, by decide +kernel⟩
      syn := by decide +kernel
      noAlias := by
        intro ev hev t
        simp only [LexRule.events, List.mem_singleton] at hev
        subst hev; rfl
      checked := by decide +kernel }
    (by decide +kernel) (by decide +kernel)

/-- … and the model indeed answers with that diagnostic only. -/
example : analyze ⟨[sampleUnit, ⟨[.rule badFrag]⟩]⟩ = [⟨.emptyLiteral, 1002, "", some 7⟩] := by decide +kernel

end Lox.Props.C17
