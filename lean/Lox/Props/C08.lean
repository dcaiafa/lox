import Lox.Lex.BisimNGProofs
import Lox.Lex.NGShapeProofs
import Lox.Lex.MunchProofs
/-! Property theorems for C08 (non-greedy repetitions stop at the first complete match), validator
part.

Specification (`Lox/Lex/BisimNG.lean`): a rule containing `*?`/`+?` (`Re.hasNG`) matches the
SHORTEST words of its language (`RuleMatches true r s`: `Matches r s` and no proper prefix of `s`
matches `r`); other rules keep their language; `viableNG`, `labelNG`, `specRunNG` as in C02 over
these languages. The table side is unchanged: `tableStep` ignores the transitions of a row whose
non-greedy flag is set, exactly as `PushRune` does (`C02.pushRune_consume`). -/
namespace Lox.Props.C08
open Lox.Lex

/-- **Soundness of the non-greedy validator.** If `bisimNG rules tbl` answers `ok` then on every
string the table (flagged rows stop) dies exactly when no rule can still reach a match – a shortest
match for non-greedy rules – and otherwise carries the action pairs of the earliest rule matching
the string (for a non-greedy rule: matching it with no proper prefix matching). In particular a
token of a non-greedy rule ends at its first complete match, and greedy rules of the same mode keep
their longest-match behaviour (their language is `Matches`, `ruleMatches_greedy`). -/
theorem bisimNG_sound {rules : List Rule} {tbl : Mode} (h : bisimNG rules tbl = .ok ()) :
    ∀ s : List Int, tableRun tbl s = specRunNG rules s := by
  obtain ⟨R, hC⟩ := bisimNG_ok h
  exact closedNG_sound hC

/-- A greedy rule's language is unchanged. -/
theorem ruleMatches_greedy (r : Re) (s : List Int) (h : r.hasNG = false) :
    RuleMatches r.hasNG r s ↔ Matches r s := by
  simp [RuleMatches, h]

/-- A non-greedy rule matches `s` iff `s` is a match and no proper prefix of `s` is. -/
theorem ruleMatches_ng (r : Re) (s : List Int) (h : r.hasNG = true) :
    RuleMatches r.hasNG r s ↔
      Matches r s ∧ ∀ u v, s = u ++ v → v ≠ [] → ¬ Matches r u := by
  simp [RuleMatches, h, NoProperPrefix]

/-- Once a non-greedy rule has matched `s`, no extension of `s` is a match of that rule. -/
theorem ng_stops (r : Re) (s t : List Int) (h : r.hasNG = true) (hm : RuleMatches r.hasNG r s)
    (ht : t ≠ []) : ¬ RuleMatches r.hasNG r (s ++ t) := by
  intro hm'
  exact hm'.2 h s t rfl ht hm.1

/-- Without non-greedy rules the specification is that of C02. -/
theorem specRunNG_greedy (rules : List Rule) (hg : ∀ r ∈ rules, r.1.hasNG = false)
    (s : List Int) : specRunNG rules s = specRun rules s := by
  have hv : viableNG rules s ↔ viable rules s := by
    unfold viableNG viable
    constructor
    · rintro ⟨r, hr, t, hm⟩; exact ⟨r, hr, t, hm.1⟩
    · rintro ⟨r, hr, t, hm⟩; exact ⟨r, hr, t, hm, by simp [hg r hr]⟩
  have hl : ∀ rs : List Rule, (∀ r ∈ rs, r.1.hasNG = false) → labelNG rs s = label rs s := by
    intro rs
    induction rs with
    | nil => intro _; rfl
    | cons r rs ih =>
      intro h
      have h1 : RuleMatches r.1.hasNG r.1 s ↔ Matches r.1 s := ruleMatches_greedy _ _ (h r (by simp))
      simp only [labelNG, label, ih (fun r hr => h r (by simp [hr]))]
      by_cases hm : Matches r.1 s
      · simp [hm, h1.mpr hm]
      · have : ¬ RuleMatches r.1.hasNG r.1 s := fun h => hm (h1.mp h)
        simp [hm, this]
  unfold specRunNG specRun
  by_cases hvi : viable rules s
  · simp [hvi, hv.mpr hvi, hl rules hg]
  · have : ¬ viableNG rules s := fun h => hvi (hv.mp h)
    simp [hvi, this]

/-- Table level: the table consumes the longest prefix that is still viable – where a non-greedy
rule stops being viable as soon as it has matched – and the state reached is labelled by the
earliest rule matching that prefix. -/
theorem munch_table {rules : List Rule} {tbl : Mode} (h : bisimNG rules tbl = .ok ())
    (s : List Int) :
    viableNG rules (s.take (scanLen tbl 0 s)) ∧
    (∀ j, scanLen tbl 0 s < j → j ≤ s.length → ¬ viableNG rules (s.take j)) ∧
    ∃ q', tableRunFrom tbl 0 (s.take (scanLen tbl 0 s)) = some q' ∧
      rowPairs tbl q' = labelNG rules (s.take (scanLen tbl 0 s)) :=
  (bisimNG_tableSpec h).munch_table s

/-- Driver level (`C02.munch` for modes with non-greedy rules): one `ReadToken` call consumes
exactly the longest `viableNG` prefix `p` of the remaining input and then executes the action pairs
`labelNG rules p`. -/
theorem munch (modes : Array Mode) (inp : Input) (m : Mode) (rules : List Rule) (l : Lx)
    (h : bisimNG rules m = .ok ()) (hmode : modes[l.sm.mode.getD 0]? = some m)
    (hstate : l.sm.state = 0) (start : Option Nat) (n : Nat) :
    viableNG rules ((l.rest inp).take (scanLen m 0 (l.rest inp))) ∧
    (∀ j, scanLen m 0 (l.rest inp) < j → j ≤ (l.rest inp).length →
      ¬ viableNG rules ((l.rest inp).take j)) ∧
    ∃ q', tableRunFrom m 0 ((l.rest inp).take (scanLen m 0 (l.rest inp))) = some q' ∧
      (startClean m = true → (l.rest inp).take (scanLen m 0 (l.rest inp)) ≠ [] → q' ≠ 0) ∧
      readToken modes inp (scanLen m 0 (l.rest inp) + (n + 1)) start l =
        tokBody modes inp n (start.getD l.offset) (l.advance inp (scanLen m 0 (l.rest inp)))
          (runPairs modes ((l.advance inp (scanLen m 0 (l.rest inp))).char inp)
            (labelNG rules ((l.rest inp).take (scanLen m 0 (l.rest inp))))
            { l.sm with mode := some (l.sm.mode.getD 0), state := (q' : Int) }) :=
  (bisimNG_tableSpec h).munch_driver modes inp m l hmode hstate start n

/-- A plain token rule (pairs `[(3, t)]`, e.g. a non-greedy string or comment token) wins: the
token returned is `t` and its text is exactly that prefix. -/
theorem munch_token (modes : Array Mode) (inp : Input) (m : Mode) (rules : List Rule) (l : Lx)
    (h : bisimNG rules m = .ok ()) (hmode : modes[l.sm.mode.getD 0]? = some m)
    (hstate : l.sm.state = 0) (start : Option Nat) (n : Nat) (t : Int)
    (hlab : labelNG rules ((l.rest inp).take (scanLen m 0 (l.rest inp))) = [(3, t)]) :
    readToken modes inp (scanLen m 0 (l.rest inp) + (n + 1)) start l =
      some (some (.tok t (start.getD l.offset) (l.advance inp (scanLen m 0 (l.rest inp))).offset),
        { l.advance inp (scanLen m 0 (l.rest inp)) with
          sm := { l.sm with token := t, mode := some (l.sm.mode.getD 0), state := 0 } }) :=
  (bisimNG_tableSpec h).munch_token modes inp m l hmode hstate start n t hlab

/-! ### The stated shape: literal prefix, one-code-point body, literal terminator -/

/-- Bodies "matching one character per repetition": a class (also `.`) … -/
theorem singleChar_cls (cs : Cls) : SingleChar (.cls cs) (fun c => inCls cs c = true) :=
  Lox.Lex.singleChar_cls cs

/-- … or an alternation of such expressions. -/
theorem singleChar_alt {a b : Re} {P Q : Int → Prop} (ha : SingleChar a P) (hb : SingleChar b Q) :
    SingleChar (.alt a b) (fun c => P c ∨ Q c) := Lox.Lex.singleChar_alt ha hb

/-- **`ng_shape`, `*?`.** The rule `'p' b*? 't'` (`ngStarRule p b t`, `t` a literal; the theorem
is only interesting for `t ≠ []`) under the shortest-match semantics matches exactly the texts
`p ++ x ++ t` where `x` consists of body code points and the first occurrence of `t` in the text
after the prefix (`x ++ t`) is the final one: the token ends at the first occurrence of the
terminator after the prefix, even when the body can match the terminator's code points. -/
theorem ng_shape_star {b : Re} {P : Int → Prop} (hb : SingleChar b P) (p t s : List Int) :
    RuleMatches (ngStarRule p b t).hasNG (ngStarRule p b t) s ↔
      ∃ x, s = p ++ x ++ t ∧ (∀ c ∈ x, P c) ∧
        ∀ i, i < x.length → ¬ t <+: (x ++ t).drop i :=
  Lox.Lex.ng_shape_star hb p t s

/-- **`ng_shape`, `+?`.** At least one repetition: an occurrence of the terminator right after the
prefix does not end the token. -/
theorem ng_shape_plus {b : Re} {P : Int → Prop} (hb : SingleChar b P) (p t s : List Int) :
    RuleMatches (ngPlusRule p b t).hasNG (ngPlusRule p b t) s ↔
      ∃ x, x ≠ [] ∧ s = p ++ x ++ t ∧ (∀ c ∈ x, P c) ∧
        ∀ i, 1 ≤ i → i < x.length → ¬ t <+: (x ++ t).drop i :=
  Lox.Lex.ng_shape_plus hb p t s

/-! ### Non-vacuity: the table emitted by lox for
`@frag '/*' [\u0000-\U0010FFFF]*? '*/' @discard`, `T2 = [a-z]+` -/

def exTbl : Mode := #[6, 15, 23, 29, 43, 55, 8, 0, 2, 47, 47, 2, 97, 122, 1, 7, 0, 1, 97, 122, 1, 3,
  2, 5, 0, 1, 42, 42, 4, 13, 1, 3, 0, 41, 4, 42, 42, 5, 43, 1114111, 4, 4, 0, 11, 0, 3, 0, 41, 4,
  42, 42, 5, 43, 1114111, 4, 17, 0, 5, 0, 41, 4, 42, 42, 5, 43, 46, 4, 47, 47, 3, 48, 1114111, 4]

def exRules : List Rule := [
  (.seq (Re.lit [47, 42]) (.seq (.star true (.cls [(0, 1114111)])) (Re.lit [42, 47])), [(4, 0)]),
  (Re.plus (.cls [(97, 122)]), [(3, 2)])]

deriving instance DecidableEq for Except

theorem ex_bisimNG : bisimNG exRules exTbl = .ok () := by decide +kernel

/-- `/**/*/`: the table stops after the first `*/` (dead on any longer prefix), although the body
class contains `*` and `/`. -/
example : tableRun exTbl [47, 42, 42, 47] = some [(4, 0)] ∧
    tableRun exTbl [47, 42, 42, 47, 42] = none := by decide +kernel

/-- The first rule of the instance has the stated shape. -/
example : exRules[0].1 = ngStarRule [47, 42] (.cls [(0, 1114111)]) [42, 47] := rfl

/-- `/*a*/` is a (shortest) match of the comment rule, `/*a*/*/` is not. -/
example : RuleMatches exRules[0].1.hasNG exRules[0].1 [47, 42, 97, 42, 47] ∧
    ¬ RuleMatches exRules[0].1.hasNG exRules[0].1 [47, 42, 97, 42, 47, 42, 47] := by
  have hm := (ng_shape_star (singleChar_cls [(0, 1114111)]) [47, 42] [42, 47]
      [47, 42, 97, 42, 47]).mpr ⟨[97], rfl, by decide, fun i hi => by
    have : i = 0 := by simp at hi; omega
    subst this; decide⟩
  exact ⟨hm, ng_stops _ _ [42, 47] (by decide) hm (by decide)⟩

end Lox.Props.C08
