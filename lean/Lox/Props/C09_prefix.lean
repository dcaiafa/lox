import Lox.LR.PrefixSound
import Lox.LR.RuntimeSoundExample
/-! # C09 – the correct-prefix property: "blame the right token"

"… the first Error delivered carries the first token at which the input stops being a prefix of
any sentence."

`Lox/Props/C09.lean` proves `first_error_token_partial`: the first `Error` carries the lookahead
`j` of the first configuration without an action, and no sentence agrees with the input on the
positions `0..j`. This file adds the missing half – the correct-prefix (viable-prefix) property:
everything consumed before that point IS a prefix of a sentence – and states the full
`first_error_token`.

Hypotheses (all three are validators run on every emitted table, each proved sound):
`check` (`Lox.LR.check_sound`), `justify` (`Lox.LR.justify_sound`: every item of the certificate
has a derivation by the rules that define the LALR(1) item sets – this is what makes the item in
the top state a witness of viability), `productiveB` (`Lox.LR.productiveB_sound`: every
nonterminal derives a token string – without it a parser may consume tokens that lead nowhere,
e.g. `S = a U | b; U = U c` accepts the `a` of the input `a …` although no sentence starts with
`a`; see the example at the end).

An LALR(1) (as opposed to canonical LR(1)) parser may perform REDUCTIONS under a lookahead that
cannot follow, so the statement is: the offending token is never shifted – it is still the
lookahead when the error is reported – and the tokens consumed before it form a viable prefix. -/
namespace Lox.Props.C09
open Lox.LR Lox.LR.Rt

section
variable {G : Grammar} {nTerms nRules : Nat} {T : Tables} {cert : Array (List Item)}

/-- **Viable prefixes extend to sentences** (grammar level, no automaton): in a productive grammar,
if some LR(0) item is valid for the viable prefix `γ` and `γ` derives the token string `u`, then
`u` is a prefix of a sentence. -/
theorem viable_prefix_extends (hp : productiveB G nRules = true)
    (h0 : ∃ S', G.prods[0]? = some ⟨S', [.n (startSym G)]⟩) {γ : List Sym} {p d : Nat}
    (h : LR0Item G γ p d) {u : List Nat} {tsu : List Tree} (hu : Der G γ u tsu) :
    ∃ v t, Der G [.n (startSym G)] (u ++ v) [t] :=
  h.extends (productiveB_sound hp) h0 hu

/-- **Correct-prefix property of the abstract LR machine** (`Abs.step`, the loop of the generated
`parse` without recovery): in every configuration `c` reached from `init w` – in particular in the
configuration in which the machine fails – the input splits as `w = u ++ c.input` where the
consumed part `u` is a prefix of a sentence. The lookahead `Abs.la c.input` is the first token
not yet shifted; when `Abs.step` fails on `c` the offending token is exactly this lookahead and
it has not been shifted. -/
theorem abs_correct_prefix (hc : check G nTerms nRules T cert = .ok ())
    (hj : justify G nTerms nRules T cert = .ok ()) (hp : productiveB G nRules = true)
    {w : List Nat} {c : Abs.Config} (h : Abs.Reaches G (autoOf T cert) (Abs.init w) c) :
    ∃ u, w = u ++ c.input ∧ ∃ v t, Der G [.n (startSym G)] (u ++ v) [t] :=
  abs_correct_prefix_of_justified hc (justify_spec hj) (productiveB_sound hp) h

/-- **Immediate error detection of the abstract LR machine** (both halves). The machine fails in
`c`, reached from `init w`. Then `w = u ++ c.input` where (1) the consumed tokens `u` ARE a prefix
of a sentence, and (2) `u` followed by the offending token – the lookahead of `c`, which was never
shifted – is NOT a prefix of any sentence followed by EOF (for the EOF lookahead: `u` is not a
sentence). -/
theorem abs_error_detection (hc : check G nTerms nRules T cert = .ok ())
    (hj : justify G nTerms nRules T cert = .ok ()) (hp : productiveB G nRules = true)
    {w : List Nat} {c : Abs.Config} (h : Abs.Reaches G (autoOf T cert) (Abs.init w) c)
    (hfail : Abs.step G (autoOf T cert) c = .fail) :
    ∃ u, w = u ++ c.input ∧ (∃ v t, Der G [.n (startSym G)] (u ++ v) [t]) ∧
      ∀ w' t, Der G [.n (startSym G)] w' [t] → ¬ (u ++ [Abs.la c.input]) <+: (w' ++ [eof]) :=
  abs_error_detection_of_justified hc (justify_spec hj) (productiveB_sound hp) h hfail

/-- **Consumed symbols are a viable prefix** – concrete `parse`, EVERY state at the top of its loop,
also after recoveries: the symbols consumed so far (`stackLeaves`: the `Token`/`Error` leaves of
the stack values bottom to top, i.e. input tokens in order with stretches replaced by `Error`s –
`consumed_is_edit` in `C09.lean`), read as terminals with `Error ↦ ERROR = 1`, are a prefix of a
sentence of `G` (where ERROR is an ordinary terminal). -/
theorem consumed_symbols_viable (hc : check G nTerms nRules T cert = .ok ())
    (hj : justify G nTerms nRules T cert = .ok ()) (hp : productiveB G nRules = true)
    {inp : Array Nat} {wb : Bool} {fuel : Nat} {s : PState} (h : ParseReach T inp wb fuel s) :
    ∃ v t, Der G [.n (startSym G)] ((stackLeaves s.stack).map leafNat ++ v) [t] :=
  Rt.consumed_viable (check_spec hc) (justify_spec hj) (productiveB_sound hp) h

/-- **Correct-prefix property of `parse`.** The run is plain (no `_recover()` yet) up to `s`, whose
lookahead is token number `j = lidx s.lasym` (`j = |inp|` for the EOF lookahead). Then exactly the
tokens `inp[0..j)` have been consumed (a lexer ERROR token as the terminal `@error`), and they are a
prefix of a sentence. -/
theorem plain_prefix_viable (hc : check G nTerms nRules T cert = .ok ())
    (hj : justify G nTerms nRules T cert = .ok ()) (hp : productiveB G nRules = true)
    {inp : Array Nat} {wb : Bool} {fuel : Nat} {s1 s : PState}
    (h1 : readToken T inp initState = .ok s1) (hreach : PlainReach T inp wb fuel s1 s) :
    (stackLeaves s.stack).map leafNat = inp.toList.take (lidx s.lasym) ∧
    ∃ v t, Der G [.n (startSym G)] (inp.toList.take (lidx s.lasym) ++ v) [t] := by
  have e := (hreach.consumed (check_spec hc).toSafeOK h1).2.2.2
  refine ⟨e, ?_⟩
  rw [← e]
  exact consumed_symbols_viable hc hj hp ⟨s1, h1, hreach.reach⟩

/-- `first_error_token_partial` plus the correct-prefix half. "The first
Error delivered carries the first token at which the input stops being a prefix of any sentence" –
stated for the first Error INJECTED; a second syntax error before its production is reduced makes
`_recover` replace it, so the first Error delivered may carry a later token (known finding K8).
The input holds no lexer ERROR token; the run is plain up to `s` and the iteration from `s` is the
first successful `_recover()`. With `j` the index of the lookahead token of `s`:
1. the `Error` injected carries token `j` (the offending token; it was never shifted: it is still
   the lookahead of `s`, and exactly `inp[0..j)` has been consumed);
2. `inp[0..j)` IS a prefix of a sentence;
3. no sentence agrees with the input on the positions `0..j` (`inp[0..j]` is NOT a prefix of any
   sentence; for `j = |inp|` – the EOF lookahead – this says the input is not a sentence). -/
theorem first_error_token (hc : check G nTerms nRules T cert = .ok ())
    (hj : justify G nTerms nRules T cert = .ok ()) (hp : productiveB G nRules = true)
    {inp : Array Nat} {wb : Bool} {fuel : Nat} {s1 s s' : PState}
    (hinp1 : ∀ i : Nat, inp[i]? ≠ some 1)
    (h1 : readToken T inp initState = .ok s1) (hreach : PlainReach T inp wb fuel s1 s)
    (hrec : isRecoverStep T s = true) (hstep : step T inp wb fuel s = .cont s') :
    (∃ i ty ex, s'.lasym = .err i ty ex ∧ s'.la = tERROR ∧ s.lasym = .tok i ty ∧
      lidx s.lasym = i ∧ (stackLeaves s.stack).map leafNat = inp.toList.take i) ∧
    (∃ v t, Der G [.n (startSym G)] (inp.toList.take (lidx s.lasym) ++ v) [t]) ∧
    (∀ (w : List Nat) (t : Tree), Der G [.n (startSym G)] w [t] →
      ¬ ∀ i, i ≤ lidx s.lasym → inp[i]? = w.toArray[i]?) :=
  first_error_token_of_justified hc (justify_spec hj) (productiveB_sound hp) hinp1 h1 hreach hrec
    hstep

end

/-! ## Non-vacuity: the tables lox emits for `S = stmt*; stmt = A B? SEMI | @error SEMI` -/

theorem example_justify : justify Example.G 6 6 Example.T Example.certL = .ok () :=
  justify_ok_iff.mpr (by decide +kernel)

theorem example_productive : productiveB Example.G 6 = true := by decide +kernel

/-- The hypotheses of `first_error_token` hold on `a c ;` (tokens 2 4 5): plain for one iteration
(shift `a`), then state 1 has no action on `c`; the consumed prefix `[a]` is a prefix of the
sentence `a ;`. -/
example : check Example.G 6 6 Example.T Example.certL = .ok () ∧
    justify Example.G 6 6 Example.T Example.certL = .ok () ∧ productiveB Example.G 6 = true ∧
    (∀ i : Nat, (#[2, 4, 5] : Array Nat)[i]? ≠ some 1) ∧
    ∃ s1 s s', readToken Example.T #[2, 4, 5] initState = .ok s1 ∧
      PlainReach Example.T #[2, 4, 5] true 20 s1 s ∧ isRecoverStep Example.T s = true ∧
      step Example.T #[2, 4, 5] true 20 s = .cont s' ∧ lidx s.lasym = 1 := by
  obtain ⟨s1, s, s', h1, hreach, hrec, hstep, hidx, -⟩ := Example.first_recover_a_c_semi
  refine ⟨Example.check_ok, example_justify, example_productive, fun i => ?_,
    s1, s, s', h1, hreach, hrec, hstep, hidx⟩
  match i with
  | 0 | 1 | 2 => simp
  | i + 3 => simp

/-- Non-vacuity of `abs_error_detection`: on `a c ;` the abstract machine shifts `a` and fails in
the next configuration, with `c ;` unread. -/
example : ∃ c, Abs.Reaches Example.G (autoOf Example.T Example.certL) (Abs.init [2, 4, 5]) c ∧
    Abs.step Example.G (autoOf Example.T Example.certL) c = .fail ∧ c.input = [4, 5] := by
  exact ⟨_, .step (c' := ⟨[⟨1, .leaf 2⟩, ⟨0, .leaf 0⟩], [4, 5], []⟩) (by rfl) (.refl _), by rfl, rfl⟩

/-- `productiveB` is needed. `S = a U | b; U = U c` (terminals a=2 b=3 c=4; `U` derives nothing):
the LR(0) item `S → a·U` is valid for the viable prefix `a`, so an LR parser shifts `a` – but no
sentence starts with `a` (the only sentence is `b`). -/
def Gunprod : Grammar := ⟨#[⟨0, [.n 1]⟩, ⟨1, [.t 2, .n 2]⟩, ⟨1, [.t 3]⟩, ⟨2, [.n 2, .t 4]⟩]⟩

example : productiveB Gunprod 3 = false ∧ LR0Item Gunprod [.t 2] 1 1 := by
  refine ⟨by decide, ?_⟩
  have i0 : LR0Item Gunprod [] 0 0 := .start
  have i1 : LR0Item Gunprod [] 1 0 :=
    .closure (pr := ⟨0, [.n 1]⟩) (qr := ⟨1, [.t 2, .n 2]⟩) i0 rfl rfl rfl rfl
  exact .goto (γ := []) (pr := ⟨1, [.t 2, .n 2]⟩) i1 rfl rfl

end Lox.Props.C09
