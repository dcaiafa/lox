import Lox.Dec.AssignBind
import Lox.Dec.AssignRun
import Lox.Dec.AssignNames
/-!
# C06 – type-matched binding of action methods

Model: `Lox.Dec.Assign.assign` (`lean/Lox/Dec/Assign.lean`), a pass-by-pass mirror of
`codegen.AssignActions` (`/repo/internal/codegen/assign_actions.go`) parametrised by the relations
`gotypes.AssignableTo` / `gotypes.Identical` that go/types supplies per package.
Statement: `Lox.Dec.Assign.Spec` (`lean/Lox/Dec/AssignSpec.lean`), the clauses of the property.

All theorems are about well-formed cases (`WF`: the helper-rule shapes the front end produces,
every production belongs to a rule, helper-rule names are not Go identifiers) and assume that `Identical` is an
equivalence relation (`IdentEquiv`). Both hypotheses are satisfiable: `exCase_wf`, `exCase_ident`.
-/
namespace Lox.Props.C06

open Lox.Dec.Assign

/-- Every diagnostic contradicts the property's clauses: a violated clause is really violated. -/
theorem violates_not_spec {c : Case} {d : Diag} (v : Violates c d) : ¬ Spec c := by
  intro s
  unfold Violates at v
  split at v
  · obtain ⟨m, hm, _, hr, hn⟩ := v
    exact hn (s.shape m hm hr).1
  · obtain ⟨m, hm, _, hr, hv⟩ := v
    have := (s.shape m hm hr).2
    rw [hv] at this; cases this
  · obtain ⟨m, hm, m', hm', _, hr, he, hi⟩ := v
    obtain ⟨n, hn⟩ := Option.isSome_iff_exists.mp hr
    have := s.retAgree m hm m' hm' n hn (by rw [he, hn])
    rw [hi] at this; cases this
  · obtain ⟨m, hm, n, _, hn, hall⟩ := v
    obtain ⟨r, hr, hrn⟩ := s.ruleExists m hm n hn
    exact hall r hr hrn
  · obtain ⟨ru, hr, hs, hn⟩ := v
    obtain ⟨t, ht⟩ := s.typed _ ru hr hs
    rw [specTy_eq_strip, hn] at ht; cases ht
  · obtain ⟨pr, hp, hu, hall⟩ := v
    obtain ⟨i, hi, _⟩ := s.unique pr (List.mem_of_getElem? hp) hu
    exact hall i hi
  · obtain ⟨pr, hp, hu, i, j, hij, hi, hj⟩ := v
    obtain ⟨m, _, hu'⟩ := s.unique pr (List.mem_of_getElem? hp) hu
    exact hij ((hu' i hi).trans (hu' j hj).symm)
  · obtain ⟨i, m, hi, _, hr, hall⟩ := v
    obtain ⟨p, hp, hu, hm⟩ := s.noOrphan i m hi hr
    exact hall p hp hu hm
  · exact v

/-- **C06, decision.** lox's binding pass succeeds exactly when the clauses of the property hold:
every action method returns one value and is not variadic, names an existing rule, all methods of
a rule return one type, every rule gets a type, every production of a user rule has one and only
one method of its rule with matching arity whose parameters accept (by assignability) the types of
its terms, and no `on_` method is left unmatched. -/
theorem assign_ok_iff {c : Case} (w : WF c) (ie : IdentEquiv c) :
    (∃ b, assign c = .ok b) ↔ Spec c := by
  have e := assign_wf w ie
  generalize assign c = res at e
  cases e with
  | fail hne hv =>
    -- under the clauses no diagnostic is possible: its subject would violate one of them
    obtain ⟨d, hd⟩ := List.exists_mem_of_ne_nil _ hne
    exact ⟨fun ⟨_, hb⟩ => (nomatch hb), fun s => absurd s (violates_not_spec (hv d hd))⟩
  | ok s _ => exact ⟨fun _ => s, fun _ => ⟨_, rfl⟩⟩

/-- On well-formed input the model never reaches one of the Go panics
(`assert.True`, index out of range, failed type assertion, exhausted fuel). -/
theorem assign_no_panic {c : Case} (w : WF c) (ie : IdentEquiv c) (msg : String) :
    assign c ≠ .panic msg := by
  intro h
  cases h ▸ assign_wf w ie

/-- **C06, the binding.** When lox succeeds, every production of a user rule is bound to its
unique matching method, no other production is bound, and every rule has the documented type. -/
theorem assign_binding_sound {c : Case} (w : WF c) (ie : IdentEquiv c) {b : Binding}
    (h : assign c = .ok b) :
    (∀ (k : Nat) p, c.prods[k]? = some p → UserProd c p →
      ∃ m, b.method[k]? = some (some m) ∧ Matches c p m ∧ ∀ j, Matches c p j → j = m) ∧
    (∀ (k : Nat) p, c.prods[k]? = some p → ¬ UserProd c p → b.method[k]? = some none) ∧
    (∀ r, tyGet b.ruleTy r = specTy c r) ∧
    b.emitBounds = c.methods.any (·.name == onBoundsName) := by
  cases h ▸ assign_wf w ie with
  | ok s hty =>
    refine ⟨fun i p hp hu => ?_, fun i p hp hu => ?_, hty, rfl⟩
    · obtain ⟨m, hm, hu'⟩ := s.unique p (List.mem_of_getElem? hp) hu
      refine ⟨m, ?_, hm, hu'⟩
      rw [List.getElem?_map, hp, Option.map_some, bindProd_user hu ((matchesOf_singleton hty).mpr ⟨hm, hu'⟩)]
    · rw [List.getElem?_map, hp, Option.map_some, bindProd_not_user hu]

/-- **C06, diagnostics.** When lox fails it reports at least one diagnostic, and the subject of
every diagnostic (a method, a rule or a production) violates the clause the diagnostic names. -/
theorem assign_diag_names {c : Case} (w : WF c) (ie : IdentEquiv c) {ds : List Diag}
    (h : assign c = .fail ds) : ds ≠ [] ∧ ∀ d ∈ ds, Violates c d := by
  cases h ▸ assign_wf w ie with
  | fail hne hv => exact ⟨hne, hv⟩

/-- **The naming convention.** For a rule name that is not empty, contains no `"__"` and does not
end in `'_'`, the methods lox attributes to the rule (`ruleFromMethod`) are exactly `on_<rule>` and
`on_<rule>__<suffix>`. (Rule names with `"__"` are rejected by the front end; for the other two
caveats see the examples after `ruleOfChars_iff` in `Lox/Dec/AssignNames.lean`.) -/
theorem naming_convention {n r : List Char} (hne : r ≠ []) (hs : hasSep r = false)
    (hl : r.getLast? ≠ some '_') :
    ruleOfChars n = some r ↔
      n = 'o' :: 'n' :: '_' :: r ∨ ∃ s, n = 'o' :: 'n' :: '_' :: (r ++ '_' :: '_' :: s) :=
  ruleOfChars_iff hne hs hl

/-- The hypotheses of this file are decided per case by the driver (`dec.assignwf`): `decide (WF c)`
and `identCheck`, the latter being sufficient for `IdentEquiv` on a tabulated universe. -/
theorem hypotheses_checkable {c : Case} {n : Nat} (h : identCheck c n = true)
    (hout : ∀ i j, (n ≤ i ∨ n ≤ j) → c.identical i j = (i == j)) : IdentEquiv c :=
  identEquiv_of_check h hout

/-- Everything `_act` relies on is established by a successful `AssignActions`. -/
theorem ok_facts {c : Case} (w : WF c) (ie : IdentEquiv c) {b : Binding} (h : assign c = .ok b) :
    Facts c b := by
  obtain ⟨h1, _, h3, _⟩ := assign_binding_sound w ie h
  refine ⟨w, h3, (assign_ok_iff w ie).mp ⟨b, h⟩, fun k p hp hu => ?_⟩
  obtain ⟨m, hm, hmatch, _⟩ := h1 k p hp hu
  exact ⟨m, hm, hmatch⟩

/-- The parser stack as `_act` sees it: grammar symbol and value (`_item.Sym`) of every slot, the
top of the stack last. (The bottom slot of the real stack, pushed by `parse` for state 0, carries
no symbol and is never read by `_act`.) -/
abbrev Stack (V : Values) := List (Term × V.Val)

/-- Every stack value conforms to the Go type lox derived for its symbol. -/
def StackOK (V : Values) (c : Case) (b : Binding) (stk : Stack V) : Prop :=
  ∀ sv ∈ stk, ∃ T, termTyF c b.ruleTy sv.1 = some T ∧ WellTyped V sv.2 T

/-- The moves of `parse` / `_recover` on the stack.
* shift of a token: the lexer's `ReadToken() (Token, int)` returns a value of static type `Token`;
* shift of ERROR: `_makeError()` / `_recover` supply a value of static type `Error`;
* reduce by production `p`: the top `len(Terms)` slots spell the production (an LR invariant,
  see `Lox.LR`), they are replaced by the rule and the value `_act(p)` returns;
* `_recover` pops slots (`p._stack.Pop(1)`, `p._stack = save`). -/
inductive Step (c : Case) (b : Binding) (V : Values) (call : Nat → List V.Val → V.Val) :
    Stack V → Stack V → Prop
  | shiftTok (stk : Stack V) (v : V.Val) : WellTyped V v c.tokenTy → Step c b V call stk (stk ++ [(.tok, v)])
  | shiftErr (stk : Stack V) (v : V.Val) : WellTyped V v c.errorTy → Step c b V call stk (stk ++ [(.err, v)])
  | reduce (stk seg : Stack V) (p : Nat) (pr : Prod) (res : V.Val) :
      c.prods[p]? = some pr → seg.map (·.1) = pr.terms →
      act c b V call (castTo V) p (seg.map (·.2)) = some res →
      Step c b V call (stk ++ seg) (stk ++ [(.rule pr.rule, res)])
  | pop (stk seg : Stack V) : Step c b V call (stk ++ seg) stk

inductive Reach (c : Case) (b : Binding) (V : Values) (call : Nat → List V.Val → V.Val) :
    Stack V → Prop
  | init : Reach c b V call []
  | step {s s' : Stack V} : Reach c b V call s → Step c b V call s s' → Reach c b V call s'

theorem argsOK_of_stack {V : Values} {c : Case} {b : Binding} :
    ∀ (seg : Stack V) (terms : List Term), StackOK V c b seg → seg.map (·.1) = terms →
      ArgsOK V c b.ruleTy terms (seg.map (·.2))
  | [], _, _, h => h ▸ .nil
  | sv :: seg, _, hok, h => by
    obtain ⟨T, hT, hw⟩ := hok sv List.mem_cons_self
    subst h
    exact .cons hT hw (argsOK_of_stack seg _ (fun x hx => hok x (List.mem_cons_of_mem _ hx)) rfl)

theorem stackOK_append {V : Values} {c : Case} {b : Binding} {s t : Stack V} :
    StackOK V c b (s ++ t) ↔ StackOK V c b s ∧ StackOK V c b t := by
  unfold StackOK
  simp only [List.mem_append]
  constructor
  · intro h; exact ⟨fun x hx => h x (Or.inl hx), fun x hx => h x (Or.inr hx)⟩
  · rintro ⟨h1, h2⟩ x (hx | hx)
    · exact h1 x hx
    · exact h2 x hx

theorem stackOK_single {V : Values} {c : Case} {b : Binding} {t : Term} {v : V.Val} {T : Ty}
    (h1 : termTyF c b.ruleTy t = some T) (h2 : WellTyped V v T) : StackOK V c b [(t, v)] := by
  intro sv hsv
  simp only [List.mem_cons, List.not_mem_nil, or_false] at hsv
  subst hsv; exact ⟨T, h1, h2⟩

/-- **The stack invariant.** Along every run of the generated parser every stack value conforms
to the Go type lox derived for its symbol: preserved by shifts (given what the lexer's static type
guarantees), by every user action (given that a method returns a value of its declared result
type, `hcall`) and by every synthesised helper action. -/
theorem stack_invariant {c : Case} (w : WF c) (ie : IdentEquiv c) {b : Binding}
    (h : assign c = .ok b) {V : Values} (L : V.Lawful c) (call : Nat → List V.Val → V.Val)
    (hcall : ∀ (i : Nat) m vs, c.methods[i]? = some m → WellTyped V (call i vs) m.ret)
    {stk : Stack V} (hr : Reach c b V call stk) : StackOK V c b stk := by
  have F := ok_facts w ie h
  induction hr with
  | init => intro sv hsv; cases hsv
  | step _ hstep ih =>
    cases hstep with
    | shiftTok stk v hv => exact stackOK_append.mpr ⟨ih, stackOK_single rfl hv⟩
    | shiftErr stk v hv => exact stackOK_append.mpr ⟨ih, stackOK_single rfl hv⟩
    | reduce stk seg p pr res hp hseg hact =>
      obtain ⟨h1, h2⟩ := stackOK_append.mp ih
      obtain ⟨o, ho, hw⟩ := act_spec L F call hcall hp (argsOK_of_stack seg pr.terms h2 hseg)
      obtain ⟨T, hT, hw⟩ := hw res ((ho _ fun _ _ => cast_of_wellTyped).symm.trans hact)
      exact stackOK_append.mpr ⟨h1, stackOK_single hT hw⟩
    | pop stk seg => exact (stackOK_append.mp ih).1

/-- **C06, values.** Whenever lox succeeded, at every reduction by a production of a user rule the
generated `_act` calls the production's unique matching method, and the arguments
`_cast[<type of term i>](slot i)` it passes are exactly the values on the stack – the value
produced for each term, never a substituted zero value – whatever Go types are involved: the cast
is to the TERM's type, to which the slot conforms by `stack_invariant`, and Go's assignability
converts to the parameter type. -/
theorem values_flow {c : Case} (w : WF c) (ie : IdentEquiv c) {b : Binding}
    (h : assign c = .ok b) {V : Values} (L : V.Lawful c) (call : Nat → List V.Val → V.Val)
    (hcall : ∀ (i : Nat) m vs, c.methods[i]? = some m → WellTyped V (call i vs) m.ret)
    {stk seg : Stack V} (hr : Reach c b V call (stk ++ seg))
    {p : Nat} {pr : Prod} (hp : c.prods[p]? = some pr) (hu : UserProd c pr)
    (hseg : seg.map (·.1) = pr.terms) :
    ∃ m, b.method[p]? = some (some m) ∧ Matches c pr m ∧ (∀ j, Matches c pr j → j = m) ∧
      act c b V call (castTo V) p (seg.map (·.2)) = some (call m (seg.map (·.2))) := by
  have hok := (stackOK_append.mp (stack_invariant w ie h L call hcall hr)).2
  obtain ⟨m, hm, hmatch, huniq⟩ := (assign_binding_sound w ie h).1 p pr hp hu
  exact ⟨m, hm, hmatch, huniq, act_user call hp hu hm (argsOK_of_stack seg pr.terms hok hseg)
    fun _ _ => cast_of_wellTyped⟩

/-- The same for the synthesised actions of helper rules (`x?`, `x*`, `x+`, `x*!`, `@list`): every
`_cast` they apply to a stack slot returns the slot's value, so no element of a list and no
optional value is replaced by a zero value (`fun _ v => v` is `_act` without any assertion). -/
theorem values_flow_helpers {c : Case} (w : WF c) (ie : IdentEquiv c) {b : Binding}
    (h : assign c = .ok b) {V : Values} (L : V.Lawful c) (call : Nat → List V.Val → V.Val)
    (hcall : ∀ (i : Nat) m vs, c.methods[i]? = some m → WellTyped V (call i vs) m.ret)
    {stk seg : Stack V} (hr : Reach c b V call (stk ++ seg))
    {p : Nat} {pr : Prod} (hp : c.prods[p]? = some pr) (hseg : seg.map (·.1) = pr.terms) :
    act c b V call (castTo V) p (seg.map (·.2)) = act c b V call (fun _ v => v) p (seg.map (·.2)) := by
  have hok := (stackOK_append.mp (stack_invariant w ie h L call hcall hr)).2
  obtain ⟨o, ho, _⟩ := act_spec L (ok_facts w ie h) call hcall hp (argsOK_of_stack seg pr.terms hok hseg)
  rw [ho _ fun _ _ => cast_of_wellTyped, ho _ fun _ _ _ => rfl]

/-- The documented derivation of helper-rule types, read off the binding itself:
`x?` ↦ type of `x`; `x+`, `x+!`, `@list(x, s)` ↦ slice of the type of `x` (`x` = the only term of the
rule's second production); `x*`, `x*!` ↦ the type of `x+`, `x+!`. -/
theorem helper_types {c : Case} (w : WF c) (ie : IdentEquiv c) {b : Binding}
    (h : assign c = .ok b) (r : Nat) (ru : Rule) (hr : c.rules[r]? = some ru) :
    (ru.gen = .zeroOrOne → ∃ p0 p1 x, ruleProds c r = [p0, p1] ∧ termsOf c p0 = [x] ∧
      termsOf c p1 = [] ∧ tyGet b.ruleTy r = termTyF c b.ruleTy x) ∧
    (isSliceGen (some ru.gen) = true → ∃ p0 p1 x T, ruleProds c r = [p0, p1] ∧ termsOf c p1 = [x] ∧
      termTyF c b.ruleTy x = some T ∧ tyGet b.ruleTy r = some (c.sliceOf T)) ∧
    (ru.gen = .zeroOrMore ∨ ru.gen = .zeroOrMoreF → ∃ p0 p1 h', ruleProds c r = [p0, p1] ∧
      termsOf c p0 = [.rule h'] ∧ termsOf c p1 = [] ∧ tyGet b.ruleTy r = tyGet b.ruleTy h') := by
  have F := ok_facts w ie h
  refine ⟨?_, ?_, ?_⟩
  · exact fun hg => pass_types F hr (Or.inl hg)
  · intro hg
    rw [← genOf_eq hr] at hg
    obtain ⟨p0, p1, x, hl, h1, _⟩ := shape_slice w hg
    obtain ⟨T, hT, hS⟩ := slice_types_of F hg hl h1
    exact ⟨p0, p1, x, T, hl, h1, hT, hS⟩
  · intro hg
    obtain ⟨p0, p1, h', hl, h0, h1, e⟩ := specTy_star w hr hg
    exact ⟨p0, p1, h', hl, h0, h1, by rw [F.ty, e, ← termTyF_spec F.ty]; rfl⟩

/-- `type Token …; type N []int; type S struct{…}`; grammar `s = A* n?`, `n = A`;
`func (p *P) on_s(a []Token, n []int) S` – the parameter `n []int` accepts the value of `n?`
(type `N`) by assignability only – `func (p *P) on_n(a Token) N`, and `_onBounds`.
Types: 0 `Token`, 1 `Error`, 2 `[]int`, 3 `N`, 4 `[]Token`, 5 `[]Error`, 6 `S`, 7 `[]N`, 8 `[]S`,
9 `[][]int`. -/
def exCase : Case where
  assignable a b := a == b || (a == 3 && b == 2) || (a == 2 && b == 3)
  identical a b := a == b
  sliceOf t := match t with | 0 => 4 | 1 => 5 | 3 => 7 | 6 => 8 | _ => 9
  tokenTy := 0
  errorTy := 1
  rules := [⟨"S'", .sprime⟩, ⟨"s", .user⟩, ⟨"n", .user⟩, ⟨"A*", .zeroOrMore⟩, ⟨"A+", .oneOrMore⟩,
    ⟨"n?", .zeroOrOne⟩]
  prods := [⟨0, [.rule 1]⟩, ⟨1, [.rule 3, .rule 5]⟩, ⟨2, [.tok]⟩, ⟨3, [.rule 4]⟩, ⟨3, []⟩,
    ⟨4, [.rule 4, .tok]⟩, ⟨4, [.tok]⟩, ⟨5, [.rule 2]⟩, ⟨5, []⟩]
  methods := [⟨"on_s", [4, 2], 1, 6, false⟩, ⟨"on_n", [0], 1, 3, false⟩,
    ⟨"_onBounds", [9, 0, 0], 0, 0, false⟩]

def exBinding : Binding :=
  ⟨[none, some 0, some 1, none, none, none, none, none, none],
   [none, some 6, some 3, some 4, some 4, some 3], true⟩

theorem exCase_wf : WF exCase := ⟨by decide +kernel, by decide +kernel, by decide +kernel⟩

theorem exCase_ident : IdentEquiv exCase :=
  ⟨fun t => beq_self_eq_true t, fun t u h => by rw [eq_of_beq h]; exact beq_self_eq_true u,
   fun t u v h1 h2 => by rw [eq_of_beq h1]; exact h2⟩

theorem exCase_ok : assign exCase = .ok exBinding := by decide +kernel

example : Spec exCase := (assign_ok_iff exCase_wf exCase_ident).mp ⟨_, exCase_ok⟩

/-- A failing case for `assign_diag_names`: the same package without `on_n`. -/
def exCaseBad : Case := { exCase with methods := [⟨"on_s", [4, 2], 1, 6, false⟩] }

example : WF exCaseBad := ⟨by decide +kernel, by decide +kernel, by decide +kernel⟩
example : assign exCaseBad = .fail [⟨.untyped, .rule 2⟩, ⟨.untyped, .rule 5⟩] := by decide +kernel

/-- A concrete universe of run-time values: dynamic type and an identity. All types of `exCase`
are concrete: the zero value of `T` has dynamic type `T`, `.(T)` succeeds on dynamic type `T` only. -/
def exV : Values where
  Val := Option Ty × Nat
  dyn v := v.1
  zero T := (some T, 0)
  conforms d T := d == T
  lit1 T e := (some (exCase.sliceOf T), e.2 + 1)
  app T l e := (some (exCase.sliceOf T), l.2 + e.2 + 1)
  discard v := v.2 % 2 == 0

theorem exV_lawful : exV.Lawful exCase where
  dyn_lit1 _ _ := rfl
  dyn_app _ _ _ := rfl
  conforms_slice T := beq_self_eq_true _
  conforms_ident d T T' h := by rw [eq_of_beq h]
  zero_ident T T' h := by rw [eq_of_beq h]

/-- Methods that return a value of their declared result type. -/
def exCall (i : Nat) (vs : List exV.Val) : exV.Val :=
  (((exCase.methods[i]?).map (·.ret)), 100 + vs.length)

theorem exCall_typed (i : Nat) (m : Method) (vs : List exV.Val) (h : exCase.methods[i]? = some m) :
    WellTyped exV (exCall i vs) m.ret := by
  left; simp [exCall, h, Values.passes, exV]

/-- `values_flow` is not vacuous: the stack `A` (one token) is reachable and `n = A` reduces it. -/
example : ∃ m, exBinding.method[2]? = some (some m) ∧
    act exCase exBinding exV exCall (castTo exV) 2 [(some 0, 7)] = some (exCall m [(some 0, 7)]) := by
  have hr : Reach exCase exBinding exV exCall ([] ++ [(Term.tok, ((some 0, 7) : exV.Val))]) :=
    Reach.step Reach.init (Step.shiftTok (c := exCase) (b := exBinding) (V := exV) (call := exCall)
      [] (some 0, 7) (Or.inl rfl))
  obtain ⟨m, h1, _, _, h4⟩ := values_flow exCase_wf exCase_ident exCase_ok exV_lawful exCall
    exCall_typed hr (p := 2) (pr := ⟨2, [.tok]⟩) rfl (by unfold UserProd; decide) rfl
  exact ⟨m, h1, h4⟩

/-- `values_flow_helpers` and `stack_invariant` are not vacuous either: `A+ = A` (production 6)
reduces the reachable stack `A`; the slice it builds is well typed for `[]Token`. -/
example :
    act exCase exBinding exV exCall (castTo exV) 6 [(some 0, 7)] =
      act exCase exBinding exV exCall (fun _ v => v) 6 [(some 0, 7)] ∧
    StackOK exV exCase exBinding [(Term.rule 4, ((some 4, 8) : exV.Val))] := by
  have hr : Reach exCase exBinding exV exCall ([] ++ [(Term.tok, ((some 0, 7) : exV.Val))]) :=
    Reach.step Reach.init (Step.shiftTok (c := exCase) (b := exBinding) (V := exV) (call := exCall)
      [] (some 0, 7) (Or.inl rfl))
  refine ⟨values_flow_helpers exCase_wf exCase_ident exCase_ok exV_lawful exCall exCall_typed hr
    (p := 6) (pr := ⟨4, [.tok]⟩) rfl rfl, ?_⟩
  have hr2 : Reach exCase exBinding exV exCall ([] ++ [(Term.rule 4, ((some 4, 8) : exV.Val))]) :=
    Reach.step hr (Step.reduce (c := exCase) (b := exBinding) (V := exV) (call := exCall)
      [] [(Term.tok, ((some 0, 7) : exV.Val))] 6 ⟨4, [.tok]⟩ (some 4, 8) rfl rfl rfl)
  exact stack_invariant exCase_wf exCase_ident exCase_ok exV_lawful exCall exCall_typed hr2

/-- **The repaired defect D4** (`_cast[<parameter type>]`, the template before the repair).
`on_s(a []Token, n []int)` is accepted for `s = A* n?` because `N` is assignable to `[]int`; the
value on the stack has dynamic type `N`; the OLD template asserted the PARAMETER's type `[]int`,
the assertion fails and the action received the zero value (`nil`). With the term's type the
value arrives. -/
example :
    exCase.assignable 3 2 = true ∧ exCase.identical 3 2 = false ∧
    castTo exV 2 ((some 3, 7) : exV.Val) = exV.zero 2 ∧           -- old: `_cast[[]int](v)`
    castTo exV 2 ((some 3, 7) : exV.Val) ≠ (some 3, 7) ∧
    castTo exV 3 ((some 3, 7) : exV.Val) = (some 3, 7) := by     -- repaired: `_cast[N](v)`
  refine ⟨by decide, by decide, rfl, ?_, rfl⟩
  show ((some 2, 0) : Option Ty × Nat) ≠ (some 3, 7)
  decide

end Lox.Props.C06
