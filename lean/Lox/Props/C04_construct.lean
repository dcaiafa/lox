import Lox.LR.ConstructTerm
import Lox.Examples.ConflictRuns
/-!
# C04 – the construction algorithm itself: the worklist of `ConstructLALR` builds the LALR(1) automaton

`Lox/LR/ConstructModel.lean` is an executable model of the main loop of `lr1.ConstructLALR`
(`/repo/internal/parsergen/lr1/construct.go`): start state = `Closure({[S' → ·S, EOF]})`; rounds
over the pending state KEYS in sorted order; for each pending state and each symbol of `Next` (in
name order – a parameter `ord` of the model, since names are not part of the grammar): `Goto`, then
merge into the state with the same `LR0Key` (re-queue it when an item was added) or add a new
state; transitions recorded. It is built on the models of `Closure`/`Goto`/`Next`/`LR0Key` of
`Lox/LR/GenModel.lean` and tied to the real code by the family `construct` (same states in
creation order, same items, same transitions).

The theorems hold for EVERY grammar whose terminals are below `nT` (`TermsBelow`, what
`lr.construct` checks) and every name order; the definition they refer to is `LALRItem`
(`Lox/LR/LALR.lean`) over the skeleton `skelOf st` whose edges are the recorded transitions.
-/
namespace Lox.Props.C04
open Lox.LR Lox.LR.Gen Lox.LR.Cons

section
variable {G : Grammar} {nT : Nat} {ord : List Sym}

/-- The loop ends within `constructFuel G nT =
2^numCores · (numCores·nT + 1) + 2` rounds and no step panics: there are at most `2^numCores`
states (distinct sorted kernels over `numCores` cores), each holds at most `numCores · nT` items,
and every round that leaves `pendingSet` non-empty adds a state or an item. -/
theorem construct_terminates (ht : TermsBelow G nT) (hp0 : ∃ pr, G.prods[0]? = some pr)
    (hnT : 0 < nT) (ord : List Sym) : ∃ st, construct G nT ord = some st := by
  obtain ⟨I0, hI0⟩ := closureGo_isSome ht (wf_startItem hp0 hnT)
  obtain ⟨st0, hinit⟩ : ∃ st0, initState G nT = some st0 := ⟨_, by rw [initState, hI0]⟩
  unfold construct constructWith
  rw [hinit]
  exact loop_isSome ht _ _ ⟨initState_inv ht hinit, initState_wf ht hp0 hnT hinit⟩
    (by unfold constructFuel; omega)

/-- **construct_sound** (loop invariant; any fuel, any name order): every item the algorithm puts
into a state is an LALR(1) item of that state by definition. -/
theorem construct_sound (ht : TermsBelow G nT) {fuel : Nat} {st : CState}
    (h : constructWith G nT ord fuel = some st) (s : Nat) (I : List Item) (it : Item)
    (hI : st.states[s]? = some I) (hit : it ∈ I) : LALRItem G (skelOf st) s it :=
  (construct_inv ht h).sound s I it hI hit

/-- When the loop ends (`pendingSet` empty) the item sets are CLOSED: the
start item is in state 0; every symbol after a dot has a transition and the advanced item is in
its target; every state is closed under the closure rule with the semantic FIRST; and distinct
states have distinct LR(0) kernels. (`OrdCovers`: `ord` lists every symbol of the grammar – `Next`
sorts the symbols it finds, it does not drop any.) -/
theorem construct_complete (ht : TermsBelow G nT) (hord : OrdCovers G ord) {fuel : Nat}
    {st : CState} (h : constructWith G nT ord fuel = some st) :
    st.pending = [] ∧ Closed G (skelOf st) ∧ KernelsDistinct (skelOf st) st.states.length := by
  obtain ⟨hb, hp⟩ := construct_between ht hord h
  exact ⟨hp, closed_of_between hb hp, kernelsDistinct_of_inv hb.inv⟩

/-- What the algorithm returns is the LALR(1) automaton by definition:
(1) the item set of every state is exactly its LALR(1) item set; (2) every viable prefix leads to
exactly one state, which holds the items valid for it; (3) distinct states have distinct kernels.
This is the conclusion of `conflict_check_sound`, here for ALL grammars instead of per run. -/
theorem construct_correct (ht : TermsBelow G nT) (hord : OrdCovers G ord) {st : CState}
    (h : construct G nT ord = some st) :
    (∀ s it, it ∈ st.states[s]?.getD [] ↔ LALRItem G (skelOf st) s it) ∧
    (∀ γ it, LR1Item G γ it → ∃ s, Path (skelOf st) 0 γ s ∧
      (∀ s', Path (skelOf st) 0 γ s' → s' = s) ∧ s < st.states.length ∧
      it ∈ st.states[s]?.getD []) ∧
    KernelsDistinct (skelOf st) st.states.length := by
  obtain ⟨_, hcl, hk⟩ := construct_complete ht hord h
  have hinv := construct_inv ht h
  refine ⟨fun s it => ⟨fun hit => ?_, fun hl => ?_⟩, fun γ it hl => ?_, hk⟩
  · obtain ⟨I, hs, hit⟩ := Util.mem_getD_nil.mp hit
    exact hinv.sound s I it hs hit
  · exact items_skelOf st s ▸ LALRItem.mem hcl hl
  · obtain ⟨s, hpath, hmem⟩ := hl.in_state hcl
    rw [items_skelOf] at hmem
    obtain ⟨I, hs, _⟩ := Util.mem_getD_nil.mp hmem
    exact ⟨s, hpath, fun s' hp' => hp'.det hpath, (List.getElem?_eq_some_iff.mp hs).1, hmem⟩

/-- Two name orders give the same automaton up to the numbering of the states: a viable prefix
reaches, under either order, a state with the same item set. -/
theorem construct_order_irrelevant (ht : TermsBelow G nT) {ord' : List Sym}
    (hord : OrdCovers G ord) (hord' : OrdCovers G ord') {st st' : CState}
    (h : construct G nT ord = some st) (h' : construct G nT ord' = some st')
    {γ : List Sym} {s s' : Nat} (hp : Path (skelOf st) 0 γ s) (hp' : Path (skelOf st') 0 γ s')
    (it : Item) (hit : LR1Item G γ it) :
    it ∈ st.states[s]?.getD [] ∧ it ∈ st'.states[s']?.getD [] := by
  obtain ⟨s1, hp1, hu1, _, hm1⟩ := (construct_correct ht hord h).2.1 γ it hit
  obtain ⟨s2, hp2, hu2, _, hm2⟩ := (construct_correct ht hord' h').2.1 γ it hit
  rw [hu1 s hp, hu2 s' hp']
  exact ⟨hm1, hm2⟩

end

/-! ## Non-vacuity: the model on the three grammars of `Lox/Examples/ConflictRuns.lean`

In the canonical form in which the harness compares (`canon`) the model's output is the output of
the real `ConstructLALR` recorded there (`cert`, `tr`), and it passes the checks of
`lr.conflict_check`. -/

theorem constructEx_amb : (construct VerdictEx.Amb.G 4 constructEx_ordAmb).map (canon constructEx_ordAmb) =
    some (VerdictEx.Amb.cert.toList, VerdictEx.Amb.tr.toList) :=
  VerdictEx.Amb.run.1

theorem constructEx_notLalr :
    (construct VerdictEx.NotLalr.G 7 constructEx_ordNotLalr).map (canon constructEx_ordNotLalr) =
    some (VerdictEx.NotLalr.cert.toList, VerdictEx.NotLalr.tr.toList) :=
  VerdictEx.NotLalr.run.1

theorem constructEx_prec :
    (construct VerdictEx.PrecOk.G 5 constructEx_ordPrec).map (canon constructEx_ordPrec) =
    some (VerdictEx.PrecOk.cert.toList, VerdictEx.PrecOk.tr.toList) :=
  VerdictEx.PrecOk.run.1

/-- The model's output passes the checks of `lr.conflict_check` and yields the verdict of the real
run: refused (ambiguous), refused (LR(1) but not LALR(1)), accepted (precedence). -/
theorem constructEx_checks :
    (construct VerdictEx.Amb.G 4 constructEx_ordAmb).map (fun st =>
      (conflictCheckB VerdictEx.Amb.G 4 2 st.transTab st.cert,
       verdictB VerdictEx.Amb.G 4 VerdictEx.Amb.info st.transTab st.cert)) = some (true, true) ∧
    (construct VerdictEx.NotLalr.G 7 constructEx_ordNotLalr).map (fun st =>
      (conflictCheckB VerdictEx.NotLalr.G 7 4 st.transTab st.cert,
       verdictB VerdictEx.NotLalr.G 7 VerdictEx.NotLalr.info st.transTab st.cert)) = some (true, true) ∧
    (construct VerdictEx.PrecOk.G 5 constructEx_ordPrec).map (fun st =>
      (conflictCheckB VerdictEx.PrecOk.G 5 2 st.transTab st.cert,
       verdictB VerdictEx.PrecOk.G 5 VerdictEx.PrecOk.info st.transTab st.cert)) = some (true, false) :=
  ⟨VerdictEx.Amb.run.2, VerdictEx.NotLalr.run.2, VerdictEx.PrecOk.run.2.1⟩

theorem constructEx_amb_terms : TermsBelow VerdictEx.Amb.G 4 := termsBelowB_iff.mp (by decide)

/-- The hypotheses of the theorems above hold on the refused ambiguous grammar `s = s s | A`. -/
example : TermsBelow VerdictEx.Amb.G 4 ∧ OrdCovers VerdictEx.Amb.G constructEx_ordAmb :=
  ⟨constructEx_amb_terms, ordCoversB_sound (by decide)⟩

/-- … so the state the model builds for the prefix `s s` (state 3) holds the LALR(1) item
`[s → s s ·, A]` by definition (`construct_sound`), the other half of the conflict. -/
example : ∃ st, construct VerdictEx.Amb.G 4 constructEx_ordAmb = some st ∧
    LALRItem VerdictEx.Amb.G (skelOf st) 3 ⟨1, 2, 2⟩ := by
  obtain ⟨st, hst⟩ := construct_terminates constructEx_amb_terms ⟨_, rfl⟩ (by decide)
    constructEx_ordAmb
  refine ⟨st, hst, ?_⟩
  have hc := constructEx_amb
  rw [hst] at hc
  simp only [Option.map_some, Option.some.injEq, canon, Prod.mk.injEq] at hc
  have h3 : (st.states.map sortItems)[3]? = some (VerdictEx.Amb.cert.toList[3]'(by decide)) := by
    rw [hc.1]; rfl
  rw [List.getElem?_map] at h3
  cases hs : st.states[3]? with
  | none => simp [hs] at h3
  | some I =>
    simp only [hs, Option.map_some, Option.some.injEq] at h3
    refine construct_sound constructEx_amb_terms hst 3 I _ hs ?_
    have : (⟨1, 2, 2⟩ : Item) ∈ sortItems I := by rw [h3]; decide
    exact mem_sortItems.mp this

end Lox.Props.C04
