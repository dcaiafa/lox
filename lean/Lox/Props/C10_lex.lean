import Lox.Lex.TableProofs
import Lox.Props.C02
/-! Property theorems for C10 (emitted tables faithful), lexer part: the emitted `_lexerModeN`
arrays, read back by the documented row format (`Lox.Lex.rowAt`), are safe to index, have sorted
and disjoint range rows, drive `PushRune` exactly as the decoded automaton, and (given a
successful `bisim` run) accept / reject / label every string as the rules do. -/
namespace Lox.Props.C10
open Lox.Lex

/-- `rowAt` reads the row of state `q` with the addressing of `PushRune`: offset `i = tbl[q]`,
`tbl[i] = len = 2 + 3·gotoN + 2·actions`, `tbl[i+1] = flags`, `tbl[i+2] = gotoN`, then the
triples, then the pairs, all inside the array. -/
theorem decode_layout {tbl : Mode} {q : Nat} {row : Row} (h : rowAt tbl q = some row) :
    ∃ i g a : Nat, tbl[q]? = some (i : Int) ∧ tbl[i]? = some ((2 + 3 * g + 2 * a : Nat) : Int) ∧
      tbl[i + 1]? = some row.flags ∧ tbl[i + 2]? = some (g : Int) ∧
      i + 3 + 3 * g + 2 * a ≤ tbl.size ∧
      row.trs = triplesAt tbl (i + 3) g ∧ row.acts = pairsAt tbl (i + 3 + 3 * g) a := by
  obtain ⟨i, g, a, L⟩ := rowAt_layout h
  exact ⟨i, g, a, L.off, L.count, L.flags, L.gotoN, L.fit, L.trs, L.acts⟩

/-- In a well-formed table every state has a row; its ranges are sorted by `lo`, pairwise
disjoint, non-empty, inside `0..0x10FFFF`, and every target is a state. -/
theorem rows_sorted_disjoint {tbl : Mode} (h : wfTable tbl = true) {q : Nat}
    (hq : q < nStates tbl) :
    ∃ row, rowAt tbl q = some row ∧
      List.Pairwise (fun a b : Triple => a.2.1 < b.1) row.trs ∧
      ∀ t ∈ row.trs, 0 ≤ t.1 ∧ t.1 ≤ t.2.1 ∧ t.2.1 ≤ maxRune ∧ 0 ≤ t.2.2 ∧ t.2.2 < nStates tbl := by
  obtain ⟨row, hrow, hok⟩ := wfTable_row h hq
  obtain ⟨_, hp, hall⟩ := rowOK_spec hok
  exact ⟨row, hrow, hp, hall⟩

/-- Transitions of a well-formed table stay inside the table and exist only on `0..0x10FFFF`
(never on `-1`, end of input). -/
theorem step_in_range {tbl : Mode} (h : wfTable tbl = true) {q : Nat} (hq : q < nStates tbl)
    {c : Int} {q' : Nat} (hstep : tableStep tbl q c = some q') :
    q' < nStates tbl ∧ 0 ≤ c ∧ c ≤ maxRune := by
  obtain ⟨h1, h2, h3, _⟩ := tableStep_spec h hq hstep
  exact ⟨h1, h2, h3⟩

/-- **No index out of range.** With all mode tables well formed (`Lox.Lex.wfModes` of
`Lox/Lex/Bisim.lean`: every table `wfTable`, push-mode parameters in range; unlike `Rt.wfModes`, the
hypothesis of C11, it does not ask that state 0 is non-accepting and without incoming edge, nor
for the shape of the action pairs) and the state machine pointing into them (`SMok`; true of the
initial state machine, see `smok_init`), `PushRune` on any rune reads only inside the arrays (the model's `.oob` = a Go index panic does not
happen) and leaves the state machine pointing into the tables: directly after any result other
than `_lexerError`, and after `Reset()` in any case. -/
theorem decode_wf (modes : Array Mode) (sm : SM) (c : Int) (hwf : wfModes modes = true)
    (hsm : SMok modes sm) :
    (pushRune modes sm c).1 ≠ .oob ∧
    ((pushRune modes sm c).1 ≠ .error → SMok modes (pushRune modes sm c).2) ∧
    SMok modes (pushRune modes sm c).2.reset :=
  pushRune_no_oob modes sm c hwf hsm

/-- The initial state machine points into well-formed (`Lox.Lex.wfModes`) tables. -/
theorem smok_init (modes : Array Mode) (hwf : wfModes modes = true) : SMok modes {} :=
  SMok.reset hwf (sm := {}) nofun

/-- `PushRune` over the raw array is the decoded automaton (see `C02.pushRune_consume`). -/
theorem pushRune_decoded (modes : Array Mode) (sm : SM) (m : Mode) (q : Nat) (c : Int)
    (hwf : wfTable m = true) (hmode : modes[sm.mode.getD 0]? = some m)
    (hstate : sm.state = (q : Int)) (hq : q < nStates m) :
    pushRune modes sm c =
      match tableStep m q c with
      | some q' => (.consume, { sm with mode := some (sm.mode.getD 0), state := (q' : Int) })
      | none => runPairs modes c (rowPairs m q) { sm with mode := some (sm.mode.getD 0) } :=
  pushRune_step modes sm m q c hwf hmode hstate hq

/-- **Faithfulness.** A table that passes `bisim` against the rules of its mode is well formed
and, decoded by the row format, agrees with the rules on every string. -/
theorem table_faithful {rules : List Rule} {tbl : Mode} (h : bisim rules tbl = .ok ()) :
    wfTable tbl = true ∧ ∀ s : List Int, tableRun tbl s = specRun rules s :=
  ⟨(Lox.Props.C02.bisim_checked h).1, Lox.Props.C02.bisim_sound h⟩

example : wfModes #[Lox.Props.C02.exTbl] = true := by decide +kernel

/-- A two-mode lexer with a push and a pop (hand-made): hypotheses of `decode_wf`. -/
example : wfModes #[#[2, 10, 7, 0, 1, 97, 97, 1, 1, 1, 4, 0, 0, 3, 2],
                    #[2, 8, 5, 0, 1, 98, 98, 1, 6, 0, 0, 2, 0, 3, 3]] = true := by decide +kernel

end Lox.Props.C10
