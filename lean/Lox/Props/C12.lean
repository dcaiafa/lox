import Lox.Dec.FrontText
import Lox.Props.C01
import Lox.Props.C06
import Lox.Props.C10
import Lox.Props.C11
import Lox.Props.C15
/-! # C12 "The generator never crashes" — the provable half

"For any bytes supplied as .lox files together with any Go package, lox terminates and either
writes all generated files and exits 0, or prints at least one diagnostic and exits non-zero. It
never panics, hangs, or exits 0 with missing or partial output."

Level *other*: go/packages, the Jet template engine, gofmt and the OS are not modelled, so the
universal statement is not a theorem. What is proved here, for ALL inputs, is that the panic sites
that grammar TEXT can steer are unreachable: the text → value helpers of the front end
(`Lox/Dec/FrontText.lean`, transcribing `internal/parser/parser.go`) never hit a panic arm or an
index out of range on anything the front end's own lexer lets through. The remaining sites are
listed, regenerated from source on every run and matched with `expect/panic_sites.json`
(`bin/check C12`); those covered by theorems of other properties are restated at the end so that
C12's evidence lists them. -/
namespace Lox.Props.C12
open Lox.Dec.FrontText

theorem hexVal_lt {d : Nat} (h : isHex d = true) : hexVal d < 16 := by
  simp only [isHex, Bool.or_eq_true, Bool.and_eq_true, decide_eq_true_eq] at h
  unfold hexVal
  split
  · omega
  · split <;> omega

theorem hex_ne_backslash {ds : List Nat} (hh : ∀ d ∈ ds, isHex d = true) : ∀ x ∈ ds, x ≠ 92 := by
  intro x hx
  have h := hh x hx
  simp only [isHex, Bool.or_eq_true, Bool.and_eq_true, decide_eq_true_eq] at h
  omega

theorem parseHexAcc_total : ∀ (ds : List Nat) (v k : Nat), v < 16 ^ k → k + ds.length ≤ 8 →
    (∀ d ∈ ds, isHex d = true) →
    ∃ v', parseHexAcc v ds = some v' ∧ v' < 16 ^ (k + ds.length)
  | [], v, _, hv, _, _ => ⟨v, rfl, hv⟩
  | d :: ds, v, k, hv, hk, hh => by
    have hd : isHex d = true := hh d List.mem_cons_self
    have hx := hexVal_lt hd
    have h1 : v * 16 + hexVal d < 16 ^ (k + 1) := by
      rw [Nat.pow_succ]
      omega
    have hk1 : k + 1 ≤ 8 := Nat.le_trans (Nat.add_le_add_left (Nat.le_add_left 1 _) k) hk
    have h3 : v * 16 + hexVal d < 4294967296 :=
      Nat.lt_of_lt_of_le h1 (Nat.pow_le_pow_right (by decide) hk1)
    have e : k + 1 + ds.length = k + (d :: ds).length := Nat.add_right_comm k 1 ds.length
    obtain ⟨v', hv', hb⟩ := parseHexAcc_total ds (v * 16 + hexVal d) (k + 1) h1 (e ▸ hk)
      (fun x hx => hh x (List.mem_cons_of_mem _ hx))
    refine ⟨v', ?_, e ▸ hb⟩
    rw [parseHexAcc, if_pos hd, if_pos h3]
    exact hv'

/-- On 1–8 hex digits `strconv.ParseUint(s, 16, 32)` succeeds (the value is
below 16^8 = 2^32), so `hexToRune` does not reach `panic(err)`. -/
theorem hexToRune_total (ds : List Nat) (h1 : 1 ≤ ds.length) (h8 : ds.length ≤ 8)
    (hh : ∀ d ∈ ds, isHex d = true) :
    ∃ v, parseHex32 ds = some v ∧ v < 4294967296 ∧ hexToRune ds = .ok (toRune v) := by
  obtain ⟨v, hv, hb⟩ := parseHexAcc_total ds 0 0 (by decide) ((Nat.zero_add _).symm ▸ h8) hh
  have hle : 16 ^ (0 + ds.length) ≤ 4294967296 := by
    have : (16 : Nat) ^ (0 + ds.length) ≤ 16 ^ 8 := Nat.pow_le_pow_right (by decide) ((Nat.zero_add _).symm ▸ h8)
    simpa using this
  have hp : parseHex32 ds = some v := by
    cases ds with
    | nil => simp at h1
    | cons d t => simpa [parseHex32] using hv
  exact ⟨v, hp, Nat.lt_of_lt_of_le hb hle, by simp [hexToRune, hp]⟩

/-- The bounds are needed: 9 digits overflow 32 bits, the empty string and a non-digit are syntax
errors — each of them is `panic(err)` in `hexToRune`. -/
example : hexToRune [49, 48, 48, 48, 48, 48, 48, 48, 48] = .panic "strconv.ParseUint" ∧
    hexToRune [] = .panic "strconv.ParseUint" ∧ hexToRune [52, 39] = .panic "strconv.ParseUint" := by
  decide +kernel

example : hexToRune [70, 102, 70, 70, 70, 70, 70, 70] = .ok (-1) ∧ hexToRune [52, 49] = .ok 65 := by
  decide +kernel

/-! `unescapeC` on each of the five units of `WellEscaped`. -/

theorem unescapeC_plain (cap : List Nat) {b : Nat} (rest : List Nat) (hb : b ≠ 92) :
    unescapeC cap (b :: rest) = (unescapeC cap rest).map (b :: ·) := by
  rw [unescapeC.eq_def]; exact if_pos hb

theorem unescapeC_simple (cap : List Nat) {c x : Nat} (rest : List Nat) (hx : simpleEsc c = some x) :
    unescapeC cap (92 :: c :: rest) = (unescapeC cap rest).map (x :: ·) := by
  rw [unescapeC.eq_def]; simp only [ne_eq, not_true_eq_false, if_false, hx]

theorem unescapeC_hex2 (cap : List Nat) {ds : List Nat} (rest : List Nat) (hl : ds.length = 2) :
    unescapeC cap (92 :: 120 :: (ds ++ rest)) =
      (hexToRune ds).bind fun v => (unescapeC cap rest).map (toByte v :: ·) :=
  match ds, hl with
  | [_, _], _ => by rw [unescapeC.eq_def]; rfl

theorem unescapeC_hex4 (cap : List Nat) {ds : List Nat} (rest : List Nat) (hl : ds.length = 4) :
    unescapeC cap (92 :: 117 :: (ds ++ rest)) =
      (hexToRune ds).bind fun v => (unescapeC cap rest).map (encodeRune v ++ ·) :=
  match ds, hl with
  | [_, _, _, _], _ => by rw [unescapeC.eq_def]; rfl

theorem unescapeC_hex8 (cap : List Nat) {ds : List Nat} (rest : List Nat) (hl : ds.length = 8) :
    unescapeC cap (92 :: 85 :: (ds ++ rest)) =
      (hexToRune ds).bind fun v => (unescapeC cap rest).map (encodeRune v ++ ·) :=
  match ds, hl with
  | [_, _, _, _, _, _, _, _], _ => rfl

/-- On every byte string made of the units the `Literal` / `ClassChar` lexer
modes accept, `unescape` returns a value, the same for every capacity of the slice: `lit[i+1]` and
the slices `lit[i+2:i+4]`, `[i+2:i+6]`, `[i+2:i+10]` stay below `len(lit)`, `hexToRune` gets hex
digits, and the `default: panic("unreachable")` arm is not taken. -/
theorem unescape_total {l : List Nat} (h : WellEscaped l) : ∃ v, ∀ cap, unescapeC cap l = .ok v := by
  induction h with
  | nil => exact ⟨[], fun _ => rfl⟩
  | plain b rest hb _ ih =>
    obtain ⟨v, hv⟩ := ih
    exact ⟨b :: v, fun cap => by rw [unescapeC_plain cap rest hb, hv cap]; rfl⟩
  | simple c rest hs _ ih =>
    obtain ⟨v, hv⟩ := ih
    obtain ⟨x, hx⟩ := Option.isSome_iff_exists.mp hs
    exact ⟨x :: v, fun cap => by rw [unescapeC_simple cap rest hx, hv cap]; rfl⟩
  | hex2 ds rest hl hh _ ih =>
    obtain ⟨v, hv⟩ := ih
    obtain ⟨w, _, _, hw⟩ := hexToRune_total ds (hl ▸ by decide) (hl ▸ by decide) hh
    exact ⟨toByte (toRune w) :: v, fun cap => by rw [unescapeC_hex2 cap rest hl, hw, hv cap]; rfl⟩
  | hex4 ds rest hl hh _ ih =>
    obtain ⟨v, hv⟩ := ih
    obtain ⟨w, _, _, hw⟩ := hexToRune_total ds (hl ▸ by decide) (hl ▸ by decide) hh
    exact ⟨encodeRune (toRune w) ++ v, fun cap => by rw [unescapeC_hex4 cap rest hl, hw, hv cap]; rfl⟩
  | hex8 ds rest hl hh _ ih =>
    obtain ⟨v, hv⟩ := ih
    obtain ⟨w, _, _, hw⟩ := hexToRune_total ds (hl ▸ by decide) (Nat.le_of_eq hl) hh
    exact ⟨encodeRune (toRune w) ++ v, fun cap => by rw [unescapeC_hex8 cap rest hl, hw, hv cap]; rfl⟩

/-- The `Literal` mode's language is well escaped. -/
theorem litBody_wellEscaped {l : List Nat} (h : LitBody l) : WellEscaped l := by
  induction h with
  | nil => exact .nil
  | plain b rest hb _ _ ih => exact .plain b rest hb ih
  | simple c rest hc _ ih =>
    refine .simple c rest ?_ ih
    rcases hc with rfl | rfl | rfl | rfl | rfl <;> decide
  | hex2 ds rest hl hh _ ih => exact .hex2 ds rest hl hh ih
  | hex4 ds rest hl hh _ ih => exact .hex4 ds rest hl hh ih
  | hex8 ds rest hl hh _ ih => exact .hex8 ds rest hl hh ih

theorem plain_wellEscaped : ∀ {bs : List Nat}, (∀ b ∈ bs, b ≠ 92) → WellEscaped bs
  | [], _ => .nil
  | b :: t, h => .plain b t (h b (by simp)) (plain_wellEscaped fun x hx => h x (by simp [hx]))

/-- One `CLASS_CHAR` token of the `ClassChar` mode is well escaped. -/
theorem classChar_wellEscaped {l : List Nat} (h : ClassChar l) : WellEscaped l := by
  cases h with
  | simple c hc =>
    refine .simple c [] ?_ .nil
    rcases hc with rfl | rfl | rfl | rfl | rfl <;> decide
  | hex2 ds hl hh => simpa using WellEscaped.hex2 ds [] hl hh .nil
  | hex4 ds hl hh => simpa using WellEscaped.hex4 ds [] hl hh .nil
  | hex8 ds hl hh => simpa using WellEscaped.hex8 ds [] hl hh .nil
  | other bs _ hb => exact plain_wellEscaped fun b hm => (hb b hm).1

/-- `unescape` on a class character (the use in `on_char_class`). -/
theorem unescape_total_classChar {l : List Nat} (h : ClassChar l) : ∃ v, ∀ cap, unescapeC cap l = .ok v :=
  unescape_total (classChar_wellEscaped h)

/-- With a capacity beyond the length a truncated escape does not panic in Go: it reads the bytes
behind the token (here the closing quote is not a hex digit, `panic(err)`; a hex digit is taken). -/
example : unescapeC [] [92, 120, 52] = .panic "slice bounds out of range" ∧
    unescapeC [39] [92, 120, 52] = .panic "strconv.ParseUint" ∧
    unescapeC [49] [92, 120, 52] = .ok [65] := by decide +kernel

/-- Non-vacuity: `a\n\x41é` is a literal body; the value is `a`, newline, `A`, `é`. -/
example : LitBody [97, 92, 110, 92, 120, 52, 49, 92, 117, 48, 48, 101, 57] ∧
    unescape [97, 92, 110, 92, 120, 52, 49, 92, 117, 48, 48, 101, 57] = .ok [97, 10, 65, 195, 169] := by
  refine ⟨?_, by decide +kernel⟩
  refine .plain 97 _ (by decide) (by decide) (.simple 110 _ (by decide) ?_)
  refine .hex2 [52, 49] _ rfl (by decide) ?_
  exact .hex4 [48, 48, 101, 57] [] rfl (by decide) .nil

/-- What the hypothesis excludes, each a Go panic: a backslash at the end (`lit[i+1]`), a short
`\x` (`lit[i+2:i+4]`), a non-hex digit (`panic(err)`), an unknown escape (`panic("unreachable")`). -/
example : unescape [92] = .panic "index out of range" ∧
    unescape [92, 120, 52] = .panic "slice bounds out of range" ∧
    unescape [92, 120, 52, 113] = .panic "strconv.ParseUint" ∧
    unescape [92, 113] = .panic "unreachable" := by decide +kernel

/-- D24 (repaired upstream): before the repair the `ClassChar` fallback `~[\n-]` let a lone
backslash through as a CLASS_CHAR; it is not in the language any more, and `unescape` panics on it. -/
example : ¬ ClassChar classCharPinnedWitness ∧ unescape classCharPinnedWitness = .panic "index out of range" := by
  refine ⟨?_, by decide +kernel⟩
  intro h
  cases h with
  | other bs _ hb => exact (hb 92 (by simp [classCharPinnedWitness])).1 rfl

/-- A `LITERAL` token is a quote, a literal body and a quote (length ≥ 2):
`lit[1:len(lit)-1]` is in range and is exactly the body, on which `unescape` is total (for every
capacity of the token's slice). -/
theorem fixLiteral_total {body : List Nat} (h : LitBody body) :
    (∀ cap, fixLiteralC cap (39 :: body ++ [39]) = unescapeC (39 :: cap) body) ∧
    ∃ v, ∀ cap, fixLiteralC cap (39 :: body ++ [39]) = .ok v := by
  have h1 : ∀ cap, fixLiteralC cap (39 :: body ++ [39]) = unescapeC (39 :: cap) body := by
    intro cap
    have hlen : (39 :: body ++ [39]).length = body.length + 2 := by
      rw [List.length_append]; rfl
    rw [fixLiteralC, if_neg (hlen ▸ Nat.not_lt.mpr (Nat.le_add_left 2 _)), hlen]
    show unescapeC ((body ++ [39]).drop body.length ++ cap) (body ++ [39]).dropLast = _
    rw [List.drop_left, List.dropLast_concat]
    rfl
  obtain ⟨v, hv⟩ := unescape_total (litBody_wellEscaped h)
  exact ⟨h1, v, fun cap => by rw [h1 cap]; exact hv _⟩

/-- Shorter token texts are the `slice bounds out of range` panic (the lexer never produces them). -/
example : fixLiteral [39] = .panic "slice bounds out of range" ∧ fixLiteral [] = .panic "slice bounds out of range" ∧
    fixLiteral [39, 39] = .ok [] := by decide +kernel

theorem checkEscapes_skip (cap : List Nat) : ∀ (ds tail : List Nat) (pos : Nat),
    (∀ x ∈ ds, x ≠ 92) →
    checkEscapesC cap pos (ds ++ tail) = checkEscapesC cap (pos + ds.length) tail
  | [], _, _, _ => rfl
  | d :: t, tail, pos, h => by
    have ih := checkEscapes_skip cap t tail (pos + 1) fun x hx => h x (List.mem_cons_of_mem _ hx)
    rw [List.length_cons, ← Nat.add_assoc, Nat.add_right_comm, ← ih, List.cons_append]
    cases t ++ tail with
    | nil => rfl
    | cons c r => rw [checkEscapesC, if_pos (h d (by simp))]

theorem checkEscapes_plain (cap : List Nat) (l : List Nat) (pos : Nat) (h : ∀ x ∈ l, x ≠ 92) :
    checkEscapesC cap pos l = .ok [] := by
  have := checkEscapes_skip cap l [] pos h
  rwa [List.append_nil] at this

theorem checkEscapes_esc (cap : List Nat) (pos : Nat) {c : Nat} (rest : List Nat) (h1 : c ≠ 117)
    (h2 : c ≠ 85) : checkEscapesC cap pos (92 :: c :: rest) = checkEscapesC cap (pos + 2) rest := by
  simp only [checkEscapesC, ne_eq, not_true_eq_false, if_false, if_neg h1, if_neg h2, if_true]

/-- `\u` + 4 hex digits (`c = 117`, `n = 4`) and `\U` + 8 (`c = 85`, `n = 8`) inside the text:
the slice `lit[i+2:i+2+n]` is the digits, whatever follows. -/
theorem checkEscapes_hex (cap : List Nat) (pos : Nat) {c n : Nat}
    (hc : c = 117 ∧ n = 4 ∨ c = 85 ∧ n = 8) {ds : List Nat} (tail : List Nat) (hl : ds.length = n)
    (hh : ∀ d ∈ ds, isHex d = true) :
    ∃ w, checkEscapesC cap pos (92 :: c :: (ds ++ tail)) =
      (checkEscapesC cap (pos + 2 + n) tail).map fun r =>
        if validRune (toRune w) then r else pos :: r := by
  have hb : 1 ≤ n ∧ n ≤ 8 := by rcases hc with ⟨-, rfl⟩ | ⟨-, rfl⟩ <;> decide
  obtain ⟨w, _, _, hw⟩ := hexToRune_total ds (hl ▸ hb.1) (hl ▸ hb.2) hh
  have hn : (if c = 117 then 4 else if c = 85 then 8 else 0) = n := by
    rcases hc with ⟨rfl, rfl⟩ | ⟨rfl, rfl⟩ <;> rfl
  have htake : (ds ++ tail ++ cap).take n = ds := by
    rw [List.append_assoc, ← hl]; exact List.take_left
  have hlen : ¬ (ds ++ tail ++ cap).length < n := by
    rw [List.append_assoc, List.length_append, hl]; exact Nat.not_lt.mpr (Nat.le_add_right _ _)
  have h0 : n ≠ 0 := Nat.ne_of_gt hb.1
  refine ⟨w, ?_⟩
  simp only [checkEscapesC, ne_eq, not_true_eq_false, if_false, hn, if_neg h0, if_neg hlen, htake,
    hw, Res.bind, checkEscapes_skip cap ds tail (pos + 2) (hex_ne_backslash hh), hl]

theorem checkEscapes_wellEscaped (cap : List Nat) {l : List Nat} (h : WellEscaped l) :
    ∀ (pos : Nat) (suf : List Nat), (∀ x ∈ suf, x ≠ 92) →
      ∃ v, checkEscapesC cap pos (l ++ suf) = .ok v := by
  induction h with
  | nil => exact fun pos suf hs => ⟨[], checkEscapes_plain cap suf pos hs⟩
  | plain b rest hb _ ih =>
    intro pos suf hs
    have := checkEscapes_skip cap [b] (rest ++ suf) pos (by simpa using hb)
    exact this ▸ ih (pos + 1) suf hs
  | simple c rest hc _ ih =>
    intro pos suf hs
    have h117 : c ≠ 117 := by rintro rfl; exact absurd hc (by decide)
    have h85 : c ≠ 85 := by rintro rfl; exact absurd hc (by decide)
    exact checkEscapes_esc cap pos (rest ++ suf) h117 h85 ▸ ih (pos + 2) suf hs
  | hex2 ds rest hl hh _ ih =>
    intro pos suf hs
    rw [List.cons_append, List.cons_append, List.append_assoc,
      checkEscapes_esc cap pos _ (by decide) (by decide),
      checkEscapes_skip cap ds _ (pos + 2) (hex_ne_backslash hh)]
    exact ih _ suf hs
  | hex4 ds rest hl hh _ ih =>
    intro pos suf hs
    obtain ⟨w, hw⟩ := checkEscapes_hex cap pos (.inl ⟨rfl, rfl⟩) (rest ++ suf) hl hh
    obtain ⟨v, hv⟩ := ih (pos + 2 + 4) suf hs
    exact ⟨_, by rw [List.cons_append, List.cons_append, List.append_assoc, hw, hv]; rfl⟩
  | hex8 ds rest hl hh _ ih =>
    intro pos suf hs
    obtain ⟨w, hw⟩ := checkEscapes_hex cap pos (.inr ⟨rfl, rfl⟩) (rest ++ suf) hl hh
    obtain ⟨v, hv⟩ := ih (pos + 2 + 8) suf hs
    exact ⟨_, by rw [List.cons_append, List.cons_append, List.append_assoc, hw, hv]; rfl⟩

/-- `checkEscapes` runs over the whole token text: on a `LITERAL` (quote,
body, quote) and on a `CLASS_CHAR` the slice `lit[i+2:i+2+n]` stays inside the token and
`hexToRune` gets hex digits, so it returns (a possibly empty list of diagnostics) instead of
panicking, whatever lies behind the token in the buffer. -/
theorem checkEscapes_total (cap : List Nat) :
    (∀ body, LitBody body → ∃ v, checkEscapesC cap 0 (39 :: body ++ [39]) = .ok v) ∧
    (∀ tok, ClassChar tok → ∃ v, checkEscapesC cap 0 tok = .ok v) := by
  constructor
  · intro body hb
    have hw : WellEscaped (39 :: body) := .plain 39 body (by decide) (litBody_wellEscaped hb)
    simpa using checkEscapes_wellEscaped cap hw 0 [39] (by simp)
  · intro tok ht
    simpa using checkEscapes_wellEscaped cap (classChar_wellEscaped ht) 0 [] (by simp)

/-- `'\uD800'` gets the diagnostic at offset 1 (D14's repair), `'é'` none; a truncated `\u`
would be the slice panic. -/
example : checkEscapes 0 [39, 92, 117, 68, 56, 48, 48, 39] = .ok [1] ∧
    checkEscapes 0 [39, 92, 117, 48, 48, 101, 57, 39] = .ok [] ∧
    checkEscapes 0 [92, 117, 48, 48] = .panic "slice bounds out of range" := by decide +kernel

theorem qualifU_total (ds : List Nat) : qualifU ds = .diag ∨ ∃ n, 0 < n ∧ qualifU ds = .prec n := by
  unfold qualifU
  cases atoi ds with
  | none => exact .inl rfl
  | some v =>
    by_cases h : v = 0
    · exact .inl (by simp [h])
    · exact .inr ⟨v, Nat.pos_of_ne_zero h, by simp [h]⟩

/-- For every token text (in particular every digit string, `NUM = [0-9]+`) the
result is the diagnostic or a POSITIVE number. -/
theorem qualif_total (ds : List Nat) : qualif ds = .diag ∨ ∃ n, 0 < n ∧ qualif ds = .prec n := by
  unfold qualif
  split
  · exact qualifU_total _
  · exact .inl rfl
  · exact qualifU_total _

/-- The conversion never panics, on any bytes. -/
theorem qualif_never_panics (ds : List Nat) (m : String) : qualif ds ≠ .panic m := by
  rcases qualif_total ds with h | ⟨n, _, h⟩
  · rw [h]
    exact fun h => nomatch h
  · rw [h]
    exact fun h => nomatch h

def decVal (acc : Nat) (ds : List Nat) : Nat := ds.foldl (fun a d => a * 10 + (d - 48)) acc

theorem decVal_ge (ds : List Nat) : ∀ acc, acc ≤ decVal acc ds := by
  induction ds with
  | nil => intro acc; exact Nat.le_refl _
  | cons d t ih =>
    intro acc
    have := ih (acc * 10 + (d - 48))
    simp only [decVal, List.foldl_cons] at this ⊢
    omega

theorem atoiAcc_eq : ∀ (ds : List Nat) (acc : Nat), (∀ d ∈ ds, isDigit d = true) →
    atoiAcc acc ds = if decVal acc ds < 9223372036854775808 ∨ ds = [] then some (decVal acc ds) else none
  | [], _, _ => (if_pos (.inr rfl)).symm
  | d :: t, acc, h => by
    have ht := atoiAcc_eq t (acc * 10 + (d - 48)) fun x hx => h x (List.mem_cons_of_mem _ hx)
    have hge := decVal_ge t (acc * 10 + (d - 48))
    rw [atoiAcc, if_pos (h d List.mem_cons_self), show decVal acc (d :: t) =
      decVal (acc * 10 + (d - 48)) t from rfl]
    by_cases hlt : acc * 10 + (d - 48) < 9223372036854775808
    · rw [if_pos hlt, ht]
      cases t with
      | nil => rw [if_pos (.inr rfl), if_pos (.inl hlt)]
      | cons x r => simp only [List.cons_ne_nil, or_false]
    · rw [if_neg hlt, if_neg fun h' => h'.elim (fun h' => hlt (Nat.lt_of_le_of_lt hge h'))
        (List.cons_ne_nil d t)]

/-- What the conversion computes on `NUM = [0-9]+`: the decimal value when it is positive and fits
an `int` (< 2^63), the diagnostic otherwise (`0`, `000`, 2^63 and above). -/
theorem qualif_value (ds : List Nat) (hne : ds ≠ []) (hd : ∀ d ∈ ds, isDigit d = true) :
    qualif ds = if 0 < decVal 0 ds ∧ decVal 0 ds < 9223372036854775808 then .prec (decVal 0 ds) else .diag := by
  have ha : atoi ds = if decVal 0 ds < 9223372036854775808 then some (decVal 0 ds) else none := by
    cases ds with
    | nil => exact absurd rfl hne
    | cons d t => simpa [atoi] using atoiAcc_eq (d :: t) 0 hd
  have hq : qualif ds = qualifU ds := by
    cases ds with
    | nil => rfl
    | cons d t =>
      have hdd : isDigit d = true := hd d (by simp)
      simp only [isDigit, Bool.and_eq_true, decide_eq_true_eq] at hdd
      unfold qualif
      split
      · rename_i heq; simp at heq; omega
      · rename_i heq; simp at heq; omega
      · rfl
  rw [hq]
  unfold qualifU
  rw [ha]
  by_cases h1 : decVal 0 ds < 9223372036854775808
  · by_cases h2 : decVal 0 ds = 0
    · simp [h2]
    · have : 0 < decVal 0 ds := Nat.pos_of_ne_zero h2
      simp [h1, h2, this]
  · simp [h1]

/-- D11, as pinned and as repaired: `@left(0)` and `@left(99999999999999999999)`. -/
example :
    qualifPinned [48] = .panic "precedence must be positive" ∧ qualif [48] = .diag ∧
    qualifPinned [57, 57, 57, 57, 57, 57, 57, 57, 57, 57, 57, 57, 57, 57, 57, 57, 57, 57, 57, 57] = .panic "strconv.Atoi" ∧
    qualif [57, 57, 57, 57, 57, 57, 57, 57, 57, 57, 57, 57, 57, 57, 57, 57, 57, 57, 57, 57] = .diag ∧
    qualif [52, 50] = .prec 42 ∧ qualif [43, 49] = .prec 1 ∧ qualif [45, 49] = .diag := by decide +kernel

/-- The five `case` conditions of the `switch` in `Subtract` (range.go) are a complete case split
for any two ranges, so the `default` arm is dead code (no invariant is needed). -/
theorem subtract_cases_exhaustive (aB aE bB bE : Int) :
    aB > bE ∨ (aB ≥ bB ∧ aE ≤ bE) ∨ (aB < bB ∧ aE > bE) ∨ (aB < bB ∧ aE ≤ bE) ∨ (aB ≥ bB ∧ aE > bE) := by
  omega

/-- `rang3.Normalize` never reaches `panic("not reached")` (ranges with `b ≤ e`). -/
theorem normalize_total : type_of% @Lox.Props.C15.normalize_total := @Lox.Props.C15.normalize_total

/-- `table.AddRow` panics exactly when the indices are not increasing. -/
theorem build_total : type_of% @Lox.Props.C10.build_total := @Lox.Props.C10.build_total

/-- The generated `PushRune` never indexes a well-formed mode table out of range. -/
theorem no_oob : type_of% @Lox.Props.C11.no_oob := @Lox.Props.C11.no_oob

/-- The generated `parse()` never panics on validated tables. -/
theorem parse_no_panic : type_of% @Lox.Props.C01.parse_no_panic := @Lox.Props.C01.parse_no_panic

/-- `AssignActions` reaches none of its asserts / index / type-assertion panics on well-formed input. -/
theorem assign_no_panic : type_of% @Lox.Props.C06.assign_no_panic := @Lox.Props.C06.assign_no_panic

end Lox.Props.C12
