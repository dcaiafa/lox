import Lox.LR.RuntimeProofsRecover
import Lox.LR.RuntimeProofsErrors
import Lox.LR.RuntimeProofsTerm
import Lox.LR.RuntimeProofsCheck
import Lox.LR.RuntimeProofsCover
import Lox.LR.RuntimeSoundPanic
import Lox.LR.RuntimeSoundTerm
import Lox.LR.RuntimeSoundFirst
import Lox.LR.RuntimeSoundExample
/-! # C09 Syntax errors: terminate, never accept silently, blame the right token

"For every accepted grammar and every finite token sequence, including lexer ERROR tokens, parse()
terminates without panicking. Reading @error as a terminal that only the parser itself can supply:
if the sequence is not a sentence, parse() either returns false or delivers at least one Error to
an @error action, and the first Error delivered carries the first token at which the input stops
being a prefix of any sentence. When parse() returns true, the symbols it consumed (input tokens in
order, possibly with stretches replaced by @error) form a sentence."

All theorems are about the executable model `Lox.LR.parse` (`Lox/LR/Model.lean`, transcribing
`parserTemplate` in `internal/codegen/emit_parser.go`, including the `_recovering` flag of fix F12).

* Sections (a)–(d) and "consumed symbols": structural facts about `_recover` and the main loop for
  ARBITRARY tables, inputs and fuel; where a table-level hypothesis is needed (`NoShiftEOF`,
  `AcceptOnlyEOF`, a ranking of the simulation graph) it is decidable, comes with a checker proved
  sound, and is shown to hold on tables emitted by the real generator.
* Section "On validated tables": the grammar half, for tables that pass the validator
  (`checkSafe`/`check`, `termB`, `recoveryOKB`): `accepted_edit_is_sentence`, `error_delivered`,
  `no_silent_accept`, `parse_no_panic`, `parse_terminates`/`parse_total`,
  `first_error_token_partial`, `sentence_never_recovers`. They combine the runtime facts with the
  LR theory of `Lox/LR/{Abstract,Sound,Complete,CheckSound,Refine,Terminate,TermSound}.lean`
  (proofs in `Lox/LR/RuntimeSound*.lean`).
The correct-prefix half of "blame the right token" is in `Lox/Props/C09_prefix.lean`.

Vocabulary (`Lox/LR/RuntimeDefs.lean`): `remaining inp s` = tokens the lexer has not delivered yet
+ 1 if the queued lookahead is a real token + 1 if the lookahead is a real token (real = neither
EOF nor ERROR); `parseG` = `parse` with a ghost counter of the `_recover()` calls that returned
`true`; `Delivered log` = some action call in the log has an `Error` argument. -/
namespace Lox.Props.C09
open Lox.LR Lox.LR.Rt

/-! ## (a) What a successful `_recover()` returns -/

/-- If `_recover()` returns `true` then: the lookahead is ERROR; `_lasym` is an
`Error` carrying the token that was the lookahead when the error was detected (a pending lexer
`Error` is passed on unchanged, otherwise it is `_makeError()` = that token plus the keys of the
action row of the state on top); `_recovering` is set; the stack is a suffix of the old stack
whose top state has an action on ERROR (shift or reduce) from which the inner simulation reaches
a state that shifts ERROR and has an action on the queued lookahead; the log is untouched; the
queued lookahead `_qla` is the lookahead of a state `s1` obtained by reading on from a state
`s0` whose lookahead is not ERROR. (`s1 = s0` unless tokens were dropped by the outer loop; see
`qla_real` and the example after it for why `_qla ≠ ERROR` needs a hypothesis.) -/
theorem recover_result {T : Tables} {inp : Array Nat} {fuel : Nat} {s s' : PState}
    (h : recover T inp fuel s = .ok s') :
    s'.la = tERROR ∧
    (∃ i ty ex, s'.lasym = .err i ty ex ∧ symTokIdx s.lasym = some i ∧
      (s.lasym = .err i ty ex ∨ (s.lasym = .tok i ty ∧ ∃ st, topState s.stack = some st ∧
        rowKeys T.actions st = some ex))) ∧
    s'.recovering = true ∧
    s'.stack <:+ s.stack ∧
    s'.log = s.log ∧
    (∃ top v, topState s'.stack = some top ∧ find T.actions top tERROR = .hit v ∧
      simulate T s'.qla fuel top = .found) ∧
    (∃ s0 s1, Reads T inp s s0 ∧ s0.la ≠ tERROR ∧ Reads T inp s0 s1 ∧
      s'.qla = s1.la ∧ s'.qlasym = s1.lasym ∧ s'.pos = s1.pos ∧ s'.reads = s1.reads) :=
  Rt.recover_result h

/-- When the lexer delivers no ERROR token (and none is queued), the lookahead queued by a
successful `_recover()` is a real token or EOF, never ERROR. -/
theorem qla_real {T : Tables} {inp : Array Nat} {fuel : Nat} {s s' : PState}
    (hinp : ∀ i : Nat, inp[i]? ≠ some 1) (hq : s.qla ≠ tERROR)
    (h : recover T inp fuel s = .ok s') : s'.qla ≠ tERROR :=
  recover_qla_real hinp hq h

/-- Hand-made tables (state 0 shifts ERROR to 1, state 1 shifts ERROR to 2). -/
def Tq : Tables :=
  { rules := #[], termCounts := #[], actions := #[2, 5, 2, 1, 1, 2, 1, 2], gotos := #[] }

/-- The hypothesis of `qla_real` is needed: on input `X <lexer ERROR>` the outer loop of `_recover`
drops `X`, reads the lexer ERROR token and finds a recovery point for it: the queued lookahead
is ERROR (with the lexer's `Error` as its value). -/
example : (match readToken Tq #[5, 1] initState with
    | .ok s1 => (match recover Tq #[5, 1] 10 s1 with
      | .ok s' => some (s'.qla, s'.qlasym.isErr)
      | _ => none)
    | _ => none) = some (tERROR, true) := by
  decide

/-! ## (b) Progress of recovery -/

/-- A successful `_recover()` never increases the remaining input nor moves
the lexer backwards, and when `_recovering` was set on entry (no real token shifted since the
previous recovery) it strictly decreases the remaining input: the offending token is dropped. -/
theorem recover_progress {T : Tables} {inp : Array Nat} {fuel : Nat} {s s' : PState}
    (h : recover T inp fuel s = .ok s') :
    remaining inp s' ≤ remaining inp s ∧ s.pos ≤ s'.pos ∧
    (s.recovering = true → remaining inp s' < remaining inp s) :=
  Rt.recover_progress h

/-- The remaining input never increases along a run (shift, reduce or recovery). -/
theorem remaining_monotone {T : Tables} {inp : Array Nat} {wb : Bool} {fuel : Nat} {a b : PState}
    (h : Reach T inp wb fuel a b) : remaining inp b ≤ remaining inp a :=
  h.remaining

/-- **Between two consecutive successful recoveries** – `s1` is the state the first one returned
(so `_recovering` is set), `s2` the state the next one is entered from – either a real
(non-ERROR) token was shifted in between, or the remaining input strictly decreased. -/
theorem progress_between_recoveries {T : Tables} {inp : Array Nat} {wb : Bool} {fuel : Nat}
    {s1 s2 s3 : PState} (h1 : s1.recovering = true) (hr : Reach T inp wb fuel s1 s2)
    (h : recover T inp fuel s2 = .ok s3) :
    (∃ c c', Reach T inp wb fuel s1 c ∧ step T inp wb fuel c = .cont c' ∧
      Reach T inp wb fuel c' s2 ∧ RealShift T c) ∨
    remaining inp s3 < remaining inp s1 :=
  recover_progress_between h1 hr h

/-- The ghost-instrumented `parseG` is `parse` plus a counter. -/
theorem ghost_erases (T : Tables) (inp : Array Nat) (wb : Bool) (fuel : Nat) :
    ((parseG T inp wb fuel).1, (parseG T inp wb fuel).2.1) = parse T inp wb fuel :=
  parseG_erase T inp wb fuel

/-- If EOF is never shifted (true of LR tables; decidable, see
`noShiftEOFB`), then along any run of `parse` – whatever the fuel, i.e. however long the run –
`_recover()` returns `true` at most `2 * |input| + 1` times. This is the termination argument
for the recovery part of `parse` (fix F12; on the pinned tree without `_recovering` it is false:
D13). The number of iterations between two recoveries is the reduce-chain bound of the LR theory. -/
theorem recoveries_bounded {T : Tables} (hT : NoShiftEOF T) (inp : Array Nat) (wb : Bool)
    (fuel : Nat) : (parseG T inp wb fuel).2.2 ≤ 2 * inp.size + 1 :=
  parseG_bound hT inp wb fuel

theorem noShiftEOF_of_check {T : Tables} (h : noShiftEOFB T = true) : NoShiftEOF T :=
  noShiftEOFB_sound h

/-- Non-vacuity: the tables the real generator emits for the example grammar never shift EOF. -/
example : NoShiftEOF Example.T := Example.eof_entries.1

/-- Hand-made tables that shift EOF: 0 —ERROR→ 1 —EOF→ 2 —ERROR→ 1. -/
def Tloop : Tables :=
  { rules := #[], termCounts := #[], actions := #[3, 6, 9, 2, 1, 1, 2, 0, 2, 2, 1, 1], gotos := #[] }

/-- The hypothesis of `recoveries_bounded` is needed: on tables that shift EOF the empty input
already recovers without bound (7 times within 20 iterations, 14 within 40, … – the count grows
with the fuel). -/
example : (parseG Tloop #[] false 20).2.2 = 7 := by
  decide +kernel

/-! ## (c) `_recover()` itself terminates -/

/-- `_recover()` does not run out of fuel when the fuel covers the rest of
the input (+3) and the inner simulation loop terminates within the same fuel. (The stack search is
structurally bounded by the stack.) -/
theorem recover_terminates {T : Tables} {inp : Array Nat} {fuel : Nat} {s : PState}
    (hsim : ∀ la st, simulate T la fuel st ≠ .timeout) (hfuel : inp.size - s.pos + 3 ≤ fuel) :
    recover T inp fuel s ≠ .timeout :=
  Rt.recover_terminates hsim hfuel

/-- Closed form: the inner simulation follows `st ↦ goto(st, lhs(reduce(st, ERROR)))` without
popping; if a ranking of that graph (checked by `simRankOK`, a per-table computation) is bounded
by `B`, then `_recover()` never runs out of fuel once `fuel ≥ max (B + 1) (rest of input + 3)`. -/
theorem recover_terminates_of_rank {T : Tables} {inp : Array Nat} {fuel : Nat} {s : PState}
    (rank : Int → Nat) (B : Nat) (hB : ∀ st, rank st ≤ B)
    (hOK : simRankOK T rank T.actions.size = true)
    (hfuel1 : B + 1 ≤ fuel) (hfuel2 : inp.size - s.pos + 3 ≤ fuel) :
    recover T inp fuel s ≠ .timeout :=
  Rt.recover_terminates_of_rank rank B hB hOK hfuel1 hfuel2

/-- Non-vacuity: on the generated example tables the states 4, 9, 10, 11 reduce on ERROR and the
(missing) goto sends the simulation to state 0, which shifts ERROR: rank 1 for every state but 0. -/
theorem example_rank_ok :
    simRankOK Example.T (fun st => if st = 0 then 0 else 1) Example.T.actions.size = true := by
  decide +kernel

example {inp : Array Nat} {s : PState} {fuel : Nat} (h : inp.size - s.pos + 3 ≤ fuel) :
    recover Example.T inp fuel s ≠ .timeout :=
  recover_terminates_of_rank (fun st => if st = 0 then 0 else 1) 1
    (fun st => by split <;> omega) example_rank_ok (by omega) h

/-! ## (d) No silent accept; errors are delivered -/

/-- If the ghost counter is 0, `_recover()` never returned `true`:
the run is a sequence of plain shift/reduce iterations up to its last iteration (this is the
interface to the LR theory: a plain run is a run of the abstract LR machine). -/
theorem no_recovery_is_plain_run {T : Tables} {inp : Array Nat} {wb : Bool} {fuel : Nat}
    {s1 : PState} (h1 : readToken T inp initState = .ok s1)
    (h0 : (parseG T inp wb fuel).2.2 = 0) :
    ∃ sl, PlainReach T inp wb fuel s1 sl ∧
      (((parseG T inp wb fuel).1 = .timeout ∧ (parseG T inp wb fuel).2.1 = sl) ∨
       step T inp wb fuel sl = .done (parseG T inp wb fuel).1 (parseG T inp wb fuel).2.1) := by
  rcases parseG_spec T inp wb fuel with ⟨w, h, -⟩ | ⟨s1', sl, h1', hr, he⟩
  · cases h1.symm.trans h
  · cases h1.symm.trans h1'
    exact ⟨sl, hr.plain h0, he⟩

/-- If `_recover()` never returned `true` during the run, then every
`Error` value in the final state – lookaheads, stack, every argument of every action call in the
log – wraps a lexer ERROR token of the input (`inp[i] = ERROR` for its token index `i`): the
parser supplied no `@error` of its own.

The link from a plain run to a derivation (C01 soundness of the LR theory applied through
`no_recovery_is_plain_run`) needs validated tables: `no_silent_accept` below. -/
theorem no_silent_accept_partial {T : Tables} {inp : Array Nat} {wb : Bool} {fuel : Nat}
    (h0 : (parseG T inp wb fuel).2.2 = 0) :
    ErrsInv (lexErrAt inp) (parseG T inp wb fuel).2.1 :=
  parseG_zero_ErrsInv h0

/-- … in particular, when the lexer delivered no ERROR token, no `Error` value occurs anywhere in
the log (nor on the stack, nor as a lookahead). -/
theorem no_error_values {T : Tables} {inp : Array Nat} {wb : Bool} {fuel : Nat}
    (hinp : ∀ i : Nat, inp[i]? ≠ some 1) (h0 : (parseG T inp wb fuel).2.2 = 0) :
    ErrsInv (fun _ => false) (parseG T inp wb fuel).2.1 := by
  have hm := lexErrAt_false hinp
  obtain ⟨a1, a2, a3, a4⟩ := no_silent_accept_partial h0
  refine ⟨errsIn_mono hm _ a1, fun hq => errsIn_mono hm _ (a2 hq),
    fun e he => errsIn_mono hm _ (a3 e he), fun ev hev => ?_⟩
  have := a4 ev hev
  cases ev with
  | act p kids => exact errsInL_mono hm _ this
  | bounds p v b e => exact errsIn_mono hm _ this

/-- Lexer ERROR tokens are a different matter: where the grammar expects `@error` the parser
shifts a lexer ERROR token directly, without calling `_recover()`; its `Error` reaches the action
(so an Error IS delivered) although the recovery counter stays 0. Input `<lexer ERROR> ;` on the
example tables. -/
example : (parseG Example.T #[1, 5] true 20).2.2 = 0 ∧
    (parseG Example.T #[1, 5] true 20).2.1.log.reverse.head? =
      some (.act 3 [.err 0 1 [2, 0, 1], .tok 1 5]) := by
  refine ⟨by decide +kernel, rfl⟩

/-- `parse` accepted and `_recover()` returned `true` at least once.
If `accept` is only entered on the EOF lookahead (table-level, decidable: `acceptOnlyEOFB`) and no
`Error` value is left on the accepting stack, then some action was called with an `Error`
argument: an Error was delivered to the action of a production with an `@error` term.

`hstk` is a fact about the accepting state of THIS run. On validated tables it follows from the LR
stack invariant (the accepting stack is `[S-node, bottom]`: the accept state is entered only by
`goto(0, S)` and state 0 has no incoming edge): `error_delivered` below. What holds for arbitrary
tables is `error_tracked`. -/
theorem error_delivered_partial {T : Tables} {inp : Array Nat} {wb : Bool} {fuel : Nat}
    (hacc : (parseG T inp wb fuel).1 = .accept) (hrec : 0 < (parseG T inp wb fuel).2.2)
    (hT : AcceptOnlyEOF T)
    (hstk : ∀ e ∈ (parseG T inp wb fuel).2.1.stack, e.sym.isErr = false) :
    Delivered (parseG T inp wb fuel).2.1.log :=
  parseG_error_delivered hacc hrec hT hstk

/-- No hypothesis on the tables. If `parse` accepts after at least one
successful recovery then, in the accepting state, the injected `Error` is still the (ERROR)
lookahead, or an `Error` sits on the stack, or an `Error` was delivered to an action. An injected
`Error` leaves the lookahead only by being shifted and leaves the stack only as an argument of an
action call or through a later successful `_recover()`, which injects a fresh one. -/
theorem error_tracked {T : Tables} {inp : Array Nat} {wb : Bool} {fuel : Nat}
    (hacc : (parseG T inp wb fuel).1 = .accept) (hrec : 0 < (parseG T inp wb fuel).2.2) :
    Pending (parseG T inp wb fuel).2.1 ∨ ErrOnStack (parseG T inp wb fuel).2.1 ∨
      Delivered (parseG T inp wb fuel).2.1.log :=
  parseG_ErrTrack hacc hrec

theorem acceptOnlyEOF_of_check {T : Tables} (h : acceptOnlyEOFB T = true) : AcceptOnlyEOF T :=
  acceptOnlyEOFB_sound h

/-- Non-vacuity of `error_delivered_partial`: `a c ;` on the generated example tables. `c` is
unexpected after `a`; `_recover()` pops `a`, drops `c`, injects ERROR in state 0 with `;` queued;
`stmt → @error ;` is reduced with the `Error` (token 1 = `c`, expected `B` or `;`) as first
argument; the run accepts with exactly one recovery and the stack `[S-node, bottom]`. -/
example : (parseG Example.T #[2, 4, 5] true 20).1 = .accept ∧
    (parseG Example.T #[2, 4, 5] true 20).2.2 = 1 ∧
    AcceptOnlyEOF Example.T ∧
    (parseG Example.T #[2, 4, 5] true 20).2.1.stack.map (·.sym) =
      [.node 1 [.node 4 [.node 7 [.node 3 [.err 1 4 [3, 5], .tok 2 5]]]], .nil] :=
  ⟨Example.run_a_c_semi.1, Example.run_a_c_semi.2.1, Example.eof_entries.2,
    Example.run_a_c_semi.2.2⟩

/-- A run that fails (`a c c`: EOF reached inside `_recover()`, no recovery succeeded). -/
example : (parseG Example.T #[2, 4, 4] true 20).1 = .reject := by
  decide +kernel

/-! ## The consumed symbols are the input with stretches replaced by `@error` (any tables) -/

/-- **Coverage invariant** (`Cov`, `Lox/LR/RuntimeDefs.lean`). If EOF is never shifted, then in
every state at the top of the loop of `parse` the consumed symbols `stackLeaves s.stack` (the
`Token`/`Error` leaves of the stack values, bottom to top) followed by the pending lookaheads
satisfy:
* `tok`: every leaf carries a token of the input at its index (`TokOK`: `inp[i]`, or EOF at `|inp|`);
* `chain`: along the sequence token indices never decrease, a `Token` is strictly before its
  successor, and two consecutive `Token`s are ADJACENT in the input (`LinkR`) – so an input token
  can only be missing next to an `Error`: it belongs to the stretch that `Error` replaces;
* `head`: if the first symbol is a `Token` it is token 0;
* `pinv.pos`: the lexer stands just after the last lookahead read. -/
theorem consumed_is_edit {T : Tables} (hT : NoShiftEOF T) {inp : Array Nat} {wb : Bool} {fuel : Nat}
    {s : PState} (h : ParseReach T inp wb fuel s) : Cov inp s :=
  parseReach_Cov hT h

/-- Reading the invariant when no `Error` was consumed: in a state whose lookahead is the EOF token
at `|inp|` (nothing queued), the consumed symbols are exactly `tok 0 inp[0], …, tok (n-1) inp[n-1]`. -/
theorem consumed_eq_input {inp : Array Nat} {s : PState} (hs : Cov inp s)
    (hq : s.qla = -1) (hla : s.lasym.isErr = false) (hidx : lidx s.lasym = inp.size)
    (hne : ∀ x ∈ stackLeaves s.stack, x.isErr = false) :
    (stackLeaves s.stack).length = inp.size ∧
    ∀ (i : Nat) (h : i < inp.size), (stackLeaves s.stack)[i]? = some (.tok i inp[i]) :=
  hs.consumed_eq_input hq hla hidx hne

/-! ## On validated tables (`checkSafe`, a fortiori `check`): the grammar half -/

section Validated
variable {G : Grammar} {nTerms nRules : Nat} {T : Tables} {cert : Array (List Item)}

theorem safeOK_of_check (h : check G nTerms nRules T cert = .ok ()) : SafeOK G nTerms nRules T cert :=
  (check_spec h).toSafeOK

/-- "When parse() returns true, the symbols it consumed (input tokens
in order, possibly with stretches replaced by @error) form a sentence." On validated tables,
reading ERROR as the ordinary terminal 1 of `G`: the accepting stack is `[⟨_, v⟩, bottom]`, the
lookahead is EOF, the leaves of `v` read as terminals (`wordOf v`, `Error ↦ 1`) derive from the
start symbol with `v` as derivation tree, and these leaves are the consumed symbols of the
coverage invariant `Cov` (input tokens in order with stretches replaced by `Error`s; see
`consumed_is_edit`). The LR stack invariant is preserved by `_recover` because it only cuts the
stack back to a suffix. -/
theorem accepted_edit_is_sentence (h : checkSafe G nTerms nRules T cert = .ok ()) {inp : Array Nat}
    {wb : Bool} {fuel : Nat} (hacc : (parse T inp wb fuel).1 = .accept) :
    (parse T inp wb fuel).2.la = tEOF ∧
    ∃ st0 v b bot, (parse T inp wb fuel).2.stack = [{ state := st0, sym := v, bounds := b }, bot] ∧
      bot.sym = .nil ∧ stackLeaves (parse T inp wb fuel).2.stack = leaves v ∧
      Der G [.n (startSym G)] (wordOf v) [v.toTree] ∧ Cov inp (parse T inp wb fuel).2 :=
  accepted_sentence (checkSafe_spec h) hacc

/-- On validated tables: if `parse` accepts and `_recover()` returned `true`
at least once, then some action was called with an `Error` argument, i.e. an Error was delivered
to the action of a production with an `@error` term. (`error_delivered_partial` without its
run-level hypothesis.) -/
theorem error_delivered (h : checkSafe G nTerms nRules T cert = .ok ()) {inp : Array Nat}
    {wb : Bool} {fuel : Nat} (hacc : (parseG T inp wb fuel).1 = .accept)
    (hrec : 0 < (parseG T inp wb fuel).2.2) : Delivered (parseG T inp wb fuel).2.1.log :=
  Rt.error_delivered (checkSafe_spec h) hacc hrec

/-- On validated tables: if `parse` accepts, `_recover()` never returned
`true`, and the input holds neither ERROR (1) nor EOF (0) tokens, then the input is a sentence
(derivation tree = the value on top of the accepting stack). Contrapositive: on a non-sentence,
`parse` returns false, or recovers (and then delivers an Error, `error_delivered`). -/
theorem no_silent_accept (h : checkSafe G nTerms nRules T cert = .ok ()) {inp : Array Nat}
    {wb : Bool} {fuel : Nat} (hinp1 : ∀ i : Nat, inp[i]? ≠ some 1) (hinp0 : ∀ i : Nat, inp[i]? ≠ some 0)
    (hacc : (parseG T inp wb fuel).1 = .accept) (h0 : (parseG T inp wb fuel).2.2 = 0) :
    ∃ st0 v b bot, (parse T inp wb fuel).2.stack = [{ state := st0, sym := v, bounds := b }, bot] ∧
      Der G [.n (startSym G)] inp.toList [v.toTree] :=
  Rt.no_silent_accept (checkSafe_spec h) hinp1 hinp0 hacc h0

/-- On validated tables `parse` never panics – for every input, lexer ERROR
tokens included, and however often it recovers: the stack is never empty, every `_Find`, `_rules`,
`_termCounts` index is in range (main loop, `_makeError`, stack search and reduce simulation of
`_recover`), the reduce branch never pops beyond the stack, and the `_lasym` type assertions hold. -/
theorem parse_no_panic (h : checkSafe G nTerms nRules T cert = .ok ()) (inp : Array Nat) (wb : Bool)
    (fuel : Nat) : ∀ w, (parse T inp wb fuel).1 ≠ .panic w :=
  Rt.parse_no_panic (checkSafe_spec h) inp wb fuel

/-- "For every accepted grammar and every finite token sequence, including
lexer ERROR tokens, parse() terminates": on tables that pass `checkSafe` (a fortiori `check`), the
reduce-chain check `termB` and the recovery check `recoveryOKB` (the reduce simulation inside
`_recover` cannot loop), there is, for every input, a fuel from which the model of `parse` never
returns `timeout`. (Successful recoveries are bounded by `2·|inp|+1` through the potential of
`recoveries_bounded` – this needs the `_recovering` flag of fix F12, without which D13 loops –,
each plain segment between them is a run of the abstract LR machine, which terminates by
`Abs.term_of_inv`, and `_recover()` itself terminates by `recover_terminates`.) All three checks
are run on every emitted table (`lr.validate`/`lr.validate_safe`, `lr.recovery_ok`). -/
theorem parse_terminates (h : checkSafe G nTerms nRules T cert = .ok ())
    (ht : termB G T cert = true) (hr : recoveryOKB T cert.size = true) (inp : Array Nat) (wb : Bool) :
    ∃ N, ∀ fuel, N ≤ fuel → (parse T inp wb fuel).1 ≠ .timeout :=
  parse_terminates_checked (checkSafe_spec h) ht hr inp wb

/-- `parse` decides: with enough fuel the outcome is `accept` or `reject`. -/
theorem parse_total (h : checkSafe G nTerms nRules T cert = .ok ())
    (ht : termB G T cert = true) (hr : recoveryOKB T cert.size = true) (inp : Array Nat) (wb : Bool) :
    ∃ N, ∀ fuel, N ≤ fuel →
      (parse T inp wb fuel).1 = .accept ∨ (parse T inp wb fuel).1 = .reject := by
  obtain ⟨N, hN⟩ := parse_terminates h ht hr inp wb
  refine ⟨N, fun fuel hf => ?_⟩
  have h1 := hN fuel hf
  have h2 := parse_no_panic h inp wb fuel
  cases ho : (parse T inp wb fuel).1 with
  | accept => exact .inl rfl
  | reject => exact .inr rfl
  | panic w => exact absurd ho (h2 w)
  | timeout => exact absurd ho h1

/-- "…the first Error delivered carries the first token at which the
input stops being a prefix of any sentence." Let the run be plain (shift/reduce only) up to `s` and
let the iteration from `s` be the first successful `_recover()`. Then (runtime, any tables) the
`Error` it injects carries the lookahead token of `s`, the first configuration without an action
(index `j`), and every earlier `Error` value wraps a lexer ERROR token; and (tables that pass
`check`) no sentence returns the same tokens as the input at the positions `0..j`: at token `j`
the input has stopped being a prefix of any sentence (`j = |inp|` is the EOF lookahead: the input
is then not a sentence, though it may be a proper prefix of one).

Not stated here (hence `_partial`): that every shorter prefix `inp[0..j)` IS a prefix of some
sentence (the correct-prefix property proper). It needs every item of the certificate to be
justified by a derivation and every rule to be productive; `check` establishes neither, `justify`
and `productiveB` do: `first_error_token` in `C09_prefix.lean`. -/
theorem first_error_token_partial (h : check G nTerms nRules T cert = .ok ())
    {inp : Array Nat} {wb : Bool} {fuel : Nat} {s1 s s' : PState}
    (h1 : readToken T inp initState = .ok s1) (hreach : PlainReach T inp wb fuel s1 s)
    (hrec : isRecoverStep T s = true) (hstep : step T inp wb fuel s = .cont s') :
    (∃ i ty ex, s'.lasym = .err i ty ex ∧ s'.la = tERROR ∧ symTokIdx s.lasym = some i ∧
      lidx s.lasym = i) ∧
    ErrsInv (lexErrAt inp) s ∧
    ∀ (w : List Nat) (t : Tree), Der G [.n (startSym G)] w [t] →
      ¬ ∀ i, i ≤ lidx s.lasym → inp[i]? = w.toArray[i]? := by
  obtain ⟨⟨i, ty, ex, hsym, hla, hidx, -⟩, herr⟩ := first_error_runtime h1 hreach hrec hstep
  refine ⟨⟨i, ty, ex, hsym, hla, hidx, ?_⟩, herr, fun w t hd => ?_⟩
  · cases hl : s.lasym <;> simp_all [symTokIdx, lidx]
  · exact first_error_not_prefix (check_sound h).1 (check_sound h).2.2 (safeOK_of_check h)
      h1 hreach hrec hd

/-- On a sentence `_recover()` is never called (tables that pass `check`; also for grammars with
`@error` productions). -/
theorem sentence_never_recovers (h : check G nTerms nRules T cert = .ok ()) {w : List Nat}
    {t : Tree} (hd : Der G [.n (startSym G)] w [t]) {wb : Bool} {fuel : Nat} {s : PState}
    (hr : ParseReach T w.toArray wb fuel s) : isRecoverStep T s = false := by
  obtain ⟨n, hrun⟩ := Abs.complete_run (check_sound h).1 (check_sound h).2.2 hd
  exact sentence_run_plain (safeOK_of_check h) hrun hr

end Validated

/-- Non-vacuity: the generated example tables pass `checkSafe` with the LR(0) cores as
certificate; `a c ;` is accepted after one recovery; the consumed symbols `Error(c) ;` derive from
the start symbol through `stmt → @error ;`. -/
example : checkSafe Example.G 6 6 Example.T Example.cert = .ok () ∧
    (parse Example.T #[2, 4, 5] true 20).1 = .accept ∧
    (parse Example.T #[2, 4, 5] true 20).2.stack.head?.map (fun e => e.sym) =
      some (.node 1 [.node 4 [.node 7 [.node 3 [.err 1 4 [3, 5], .tok 2 5]]]]) ∧
    wordOf (.node 1 [.node 4 [.node 7 [.node 3 [.err 1 4 [3, 5], .tok 2 5]]]]) = [1, 5] := by
  obtain ⟨hacc, -, hstack⟩ := Example.run_a_c_semi
  rw [parseG_fst] at hacc
  rw [parseG_snd] at hstack
  refine ⟨Example.checkSafe_ok, hacc, ?_, ?_⟩
  · rw [← List.head?_map, hstack]; rfl
  · simp [wordOf, leaves, leavesL, leafNat, leafTy, tERROR]

/-- Non-vacuity of `first_error_token_partial`: the example tables pass the full `check` with their
LALR(1) item sets, and on `a c ;` the run is plain for one iteration (shift `a`), then state 1 has
no action on `c` (token 1): `_recover()` injects `Error{Token: c, Expected: [B, SEMI]}`. -/
example : check Example.G 6 6 Example.T Example.certL = .ok () ∧
    ∃ s1 s s', readToken Example.T #[2, 4, 5] initState = .ok s1 ∧
      PlainReach Example.T #[2, 4, 5] true 20 s1 s ∧ isRecoverStep Example.T s = true ∧
      step Example.T #[2, 4, 5] true 20 s = .cont s' ∧ lidx s.lasym = 1 ∧
      s'.lasym = .err 1 4 [3, 5] :=
  ⟨Example.check_ok, Example.first_recover_a_c_semi⟩

/-- Non-vacuity of `parse_terminates`: the generated example tables pass all three checks. -/
example : checkSafe Example.G 6 6 Example.T Example.cert = .ok () ∧
    termB Example.G Example.T Example.cert = true ∧
    recoveryOKB Example.T Example.cert.size = true :=
  ⟨Example.checkSafe_ok, Example.termB_ok, Example.recoveryOK⟩

end Lox.Props.C09
