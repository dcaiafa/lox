import Lox.Props.C01
/-! # C03 — actions run bottom-up, once per node of the unique derivation tree

`Lox.LR.Tree.post t` lists the production nodes of `t` children-before-parent, left to right; each
entry `(p, kids)` carries the children subtrees in production order. The machine logs `(p, kids)`
at every reduction (`kids` = the values popped, bottom-most first = what `_act(p)` reads with
`Peek(n-i-1)`), so "log = post-order" says: every user/synthesised action is called exactly once
per node, after all actions of its subtrees, with the subtrees' results as arguments in production
order. -/
namespace Lox.Props.C03
open Lox.LR Lox.LR.Abs

variable {G : Grammar} {A : Auto} {first : List Sym → Nat → List Nat}

/-- The reductions of any accepting run are the post-order of the tree it returns, which is the
unique derivation tree of the input. -/
theorem actions_postorder (hv : Valid G A first) (hs : Safe G A) (hf : FirstOK G first)
    {w : List Nat} (hw : eof ∉ w) {fuel : Nat} {t : Tree} {lg : List (Nat × List Tree)}
    (h : run G A fuel (init w) = .acc t lg) :
    lg = t.post ∧ Der G [.n (startSym G)] w [t] ∧
      ∀ t', Der G [.n (startSym G)] w [t'] → t' = t := by
  have hd := sound_run hs hw h
  exact ⟨sound_log hs h, hd, fun t' hd' => C01.unambiguous hv hf hd' hd⟩

/-- Every entry of the log is a node of the returned tree with exactly its children: the log is
`t.post`, and `t.post` lists `(p, kids)` for each subterm `node p kids` (by definition of
`Tree.post`); in particular the last reduction builds the root. -/
theorem last_action_is_root (hv : Valid G A first) (hs : Safe G A) (hf : FirstOK G first)
    {w : List Nat} (hw : eof ∉ w) {fuel : Nat} {p : Nat} {kids : List Tree}
    {lg : List (Nat × List Tree)} (h : run G A fuel (init w) = .acc (.node p kids) lg) :
    lg = postList kids ++ [(p, kids)] := by
  have := (actions_postorder hv hs hf hw h).1
  simpa [Tree.post] using this

/-- The post-order property needs only the soundness conditions: it is an invariant of the machine
(log = post-order of the values on the stack). So it also holds for precedence-resolved tables. -/
theorem actions_postorder_safe (hs : Safe G A) {w : List Nat} {fuel : Nat} {t : Tree}
    {lg : List (Nat × List Tree)} (h : run G A fuel (init w) = .acc t lg) : lg = t.post :=
  sound_log hs h

variable {nTerms nRules : Nat} {T : Tables} {cert : Array (List Item)}

/-- **C03 for a validated artefact.** -/
theorem tables_actions_postorder (hc : check G nTerms nRules T cert = .ok ()) {w : List Nat}
    (hw : eof ∉ w) {fuel : Nat} {t : Tree} {lg : List (Nat × List Tree)}
    (h : run G (autoOf T cert) fuel (init w) = .acc t lg) :
    lg = t.post ∧ Der G [.n (startSym G)] w [t] ∧
      ∀ t', Der G [.n (startSym G)] w [t'] → t' = t :=
  let ⟨hv, hs, hf⟩ := check_sound hc
  actions_postorder hv hs hf hw h

/-- **C03 for the model of the generated `parse`** (`Lox.LR.parse`): whenever it accepts (tables
without ERROR actions), the `_act` calls it performed – production and argument values, oldest
first – are exactly the post-order of the unique derivation tree of the input. -/
theorem parse_actions_postorder (hc : check G nTerms nRules T cert = .ok ())
    (hne : NoErrorActions T cert.size) {w : List Nat} (hw0 : eof ∉ w) (hw : ∀ x ∈ w, x ≠ 1)
    (wb : Bool) (fuel : Nat) (hacc : (parse T w.toArray wb fuel).1 = .accept) :
    ∃ t, Der G [.n (startSym G)] w [t] ∧ (∀ t', Der G [.n (startSym G)] w [t'] → t' = t) ∧
      (actsOf (parse T w.toArray wb fuel).2.log).reverse = t.post := by
  obtain ⟨t, hd, hlog, _⟩ := C01.parse_sound hc hne hw0 hw wb fuel hacc
  exact ⟨t, hd, fun t' hd' => C01.tables_unambiguous hc hd' hd, hlog⟩

/-- For sentences of ANY validated grammar (with or without `@error`) the generated parser performs
exactly the post-order actions of the derivation tree. -/
theorem parse_actions_of_sentence (hc : check G nTerms nRules T cert = .ok ()) {w : List Nat}
    (hw : ∀ x ∈ w, x ≠ 1) {t : Tree} (hd : Der G [.n (startSym G)] w [t]) (wb : Bool) :
    ∃ n, ∀ fuel, n ≤ fuel → (parse T w.toArray wb fuel).1 = .accept ∧
      (actsOf (parse T w.toArray wb fuel).2.log).reverse = t.post := by
  obtain ⟨n, hn⟩ := C01.parse_complete hc hw hd wb
  exact ⟨n, fun fuel hf => ⟨(hn fuel hf).1, (hn fuel hf).2.1⟩⟩

/-- On validated tables of any grammar: when the generated parser accepts `w` cleanly (outcome
`accept`, no recovery), the value `v` it leaves on the stack is THE derivation tree of `w`, its
leaves are exactly the input tokens `tok 0 w[0], …`, and the action calls it performed –
production and argument values, oldest first – are exactly the post-order of `v`. -/
theorem clean_accept_unique (hc : check G nTerms nRules T cert = .ok ()) {w : List Nat}
    (hw2 : ∀ x ∈ w, 2 ≤ x) {wb : Bool} {fuel : Nat} (hacc : (Rt.parseG T w.toArray wb fuel).1 = .accept)
    (h0 : (Rt.parseG T w.toArray wb fuel).2.2 = 0) :
    ∃ v : Val,
      (parse T w.toArray wb fuel).2.stack.head?.map (·.sym) = some v ∧
      Der G [.n (startSym G)] w [v.toTree] ∧
      (∀ t', Der G [.n (startSym G)] w [t'] → t' = v.toTree) ∧
      Rt.leaves v = (List.range w.length).map (Rt.tokAt w) ∧
      (Rt.actCalls (parse T w.toArray wb fuel).2.log).reverse = v.post ∧
      (actsOf (parse T w.toArray wb fuel).2.log).reverse = v.toTree.post := by
  obtain ⟨st0, v, b, bot, hst, hd, hl, hlog⟩ := Rt.clean_accept (check_spec hc).toSafeOK (w := w)
    (fun x hx => by have := hw2 x hx; omega) (fun x hx => by have := hw2 x hx; omega) hacc h0
  refine ⟨v, by rw [hst]; rfl, hd, fun t' ht' => C01.tables_unambiguous hc ht' hd, hl, hlog, ?_⟩
  rw [Rt.actsOf_eq_actCalls, ← List.map_reverse, hlog, Rt.post_toTree]

/-- Non-vacuity: on the example tables the run on `a a b` logs three reductions, innermost first. -/
example : run Example.G (autoOf Example.T Example.cert) 10 (init [2, 2, 3]) =
    .acc Example.tree
      [(2, [.leaf 3]), (1, [.leaf 2, .node 2 [.leaf 3]]),
       (1, [.leaf 2, .node 1 [.leaf 2, .node 2 [.leaf 3]]])] := by rfl

end Lox.Props.C03
