import Lox.Props.C04
import Lox.LR.VerdictE2EBool
import Lox.LR.VerdictE2ECells
import Lox.Props.C01_e2e
import Lox.Props.C04_construct
import Lox.Props.C05
/-!
# C04, end to end on the model of the generator: the conflict verdict is the verdict of the definition, for ALL grammars

Property (verbatim): "lox refuses a grammar with 'grammar has conflicts' if and only if its LALR(1)
automaton has a state and lookahead with more than one action left after the documented precedence
rule is applied; it never silently picks an action and never rejects an LALR(1) grammar. Precedence
qualifiers settle only shift/reduce conflicts among productions of one rule that all carry explicit
qualifiers; they never hide reduce/reduce conflicts or conflicts spanning rules. For accepted
grammars the emitted action and goto tables are the LALR(1) tables."

`Lox/Props/C04_verdict.lean` proves this PER RUN: the validator `conflictCheckB` accepts the item
sets and transitions of a run ⇒ the verdict recomputed from them is the verdict by definition. Here
the validator is not run at all: the table is the output of the MODEL of the generator
(`Cons.construct`, model of the worklist of `lr1.ConstructLALR`, tied to the real code by the
family `construct`; the cells by `Gen.cellOn` = `createActions`, family `genmodel`; the loop of
`resolveConflicts` by `Lox.Dec.hasConflicts` / `resolveOne`, family `resolve`; `EmitParser` by
`Emit.emitParserP`, family `emit`), and the statements hold for EVERY well-formed grammar
(`wfGrammarB`: production 0 is `S' → start`, `S'` on no right-hand side, symbols in range, no EOF
on a right-hand side), every name order listing each symbol once (`ordOKB`) and every precedence
table `info`.

**Definition** (read `Lox/LR/LALR.lean`, `Lox/LR/ConflictSpec.lean`; nothing algorithmic):
`LR1Item G γ it` – the LR(1) item `it` is valid for the viable prefix `γ`; `LALRItem G A s it` – `it`
is valid for some `γ` that leads to state `s`; `Cand` – the actions an item set calls for on a
terminal (shift if some item has the terminal after the dot, reduce `p` for a completed item of `p`
with this lookahead, accept); `Conflict` – two different candidates; `Settled` – the documented
precedence rule applies; `Unsettled` = `Conflict ∧ ¬ Settled`; `CellOf` – a listing of the candidates
(what `resolveOne` works on). The automaton skeleton `skelOf st` only supplies the numbering of the
states (its edges are the recorded transitions; by `construct_correct` every viable prefix reaches
exactly one state).

`hasConflictsP info G nT st` is the model of `ParserTable.HasConflicts` after `resolveConflicts`.
-/
namespace Lox.Props.C04
open Lox.LR Lox.LR.Cons Lox.LR.Emit
open Lox.Dec (ProdInfo Action resolveOne resolveOneDoc resolveCell SRPairOfOneRule)
open Lox.Props.C01 (wfGrammarB wfGrammarB_spec)

section
variable {G : Grammar} {nT nR : Nat} {ord : List Sym} {st : CState}

/-- **generator_satisfies_conflict_checks** (completeness of the validator's conditions on the
generator model). For every well-formed grammar the table the model of `ConstructLALR` returns
satisfies everything a successful run of `conflictCheckB` establishes (`ConflictOK`): the ⊇ half
and the shape conditions (`SkelOK`: start item, goto along the transitions, closure w.r.t. the
validator's own FIRST table, which is closed; no edge into state 0, none on EOF, every edge called
for by an item, predecessors), the ⊆ half (every item has a derivation inside the item sets,
`Justd`), distinct kernels. So every theorem of `C04_verdict.lean` applies to the model without a
validator run.

The BOOLEAN `conflictCheckB … = true` additionally needs the untrusted rank search
`Jst.searchRanks` to succeed; that is NOT proved (see `generator_passes_closed_check`,
`generator_passes_conflict_check_partial` for the Boolean ⊇ half). -/
theorem generator_satisfies_conflict_checks (hwf : wfGrammarB G nT nR = true)
    (hord : ordOKB nT nR ord = true) (hst : construct G nT ord = some st) :
    ConflictOK G nT nR st.transTab st.cert :=
  conflictOK_of_construct (wfGrammarB_spec hwf) (ordOKB_spec hord) hst

/-- **generator_verdict_exact** (state form). The model's verdict is `true` iff some (state,
terminal) cell of the LALR(1) automaton BY DEFINITION has two different candidate actions that the
documented precedence rule does not settle. -/
theorem generator_verdict_exact_states (hwf : wfGrammarB G nT nR = true)
    (hord : ordOKB nT nR ord = true) (info : Nat → ProdInfo)
    (hst : construct G nT ord = some st) :
    hasConflictsP info G nT st = true ↔
      ∃ s a, Unsettled G info (skelOf st) (LALRItem G (skelOf st)) s a :=
  hasConflictsP_iff (wfGrammarB_spec hwf) (ordOKB_spec hord) hst info

/-- For every well-formed grammar, every precedence table and every
name order: lox (the model) says "grammar has conflicts" IFF there are a viable prefix `γ` (some
LR(1) item is valid for it), the one state `s` it leads to, and a terminal `a` such that the
LALR(1) item set of that state (all LR(1) items valid for prefixes leading to `s`) calls for two
different actions on `a` that the documented precedence rule does not settle. This is
`verdict_exact` without the per-run validator. -/
theorem generator_verdict_exact (hwf : wfGrammarB G nT nR = true)
    (hord : ordOKB nT nR ord = true) (info : Nat → ProdInfo)
    (hst : construct G nT ord = some st) :
    hasConflictsP info G nT st = true ↔
      ∃ γ s a, (∃ it, LR1Item G γ it) ∧ Path (skelOf st) 0 γ s ∧
        (∀ s', Path (skelOf st) 0 γ s' → s' = s) ∧
        Unsettled G info (skelOf st) (LALRItem G (skelOf st)) s a := by
  rw [generator_verdict_exact_states hwf hord info hst]
  constructor
  · rintro ⟨s, a, hu⟩
    obtain ⟨it, γ, hpath, hit⟩ := hu.1.has_item
    exact ⟨γ, s, a, ⟨it, hit⟩, hpath, fun s' hp' => hp'.det hpath, hu⟩
  · rintro ⟨_, s, a, _, _, _, hu⟩
    exact ⟨s, a, hu⟩

/-- The same with `resolveOne` (the model of `resolveConflict`) on ANY listing of the candidate
actions by definition (`CellOf`: each candidate once, in any order): the verdict is `true` iff some
LALR(1) cell has more than one action left after `resolveOne`. -/
theorem generator_verdict_exact_cells (hwf : wfGrammarB G nT nR = true)
    (hord : ordOKB nT nR ord = true) (info : Nat → ProdInfo)
    (hst : construct G nT ord = some st) :
    hasConflictsP info G nT st = true ↔
      ∃ s a cell, CellOf G (skelOf st) (LALRItem G (skelOf st)) s a cell ∧
        1 < (resolveOne info cell).1.length :=
  (generator_satisfies_conflict_checks hwf hord hst).verdict_cells fun hc =>
    hc.unsettled_iff_left info

/-- … hence the verdict is also exact w.r.t. the DOCUMENTED rule `resolveOneDoc` (it does not depend
on known finding K1, which only concerns WHICH action survives). -/
theorem generator_verdict_exact_doc (hwf : wfGrammarB G nT nR = true)
    (hord : ordOKB nT nR ord = true) (info : Nat → ProdInfo)
    (hst : construct G nT ord = some st) :
    hasConflictsP info G nT st = true ↔
      ∃ s a cell, CellOf G (skelOf st) (LALRItem G (skelOf st)) s a cell ∧
        1 < (resolveOneDoc info cell).1.length := by
  rw [generator_verdict_exact_cells hwf hord info hst]
  simp only [Lox.Props.C05.resolveOneDoc_length]

/-- The model says "grammar has conflicts" ⇒ a conflict of
the LALR(1) automaton by definition exists that the documented rule does not settle: lox never
rejects an LALR(1) grammar (nor one whose conflicts the precedence rule settles). -/
theorem generator_never_invents_conflict (hwf : wfGrammarB G nT nR = true)
    (hord : ordOKB nT nR ord = true) (info : Nat → ProdInfo)
    (hst : construct G nT ord = some st) (h : hasConflictsP info G nT st = true) :
    ∃ γ s a, (∃ it, LR1Item G γ it) ∧ Path (skelOf st) 0 γ s ∧
      (∀ s', Path (skelOf st) 0 γ s' → s' = s) ∧
      Unsettled G info (skelOf st) (LALRItem G (skelOf st)) s a :=
  (generator_verdict_exact hwf hord info hst).mp h

/-- The model accepts (verdict `false`) ⇒ every cell of the
LALR(1) automaton by definition has at most one candidate action, or exactly a shift and a reduce
that the documented rule settles; and on any listing of the candidates of any cell at most one
action is left after `resolveOne`. -/
theorem generator_never_hides_conflict (hwf : wfGrammarB G nT nR = true)
    (hord : ordOKB nT nR ord = true) (info : Nat → ProdInfo)
    (hst : construct G nT ord = some st) (h : hasConflictsP info G nT st = false) (s a : Nat) :
    (¬ Conflict G (skelOf st) (LALRItem G (skelOf st)) s a ∨
      Settled G info (skelOf st) (LALRItem G (skelOf st)) s a) ∧
    ∀ cell, CellOf G (skelOf st) (LALRItem G (skelOf st)) s a cell →
      (resolveOne info cell).1.length ≤ 1 := by
  have hno := (generator_satisfies_conflict_checks hwf hord hst).accepted h s a
  refine ⟨not_unsettled.mp hno, fun cell hcell => ?_⟩
  have := mt (hcell.unsettled_iff_left info).mpr hno
  omega

/-- **precedence_only_settles_sr_of_one_rule** (`resolve_only_sr` lifted to the generator). If
`resolveConflicts` changes the cell `createActions` built for state `s` and terminal `a` of the
model's table (removes an action), then the cell is exactly one shift and one reduce whose
contributing productions all belong to the rule of the reduced production and all carry one
explicit precedence (`SRPairOfOneRule`), AND in terms of the definition: the LALR(1) candidates of
`(s, a)` are exactly that shift and that reduce – no second reduce, no accept –, every production
with an item `[… · a …]` in the LALR(1) set belongs to the rule of the reduced one, they share one
explicit precedence, and the reduced one carries an explicit precedence (`Settled`). Qualifiers
never hide a reduce/reduce conflict or one spanning rules. -/
theorem precedence_only_settles_sr_of_one_rule (hwf : wfGrammarB G nT nR = true)
    (hord : ordOKB nT nR ord = true) (info : Nat → ProdInfo)
    (hst : construct G nT ord = some st) {s a : Nat} {cell : List Action}
    (hco : Gen.cellOn G nT (trTerm st.transTab s) (st.states[s]?.getD []) a = .ok cell)
    (hch : (resolveCell info cell).1 ≠ cell) :
    SRPairOfOneRule info cell ∧ Settled G info (skelOf st) (LALRItem G (skelOf st)) s a := by
  have hcell := (generator_satisfies_conflict_checks hwf hord hst).cellOf s a
  rw [itemsOf_cert, Gen.cellAt_eq hco] at hcell
  have hsr := resolve_only_sr info cell (Lox.Dec.resolveCell_fst info cell ▸ hch)
  exact ⟨hsr, (hcell.resolved_iff info).mp ((resolved_iff info cell).mpr hsr)⟩

/-- For a grammar the model accepts (verdict `false`) and the tables
`EmitParser` writes: for every state `s` and terminal `a`, a `_Find` HIT on the emitted `_actions`
is the code of THE remaining LALR(1) action of the cell `(s, a)`: a candidate action by definition,
the only action `resolveConflicts` leaves of a listing of the candidates, and every other candidate
was removed by the documented precedence rule (the cell is `Settled`); a MISS means the LALR(1)
item set of `s` calls for no action on `a`; `_Find` never indexes out of range. -/
theorem accepted_tables_are_lalr {info : Nat → ProdInfo} {T : Tables}
    (hwf : wfGrammarB G nT nR = true) (hord : ordOKB nT nR ord = true)
    (hst : construct G nT ord = some st) (hT : emitParserP info G nT ord st = some T)
    (hacc : hasConflictsP info G nT st = false) {s : Nat} (hs : s < st.states.length) {a : Nat}
    (ha : a < nT) :
    (∀ v, find T.actions (s : Int) (a : Int) = .hit v →
      ∃ x : Action, v = actCode x ∧
        Cand G (skelOf st) (LALRItem G (skelOf st)) s a (actOf x) ∧
        (∀ y, Cand G (skelOf st) (LALRItem G (skelOf st)) s a y →
          y = actOf x ∨ Settled G info (skelOf st) (LALRItem G (skelOf st)) s a) ∧
        ∃ cell, CellOf G (skelOf st) (LALRItem G (skelOf st)) s a cell ∧
          (resolveCell info cell).1 = [x]) ∧
    (find T.actions (s : Int) (a : Int) = .miss →
      ∀ act, ¬ Cand G (skelOf st) (LALRItem G (skelOf st)) s a act) ∧
    find T.actions (s : Int) (a : Int) ≠ .oob := by
  have ok := generator_satisfies_conflict_checks hwf hord hst
  have hf := (emitted_of_emitParserP hT).find_actions hs a
  rw [if_pos (((ordOKB_spec hord).terms a).mpr ha), ← itemsOf_cert] at hf
  have hoob : find T.actions (s : Int) (a : Int) ≠ .oob := hf ▸ lookResult_ne_oob _
  have hcell := ok.cellOf s a
  by_cases hat : a ∈ Gen.cellTerminals G nT (trTerm st.transTab s) (itemsOf st.cert s)
  · -- the terminal has a cell: `_Find` hits the code of the one action left in it
    obtain ⟨x, hx, hxc, hall⟩ := Lox.Dec.accepted_cell info hacc
      (mem_tableCells.mpr ⟨s, by rw [size_cert]; exact hs, a, hat, rfl⟩)
    rw [hx] at hf
    replace hf : find T.actions (s : Int) (a : Int) = .hit (actCode x) := hf
    refine ⟨fun v hv => ?_, fun hm => absurd (hf.symm.trans hm) Look.noConfusion, hoob⟩
    cases hf.symm.trans hv
    refine ⟨x, rfl, (hcell.cand _).mp (List.mem_map.mpr ⟨x, hxc, rfl⟩), fun y hy => ?_,
      _, hcell, hx⟩
    obtain ⟨y', hy', rfl⟩ := List.mem_map.mp ((hcell.cand y).mpr hy)
    exact (hall y' hy').imp (congrArg actOf) (hcell.resolved_iff info).mp
  · -- no cell: `_Find` misses, and the cell by definition is empty
    rw [Classical.not_not.mp (mt Gen.cellAt_ne_nil_iff.mp hat)] at hf hcell
    replace hf : find T.actions (s : Int) (a : Int) = .miss := hf
    refine ⟨fun v hv => absurd (hf.symm.trans hv) Look.noConfusion, fun _ act hact => ?_, hoob⟩
    cases (hcell.cand act).mpr hact

/-- In a PRODUCTIVE grammar (`productiveB`) no automaton is needed to name the item set: the
verdict is `true` iff for some viable prefix `γ` the textbook LALR(1) set `LALRSet G γ` (all LR(1)
items valid for prefixes with the same LR(0) items as `γ`) calls for two different actions on some
terminal that the documented rule does not settle. (`skelOf st` only supplies the number of the
shift target.) -/
theorem generator_verdict_exact_lalr_set (hwf : wfGrammarB G nT nR = true)
    (hord : ordOKB nT nR ord = true) (hp : productiveB G nR = true) (info : Nat → ProdInfo)
    (hst : construct G nT ord = some st) :
    hasConflictsP info G nT st = true ↔
      ∃ γ s a, Path (skelOf st) 0 γ s ∧
        Unsettled G info (skelOf st) (fun _ it => LALRSet G γ it) s a := by
  have ok := generator_satisfies_conflict_checks hwf hord hst
  have hset := (ok.lr0 (productiveB_sound hp)).2.2.2
  have hiff : ∀ γ s, Path (skelOf st) 0 γ s → ∀ it,
      LALRItem G (skelOf st) s it ↔ (fun (_ : Nat) it => LALRSet G γ it) s it :=
    fun γ s hpath it => (ok.items_exact s it).symm.trans (hset γ s hpath it)
  rw [generator_verdict_exact_states hwf hord info hst]
  constructor
  · rintro ⟨s, a, hu⟩
    obtain ⟨it, γ, hpath, hit⟩ := hu.1.has_item
    exact ⟨γ, s, a, hpath, (Unsettled.congr (hiff γ s hpath)).mp hu⟩
  · rintro ⟨γ, s, a, hpath, hu⟩
    exact ⟨s, a, (Unsettled.congr (hiff γ s hpath)).mpr hu⟩

/-- … and in a productive grammar the model's skeleton IS the LR(0) automaton: every LR(0) viable
prefix reaches a state, two prefixes reach the same state iff they have the same LR(0) items, and
the item list of the state reached along `γ` is `LALRSet G γ` – for all grammars, no validator
run. -/
theorem generator_is_lr0_automaton (hwf : wfGrammarB G nT nR = true)
    (hord : ordOKB nT nR ord = true) (hp : productiveB G nR = true)
    (hst : construct G nT ord = some st) :
    (∀ γ p d, LR0Item G γ p d → ∃ s, Path (skelOf st) 0 γ s) ∧
    (∀ γ γ' s s', Path (skelOf st) 0 γ s → Path (skelOf st) 0 γ' s' →
      (s = s' ↔ SameLR0 G γ γ')) ∧
    (∀ γ s, Path (skelOf st) 0 γ s → ∀ it, it ∈ st.states[s]?.getD [] ↔ LALRSet G γ it) := by
  obtain ⟨h1, _, h3, h4⟩ :=
    (generator_satisfies_conflict_checks hwf hord hst).lr0 (productiveB_sound hp)
  refine ⟨h1, h3, fun γ s hpath it => ?_⟩
  rw [← itemsOf_cert]
  exact h4 γ s hpath it

/-- For ANY table of the model (accepted or not) and the tables
`EmitParser` writes: a `_Find` HIT on `_goto` for state `s` and rule `B` is the LALR(1) goto: the
state every viable prefix `γB` reaches when `γ` reaches `s`, and some LALR(1) item of `s` has `B`
after its dot; a MISS means no LALR(1) item of `s` has `B` after its dot. -/
theorem emitted_gotos_are_lalr {info : Nat → ProdInfo} {T : Tables}
    (hwf : wfGrammarB G nT nR = true) (hord : ordOKB nT nR ord = true)
    (hst : construct G nT ord = some st) (hT : emitParserP info G nT ord st = some T)
    {s : Nat} (hs : s < st.states.length) {B : Nat} (hB : B < nR) :
    (∀ v, find T.gotos (s : Int) (B : Int) = .hit v →
      ∃ t : Nat, v = (t : Int) ∧ trans (skelOf st) s (.n B) = some t ∧
        (∀ γ, Path (skelOf st) 0 γ s → Path (skelOf st) 0 (γ ++ [.n B]) t) ∧
        ∃ p d b pr, LALRItem G (skelOf st) s ⟨p, d, b⟩ ∧ G.prods[p]? = some pr ∧
          pr.rhs[d]? = some (.n B)) ∧
    (find T.gotos (s : Int) (B : Int) = .miss →
      ∀ p d b pr, LALRItem G (skelOf st) s ⟨p, d, b⟩ → G.prods[p]? = some pr →
        pr.rhs[d]? ≠ some (.n B)) ∧
    find T.gotos (s : Int) (B : Int) ≠ .oob := by
  have ok := generator_satisfies_conflict_checks hwf hord hst
  have hf := (emitted_of_emitParserP hT).find_gotos hs B
  rw [if_pos (((ordOKB_spec hord).rules B).mpr hB), ← trans_skelOf] at hf
  have hiff := ok.skel.closed.trans_iff_lalr ok.justd ok.skel.edgesBacked s (.n B)
  refine ⟨fun v hv => ?_, fun hm p d b pr hit hp hX => ?_, hf ▸ lookResult_ne_oob _⟩
  · obtain ⟨t, htr, rfl⟩ := Option.map_eq_some_iff.mp (lookResult_hit.mp (hf.symm.trans hv))
    obtain ⟨it, pr, hit, hp, hX⟩ := hiff.mp ⟨t, htr⟩
    exact ⟨t, rfl, htr, fun γ hpath => .snoc hpath htr, it.p, it.d, it.a, pr, hit, hp, hX⟩
  · obtain ⟨t, htr⟩ := hiff.mpr ⟨⟨p, d, b⟩, pr, hit, hp, hX⟩
    cases htr.symm.trans (Option.map_eq_none_iff.mp (lookResult_miss.mp (hf.symm.trans hm)))

/-- As Booleans: on the model's own output the ⊇ half of the
validator with all shape conditions (`closedSkelB`) and the kernel check (`kernelsDistinctB`)
evaluate to `true`, for every well-formed grammar. -/
theorem generator_passes_closed_check (hwf : wfGrammarB G nT nR = true)
    (hord : ordOKB nT nR ord = true) (hst : construct G nT ord = some st) :
    closedSkelB G nT nR st.transTab st.cert = true ∧ kernelsDistinctB st.cert = true :=
  ⟨closedSkelB_of_construct (wfGrammarB_spec hwf) (ordOKB_spec hord) hst,
    kernelsDistinctB_of_inv (built_of_wf (wfGrammarB_spec hwf) (ordOKB_spec hord) hst).inv⟩

/- FULL STATEMENT (not proved): `generator_passes_conflict_check`
     wfGrammarB G nT nR = true → ordOKB nT nR ord = true → construct G nT ord = some st →
       conflictCheckB G nT nR st.transTab st.cert = true.
   What is missing is the success of the UNTRUSTED search (`rankTabs`, `Jst.searchRanks`) that
   produces the ranks the ⊆ check `itemsJustB` verifies; what that check would establish
   (`ConflictOK.justd`) is proved directly in `generator_satisfies_conflict_checks`. -/

/-- The Boolean validator on the model's own output
passes iff the check of the untrusted rank search passes (extra hypothesis w.r.t. the full
statement above: `hsearch`). -/
theorem generator_passes_conflict_check_partial (hwf : wfGrammarB G nT nR = true)
    (hord : ordOKB nT nR ord = true) (hst : construct G nT ord = some st)
    (hsearch : (rankOKB G (rankTabs G nT nR) &&
        itemsJustB G (skelAuto st.transTab st.cert) (rankTabs G nT nR)
          (Jst.searchRanks G nR (skelAuto st.transTab st.cert) st.cert (rankTabs G nT nR)).1
          (Jst.searchRanks G nR (skelAuto st.transTab st.cert) st.cert (rankTabs G nT nR)).2
          st.cert.size) = true) :
    conflictCheckB G nT nR st.transTab st.cert = true := by
  rw [conflictCheckB_eq_search (wfGrammarB_spec hwf) (ordOKB_spec hord) hst]
  exact hsearch

/-- **generator_refuses_iff** (closed form, no hypothesis about the run): for every well-formed
grammar with at least one terminal, every name order and every precedence table the model of
`ConstructLALR` terminates without a panic, and it sets `HasConflicts` iff the LALR(1) automaton by
definition has a viable prefix and a terminal with two different actions that the documented
precedence rule does not settle. -/
theorem generator_refuses_iff (hwf : wfGrammarB G nT nR = true) (hord : ordOKB nT nR ord = true)
    (hnT : 0 < nT) (info : Nat → ProdInfo) :
    ∃ st, construct G nT ord = some st ∧
      (hasConflictsP info G nT st = true ↔
        ∃ γ s a, (∃ it, LR1Item G γ it) ∧ Path (skelOf st) 0 γ s ∧
          (∀ s', Path (skelOf st) 0 γ s' → s' = s) ∧
          Unsettled G info (skelOf st) (LALRItem G (skelOf st)) s a) := by
  have hw := wfGrammarB_spec hwf
  obtain ⟨S', h0⟩ := prod0B_spec hw.prod0
  obtain ⟨st, hst⟩ := construct_terminates (SymsInRange.termsBelow hw.syms) ⟨_, h0⟩ hnT ord
  exact ⟨st, hst, generator_verdict_exact hwf hord info hst⟩

/-- The hypothesis `conflictFree` of the C01 end-to-end theorems
(`Lox.Props.C01.generator_valid` …: every cell `createActions` builds holds exactly one action) is
the DEFINITION of "the grammar is LALR(1)": no (state, terminal) cell of the LALR(1) automaton by
definition has two different candidate actions. -/
theorem conflictFree_iff_lalr1 (hwf : wfGrammarB G nT nR = true) (hord : ordOKB nT nR ord = true)
    (hst : construct G nT ord = some st) :
    conflictFree G nT ord = true ↔
      ∀ s a, ¬ Conflict G (skelOf st) (LALRItem G (skelOf st)) s a := by
  unfold conflictFree
  rw [hst]
  exact conflictFreeB_iff (wfGrammarB_spec hwf) (ordOKB_spec hord) hst

/-- **lalr1_grammar_gets_exact_parser** (C04 + C01 end to end). For every well-formed grammar that
is LALR(1) BY DEFINITION (no cell of the LALR(1) automaton has two candidate actions): the model of
lox does not refuse it (`HasConflicts = false` for every precedence table), it emits tables (no
panic), the tables pass the validator `check`, and the table-driven parser accepts `w` with tree
`t` iff `t` is a derivation tree of `w` from the start symbol. -/
theorem lalr1_grammar_gets_exact_parser (hwf : wfGrammarB G nT nR = true)
    (hord : ordOKB nT nR ord = true) (hst : construct G nT ord = some st)
    (hlalr : ∀ s a, ¬ Conflict G (skelOf st) (LALRItem G (skelOf st)) s a)
    (hsmall : st.states.length ≤ 2147483647) :
    (∀ info, hasConflictsP info G nT st = false) ∧
    ∃ T, generate G nT ord = some (T, st.cert) ∧ check G nT nR T st.cert = .ok () ∧
      ∀ w, eof ∉ w → ∀ t, (∃ fuel lg, Abs.run G (autoOf T st.cert) fuel (Abs.init w) = .acc t lg) ↔
        Der G [.n (startSym G)] w [t] := by
  have hfreeB := (conflictFreeB_iff (wfGrammarB_spec hwf) (ordOKB_spec hord) hst).mpr hlalr
  have hfree : conflictFree G nT ord = true := conflictFree_eq_true.mpr ⟨st, hst, hfreeB⟩
  obtain ⟨T, hT⟩ := emitParser_isSome (ord := ord) hfreeB
  have hgen : generate G nT ord = some (T, st.cert) := generateP_eq_some.mpr ⟨st, hst, hT, rfl⟩
  have hsz : st.cert.size ≤ 2147483647 := by rw [size_cert]; exact hsmall
  exact ⟨fun info => conflictFreeB_verdict info hfreeB, T, hgen,
    Lox.Props.C01.generator_valid hwf hord hgen hfree hsz,
    fun w hw t => Lox.Props.C01.generator_correct hwf hord hgen hfree hsz hw t⟩

end

end Lox.Props.C04

/-! ## Non-vacuity: the three grammars of `Lox/Examples/ConflictRuns.lean`

`s = s s | A` (ambiguous; refused), the classic LR(1)-but-not-LALR(1) grammar (refused), and
`e = e A e @left(1) | e B e @left(2) | C` (accepted, conflicts settled by precedence). The name
orders are those of the real runs; by `constructEx_amb` … the model's output is, in the canonical
form `canon`, the output of the real `ConstructLALR`. -/
namespace Lox.Props.C04
open Lox.LR Lox.LR.Cons Lox.LR.Emit
open Lox.Dec (ProdInfo Action resolveOne resolveCell SRPairOfOneRule)
open Lox.Props.C01 (wfGrammarB)

/-- The hypotheses `wfGrammarB`, `ordOKB` hold on the three grammars. -/
theorem e2eEx_wfAmb :
    wfGrammarB VerdictEx.Amb.G 4 2 = true ∧ ordOKB 4 2 constructEx_ordAmb = true := by
  decide +kernel
theorem e2eEx_wfNotLalr :
    wfGrammarB VerdictEx.NotLalr.G 7 4 = true ∧ ordOKB 7 4 constructEx_ordNotLalr = true := by
  decide +kernel
theorem e2eEx_wfPrec :
    wfGrammarB VerdictEx.PrecOk.G 5 2 = true ∧ ordOKB 5 2 constructEx_ordPrec = true := by
  decide +kernel

example : wfGrammarB VerdictEx.Amb.G 4 2 = true ∧ ordOKB 4 2 constructEx_ordAmb = true :=
  e2eEx_wfAmb
example : wfGrammarB VerdictEx.NotLalr.G 7 4 = true ∧ ordOKB 7 4 constructEx_ordNotLalr = true :=
  e2eEx_wfNotLalr
example : wfGrammarB VerdictEx.PrecOk.G 5 2 = true ∧ ordOKB 5 2 constructEx_ordPrec = true :=
  e2eEx_wfPrec

/-- Ambiguous grammar: the model says "conflicts" (evaluation), hence – by
`generator_never_invents_conflict`, no validator involved – a viable prefix and a terminal with an
unsettled LALR(1) cell exist; and the model's table satisfies the validator's conditions. -/
example : ∃ st, construct VerdictEx.Amb.G 4 constructEx_ordAmb = some st ∧
    hasConflictsP VerdictEx.Amb.info VerdictEx.Amb.G 4 st = true ∧
    ConflictOK VerdictEx.Amb.G 4 2 st.transTab st.cert ∧
    ∃ γ s a, (∃ it, LR1Item VerdictEx.Amb.G γ it) ∧ Path (skelOf st) 0 γ s ∧
      (∀ s', Path (skelOf st) 0 γ s' → s' = s) ∧
      Unsettled VerdictEx.Amb.G VerdictEx.Amb.info (skelOf st)
        (LALRItem VerdictEx.Amb.G (skelOf st)) s a := by
  obtain ⟨st, hst, hc⟩ := Option.map_eq_some_iff.mp constructEx_checks.1
  have hv : hasConflictsP VerdictEx.Amb.info VerdictEx.Amb.G 4 st = true := congrArg (·.2) hc
  exact ⟨st, hst, hv, generator_satisfies_conflict_checks e2eEx_wfAmb.1 e2eEx_wfAmb.2 hst,
    generator_never_invents_conflict e2eEx_wfAmb.1 e2eEx_wfAmb.2 _ hst hv⟩

/-- LR(1) but not LALR(1): refused, and (the grammar is productive) the unsettled cell sits in a
textbook LALR(1) set `LALRSet G γ` (`generator_verdict_exact_lalr_set`). -/
example : ∃ st, construct VerdictEx.NotLalr.G 7 constructEx_ordNotLalr = some st ∧
    hasConflictsP VerdictEx.NotLalr.info VerdictEx.NotLalr.G 7 st = true ∧
    ∃ γ s a, Path (skelOf st) 0 γ s ∧
      Unsettled VerdictEx.NotLalr.G VerdictEx.NotLalr.info (skelOf st)
        (fun _ it => LALRSet VerdictEx.NotLalr.G γ it) s a := by
  obtain ⟨st, hst, hc⟩ := Option.map_eq_some_iff.mp constructEx_checks.2.1
  have hv : hasConflictsP VerdictEx.NotLalr.info VerdictEx.NotLalr.G 7 st = true :=
    congrArg (·.2) hc
  exact ⟨st, hst, hv, (generator_verdict_exact_lalr_set e2eEx_wfNotLalr.1 e2eEx_wfNotLalr.2
    (by decide +kernel) _ hst).mp hv⟩

/-- What the model computes for the precedence grammar: it emits tables, the verdict is "no
conflict", state 5 (after `e A e`) holds the cell `[shift 3, reduce 1]` on `A` which
`resolveConflicts` changes to `[reduce 1]`, and `_Find` on the emitted `_actions` returns `-1`
there, misses on `C`, and returns `MaxInt32` (accept) for state 2 on EOF. -/
theorem e2eEx_prec :
    (construct VerdictEx.PrecOk.G 5 constructEx_ordPrec).bind (fun st =>
      (emitParserP VerdictEx.PrecOk.info VerdictEx.PrecOk.G 5 constructEx_ordPrec st).map fun T =>
        ((st.states.length, hasConflictsP VerdictEx.PrecOk.info VerdictEx.PrecOk.G 5 st,
          (Gen.cellOn VerdictEx.PrecOk.G 5 (trTerm st.transTab 5) (st.states[5]?.getD []) 2).toOption),
         (find T.actions 5 2, find T.actions 5 4, find T.actions 2 0))) =
    some ((7, false, some [.shift 3 [1, 1, 1], .reduce 1]), (.hit (-1), .miss, .hit 2147483647)) :=
  VerdictEx.PrecOk.run.2.2.1

/-- Accepted grammar WITH conflicts by definition: all hypotheses of `generator_never_hides_conflict`,
`precedence_only_settles_sr_of_one_rule` and `accepted_tables_are_lalr` hold; conclusions: the cell
(5, `A`) is settled by the documented rule, and the emitted `-1` is the code of THE remaining
LALR(1) action `reduce 1` of that cell. -/
example : ∃ st T, construct VerdictEx.PrecOk.G 5 constructEx_ordPrec = some st ∧
    emitParserP VerdictEx.PrecOk.info VerdictEx.PrecOk.G 5 constructEx_ordPrec st = some T ∧
    hasConflictsP VerdictEx.PrecOk.info VerdictEx.PrecOk.G 5 st = false ∧
    Settled VerdictEx.PrecOk.G VerdictEx.PrecOk.info (skelOf st)
      (LALRItem VerdictEx.PrecOk.G (skelOf st)) 5 2 ∧
    find T.actions 5 2 = .hit (-1) ∧
    Cand VerdictEx.PrecOk.G (skelOf st) (LALRItem VerdictEx.PrecOk.G (skelOf st)) 5 2 (.reduce 1) ∧
    (∀ act, ¬ Cand VerdictEx.PrecOk.G (skelOf st) (LALRItem VerdictEx.PrecOk.G (skelOf st)) 5 4 act) := by
  obtain ⟨st, hst, h⟩ := Option.bind_eq_some_iff.mp e2eEx_prec
  obtain ⟨T, hT, hc⟩ := Option.map_eq_some_iff.mp h
  simp only [Prod.mk.injEq] at hc
  obtain ⟨⟨hlen, hv, hcell'⟩, hf1, hf2, _⟩ := hc
  have hcell : Gen.cellOn VerdictEx.PrecOk.G 5 (trTerm st.transTab 5) (st.states[5]?.getD []) 2 =
      .ok [.shift 3 [1, 1, 1], .reduce 1] := by
    cases hco : Gen.cellOn VerdictEx.PrecOk.G 5 (trTerm st.transTab 5) (st.states[5]?.getD []) 2 with
    | error e => rw [hco] at hcell'; cases hcell'
    | ok c => rw [hco] at hcell'; cases hcell'; rfl
  have hwf := e2eEx_wfPrec.1
  have hord := e2eEx_wfPrec.2
  have hset := (precedence_only_settles_sr_of_one_rule hwf hord VerdictEx.PrecOk.info hst hcell
    (by decide)).2
  have hs : 5 < st.states.length := by omega
  obtain ⟨hhit, _, _⟩ := accepted_tables_are_lalr hwf hord hst hT hv hs (a := 2) (by decide)
  obtain ⟨_, hmiss, _⟩ := accepted_tables_are_lalr hwf hord hst hT hv hs (a := 4) (by decide)
  obtain ⟨x, hx, hcand, _, _⟩ := hhit (-1) hf1
  have hx1 : x = .reduce 1 := by
    cases x with
    | shift t ps => simp only [actCode] at hx; omega
    | reduce p =>
      have : p = 1 := by simp only [actCode] at hx; omega
      rw [this]
    | accept => simp [actCode, acceptCode] at hx
  subst hx1
  exact ⟨st, T, hst, hT, hv, hset, hf1, hcand, hmiss hf2⟩

/-- `generator_never_hides_conflict` on the accepted grammar: at most one action is left in every
LALR(1) cell. -/
example : ∃ st, construct VerdictEx.PrecOk.G 5 constructEx_ordPrec = some st ∧
    ∀ s a cell, CellOf VerdictEx.PrecOk.G (skelOf st) (LALRItem VerdictEx.PrecOk.G (skelOf st)) s a cell →
      (resolveOne VerdictEx.PrecOk.info cell).1.length ≤ 1 := by
  obtain ⟨st, hst, hc⟩ := Option.map_eq_some_iff.mp constructEx_checks.2.2
  have hv : hasConflictsP VerdictEx.PrecOk.info VerdictEx.PrecOk.G 5 st = false := congrArg (·.2) hc
  exact ⟨st, hst, fun s a cell hcell =>
    (generator_never_hides_conflict e2eEx_wfPrec.1 e2eEx_wfPrec.2 _ hst hv s a).2 cell hcell⟩

/-- The hypothesis `hsearch` of `generator_passes_conflict_check_partial` holds on the refused
ambiguous grammar (so the whole Boolean validator passes there, as `constructEx_checks` evaluates),
and `generator_passes_closed_check` applies. -/
example : ∃ st, construct VerdictEx.Amb.G 4 constructEx_ordAmb = some st ∧
    (rankOKB VerdictEx.Amb.G (rankTabs VerdictEx.Amb.G 4 2) &&
      itemsJustB VerdictEx.Amb.G (skelAuto st.transTab st.cert) (rankTabs VerdictEx.Amb.G 4 2)
        (Jst.searchRanks VerdictEx.Amb.G 2 (skelAuto st.transTab st.cert) st.cert
          (rankTabs VerdictEx.Amb.G 4 2)).1
        (Jst.searchRanks VerdictEx.Amb.G 2 (skelAuto st.transTab st.cert) st.cert
          (rankTabs VerdictEx.Amb.G 4 2)).2 st.cert.size) = true ∧
    closedSkelB VerdictEx.Amb.G 4 2 st.transTab st.cert = true := by
  obtain ⟨st, hst, hc⟩ := Option.map_eq_some_iff.mp constructEx_checks.1
  have h1 : conflictCheckB VerdictEx.Amb.G 4 2 st.transTab st.cert = true := congrArg (·.1) hc
  rw [conflictCheckB_eq_search (Lox.Props.C01.wfGrammarB_spec e2eEx_wfAmb.1) (ordOKB_spec e2eEx_wfAmb.2) hst] at h1
  exact ⟨st, hst, h1, (generator_passes_closed_check e2eEx_wfAmb.1 e2eEx_wfAmb.2 hst).1⟩

/-- `generator_refuses_iff` needs no run at all: the ambiguous grammar. -/
example : ∃ st, construct VerdictEx.Amb.G 4 constructEx_ordAmb = some st ∧
    (hasConflictsP VerdictEx.Amb.info VerdictEx.Amb.G 4 st = true ↔
      ∃ γ s a, (∃ it, LR1Item VerdictEx.Amb.G γ it) ∧ Path (skelOf st) 0 γ s ∧
        (∀ s', Path (skelOf st) 0 γ s' → s' = s) ∧
        Unsettled VerdictEx.Amb.G VerdictEx.Amb.info (skelOf st)
          (LALRItem VerdictEx.Amb.G (skelOf st)) s a) :=
  generator_refuses_iff e2eEx_wfAmb.1 e2eEx_wfAmb.2 (by decide) _

/-- `emitted_gotos_are_lalr` on the precedence grammar: `_Find(_goto, 3, e)` hits state 5, the
state reached by `e A e`. -/
example : ∃ st T, construct VerdictEx.PrecOk.G 5 constructEx_ordPrec = some st ∧
    emitParserP VerdictEx.PrecOk.info VerdictEx.PrecOk.G 5 constructEx_ordPrec st = some T ∧
    find T.gotos 3 1 = .hit 5 ∧ trans (skelOf st) 3 (.n 1) = some 5 := by
  obtain ⟨st, hst, h⟩ := Option.bind_eq_some_iff.mp e2eEx_prec
  obtain ⟨T, hT, hc⟩ := Option.map_eq_some_iff.mp h
  have hlen : st.states.length = 7 := congrArg (·.1.1) hc
  have hf : find T.gotos 3 1 = .hit 5 := by
    have hg := VerdictEx.PrecOk.run.2.2.2
    rw [hst, Option.bind_some, hT, Option.map_some] at hg
    exact Option.some.inj hg
  obtain ⟨hhit, _, _⟩ := emitted_gotos_are_lalr (B := 1) e2eEx_wfPrec.1 e2eEx_wfPrec.2 hst hT
    (show 3 < st.states.length by omega) (by decide)
  obtain ⟨t, ht, htr, _⟩ := hhit 5 hf
  have : t = 5 := by omega
  subst this
  exact ⟨st, T, hst, hT, hf, htr⟩

/-- The hypotheses of `lalr1_grammar_gets_exact_parser` hold on the grammar of defect D1
(`Lox.Props.C01.gD1`, 10 states): the model's cells are single (evaluation), hence – by
`conflictFree_iff_lalr1` – the grammar is LALR(1) by definition; and the conclusion. -/
example : ∃ st, construct Lox.Props.C01.gD1 7 Lox.Props.C01.e2eOrd = some st ∧
    (∀ s a, ¬ Conflict Lox.Props.C01.gD1 (skelOf st) (LALRItem Lox.Props.C01.gD1 (skelOf st)) s a) ∧
    ∃ T, generate Lox.Props.C01.gD1 7 Lox.Props.C01.e2eOrd = some (T, st.cert) ∧
      check Lox.Props.C01.gD1 7 5 T st.cert = .ok () := by
  obtain ⟨_, cert, hgen, hsz⟩ := Lox.Props.C01.e2eEx_gD1_run
  obtain ⟨st, hst, _, rfl⟩ := generateP_eq_some.mp hgen
  have hwf := Lox.Props.C01.e2eEx_gD1_hyps.1
  have hord := Lox.Props.C01.e2eEx_gD1_hyps.2.1
  have hl := (conflictFree_iff_lalr1 hwf hord hst).mp Lox.Props.C01.e2eEx_gD1_hyps.2.2
  obtain ⟨_, T, hgen, hchk, _⟩ :=
    lalr1_grammar_gets_exact_parser hwf hord hst hl (by rw [← size_cert]; omega)
  exact ⟨st, hst, hl, T, hgen, hchk⟩

end Lox.Props.C04
