import Lox.Props.C03_e2e
import Lox.Props.C16
/-!
# C16, the SUGAR end to end: `_onBounds` on the parser lox generates for a sugar grammar

Hypotheses as in `C01_sugar_e2e.lean` (well-formed sugar grammar `SG`, `desugar SG` accepted
without conflicts by the generator model, `T` the emitted tables), input `w` of declared tokens,
the model of the generated `parse()` with `_onBounds` defined (`withBounds = true`) accepts `w`
cleanly. Composition of `Rt.clean_bounds` (Lox/LR/RuntimeClean.lean: the discipline of
`C16.on_bounds_calls` on a log that is the post-order of a value tree over the input tokens; any
tables) and `C16.erasure` with `C03.sugar_generator_actions` and `C01.sugar_generator_valid`.

What `clean_bounds` adds to `on_bounds_calls`: the span of every reduction is a
CONTIGUOUS stretch `b, …, b+n-1` of the input, the leaves of the action's result are exactly the
tokens `w[b], …, w[b+n-1]` (so `Begin`/`End` are the first and last token of the text the node
derives), and `n = 0` exactly for nodes that derive nothing. `tokAt w i` = the `i`-th token the
lexer returned; `wordOf v` = the token types at the leaves of `v`. -/
namespace Lox.Props.C16
open Lox.LR Lox.LR.Emit Lox.LR.Abs Lox.LR.Rt

variable {SG : SGrammar} {ord : List Sym} {T : Tables} {cert : Array (List Item)}

/-- Chronological log of a clean accepting run with `_onBounds`.
(a) Every action call `_act(p, kids)` – user production or helper – spans a contiguous stretch of
`n` input tokens starting at token `b`: the leaves of its result are exactly `w[b], …, w[b+n-1]`.
If `n > 0` the call is IMMEDIATELY followed by `_onBounds(result, token b, token b+n-1)`; if
`n = 0` (the node derives nothing) the next event, if any, is not an `_onBounds` call.
(b) Every `_onBounds` call is such a follower: directly preceded by the action call of the same
reduction, carrying its result and the first and last token of its non-empty span. -/
theorem sugar_generator_bounds (hw : SG.wf = true)
    (hord : ordOKB SG.nTerms SG.nRules ord = true)
    (hgen : generate (desugar SG).1 SG.nTerms ord = some (T, cert))
    (hfree : conflictFree (desugar SG).1 SG.nTerms ord = true)
    (hsmall : cert.size ≤ 2147483647) {w : List Nat} (hw2 : ∀ x ∈ w, 2 ≤ x) {fuel : Nat}
    (hacc : (parseG T w.toArray true fuel).1 = .accept)
    (h0 : (parseG T w.toArray true fuel).2.2 = 0) :
    (∀ (pre post : List Event) (p : Nat) (kids : List Val),
      (parse T w.toArray true fuel).2.log.reverse = pre ++ .act p kids :: post →
        ∃ b n, b + n ≤ w.length ∧
          leaves (.node p kids) = (List.range' b n).map (tokAt w) ∧
          wordOf (.node p kids) = (w.drop b).take n ∧
          (0 < n → ∃ post', post = .bounds p (.node p kids) b (b + n - 1) :: post') ∧
          (n = 0 → ∀ ev, post.head? = some ev → ev.isBounds = false)) ∧
    (∀ (pre post : List Event) (p : Nat) (v : Val) (b e : Nat),
      (parse T w.toArray true fuel).2.log.reverse = pre ++ .bounds p v b e :: post →
        ∃ pre' kids, pre = pre' ++ [.act p kids] ∧ v = .node p kids ∧ b ≤ e ∧ e < w.length ∧
          leaves v = (List.range' b (e - b + 1)).map (tokAt w)) := by
  obtain ⟨v, _, _, _, hl, hlog, _⟩ :=
    C03.sugar_generator_actions hw hord hgen hfree hsmall hw2 hacc h0
  exact clean_bounds hl hlog

/-- "Its presence changes nothing else": on the emitted tables
the run with `_onBounds` and the run without have the same outcome, the same number of
recoveries (so one is a clean accept iff the other is), the same action calls in the same order,
the same number of `ReadToken` calls, the same lexer position, the same stack (states and
values), and without `_onBounds` no `_onBounds` call is logged. (Holds for any tables; stated here
for the generated ones, for every input – lexer ERROR tokens included – and every fuel.) -/
theorem sugar_generator_bounds_erasure (_hgen : generate (desugar SG).1 SG.nTerms ord = some (T, cert))
    (inp : Array Nat) (fuel : Nat) :
    (parseG T inp true fuel).1 = (parseG T inp false fuel).1 ∧
    (parseG T inp true fuel).2.2 = (parseG T inp false fuel).2.2 ∧
    actEvents (parse T inp true fuel).2.log = (parse T inp false fuel).2.log ∧
    actCalls (parse T inp true fuel).2.log = actCalls (parse T inp false fuel).2.log ∧
    (parse T inp true fuel).2.reads = (parse T inp false fuel).2.reads ∧
    (parse T inp true fuel).2.pos = (parse T inp false fuel).2.pos ∧
    (parse T inp true fuel).2.stack.map (fun e => (e.state, e.sym)) =
      (parse T inp false fuel).2.stack.map (fun e => (e.state, e.sym)) ∧
    ∀ ev ∈ (parse T inp false fuel).2.log, ev.isBounds = false := by
  obtain ⟨h1, h2, h3, h4, _⟩ := erasure T inp fuel
  exact ⟨by rw [parseG_fst, parseG_fst, h1], (parseG_eraseB T inp fuel).2.2, h2,
    by rw [← h2, actCalls_actEvents], h3, h4, erasure_stack T inp fuel, no_calls_without T inp fuel⟩

/-- For sentences no hypothesis about the run is left: for sufficient fuel the run with
`_onBounds` accepts cleanly and (a), (b) of `sugar_generator_bounds` hold. -/
theorem sugar_generator_sentence_bounds (hw : SG.wf = true)
    (hord : ordOKB SG.nTerms SG.nRules ord = true)
    (hgen : generate (desugar SG).1 SG.nTerms ord = some (T, cert))
    (hfree : conflictFree (desugar SG).1 SG.nTerms ord = true)
    (hsmall : cert.size ≤ 2147483647) {w : List Nat} (hw2 : ∀ x ∈ w, 2 ≤ x)
    (hs : SDer SG [.atom (.rule 0)] w) :
    ∃ N, ∀ fuel, N ≤ fuel → (parse T w.toArray true fuel).1 = .accept ∧
      ∀ (pre post : List Event) (p : Nat) (kids : List Val),
        (parse T w.toArray true fuel).2.log.reverse = pre ++ .act p kids :: post →
          ∃ b n, b + n ≤ w.length ∧
            leaves (.node p kids) = (List.range' b n).map (tokAt w) ∧
            (0 < n → ∃ post', post = .bounds p (.node p kids) b (b + n - 1) :: post') ∧
            (n = 0 → ∀ ev, post.head? = some ev → ev.isBounds = false) := by
  obtain ⟨N, hN⟩ := C01.sentence_clean (C01.sugar_generator_valid hw hord hgen hfree hsmall) hw2
    ((C01.sugar_lang hw w).1 hs) true
  refine ⟨N, fun fuel hf => ?_⟩
  obtain ⟨hacc, h0⟩ := hN fuel hf
  refine ⟨by rw [← parseG_fst]; exact hacc, fun pre post p kids hsplit => ?_⟩
  obtain ⟨b, n, h1, h2, _, h3, h4⟩ :=
    (sugar_generator_bounds hw hord hgen hfree hsmall hw2 hacc h0).1 pre post p kids hsplit
  exact ⟨b, n, h1, h2, h3, h4⟩

/-! Non-vacuity on `C01.exE2E` (`Lox/Examples/SugarList.lean`): `s = A? b+ ;  b = @list(B, C)`. -/

open Lox.Props.C01 (exE2E exE2EOrd exE2ET exE2E_wf exE2E_ordOK exE2E_free exE2E_generate exE2E_small
  exE2E_clean exE2E_member)

/-- By evaluation, `A B C B B`: `A? → A` spans token 0; the list `B C B` grows (1,1) then (1,3);
`b` (1,3); `b+` (1,3); the second list and `b` span token 4; `b+` and `s` end at token 4. -/
theorem exE2E_log : (generate (desugar exE2E).1 exE2E.nTerms exE2EOrd).map
    (fun r => (parseG r.1 #[2, 3, 4, 3, 3] true 60).2.1.log.reverse.map evSummary) =
    some [(0, 3, 1, 0), (1, 3, 0, 0), (0, 8, 1, 0), (1, 8, 1, 1), (0, 7, 3, 0), (1, 7, 1, 3),
      (0, 2, 1, 0), (1, 2, 1, 3), (0, 6, 1, 0), (1, 6, 1, 3), (0, 8, 1, 0), (1, 8, 4, 4),
      (0, 2, 1, 0), (1, 2, 4, 4), (0, 5, 2, 0), (1, 5, 1, 4), (0, 1, 2, 0), (1, 1, 0, 4)] := by
  simp only [exE2E_generate.1, Option.map_some, Lox.Props.C01.exE2E_run.2.2.1]

/-- By evaluation, `B` alone: `A? → ε` (production 4) derives nothing and gets NO `_onBounds`
call; the root `s` spans token 0 only (the empty child in front is skipped). -/
theorem exE2E_log_empty : (generate (desugar exE2E).1 exE2E.nTerms exE2EOrd).map
    (fun r => ((parseG r.1 #[3] true 60).1, (parseG r.1 #[3] true 60).2.2)) = some (.accept, 0) ∧
    (generate (desugar exE2E).1 exE2E.nTerms exE2EOrd).map
      (fun r => (parseG r.1 #[3] true 60).2.1.log.reverse.map evSummary) =
    some [(0, 4, 0, 0), (0, 8, 1, 0), (1, 8, 0, 0), (0, 2, 1, 0), (1, 2, 0, 0),
      (0, 6, 1, 0), (1, 6, 0, 0), (0, 1, 2, 0), (1, 1, 0, 0)] := by
  simp only [exE2E_generate.1, Option.map_some, Lox.Props.C01.exE2E_run_B.1,
    Lox.Props.C01.exE2E_run_B.2.1, Lox.Props.C01.exE2E_run_B.2.2, and_self]

/-- THROUGH the theorem, on the sentence `A B C B B` (all hypotheses by evaluation): the first
event of the log is an action call; `sugar_generator_bounds` gives its span `b, n`; if `n > 0` the
second event is its `_onBounds` call with tokens `b` and `b+n-1`. -/
example : ∃ T cert, generate (desugar exE2E).1 exE2E.nTerms exE2EOrd = some (T, cert) ∧
    ∀ (p : Nat) (kids : List Val) (post : List Event),
      (parse T #[2, 3, 4, 3, 3] true 60).2.log.reverse = .act p kids :: post →
      ∃ b n, b + n ≤ 5 ∧ wordOf (.node p kids) = ([2, 3, 4, 3, 3].drop b).take n ∧
        (0 < n → ∃ post', post = .bounds p (.node p kids) b (b + n - 1) :: post') := by
  refine ⟨exE2ET, _, exE2E_generate.1, fun p kids post hlog => ?_⟩
  obtain ⟨b, n, h1, _, h3, h4, _⟩ :=
    (sugar_generator_bounds exE2E_wf exE2E_ordOK exE2E_generate.1 exE2E_free exE2E_small
      (w := [2, 3, 4, 3, 3]) (by decide) exE2E_clean.1 exE2E_clean.2).1 [] post p kids
      (by simpa using hlog)
  exact ⟨b, n, h1, h3, h4⟩

/-- … and the same through `sugar_generator_sentence_bounds`, from the documented reading alone
(`exE2E_member : SDer exE2E … [2, 3, 4, 3, 3]`), without evaluating the parser. -/
example : ∃ T cert, generate (desugar exE2E).1 exE2E.nTerms exE2EOrd = some (T, cert) ∧
    ∃ N, ∀ fuel, N ≤ fuel → (parse T #[2, 3, 4, 3, 3] true fuel).1 = .accept := by
  obtain ⟨N, hN⟩ := sugar_generator_sentence_bounds exE2E_wf exE2E_ordOK exE2E_generate.1
    exE2E_free exE2E_small (w := [2, 3, 4, 3, 3]) (by decide) exE2E_member
  exact ⟨exE2ET, _, exE2E_generate.1, N, fun fuel hf => (hN fuel hf).1⟩

end Lox.Props.C16
