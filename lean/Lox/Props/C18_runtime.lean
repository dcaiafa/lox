import Lox.LR.Model
import Lox.LR.RuntimeExample
import Lox.Lex.Model
import Lox.Dec.Interleave
import Lox.Props.C18
/-! C18, instantiated with the REAL runtime models.

`Lox.Props.C18.interleave_independent` is stated for abstract step functions. Here the components
are instances of the executable models of the generated code:

* a parser instance = one `Lox.LR.PState` (the receiver `lox`: `_stack`, `_la`, `_lasym`, `_qla`,
  `_qlasym`, `_recovering`, plus the position of its own lexer) stepping with
  `Lox.LR.step T inp withBounds fuel` (one iteration of the `for` loop of `parse`,
  `internal/codegen/emit_parser.go`, including `_recover`, `_onBounds`);
* a lexer instance = one `Lox.Lex.Lx` (`simplelexer.Lexer` around a `_LexerStateMachine`:
  `token`, `state`, `mode`, `modeStack`) stepping with `Lox.Lex.readToken modes inp fuel none`
  (one `ReadToken()` call, `internal/codegen/emit_lexer.go` `PushRune`).

What all instances share is a `Program`: the tables of every package linked into the binary
(`_rules/_termCounts/_actions/_goto` per parser package, `_lexerModes` per lexer package), which no
step can change — the models are pure functions of their own state and of the tables; that the Go
code is like that is the premise extracted by the harness (`expect/shared_state.json`).

Result (`concurrent_eq_sequential`): in ANY interleaving of the steps of N instances (same or
different packages, with or without error recovery / `_onBounds`), what instance `i` computes —
read off its own trace — is exactly `Lox.LR.runLoop` / `Lox.Lex.lexAll` of its solo model, i.e. the
value the sequential run gives (`parser_full`: and that is `Lox.LR.parse`). -/
namespace Lox.Props.C18
open Lox.Dec.Interleave

/-- The immutable data shared by every goroutine: the tables of the linked packages. -/
structure Program where
  parserTables : Nat → Lox.LR.Tables
  lexerModes : Nat → Array Lox.Lex.Mode

/-- What an instance is created with: its package and its own input (the parameters of
`parse(lex)` / `simplelexer.New(cfg)`); `fuel` bounds the inner loops of the models. -/
inductive Inst where
  | parser (pkg : Nat) (inp : Array Nat) (withBounds : Bool) (fuel : Nat)
  | lexer (pkg : Nat) (inp : Lox.Lex.Input) (fuel : Nat)

abbrev St : Inst → Type
  | .parser .. => Lox.LR.PState
  | .lexer .. => Lox.Lex.Lx

/-- What one step lets the caller observe: the loop iteration's verdict / the token returned
(`none` = `ReadToken` does not return within the fuel, `some none` = Go panic). -/
abbrev Ob : Inst → Type
  | .parser .. => Lox.LR.StepR
  | .lexer .. => Option (Option Lox.Lex.Tok)

/-- One scheduling unit of an instance: one iteration of `parse`'s loop, or one `ReadToken()`. -/
def stepInst (P : Program) : (d : Inst) → St d → Unit → St d × Ob d
  | .parser k inp wb fuel, s, _ =>
    match Lox.LR.step (P.parserTables k) inp wb fuel s with
    | .cont s' => (s', .cont s')
    | .done o s' => (s', .done o s')
  | .lexer k inp fuel, l, _ =>
    match Lox.Lex.readToken (P.lexerModes k) inp fuel none l with
    | none => (l, none)
    | some (t, l') => (l', some t)

def theStep {n : Nat} (insts : Fin n → Inst) :
    Step n Program (fun i => St (insts i)) (fun _ => Unit) (fun i => Ob (insts i)) :=
  fun i P s x => stepInst P (insts i) s x

def soloInst (P : Program) (d : Inst) : Nat → St d → St d × List (Ob d)
  | 0, s => (s, [])
  | m + 1, s =>
    let r := stepInst P d s ()
    let rest := soloInst P d m r.1
    (rest.1, r.2 :: rest.2)

private theorem runSolo_eq_soloInst {n : Nat} (insts : Fin n → Inst) (P : Program) (i : Fin n)
    (s : St (insts i)) (evs : List Unit) :
    runSolo (theStep insts) P i s evs = soloInst P (insts i) evs.length s := by
  induction evs generalizing s with
  | nil => rfl
  | cons x xs ih =>
    simp only [runSolo, List.length_cons, soloInst, theStep]
    rw [← ih]

/-- The schedule-independence theorem with the real models plugged in: the trace and the final
state of instance `i` inside any interleaved run are those of `i` stepping alone as many times as
the schedule let it. -/
theorem runtime_interleave_independent {n : Nat} (insts : Fin n → Inst) (P : Program)
    (g : Global (fun i => St (insts i))) (sch : List (Tagged (n := n) (fun _ => Unit))) (i : Fin n) :
    proj i (run (theStep insts) P g sch).2 = (soloInst P (insts i) (proj i sch).length (g i)).2 ∧
    (run (theStep insts) P g sch).1 i = (soloInst P (insts i) (proj i sch).length (g i)).1 := by
  have h := interleave_independent (theStep insts) P g sch i
  rw [runSolo_eq_soloInst] at h
  exact h

/-- What `parse` returns, from the verdicts of its loop iterations (first `done`; none within the
steps taken = still running, reported as `timeout` with the state reached). -/
def parseOfTrace : List Lox.LR.StepR → Lox.LR.PState → Lox.LR.Outcome × Lox.LR.PState
  | [], s => (.timeout, s)
  | .done o s' :: _, _ => (o, s')
  | .cont _ :: rest, s => parseOfTrace rest s

/-- The token stream of a lexer, from what its `ReadToken` calls returned (up to EOF). -/
def lexOfTrace : List (Option (Option Lox.Lex.Tok)) → List Lox.Lex.Tok → List Lox.Lex.Tok × String
  | [], acc => (acc.reverse, "timeout")
  | none :: _, acc => (acc.reverse, "timeout")
  | some none :: _, acc => (acc.reverse, "panic")
  | some (some t) :: rest, acc =>
    match t with
    | .eof _ => ((t :: acc).reverse, "ok")
    | _ => lexOfTrace rest (t :: acc)

inductive Result where
  | parse (r : Lox.LR.Outcome × Lox.LR.PState)
  | lex (r : List Lox.Lex.Tok × String)

/-- The observable result of an instance, computed from ITS OWN trace and final state. -/
def view : (d : Inst) → List (Ob d) → St d → Result
  | .parser .., tr, s => .parse (parseOfTrace tr s)
  | .lexer .., tr, _ => .lex (lexOfTrace tr [])

/-- The sequential semantics: the models' own drivers. -/
def expected (P : Program) : (d : Inst) → St d → Nat → Result
  | .parser k inp wb fuel, s, m => .parse (Lox.LR.runLoop (P.parserTables k) inp wb fuel m s)
  | .lexer k inp fuel, l, m => .lex (Lox.Lex.lexAll (P.lexerModes k) inp fuel m l [])

private theorem runLoop_eq_parseOfTrace (P : Program) (k : Nat) (inp : Array Nat) (wb : Bool) (fuel m : Nat)
    (s : Lox.LR.PState) :
    Lox.LR.runLoop (P.parserTables k) inp wb fuel m s =
      parseOfTrace (soloInst P (.parser k inp wb fuel) m s).2 (soloInst P (.parser k inp wb fuel) m s).1 := by
  induction m generalizing s with
  | zero => rfl
  | succ m ih =>
    simp only [Lox.LR.runLoop, soloInst, stepInst]
    cases h : Lox.LR.step (P.parserTables k) inp wb fuel s with
    | cont s' => simp only [parseOfTrace]; exact ih s'
    | done o s' => simp only [parseOfTrace]

private theorem lexAll_eq_lexOfTrace (P : Program) (k : Nat) (inp : Lox.Lex.Input) (fuel m : Nat)
    (l : Lox.Lex.Lx) (acc : List Lox.Lex.Tok) :
    Lox.Lex.lexAll (P.lexerModes k) inp fuel m l acc =
      lexOfTrace (soloInst P (.lexer k inp fuel) m l).2 acc := by
  induction m generalizing l acc with
  | zero => rfl
  | succ m ih =>
    simp only [Lox.Lex.lexAll, soloInst, stepInst]
    cases h : Lox.Lex.readToken (P.lexerModes k) inp fuel none l with
    | none => simp only [lexOfTrace]
    | some r =>
      obtain ⟨t, l'⟩ := r
      cases t with
      | none => simp only [lexOfTrace]
      | some t =>
        cases t with
        | eof p => simp only [lexOfTrace]
        | tok ty a b => simp only [lexOfTrace]; exact ih l' _
        | err a c => simp only [lexOfTrace]; exact ih l' _

private theorem view_solo (P : Program) (d : Inst) (s : St d) (m : Nat) :
    view d (soloInst P d m s).2 (soloInst P d m s).1 = expected P d s m := by
  cases d with
  | parser k inp wb fuel => simp only [view, expected, runLoop_eq_parseOfTrace]
  | lexer k inp fuel => simp only [view, expected, lexAll_eq_lexOfTrace]

/-- **Concurrent = sequential, for the real models.** Whatever the interleaving of the steps of
`n` parser/lexer instances over the shared immutable tables, the result of instance `i` — read off
its own part of the interleaved trace — is the result of the sequential drivers `runLoop` /
`lexAll` of the models on `i`'s own input and initial state, for as many steps as `i` was given. -/
theorem concurrent_eq_sequential {n : Nat} (insts : Fin n → Inst) (P : Program)
    (g : Global (fun i => St (insts i))) (sch : List (Tagged (n := n) (fun _ => Unit))) (i : Fin n) :
    view (insts i) (proj i (run (theStep insts) P g sch).2) ((run (theStep insts) P g sch).1 i) =
      expected P (insts i) (g i) (proj i sch).length := by
  obtain ⟨h1, h2⟩ := runtime_interleave_independent insts P g sch i
  rw [h1, h2]
  exact view_solo P (insts i) (g i) _

/-- Two interleavings that give every instance the same number of steps give every instance the
same result. -/
theorem concurrent_schedules_agree {n : Nat} (insts : Fin n → Inst) (P : Program)
    (g : Global (fun i => St (insts i))) (sch₁ sch₂ : List (Tagged (n := n) (fun _ => Unit)))
    (i : Fin n) (h : (proj i sch₁).length = (proj i sch₂).length) :
    view (insts i) (proj i (run (theStep insts) P g sch₁).2) ((run (theStep insts) P g sch₁).1 i) =
    view (insts i) (proj i (run (theStep insts) P g sch₂).2) ((run (theStep insts) P g sch₂).1 i) := by
  rw [concurrent_eq_sequential, concurrent_eq_sequential, h]

/-- For a parser instance that starts where `parse` starts (bottom entry pushed, first token read)
and is given `fuel` iterations, the sequential value is `Lox.LR.parse` itself. -/
theorem parser_full (P : Program) (k : Nat) (inp : Array Nat) (wb : Bool) (fuel : Nat)
    (s1 : Lox.LR.PState)
    (h : Lox.LR.readToken (P.parserTables k) inp { stack := [{ state := 0, sym := .nil }] } = .ok s1) :
    expected P (.parser k inp wb fuel) s1 fuel = .parse (Lox.LR.parse (P.parserTables k) inp wb fuel) := by
  simp only [expected, Lox.LR.parse, h]

/-! Non-vacuity: two parsers of one generated grammar (one of them recovering from a syntax
error) and a lexer, under two different interleavings. -/

/-- The tables of `Lox/LR/RuntimeExample.lean` (real generator output, grammar with `@error`) as
package 0; a one-rule lexer `A = 'a'` (token 2) as lexer package 0. -/
def rtProgram : Program where
  parserTables := fun _ => Lox.LR.Rt.Example.T
  lexerModes := fun _ => #[#[2, 8, 5, 0, 1, 97, 97, 1, 4, 0, 0, 3, 2]]

/-- `a b ;` (a sentence), `a a ;` (syntax error, recovered through `stmt = @error SEMI`), and the
bytes `aa`. -/
def rtInsts : Fin 3 → Inst
  | 0 => .parser 0 #[2, 3, 5] true 50
  | 1 => .parser 0 #[2, 2, 5] false 50
  | 2 => .lexer 0 #[(97, 1), (97, 1)] 50

def rtStart (inp : Array Nat) : Lox.LR.PState :=
  match Lox.LR.readToken Lox.LR.Rt.Example.T inp { stack := [{ state := 0, sym := .nil }] } with
  | .ok s => s
  | .error _ => { stack := [] }

def rtInit : Global (fun i => St (rtInsts i))
  | 0 => rtStart #[2, 3, 5]
  | 1 => rtStart #[2, 2, 5]
  | 2 => ({} : Lox.Lex.Lx)

def rtOutcome : Result → Option Lox.LR.Outcome
  | .parse r => some r.1
  | .lex _ => none

def rtTokens : Result → Option (List Lox.Lex.Tok × String)
  | .lex r => some r
  | .parse _ => none

/-- round-robin, and "all of 2, then all of 1, then all of 0": 12, 14 and 3 steps each -/
def rtSchA : List (Tagged (n := 3) (fun _ => Unit)) :=
  (List.replicate 3 [⟨0, ()⟩, ⟨1, ()⟩, ⟨2, ()⟩]).flatten ++
  (List.replicate 9 [⟨1, ()⟩, ⟨0, ()⟩]).flatten ++ [⟨1, ()⟩, ⟨1, ()⟩]

def rtSchB : List (Tagged (n := 3) (fun _ => Unit)) :=
  List.replicate 3 ⟨2, ()⟩ ++ List.replicate 14 ⟨1, ()⟩ ++ List.replicate 12 ⟨0, ()⟩

/-- The hypothesis of `parser_full` is satisfiable. -/
example : ∃ s1, Lox.LR.readToken (rtProgram.parserTables 0) #[2, 2, 5]
    { stack := [{ state := 0, sym := .nil }] } = .ok s1 := ⟨_, rfl⟩

/-- Under both interleavings: the first parser accepts, the second accepts after recovery (its
log is not empty and it read all three tokens plus EOF), the lexer yields `A A EOF`. -/
example :
    rtSchA ≠ rtSchB ∧
    (∀ sch ∈ [rtSchA, rtSchB],
      rtOutcome (view (rtInsts 0) (proj 0 (run (theStep rtInsts) rtProgram rtInit sch).2)
        ((run (theStep rtInsts) rtProgram rtInit sch).1 0)) = some .accept ∧
      rtOutcome (view (rtInsts 1) (proj 1 (run (theStep rtInsts) rtProgram rtInit sch).2)
        ((run (theStep rtInsts) rtProgram rtInit sch).1 1)) = some .accept ∧
      rtTokens (view (rtInsts 2) (proj 2 (run (theStep rtInsts) rtProgram rtInit sch).2)
        ((run (theStep rtInsts) rtProgram rtInit sch).1 2)) =
        some ([.tok 2 0 1, .tok 2 1 2, .eof 2], "ok")) := by
  decide +kernel

end Lox.Props.C18
