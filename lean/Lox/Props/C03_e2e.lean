import Lox.Props.C01_sugar_e2e
import Lox.Props.C03_sugar
import Lox.Props.C03
/-!
# C03, the SUGAR end to end: the user's actions run bottom-up, once per node, and every parameter
receives the documented sugar value

The statements speak about the sugar grammar `SG` the user writes and the model of the parser lox
generates for it (`generate (desugar SG).1 …`, hypotheses as in `C01_sugar_e2e.lean`). They compose
`clean_accept_unique` (C03.lean: on validated tables of any grammar, value-level post-order of a
clean run), `generator_valid`, `term_values` / `list_sugar_values` (C03_sugar.lean).

Vocabulary (Lox/LR/RuntimeClean.lean): `actCalls log` = the `_act(p, args…)` calls of the event log
with their argument VALUES, newest first; `Val.post v` = the production nodes of the value tree `v`
children-before-parent, left to right, each with its children values; `tokAt w i` = the `i`-th
token the lexer returned. `interp kinds rules v` (Lox/LR/Sugar.lean) = what the generated `_act`
branches make of the value tree `v` (a user node stays a node; helper nodes are folded into the
slice / optional value the user's method receives). `kindOf SG p = 0` ⇔ production `p` was written
by the user (`SGrammar.user_prod_of_kind`, `SGrammar.kind_of_user_prod`). -/
namespace Lox.Props.C03
open Lox.LR Lox.LR.Emit Lox.LR.Abs Lox.LR.Rt
open Lox.Props.C01 (sugar_generator_valid startSym_desugar)

/-- Grammar level. In a value tree `v` whose tree is a derivation tree of the
desugared grammar, every call `(p, kids)` of a USER production `p` (`kindOf SG p = 0`) is the call
of production `sp` of a user rule `A`: one argument per term of `sp`, in order; the `i`-th argument
`kid` is derived from the `i`-th term `t`, and when `t` is a sugar term (`x?`, `x*`, `x*!`, `x+`,
`@list(x,s)`, `@list(x,s)?`) the value the user's method receives for it, `interp … kid`, is the
documented one: built from element values `es`, each derived from `x`, listed in input order
(for `?`, `*`, `*!`, `+` the argument's tokens are exactly the elements' tokens, concatenated) –
`x?` → the element's value or the zero value, `x*`/`x+` → all of them, `x*!` → those whose
`Discard()` is false, `@list` → the elements; and for `@list(x, s)` in full: first element, then
(separator, element) pairs, separators derived from `s`, present in the input between the
elements and ABSENT from the value. -/
theorem call_values {SG : SGrammar} (hw : SG.wf = true) (rules : Array Int) {X : Sym}
    {w : List Nat} {v : Val} (hd : Der (desugar SG).1 [X] w [v.toTree]) {p : Nat}
    {kids : List Val} (hm : (p, kids) ∈ v.post) (hk : kindOf SG p = 0) :
    ∃ A r sp, SG.rules[A]? = some r ∧ sp ∈ r.prods ∧
      (desugar SG).1.prods[p]? = some ⟨A + 1, sp.terms.map SG.symOf⟩ ∧
      kids.length = sp.terms.length ∧
      ∀ (i : Nat) (t : STerm) (kid : Val), sp.terms[i]? = some t → kids[i]? = some kid →
        ∃ wi, Der (desugar SG).1 [SG.symOf t] wi [kid.toTree] ∧
          ∀ k, t.key = some k →
            (∃ es : List Val,
              (∀ e ∈ es, ∃ w', Der (desugar SG).1 [SGrammar.symOfAtom k.x] w' [e.toTree]) ∧
              (k.kind ≠ .list → k.kind ≠ .listOpt →
                wi = (es.map fun e => e.toTree.yield).flatten) ∧
              interp (desugar SG).2.1 rules kid =
                docValue k.kind (es.map (interp (desugar SG).2.1 rules))) ∧
            (k.kind = .list → ∃ (e0 : Val) (ps : List (Val × Val)),
              (∀ e ∈ e0 :: ps.map (·.2),
                ∃ w', Der (desugar SG).1 [SGrammar.symOfAtom k.x] w' [e.toTree]) ∧
              (∀ s ∈ ps.map (·.1),
                ∃ w', Der (desugar SG).1 [SGrammar.symOfAtom k.sep] w' [s.toTree]) ∧
              wi = e0.toTree.yield ++
                (ps.map fun q => q.1.toTree.yield ++ q.2.toTree.yield).flatten ∧
              interp (desugar SG).2.1 rules kid =
                .list ((e0 :: ps.map (·.2)).map (interp (desugar SG).2.1 rules))) := by
  have hW := (SGrammar.wf_iff SG).1 hw
  obtain ⟨pr, w', hq, hder⟩ := der_call hd hm
  obtain ⟨A, r, sp, hr, hp, rfl⟩ := SGrammar.user_prod_of_kind hq hk
  obtain ⟨hlen, hargs⟩ := der_args hder
  refine ⟨A, r, sp, hr, hp, hq, by simpa using hlen, fun i t kid ht hkid => ?_⟩
  obtain ⟨wi, hdi⟩ := hargs i (SG.symOf t) kid (by simp [List.getElem?_map, ht]) hkid
  refine ⟨wi, hdi, fun k hkey => ?_⟩
  have htm : t ∈ SG.allTerms := SGrammar.term_mem_allTerms hr hp (List.mem_of_getElem? ht)
  rw [SGrammar.symOf_key hkey] at hdi
  refine ⟨term_values rules hw htm hkey hdi, fun hkind => ?_⟩
  obtain ⟨j, hj, e⟩ := SGrammar.ruleIdx_of_mem hW (SGrammar.key_mem hW htm hkey)
  rw [e] at hdi
  exact list_sugar_values rules hj hkind hdi

variable {SG : SGrammar} {ord : List Sym} {T : Tables} {cert : Array (List Item)}

/-- When the generated parser accepts `w` cleanly (outcome `accept`,
no recovery), the value `v` it leaves on the stack is THE derivation tree of `w` (the grammar is
unambiguous), its leaves are exactly the input tokens `tok 0 w[0], …`, and the action calls it
performed – production and argument values, oldest first – are exactly the post-order of `v`:
one call per node, each after the calls of its children, left to right, with the children's
values as arguments (`_act` for helper nodes included; the user's methods are the calls with
`kindOf SG p = 0`, see `sugar_generator_user_calls`). -/
theorem sugar_generator_actions (hw : SG.wf = true)
    (hord : ordOKB SG.nTerms SG.nRules ord = true)
    (hgen : generate (desugar SG).1 SG.nTerms ord = some (T, cert))
    (hfree : conflictFree (desugar SG).1 SG.nTerms ord = true)
    (hsmall : cert.size ≤ 2147483647) {w : List Nat} (hw2 : ∀ x ∈ w, 2 ≤ x) {wb : Bool}
    {fuel : Nat} (hacc : (parseG T w.toArray wb fuel).1 = .accept)
    (h0 : (parseG T w.toArray wb fuel).2.2 = 0) :
    ∃ v : Val,
      (parse T w.toArray wb fuel).2.stack.head?.map (·.sym) = some v ∧
      Der (desugar SG).1 [.n 1] w [v.toTree] ∧
      (∀ t', Der (desugar SG).1 [.n 1] w [t'] → t' = v.toTree) ∧
      leaves v = (List.range w.length).map (tokAt w) ∧
      (actCalls (parse T w.toArray wb fuel).2.log).reverse = v.post ∧
      (actsOf (parse T w.toArray wb fuel).2.log).reverse = v.toTree.post := by
  have h := clean_accept_unique (sugar_generator_valid hw hord hgen hfree hsmall) hw2 hacc h0
  rwa [startSym_desugar] at h

/-- On a cleanly accepted input, every logged call of a production
the user wrote (`kindOf SG p = 0`) is the call of production `sp` of a user rule `A` with one
argument per term of `sp`, each argument derived from its term, and for every sugar term the value
handed to the user's method (`interp (desugar SG).2.1 T.rules kid`, `T.rules` = the emitted
`_rules`) is the documented one – see `call_values` for the reading. -/
theorem sugar_generator_user_calls (hw : SG.wf = true)
    (hord : ordOKB SG.nTerms SG.nRules ord = true)
    (hgen : generate (desugar SG).1 SG.nTerms ord = some (T, cert))
    (hfree : conflictFree (desugar SG).1 SG.nTerms ord = true)
    (hsmall : cert.size ≤ 2147483647) {w : List Nat} (hw2 : ∀ x ∈ w, 2 ≤ x) {wb : Bool}
    {fuel : Nat} (hacc : (parseG T w.toArray wb fuel).1 = .accept)
    (h0 : (parseG T w.toArray wb fuel).2.2 = 0) {p : Nat} {kids : List Val}
    (hev : Event.act p kids ∈ (parse T w.toArray wb fuel).2.log) (hk : kindOf SG p = 0) :
    ∃ A r sp, SG.rules[A]? = some r ∧ sp ∈ r.prods ∧
      (desugar SG).1.prods[p]? = some ⟨A + 1, sp.terms.map SG.symOf⟩ ∧
      kids.length = sp.terms.length ∧
      ∀ (i : Nat) (t : STerm) (kid : Val), sp.terms[i]? = some t → kids[i]? = some kid →
        ∃ wi, Der (desugar SG).1 [SG.symOf t] wi [kid.toTree] ∧
          ∀ k, t.key = some k →
            (∃ es : List Val,
              (∀ e ∈ es, ∃ w', Der (desugar SG).1 [SGrammar.symOfAtom k.x] w' [e.toTree]) ∧
              (k.kind ≠ .list → k.kind ≠ .listOpt →
                wi = (es.map fun e => e.toTree.yield).flatten) ∧
              interp (desugar SG).2.1 T.rules kid =
                docValue k.kind (es.map (interp (desugar SG).2.1 T.rules))) ∧
            (k.kind = .list → ∃ (e0 : Val) (ps : List (Val × Val)),
              (∀ e ∈ e0 :: ps.map (·.2),
                ∃ w', Der (desugar SG).1 [SGrammar.symOfAtom k.x] w' [e.toTree]) ∧
              (∀ s ∈ ps.map (·.1),
                ∃ w', Der (desugar SG).1 [SGrammar.symOfAtom k.sep] w' [s.toTree]) ∧
              wi = e0.toTree.yield ++
                (ps.map fun q => q.1.toTree.yield ++ q.2.toTree.yield).flatten ∧
              interp (desugar SG).2.1 T.rules kid =
                .list ((e0 :: ps.map (·.2)).map (interp (desugar SG).2.1 T.rules))) := by
  obtain ⟨v, _, hd, _, _, hlog, _⟩ :=
    sugar_generator_actions hw hord hgen hfree hsmall hw2 hacc h0
  have hm : (p, kids) ∈ v.post := by
    rw [← hlog, List.mem_reverse]
    exact mem_actCalls.2 hev
  exact call_values hw T.rules hd hm hk

/-- The user's methods alone: the calls of user productions, oldest first, are the user nodes of
the derivation tree in post-order – one call per node of a user-written production. -/
theorem sugar_generator_user_actions (hw : SG.wf = true)
    (hord : ordOKB SG.nTerms SG.nRules ord = true)
    (hgen : generate (desugar SG).1 SG.nTerms ord = some (T, cert))
    (hfree : conflictFree (desugar SG).1 SG.nTerms ord = true)
    (hsmall : cert.size ≤ 2147483647) {w : List Nat} (hw2 : ∀ x ∈ w, 2 ≤ x) {wb : Bool}
    {fuel : Nat} (hacc : (parseG T w.toArray wb fuel).1 = .accept)
    (h0 : (parseG T w.toArray wb fuel).2.2 = 0) :
    ∃ v : Val, (parse T w.toArray wb fuel).2.stack.head?.map (·.sym) = some v ∧
      Der (desugar SG).1 [.n 1] w [v.toTree] ∧
      ((actCalls (parse T w.toArray wb fuel).2.log).reverse.filter fun c => kindOf SG c.1 == 0) =
        v.post.filter fun c => kindOf SG c.1 == 0 := by
  obtain ⟨v, h1, hd, _, _, hlog, _⟩ :=
    sugar_generator_actions hw hord hgen hfree hsmall hw2 hacc h0
  exact ⟨v, h1, hd, by rw [hlog]⟩

/-- The same for every sentence: for sufficient fuel the parser accepts cleanly, hence all of the
above applies (no hypothesis about the run is left). -/
theorem sugar_generator_sentence_actions (hw : SG.wf = true)
    (hord : ordOKB SG.nTerms SG.nRules ord = true)
    (hgen : generate (desugar SG).1 SG.nTerms ord = some (T, cert))
    (hfree : conflictFree (desugar SG).1 SG.nTerms ord = true)
    (hsmall : cert.size ≤ 2147483647) {w : List Nat} (hw2 : ∀ x ∈ w, 2 ≤ x)
    (hs : SDer SG [.atom (.rule 0)] w) (wb : Bool) :
    ∃ N, ∀ fuel, N ≤ fuel → ∃ v : Val,
      (parse T w.toArray wb fuel).1 = .accept ∧
      (parse T w.toArray wb fuel).2.stack.head?.map (·.sym) = some v ∧
      Der (desugar SG).1 [.n 1] w [v.toTree] ∧
      (∀ t', Der (desugar SG).1 [.n 1] w [t'] → t' = v.toTree) ∧
      (actCalls (parse T w.toArray wb fuel).2.log).reverse = v.post := by
  obtain ⟨N, hN⟩ := C01.sentence_clean (sugar_generator_valid hw hord hgen hfree hsmall) hw2
    ((C01.sugar_lang hw w).1 hs) wb
  refine ⟨N, fun fuel hf => ?_⟩
  obtain ⟨hacc, h0⟩ := hN fuel hf
  obtain ⟨v, h1, hd, hu, _, hlog, _⟩ :=
    sugar_generator_actions hw hord hgen hfree hsmall hw2 hacc h0
  exact ⟨v, by rw [← parseG_fst]; exact hacc, h1, hd, hu, hlog⟩

/-! ### Non-vacuity: `s = A? b+ ;  b = @list(B, C)` (`C01.exE2E`) on `A  B C B  B` -/

open Lox.Props.C01 (exE2E exE2EOrd exE2ET exE2E_wf exE2E_ordOK exE2E_free exE2E_generate exE2E_small
  exE2E_clean)

/-- Kinds: `S'`; three user productions (`s`, `b`: 1, 2); `A?` (3, 4); `b+` (5, 6);
`@list(B,C)` (7, 8). -/
example : (desugar exE2E).2.1 = #[11, 0, 0, 7, 8, 2, 1, 6, 5] := by decide +kernel

/-- By evaluation of the models (generator, then generated parser, then `_act`): the value handed
to the root action `on_s(A?, b+)` for `A B C B B` is `(token 0, [b₁, b₂])`, where `b₁`'s own
parameter `@list(B, C)` was `[token 1, token 3]` – the separator, token 2, is not in it – and
`b₂`'s was `[token 4]`. -/
theorem exE2E_value : (generate (desugar exE2E).1 exE2E.nTerms exE2EOrd).map
    (fun r => (parseG r.1 #[2, 3, 4, 3, 3] true 60).2.1.stack.head?.map fun e =>
      (interp (desugar exE2E).2.1 r.1.rules e.sym).render) =
    some (some "(r1 t0 [(r2 [t1 t3]) (r2 [t4])])") := by
  simp only [exE2E_generate.1, Option.map_some, Lox.Props.C01.exE2E_run.2.2.2]

/-- THROUGH the theorems: the run on `A B C B B` is a clean accept (by evaluation), so
`sugar_generator_actions` gives the value `v` left on the stack; its root is a call of the user
production `s = A? b+` (kind 0) with two arguments `k0`, `k1`, and `call_values` says what the
user's method receives for them: for `A?` the value of the (first) element derived from `A`, or the
zero value when there is none; for `b+` the list of ALL the `b` values `es` in input order, the
tokens of the argument being exactly the tokens of these elements, concatenated. -/
example : ∃ T cert, generate (desugar exE2E).1 exE2E.nTerms exE2EOrd = some (T, cert) ∧
    ∃ (v k0 k1 : Val), (parse T #[2, 3, 4, 3, 3] true 60).2.stack.head?.map (·.sym) = some v ∧
      v = .node 1 [k0, k1] ∧ (1, [k0, k1]) ∈ v.post ∧
      (∃ es : List Val, (∀ e ∈ es, ∃ w', Der (desugar exE2E).1 [.t 2] w' [e.toTree]) ∧
        interp (desugar exE2E).2.1 T.rules k0 =
          (es.map (interp (desugar exE2E).2.1 T.rules)).head?.getD .zero) ∧
      (∃ (es : List Val) (w1 : List Nat),
        (∀ e ∈ es, ∃ w', Der (desugar exE2E).1 [.n 2] w' [e.toTree]) ∧
        Der (desugar exE2E).1 [.n 4] w1 [k1.toTree] ∧
        w1 = (es.map fun e => e.toTree.yield).flatten ∧
        interp (desugar exE2E).2.1 T.rules k1 =
          .list (es.map (interp (desugar exE2E).2.1 T.rules))) := by
  obtain ⟨v, hv, hd, _, _, hlog, _⟩ := sugar_generator_actions exE2E_wf exE2E_ordOK
    exE2E_generate.1 exE2E_free exE2E_small (w := [2, 3, 4, 3, 3]) (by decide) exE2E_clean.1
    exE2E_clean.2
  refine ⟨exE2ET, _, exE2E_generate.1, ?_⟩
  -- the root of `v` is a node of a production of rule 1 = `s`
  obtain ⟨q, pr, kids, rfl, hq, hl, hrhs⟩ := hd.val_inv
  have hqs : q = 1 := by
    have hlt : q < 9 := (Array.getElem?_eq_some_iff.mp hq).1
    have : ∀ q' < 9, ∀ pr', (desugar exE2E).1.prods[q']? = some pr' → pr'.lhs = 1 → q' = 1 := by
      decide
    exact this q hlt pr hq hl
  subst hqs
  have hroot : (1, kids) ∈ (Val.node 1 kids).post := by simp [Val.post]
  obtain ⟨A, r, sp, hrl, hsp, hpq, hlen, hargs⟩ :=
    call_values exE2E_wf exE2ET.rules hd hroot (by decide)
  have hpr : (desugar exE2E).1.prods[1]? = some ⟨1, [.n 3, .n 4]⟩ := by decide
  rw [hpr] at hpq
  simp only [Option.some.injEq] at hpq
  have hA : 1 = A + 1 := congrArg Lox.LR.Prod.lhs hpq
  have hA0 : A = 0 := by omega
  subst hA0
  have hr0 : r = ⟨"s", [⟨[.opt (.tok 0), .plus (.rule 1)]⟩]⟩ := by
    simpa [exE2E] using hrl.symm
  subst hr0
  simp only [List.mem_singleton] at hsp
  subst hsp
  simp only [List.length_cons, List.length_nil] at hlen
  match kids, hlen with
  | [k0, k1], _ =>
    refine ⟨_, k0, k1, hv, rfl, hroot, ?_, ?_⟩
    · obtain ⟨wi, _, hkey⟩ := hargs 0 (.opt (.tok 0)) k0 rfl rfl
      obtain ⟨⟨es, hes, _, hval⟩, _⟩ := hkey ⟨.opt, .tok 0, .tok 0⟩ rfl
      exact ⟨es, hes, hval⟩
    · obtain ⟨wi, hdi, hkey⟩ := hargs 1 (.plus (.rule 1)) k1 rfl rfl
      obtain ⟨⟨es, hes, hy, hval⟩, _⟩ := hkey ⟨.plus, .rule 1, .rule 1⟩ rfl
      exact ⟨es, wi, hes, hdi, hy (by decide) (by decide), hval⟩

end Lox.Props.C03
