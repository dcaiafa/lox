import Lox.Lex.RuntimeProofs
import Lox.Lex.RuntimeWF
/-! # C11 – Lexing reaches EOF and accounts for every character

"For every accepted specification and every input, repeatedly reading tokens reaches EOF after
finitely many steps. Every character before EOF is accounted for exactly once and in order: in the
text of an emitted token, in text dropped by a @discard rule, or in the stretch reported by an
ERROR token. No input makes the lexer loop forever or silently swallow text."

The theorems are about the executable model `Lox/Lex/Model.lean` of the generated
`_LexerStateMachine.PushRune` / `Reset` (`internal/codegen/emit_lexer.go`) and of the reference
driver `simplelexer.ReadToken` / `consume` (loxlex v0.5.0), for **all** inputs and **all** tables
satisfying the decidable predicate `Rt.WFModes` (`Lox/Lex/Runtime.lean`; checker `Rt.wfModes`, run on
every emitted table by the `lex.wfmodes` op; not `Lox.Lex.wfModes` of C10, which lacks the two
conjuncts below). Two conjuncts of `Rt.WFModes` are forced by the proofs:

* *state 0 is not accepting* – fails for a rule matching the empty string: known finding K3
  (`k3_*` below: the model hangs / emits empty tokens forever);
* *no transition leads to state 0* – guaranteed by `mode.splitStartState` (fix of D6).

Accumulated text pending at EOF (known finding K5) is dropped by the driver; the conservation
theorem makes it a segment kind of its own (`SegKind.pending`) – the only unreported one. -/
namespace Lox.Props.C11
open Lox.Lex Lox.Lex.Rt

/-- The checker decides the hypothesis of all theorems below. -/
theorem wfModes_sound (modes : Array Mode) : wfModes modes = true ↔ WFModes modes :=
  wfModes_iff modes

/-- **No Go panic.** On a well-formed table, from a state machine whose state, mode and saved
modes are in range, `PushRune` never indexes out of range for any rune; current and saved modes
stay in range, and so does the state unless `_lexerError` is returned (an error from a
`@pop_mode` on the empty stack after earlier mode actions of the same rule leaves the old state
with a new mode; `ReadToken` calls `Reset()` right away, see `inRange_after_reset`). -/
theorem no_oob {modes : Array Mode} (hwf : WFModes modes) {sm : SM} (hin : InRange modes sm)
    (r : Int) :
    (pushRune modes sm r).1 ≠ .oob ∧ ModesOK modes (pushRune modes sm r).2 ∧
    ((pushRune modes sm r).1 ≠ .error → InRange modes (pushRune modes sm r).2) :=
  let h := (pushRune_step hwf hin r).1
  ⟨h.noOob, h.modesOK, h.inRange⟩

theorem inRange_after_reset {modes : Array Mode} (hwf : WFModes modes) {sm : SM}
    (hok : ModesOK modes sm) : InRange modes sm.reset :=
  inRange_reset hwf hok

/-- The binary search of `PushRune` is a linear lookup on sorted disjoint rows. -/
theorem bsearch_is_lookup (m : Mode) (r base gotoN : Int) (ts : List Triple)
    (hdec : readTriples m gotoN.toNat base = some ts) (h0 : 0 ≤ gotoN)
    (hs : ts.Pairwise (fun a b => a.hi < b.lo)) (hle : ∀ t ∈ ts, t.lo ≤ t.hi) :
    bsearch m r base (gotoN.toNat + 1) 0 gotoN = some (lookup ts r) :=
  bsearch_linear m r base gotoN ts hdec h0 hs hle

/-- **`PushRune` characterised**: on a well-formed table the call consumes iff the row is not a
non-greedy accepting one (flag 0) and some triple of the row contains `r` (then the new state is
that triple's target); otherwise the row's action pairs are executed left to right
(`execPairs`). -/
theorem pushRune_char {modes : Array Mode} (hwf : WFModes modes) {sm : SM}
    (hin : InRange modes sm) (r : Int) :
    ∃ m row, modes[sm.mode.getD 0]? = some m ∧ decodeRow m sm.state = some row ∧
      pushRune modes sm r =
        match (if row.flags % 2 = 0 then lookup row.triples r else none) with
        | some st => (.consume, { sm with mode := some (sm.mode.getD 0), state := st })
        | none => execPairs modes.size r row.pairs { sm with mode := some (sm.mode.getD 0) } := by
  obtain ⟨m, row, hm, _, hrow, _, hpr⟩ := pushRune_wf hwf hin r
  exact ⟨m, row, hm, hrow, hpr⟩

/-- **Progress of one `ReadToken` call** (explicit bound: `2 · remaining runes + 1` `PushRune`
calls). On a well-formed table, from the start state of an in-range state machine, the call
returns – it neither loops (`none`) nor panics (`some (none, _)`) – and
* (a) returns a token, possibly after discards, having advanced by at least one rune, or
* (b) returns EOF, and then the driver is at the end of the input, or
* (c) returns an ERROR token, having advanced by at least one rune.
Afterwards the state machine is again at a start state and in range. -/
theorem progress {modes : Array Mode} (hwf : WFModes modes) (inp : Input) (hv : ValidInput inp)
    (fuel : Nat) (l : Lx) (hin : InRange modes l.sm) (h0 : l.sm.state = 0)
    (hidx : l.idx ≤ inp.size) (hfuel : 2 * (inp.size - l.idx) + 1 ≤ fuel) :
    ∃ t l', readToken modes inp fuel none l = some (some t, l') ∧
      InRange modes l'.sm ∧ l'.sm.state = 0 ∧ l'.idx ≤ inp.size ∧
      match t with
      | .tok _ _ _ => l.idx < l'.idx
      | .eof _ => l'.idx = inp.size
      | .err _ _ => l.idx < l'.idx := by
  obtain ⟨t, l', e, i1, i2, i3, i4, i5, i6⟩ :=
    readToken_progress hwf inp fuel none l hin (by simp only [h0, if_true]; omega)
  refine ⟨t, l', e, i1, i2, i4 hidx, ?_⟩
  cases t with
  | tok ty a b => exact i6 (by simp) h0
  | err a c => exact i6 (by simp) h0
  | eof p =>
    simp only
    exact Nat.le_antisymm (i4 hidx) (size_le_of_char_eq hv (i5 p rfl))

/-- **`lexAll` terminates at EOF**: with per-call fuel `> 2 · inp.size` and more than `inp.size`
calls allowed, the status is `"ok"` – never `"timeout"` (the real lexer would not return) and
never `"panic"` – and the token list is a list of non-EOF tokens followed by one EOF token. -/
theorem lexAll_terminates {modes : Array Mode} (hwf : WFModes modes) (inp : Input)
    (fuel n : Nat) (hfuel : 2 * inp.size < fuel) (hn : inp.size < n) :
    ∃ ts p, lexAll modes inp fuel n {} [] = (ts ++ [.eof p], "ok") ∧ ∀ t ∈ ts, ∀ q, t ≠ .eof q := by
  obtain ⟨ts, p, e, h⟩ :=
    lexAll_progress hwf inp fuel hfuel n {} [] (inRange_init hwf) rfl (Nat.zero_le _) (by simpa using hn)
  exact ⟨ts, p, by simpa using e, h⟩

/-- Whatever the fuel, a run on a well-formed table never ends in a Go panic. -/
theorem lexAll_never_panics {modes : Array Mode} (hwf : WFModes modes) (inp : Input)
    (fuel n : Nat) : (lexAll modes inp fuel n {} []).2 ≠ "panic" :=
  lexAll_no_panic hwf inp fuel n {} [] (inRange_init hwf)

/-- The driver op `lex.run f` calls `lexAll … f f`: any `f > 2 · inp.size` is enough. -/
theorem lexAll_terminates_drv {modes : Array Mode} (hwf : WFModes modes) (inp : Input)
    (f : Nat) (hf : 2 * inp.size < f) : (lexAll modes inp f f {} []).2 = "ok" := by
  obtain ⟨ts, p, e, _⟩ := lexAll_terminates hwf inp f f hf (by omega)
  rw [e]

/-! ## Non-vacuity: a real two-mode table
`A = 'a'`, `@frag '"' @push_mode(S)`, `@mode S { STR = '"' @pop_mode   @frag [b-z] }`,
`@frag ' '+ @discard` – the `_lexerMode0/1` arrays emitted by lox for this spec. -/

def exModes : Array Mode := #[
  #[4, 16, 24, 31, 11, 0, 3, 32, 32, 1, 34, 34, 2, 97, 97, 3, 7, 0, 1, 32, 32, 1, 4, 0, 6, 0, 0, 1,
    1, 5, 0, 4, 0, 0, 3, 2],
  #[3, 12, 17, 8, 0, 2, 34, 34, 2, 98, 122, 1, 4, 0, 0, 5, 0, 6, 0, 0, 2, 0, 3, 3]]

theorem exModes_wf : wfModes exModes = true := by decide +kernel

example : wfModes exModes = true := exModes_wf
example : WFModes exModes := (wfModes_iff _).1 exModes_wf
example : InRange exModes ({} : SM) := inRange_init ((wfModes_iff _).1 exModes_wf)

/-- The hypotheses of `bsearch_is_lookup` on the row of state 0 of mode 0. -/
example : readTriples exModes[0]! 3 7 = some [(32, 32, 1), (34, 34, 2), (97, 97, 3)] ∧
    sortedFrom (-1) [(32, 32, 1), (34, 34, 2), (97, 97, 3)] = true := by decide +kernel

/-- `a "bc"` lexes to `A`, `STR` (text `"bc"`, the two fragments accumulated), EOF. -/
example : lexAll exModes #[(97, 1), (32, 1), (34, 1), (98, 1), (99, 1), (34, 1)] 20 20 {} []
    = ([.tok 2 0 1, .tok 3 2 6, .eof 6], "ok") := by decide +kernel

/-- **Erasure**: the ghost-instrumented driver computes what the plain driver computes. -/
theorem ghost_erase (modes : Array Mode) (inp : Input) (fuel n : Nat) (l : Lx) (acc : List Tok)
    (g : List Ev) :
    ((lexAllG modes inp fuel n l acc g).1, (lexAllG modes inp fuel n l acc g).2.1)
      = lexAll modes inp fuel n l acc ∧
    (readTokenG modes inp fuel none l g).map (fun x => (x.1, x.2.1))
      = readToken modes inp fuel none l :=
  ⟨lexAllG_erase modes inp fuel n l acc g, readTokenG_erase modes inp fuel none l g⟩

/-- **Conservation for any table** (no well-formedness needed): whenever a run on a valid input
reaches EOF, the logged segments – text of an emitted token (`tok`), text dropped by `@discard`
(`discarded`), stretch of an ERROR token (`error`), text still pending when EOF was returned
(`pending`) – are contiguous and in order, start at byte 0 and end at the byte length of the
input; the tokens handed to the caller are exactly the reports of the segments, in order: a `tok`
segment is the token with that text, an `error` segment the ERROR token positioned at its start,
the `pending` segment only yields the EOF token positioned at its start, and a `discarded` one
yields nothing. So `pending` is the only kind whose text is reported by nothing although no
`@discard` rule dropped it (known finding K5). -/
theorem conservation_any_table (modes : Array Mode) (inp : Input) (hv : ValidInput inp)
    (fuel n : Nat) (toks : List Tok) (log : List Ev)
    (h : lexAllG modes inp fuel n {} [] [] = (toks, "ok", log)) :
    Contig (segsOf log) 0 (totalBytes inp) ∧ (segsOf log).filterMap Seg.report = toks :=
  lexAllG_conservation modes inp hv fuel n toks log h

/-- **Conservation (C11).** On a well-formed table, for every valid input and enough fuel, the
run reaches EOF (`"ok"`), its tokens are those of `lexAll`, and the segments partition the input
as in `conservation_any_table`. -/
theorem conservation {modes : Array Mode} (hwf : WFModes modes) (inp : Input) (hv : ValidInput inp)
    (fuel n : Nat) (hfuel : 2 * inp.size < fuel) (hn : inp.size < n) :
    ∃ toks log, lexAllG modes inp fuel n {} [] [] = (toks, "ok", log) ∧
      lexAll modes inp fuel n {} [] = (toks, "ok") ∧
      Contig (segsOf log) 0 (totalBytes inp) ∧
      (segsOf log).filterMap Seg.report = toks := by
  obtain ⟨ts, p, e, _⟩ := lexAll_terminates hwf inp fuel n hfuel hn
  have he := lexAllG_erase modes inp fuel n {} [] []
  rw [e] at he
  generalize hr : lexAllG modes inp fuel n {} [] [] = r at he
  obtain ⟨toks, status, log⟩ := r
  simp only [Prod.mk.injEq] at he
  obtain ⟨h1, h2⟩ := he
  subst h1 h2
  obtain ⟨c1, c2⟩ := lexAllG_conservation modes inp hv fuel n _ log hr
  exact ⟨_, log, rfl, e, c1, c2⟩

/-- Contiguous segments read as text: concatenating the stretches gives back the input bytes. -/
theorem segments_concat {α : Type} (bytes : List α) (inp : Input) (segs : List Seg)
    (hlen : bytes.length = totalBytes inp) (h : Contig segs 0 (totalBytes inp)) :
    (segs.map fun s => (bytes.drop s.start).take (s.stop - s.start)).flatten = bytes := by
  rw [contig_concat bytes h]
  simp [← hlen]

/-- … and every byte offset of the input lies in exactly one segment. -/
theorem segments_each_byte_once (inp : Input) (segs : List Seg)
    (h : Contig segs 0 (totalBytes inp)) (x : Nat) (hx : x < totalBytes inp) :
    (segs.filter fun s => decide (s.start ≤ x ∧ x < s.stop)).length = 1 :=
  contig_unique h x (Nat.zero_le _) hx

/-- **The stretch of an ERROR token**: the driver resumes just after the first `'\n'` at or after
the offending rune (index `l.idx`), or at the end of the input if there is none – what the
`for l.char != '\n' && l.char != -1 { consume }; consume` loop of `ReadToken` does. The `error`
segment logged by `readTokenG` runs from the token start to the byte offset of that position. -/
theorem error_stretch (inp : Input) (hv : ValidInput inp) (l : Lx) (hidx : l.idx ≤ inp.size) :
    ∃ k, l.idx ≤ k ∧ k ≤ inp.size ∧
      (∀ j, l.idx ≤ j → j < k → ∃ p, inp[j]? = some p ∧ p.1 ≠ 10) ∧
      (k = inp.size ∨ ∃ p, inp[k]? = some p ∧ p.1 = 10) ∧
      (afterError inp l).idx = min (k + 1) inp.size :=
  afterError_spec inp hv l hidx

/-- When `PushRune` answers `_lexerError`, `readToken` returns the ERROR token positioned at the
token start and carrying the offending rune, and continues from `afterError`. -/
theorem readToken_on_error (modes : Array Mode) (inp : Input) (n : Nat) (start : Option Nat)
    (l : Lx) (sm' : SM) (h : pushRune modes l.sm (l.char inp) = (.error, sm')) :
    readToken modes inp (n + 1) start l
      = some (some (.err (start.getD l.offset) (l.char inp)), afterError inp { l with sm := sm' }) :=
  readToken_succ modes inp n start l h

/-- **Complement of K5**: if no row carries an accumulate pair (the specification has no
action-less `@frag`), every `pending` segment of every run is empty – nothing is dropped
unreported. -/
theorem no_pending_text {modes : Array Mode} (hwf : WFModes modes) (hna : NoAccum modes)
    (inp : Input) (fuel n : Nat) :
    ∀ s ∈ segsOf (lexAllG modes inp fuel n {} [] []).2.2, s.kind = .pending → s.start = s.stop :=
  lexAllG_pending hwf hna inp fuel n {} [] [] (inRange_init hwf) (by simp)

theorem noAccum_sound (modes : Array Mode) : noAccum modes = true ↔ NoAccum modes :=
  noAccum_iff modes

/-- Non-vacuity of `conservation` / `no_pending_text`: the run of `exModes` on `a "bc"`. -/
example : segsOf (lexAllG exModes #[(97, 1), (32, 1), (34, 1), (98, 1), (99, 1), (34, 1)] 20 20 {} [] []).2.2
    = [⟨.tok 2, 0, 1⟩, ⟨.discarded, 1, 2⟩, ⟨.tok 3, 2, 6⟩, ⟨.pending, 6, 6⟩] := by decide +kernel

example : ValidInput #[(97, 1), (32, 1), (34, 1), (98, 1), (99, 1), (34, 1)] := by
  intro p hp; simp at hp; rcases hp with h | h | h | h | h | h <;> subst h <;> decide

/-- A two-mode table without accumulate pairs (`A = 'a'`, `@frag ' '+ @discard`,
`@frag '<' @push_mode(M) @discard`, `@mode M { B = 'b'  @frag '>' @discard @pop_mode }`): the
hypotheses of `no_pending_text` hold together. -/
def exNoAccum : Array Mode := #[
  #[4, 16, 23, 31, 11, 0, 3, 32, 32, 2, 60, 60, 1, 97, 97, 3, 6, 0, 0, 1, 1, 4, 0, 7, 0, 1, 32, 32,
    2, 4, 0, 4, 0, 0, 3, 2],
  #[3, 12, 19, 8, 0, 2, 62, 62, 1, 98, 98, 2, 6, 0, 0, 2, 0, 4, 0, 4, 0, 0, 3, 3]]

example : WFModes exNoAccum ∧ NoAccum exNoAccum :=
  ⟨by decide +kernel, (noAccum_iff _).1 (by decide +kernel)⟩

/-- K3, token rule: `A = 'a'*` (table emitted by lox). State 0 is accepting. -/
def k3Tok : Array Mode := #[#[2, 2, 7, 0, 1, 97, 97, 1, 3, 2]]

/-- K3, action-less fragment: `B = 'b'`, `@frag 'x'*`. -/
def k3Frag : Array Mode :=
  #[#[3, 14, 22, 10, 0, 2, 98, 98, 2, 120, 120, 1, 5, 0, 7, 0, 1, 120, 120, 1, 5, 0, 4, 0, 0, 3, 2]]

/-- K5: `B = 'b'`, `@frag 'x'`. -/
def k5 : Array Mode :=
  #[#[3, 12, 17, 8, 0, 2, 98, 98, 2, 120, 120, 1, 4, 0, 0, 5, 0, 4, 0, 0, 3, 2]]

example : wfModes k3Tok = false := by decide +kernel
example : wfModes k3Frag = false := by decide +kernel
example : wfModes k5 = true ∧ noAccum k5 = false := by decide +kernel

/-- K3 (token rule), input `aab`: after `A "aa"` the lexer returns the empty token `A ""` at `b`
forever – `lexAll` never reaches EOF, for **every** fuel (≥ 3 per call) and every number of calls. -/
theorem k3_token_never_eof (fuel n : Nat) (hf : 3 ≤ fuel) :
    (lexAll k3Tok #[(97, 1), (97, 1), (98, 1)] fuel n {} []).2 = "timeout" := by
  obtain ⟨f, rfl⟩ : ∃ f, fuel = f + 3 := ⟨fuel - 3, by omega⟩
  cases n with
  | zero => rfl
  | succ n =>
    unfold lexAll
    rw [readToken_succ k3Tok _ (f + 2) none _ (res := .consume)
        (sm' := { token := 0, state := 1, mode := some 0, modeStack := [] }) (by decide +kernel)]
    dsimp only
    rw [readToken_succ k3Tok _ (f + 1) _ _ (res := .consume)
        (sm' := { token := 0, state := 1, mode := some 0, modeStack := [] }) (by decide +kernel)]
    dsimp only
    rw [readToken_succ k3Tok _ f _ _ (res := .accept)
        (sm' := { token := 2, state := 0, mode := some 0, modeStack := [] }) (by decide +kernel)]
    -- where the first token left it, `ReadToken` hands out the empty token `A ""` and stays there
    exact lexAll_stuck (t := .tok 2 2 2) nofun
      (readToken_succ k3Tok _ (f + 2) none _ (res := .accept)
        (sm' := { token := 2, state := 0, mode := some 0, modeStack := [] }) (by decide +kernel)) n _

/-- K3 (action-less fragment matching ε), input `ab`: the first `ReadToken` call answers
`_lexerTryAgain` forever – it does not return for any fuel. -/
theorem k3_frag_hangs (fuel n : Nat) :
    (lexAll k3Frag #[(97, 1), (98, 1)] fuel n {} []).2 = "timeout" := by
  cases n with
  | zero => rfl
  | succ n =>
    cases fuel with
    | zero => rfl
    | succ k =>
      unfold lexAll
      rw [readToken_succ k3Frag _ k none _ (res := .tryAgain) (sm' := { mode := some 0 })
        (by decide +kernel)]
      dsimp only
      -- after the first call the state machine `{ mode := some 0 }` is a fixed point of `PushRune 'a'`
      rw [readToken_stuck (l := { sm := { mode := some 0 } }) (by decide +kernel)]

/-- The same two runs at the fuel used by the driver op (`lex.run 1000`). -/
example : (lexAll k3Tok #[(97, 1), (97, 1), (98, 1)] 1000 1000 {} []).2 = "timeout" :=
  k3_token_never_eof 1000 1000 (by decide)
example : (lexAll k3Frag #[(97, 1), (98, 1)] 1000 1000 {} []).2 = "timeout" :=
  k3_frag_hangs 1000 1000

/-- K5, input `bxx`: the two `x` are accumulated, then EOF is returned at position 1; no token
covers bytes 1–2 and no error is reported. In the ghost log they form a non-empty `pending`
segment. -/
example : lexAll k5 #[(98, 1), (120, 1), (120, 1)] 10 10 {} [] = ([.tok 2 0 1, .eof 1], "ok") := by
  decide +kernel
example : segsOf (lexAllG k5 #[(98, 1), (120, 1), (120, 1)] 10 10 {} [] []).2.2
    = [⟨.tok 2, 0, 1⟩, ⟨.pending, 1, 3⟩] := by decide +kernel

end Lox.Props.C11
