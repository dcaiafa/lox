import Lox.Lex.BisimProofs
import Lox.Lex.SpecProofs
import Lox.Lex.TableProofs
import Lox.Lex.MunchProofs
/-! Property theorems for C02 (longest viable match, earliest rule wins).

Specification (read these): `Lox.Lex.Matches` (`Lox/Lex/Regex.lean`), `Lox.Lex.viable`,
`Lox.Lex.label`, `Lox.Lex.specRun` (`Lox/Lex/Spec.lean`). Table side: `Lox.Lex.rowAt`,
`tableStep`, `tableRun`, `wfTable`, `bisim` (`Lox/Lex/Bisim.lean`); `pushRune`, `bsearch`
(`Lox/Lex/Model.lean`). -/
namespace Lox.Props.C02
open Lox.Lex

/-! ### Partial derivatives are correct -/

theorem nullable_iff (r : Re) : nullable r = true ↔ Matches r [] := Lox.Lex.nullable_iff r

theorem pd_sound (c : Int) (r : Re) (w : List Int) :
    (∃ r' ∈ pd c r, Matches r' w) → Matches r (c :: w) := Lox.Lex.pd_sound c r w

theorem pd_complete (c : Int) (r : Re) (w : List Int) :
    Matches r (c :: w) → ∃ r' ∈ pd c r, Matches r' w := Lox.Lex.pd_complete c r w

theorem pdw_iff (r : Re) (u v : List Int) :
    Matches r (u ++ v) ↔ ∃ r' ∈ pdw u r, Matches r' v := Lox.Lex.pdw_iff r u v

/-- Every regular expression whose classes are all non-empty matches some word (this is what
makes "some term is left" the same as "still viable"). -/
theorem clsOK_matches (r : Re) (h : r.clsOK = true) : ∃ w, Matches r w :=
  Lox.Lex.clsOK_matches r h

/-! ### The specification `label` is "the earliest rule that matches" -/

/-- If rule `i` matches `s` and no earlier rule does, the label of `s` is rule `i`'s pairs. -/
theorem label_least (rules : List Rule) (s : List Int) (i : Nat) (hi : i < rules.length)
    (hm : Matches rules[i].1 s)
    (hleast : ∀ j (hj : j < i), ¬ Matches (rules[j]'(by omega)).1 s) :
    label rules s = rules[i].2 := label_of_least rules s i hi hm hleast

/-- If no rule matches `s` the label is empty. -/
theorem label_none (rules : List Rule) (s : List Int) (h : ∀ r ∈ rules, ¬ Matches r.1 s) :
    label rules s = [] := label_of_none rules s h

/-- One of the two cases always applies. -/
theorem label_cases (rules : List Rule) (s : List Int) :
    (∃ (i : Nat) (hi : i < rules.length), Matches rules[i].1 s ∧
        ∀ j (hj : j < i), ¬ Matches (rules[j]'(by omega)).1 s) ∨
    (∀ r ∈ rules, ¬ Matches r.1 s) := least_or_none rules s

/-! ### Binary search of `PushRune` = linear lookup -/

/-- Over the raw array: for `n` triples stored from `base` on that are sorted by `lo`, pairwise
disjoint, with `lo ≤ hi` (`sortedFrom`), the binary search of the generated `PushRune` returns
exactly the linear lookup, for every rune `r` (any integer, in particular `0..0x10FFFF` and
`-1`). -/
theorem bsearch_correct (tbl : Mode) (base n : Nat) (r : Int) (p : Int)
    (hfit : base + 3 * n ≤ tbl.size) (hs : sortedFrom p (triplesAt tbl base n) = true) :
    bsearch tbl r (base : Int) (n + 1) 0 (n : Int) = some (lookup (triplesAt tbl base n) r) :=
  bsearch_eq_lookup tbl base n r hfit p hs

/-- End of input (`r = -1`) finds no transition in a row whose ranges are non-negative. -/
theorem bsearch_eof (tbl : Mode) (base n : Nat) (hfit : base + 3 * n ≤ tbl.size)
    (hs : sortedFrom (-1) (triplesAt tbl base n) = true) :
    bsearch tbl (-1) (base : Int) (n + 1) 0 (n : Int) = some none := by
  rw [bsearch_eq_lookup tbl base n (-1) hfit (-1) hs, lookup_neg _ (-1) (by omega) hs]

/-- **Soundness of the validator.** If `bisim rules tbl` answers `ok`, then for EVERY string `s`
(any list of integers; runes are `0..0x10FFFF`) the table automaton, run from state 0 with
`tableStep` (the decoded row format), dies exactly when `s` is not a prefix of a match of any rule,
and otherwise stops in a state whose stored action pairs are those of the earliest-declared rule
matching `s` exactly (`[]` when no rule matches `s`). -/
theorem bisim_sound {rules : List Rule} {tbl : Mode} (h : bisim rules tbl = .ok ()) :
    ∀ s : List Int, tableRun tbl s = specRun rules s := by
  obtain ⟨R, hC⟩ := bisim_ok h
  exact closed_sound hC

/-- The table dies on `s` iff `s` is not viable. -/
theorem bisim_dead_iff {rules : List Rule} {tbl : Mode} (h : bisim rules tbl = .ok ())
    (s : List Int) : tableRun tbl s = none ↔ ¬ viable rules s :=
  (bisim_tableSpec h).dead s

/-- If the table survives `s`, the pairs of the state reached are the label of `s`. -/
theorem bisim_label {rules : List Rule} {tbl : Mode} (h : bisim rules tbl = .ok ())
    (s : List Int) (ps : List Pair) (hrun : tableRun tbl s = some ps) : ps = label rules s :=
  (bisim_tableSpec h).lab s ps hrun

/-- What a successful validation checked about the inputs. -/
theorem bisim_checked {rules : List Rule} {tbl : Mode} (h : bisim rules tbl = .ok ()) :
    wfTable tbl = true ∧ rules ≠ [] ∧ ∀ r ∈ rules, r.1.clsOK = true ∧ r.2 ≠ [] := by
  obtain ⟨R, hC⟩ := bisim_ok h
  exact ⟨hC.wf, rulesOK_iff.mp hC.rulesOK⟩

/-- "No rule matches the empty string" (a hypothesis of C02) is exactly what makes state 0
non-accepting in a validated table (first half of `startClean`; the generated `PushRune` takes state
0 to mean "nothing consumed yet"). -/
theorem start_nonaccepting_iff {rules : List Rule} {tbl : Mode} (h : bisim rules tbl = .ok ()) :
    rowPairs tbl 0 = [] ↔ ∀ r ∈ rules, nullable r.1 = false := by
  obtain ⟨R, hC⟩ := bisim_ok h
  -- state 0 is where the table stands after the empty word, so it stores `label rules []`
  rw [((tableSpec_of_closed hC).run_stop (w := []) rfl).2.1,
    label_eq_nil_iff rules [] fun r hr => ((rulesOK_iff.mp hC.rulesOK).2 r hr).2]
  exact forall₂_congr fun r _ => by rw [← Lox.Lex.nullable_iff, Bool.not_eq_true]

/-! ### `PushRune` walks the decoded automaton -/

/-- On a well-formed table, in state `q` of mode `m`: `PushRune c` consumes and moves to `q'` iff
`tableStep m q c = some q'`; otherwise it runs the action pairs stored on `q` (`runPairs`: the
documented interpreter; nothing else changes). -/
theorem pushRune_consume (modes : Array Mode) (sm : SM) (m : Mode) (q : Nat) (c : Int)
    (hwf : wfTable m = true) (hmode : modes[sm.mode.getD 0]? = some m)
    (hstate : sm.state = (q : Int)) (hq : q < nStates m) :
    pushRune modes sm c =
      match tableStep m q c with
      | some q' => (.consume, { sm with mode := some (sm.mode.getD 0), state := (q' : Int) })
      | none => runPairs modes c (rowPairs m q) { sm with mode := some (sm.mode.getD 0) } :=
  pushRune_step modes sm m q c hwf hmode hstate hq

/-- **Maximal munch, table level.** For a validated table and any input `s`: the table, started
in state 0, consumes `k = scanLen tbl 0 s` runes, where `s.take k` is the LONGEST viable prefix of
`s` (it is viable, no longer prefix of `s` is), and the state it stops in stores the action pairs of
the earliest rule matching `s.take k` exactly (`[]` if none). -/
theorem munch_table {rules : List Rule} {tbl : Mode} (h : bisim rules tbl = .ok ())
    (s : List Int) :
    viable rules (s.take (scanLen tbl 0 s)) ∧
    (∀ j, scanLen tbl 0 s < j → j ≤ s.length → ¬ viable rules (s.take j)) ∧
    ∃ q', tableRunFrom tbl 0 (s.take (scanLen tbl 0 s)) = some q' ∧
      rowPairs tbl q' = label rules (s.take (scanLen tbl 0 s)) :=
  Lox.Lex.munch_table (bisim_ok h) s

/-- **Maximal munch, driver level (C02 headline).** `l` is the `simplelexer` state between two
tokens (state machine in state 0) with current mode `m`, validated against `rules`. With `s` the
runes not yet read, `k = scanLen m 0 s`, `p = s.take k`: `p` is the longest viable prefix of `s`,
and one `ReadToken` call consumes exactly `p` (`l.advance inp k`) and then does what
`simplelexer.ReadToken` does (`tokBody`) with the outcome of executing the action pairs of the
EARLIEST rule matching `p` (`label rules p`), or of the empty list when no rule matches `p`
(→ ERROR or EOF). The state reached is not 0 if `p ≠ []` and the table is `startClean`.
`munch_token`, `munch_error`, `munch_eof` spell out the three typical outcomes. -/
theorem munch (modes : Array Mode) (inp : Input) (m : Mode) (rules : List Rule) (l : Lx)
    (h : bisim rules m = .ok ()) (hmode : modes[l.sm.mode.getD 0]? = some m)
    (hstate : l.sm.state = 0) (start : Option Nat) (n : Nat) :
    viable rules ((l.rest inp).take (scanLen m 0 (l.rest inp))) ∧
    (∀ j, scanLen m 0 (l.rest inp) < j → j ≤ (l.rest inp).length →
      ¬ viable rules ((l.rest inp).take j)) ∧
    ∃ q', tableRunFrom m 0 ((l.rest inp).take (scanLen m 0 (l.rest inp))) = some q' ∧
      (startClean m = true → (l.rest inp).take (scanLen m 0 (l.rest inp)) ≠ [] → q' ≠ 0) ∧
      readToken modes inp (scanLen m 0 (l.rest inp) + (n + 1)) start l =
        tokBody modes inp n (start.getD l.offset) (l.advance inp (scanLen m 0 (l.rest inp)))
          (runPairs modes ((l.advance inp (scanLen m 0 (l.rest inp))).char inp)
            (label rules ((l.rest inp).take (scanLen m 0 (l.rest inp))))
            { l.sm with mode := some (l.sm.mode.getD 0), state := (q' : Int) }) :=
  (bisim_tableSpec h).munch_driver modes inp m l hmode hstate start n

/-- The earliest rule matching the longest viable prefix is a plain token rule for terminal `t`
(pairs `[(3, t)]`): `ReadToken` returns token `t` with exactly that prefix as its text
(`[start, offset after the prefix)`). -/
theorem munch_token (modes : Array Mode) (inp : Input) (m : Mode) (rules : List Rule) (l : Lx)
    (h : bisim rules m = .ok ()) (hmode : modes[l.sm.mode.getD 0]? = some m)
    (hstate : l.sm.state = 0) (start : Option Nat) (n : Nat) (t : Int)
    (hlab : label rules ((l.rest inp).take (scanLen m 0 (l.rest inp))) = [(3, t)]) :
    readToken modes inp (scanLen m 0 (l.rest inp) + (n + 1)) start l =
      some (some (.tok t (start.getD l.offset) (l.advance inp (scanLen m 0 (l.rest inp))).offset),
        { l.advance inp (scanLen m 0 (l.rest inp)) with
          sm := { l.sm with token := t, mode := some (l.sm.mode.getD 0), state := 0 } }) :=
  (bisim_tableSpec h).munch_token modes inp m l hmode hstate start n t hlab

/-- No rule matches the longest viable prefix: ERROR token at the start offset, blaming the first
rune that could not be consumed. -/
theorem munch_error (modes : Array Mode) (inp : Input) (m : Mode) (rules : List Rule) (l : Lx)
    (h : bisim rules m = .ok ()) (hmode : modes[l.sm.mode.getD 0]? = some m)
    (hstate : l.sm.state = 0) (start : Option Nat) (n : Nat)
    (hnone : ∀ r ∈ rules, ¬ Matches r.1 ((l.rest inp).take (scanLen m 0 (l.rest inp))))
    (hne : (l.advance inp (scanLen m 0 (l.rest inp))).char inp ≠ -1 ∨
      (startClean m = true ∧ (l.rest inp).take (scanLen m 0 (l.rest inp)) ≠ [])) :
    ∃ l', readToken modes inp (scanLen m 0 (l.rest inp) + (n + 1)) start l =
      some (some (.err (start.getD l.offset)
        ((l.advance inp (scanLen m 0 (l.rest inp))).char inp)), l') :=
  (bisim_tableSpec h).munch_error modes inp m l hmode hstate start n
    (label_of_none rules _ hnone) hne

/-- End of input between tokens: EOF. -/
theorem munch_eof (modes : Array Mode) (inp : Input) (m : Mode) (rules : List Rule) (l : Lx)
    (h : bisim rules m = .ok ()) (hmode : modes[l.sm.mode.getD 0]? = some m)
    (hstate : l.sm.state = 0) (start : Option Nat) (n : Nat) (hend : l.rest inp = [])
    (hsc : startClean m = true) :
    readToken modes inp (n + 1) start l =
      some (some (.eof (start.getD l.offset)),
        { l with sm := { l.sm with mode := some (l.sm.mode.getD 0) } }) :=
  (bisim_tableSpec h).munch_eof modes inp m l hmode hstate start n hend hsc

/-! ### Non-vacuity: a table emitted by lox for
`A = 'a' 'b'*`, `IF = 'if'`, `ID = [a-z]+`, `@frag [ \n]+ @discard` -/

def exTbl : Mode := #[6, 27, 38, 46, 54, 68, 20, 0, 6, 10, 10, 1, 32, 32,
  1, 97, 97, 5, 98, 104, 2, 105, 105, 4, 106, 122, 2, 10,
  0, 2, 10, 10, 1, 32, 32, 1, 4, 0, 7, 0, 1, 97,
  122, 2, 3, 4, 7, 0, 1, 97, 122, 2, 3, 3, 13, 0,
  3, 97, 101, 2, 102, 102, 3, 103, 122, 2, 3, 4, 13, 0,
  3, 97, 97, 2, 98, 98, 5, 99, 122, 2, 3, 2]

def exRules : List Rule := [
  (.seq (.cls [(97, 97)]) (.star false (.cls [(98, 98)])), [(3, 2)]),
  (Re.lit [105, 102], [(3, 3)]),
  (Re.plus (.cls [(97, 122)]), [(3, 4)]),
  (Re.plus (.cls [(32, 32), (10, 10)]), [(4, 0)])]

deriving instance DecidableEq for Except

/-- The hypothesis of `bisim_sound` holds on this instance (kernel evaluation of the checker). -/
theorem ex_bisim : bisim exRules exTbl = .ok () := by decide +kernel

/-- Hypotheses of `bsearch_correct` (row of state 0: 6 triples from index 9). -/
example : 9 + 3 * 6 ≤ exTbl.size ∧ sortedFrom (-1) (triplesAt exTbl 9 6) = true := by
  decide +kernel

/-- Hypotheses of `pushRune_consume`. -/
example : wfTable exTbl = true ∧ (#[exTbl])[({} : SM).mode.getD 0]? = some exTbl ∧
    ({} : SM).state = ((0 : Nat) : Int) ∧ 0 < nStates exTbl :=
  ⟨(bisim_checked ex_bisim).1, rfl, rfl, by decide⟩

/-- A consequence on the instance: `"if"` is labelled by `IF` (rule 1), although `ID` (rule 2)
matches it too; `"ab"` by `A`; `"i"` is viable and labelled `ID`; `"a "` is not viable. -/
example : label exRules [105, 102] = [(3, 3)] ∧ label exRules [97, 98] = [(3, 2)] ∧
    label exRules [105] = [(3, 4)] ∧ ¬ viable exRules [97, 32] := by
  refine ⟨?_, ?_, ?_, ?_⟩
  · exact (bisim_label ex_bisim [105, 102] _ (by decide +kernel)).symm
  · exact (bisim_label ex_bisim [97, 98] _ (by decide +kernel)).symm
  · exact (bisim_label ex_bisim [105] _ (by decide +kernel)).symm
  · exact (bisim_dead_iff ex_bisim [97, 32]).mp (by decide +kernel)

/-- Hypotheses of `munch`, `munch_token`, `munch_error`, `munch_eof` on the instance (initial `simplelexer`
state, any input). -/
example : startClean exTbl = true ∧ (#[exTbl])[(({} : Lx).sm).mode.getD 0]? = some exTbl ∧
    (({} : Lx).sm).state = 0 := ⟨by decide +kernel, rfl, rfl⟩

/-- On the input `"if a"` the longest viable prefix is `"if"`; its label is `[(3, 3)]` (above), so
`munch_token` applies with `t = 3` (IF), although ID matches `"if"` and `"i"` as well. -/
example : (({} : Lx).rest #[(105, 1), (102, 1), (32, 1), (97, 1)]).take
    (scanLen exTbl 0 (({} : Lx).rest #[(105, 1), (102, 1), (32, 1), (97, 1)])) = [105, 102] := by
  decide +kernel

/-- Hypotheses of `munch_error` on the input `"A"`: nothing is consumed, no rule matches the empty
prefix, and the offending rune is not end-of-input. Those of `munch_eof` hold on the empty input. -/
example : (∀ r ∈ exRules, ¬ Matches r.1 ((({} : Lx).rest #[(65, 1)]).take
      (scanLen exTbl 0 (({} : Lx).rest #[(65, 1)])))) ∧
    ((({} : Lx).advance #[(65, 1)] (scanLen exTbl 0 (({} : Lx).rest #[(65, 1)]))).char #[(65, 1)]
      ≠ -1) ∧ ({} : Lx).rest #[] = [] := by
  have h : (({} : Lx).rest #[(65, 1)]).take (scanLen exTbl 0 (({} : Lx).rest #[(65, 1)])) = [] := by
    decide +kernel
  have hn : ∀ r ∈ exRules, nullable r.1 = false := by decide
  refine ⟨?_, by decide +kernel, rfl⟩
  rw [h]
  intro r hr hm
  have := (Lox.Lex.nullable_iff r.1).mpr hm
  rw [hn r hr] at this
  cases this

end Lox.Props.C02
