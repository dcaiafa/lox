import Lox.LR.SugarValues
/-! # C03, sugar part — the synthesised actions of helper rules deliver the documented values

`Lox.LR.interp kinds rules v` (Lox/LR/Sugar.lean) is the model of what the `_act` branches of
emit_parser.go compute for the structural value tree `v` (tied to really generated parsers by the
`lr.parse` correspondence). Specification (read these, Lox/LR/SugarValues.lean): `RepChain` /
`ListChain` – "`v` is a left-recursive helper tree over the element subtrees `es`" –, `Shape` (all
helper kinds) and `docValue`:
`x?` → the child's value or the zero value; `x*`, `x+` → the list of ALL element values in input
order (empty list for none); `@list(x,sep)`, `@list(x,sep)?` → the element values WITHOUT the
separators (empty list for the absent optional list); `x*!` / `x+!` → the elements except those whose
`Discard()` is true, in order. -/
namespace Lox.Props.C03
open Lox.LR

variable {kinds : Array Nat} (rules : Array Int)

/-- `x+` (and the body of `x*`): the list of all element values in input order. -/
theorem plus_values {v : Val} {es : List Val} (h : RepChain kinds .plusOne .plusMore v es) :
    interp kinds rules v = .list (es.map (interp kinds rules)) := by
  induction h with
  | one hp => rw [interp_node, hp]; rfl
  | more hp _ ih => rw [interp_node, hp, List.map_append, List.map_cons, List.map_cons, ih]; rfl

/-- `x+!` (the body of `x*!`): the elements whose `Discard()` is false, in input order. -/
theorem plusF_values {v : Val} {es : List Val} (h : RepChain kinds .plusFOne .plusFMore v es) :
    interp kinds rules v = .list ((es.map (interp kinds rules)).filter fun x => !x.discard) := by
  induction h with
  | @one p e hp =>
    rw [interp_node, hp, List.map_cons, List.map_nil, combine_plusFOne]
    cases hd : (interp kinds rules e).discard <;> simp [hd]
  | @more p l e es hp _ ih =>
    rw [interp_node, hp, List.map_append, List.filter_append, List.map_cons, List.map_cons, ih,
      List.map_nil, combine_plusFMore]
    cases hd : (interp kinds rules e).discard <;> simp [SVal.elems, hd]

/-- `@list(x, sep)`: the element values without the separators, in input order. -/
theorem list_values {v e0 : Val} {ps : List (Val × Val)} (h : ListChain kinds v e0 ps) :
    interp kinds rules v = .list ((e0 :: ps.map (·.2)).map (interp kinds rules)) := by
  induction h with
  | one hp => rw [interp_node, hp]; rfl
  | more hp _ ih =>
    rw [interp_node, hp, List.map_cons, List.map_cons, List.map_cons, ih, List.map_nil,
      combine_listMore]
    simp [SVal.elems]

/-- All helper kinds at once: a tree of shape `hk` over the elements `es` evaluates to the
documented value of the element values. -/
theorem shape_values {hk : HK} {v : Val} {es : List Val} (h : Shape kinds hk v es) :
    interp kinds rules v = docValue hk (es.map (interp kinds rules)) := by
  cases h with
  | optSome hp => rw [interp_node, hp]; rfl
  | optNone hp => rw [interp_node, hp]; rfl
  | starSome hp hc => rw [interp_node, hp]; exact plus_values rules hc
  | starNone hp => rw [interp_node, hp]; rfl
  | starFSome hp hc => rw [interp_node, hp]; exact plusF_values rules hc
  | starFNone hp => rw [interp_node, hp]; rfl
  | plus hc => exact plus_values rules hc
  | plusF hc => exact plusF_values rules hc
  | list hc => exact list_values rules hc
  | listOptSome hp hc => rw [interp_node, hp]; exact list_values rules hc
  | listOptNone hp => rw [interp_node, hp]; rfl

/-- **Sugar values.** In the desugared grammar of a well-formed sugar grammar, EVERY value tree
`v` whose derivation tree is rooted at the i-th helper rule (of kind `k.kind`, element `k.x`) is
built over element subtrees `es`, each derived from the element symbol, listed in input order, and
the synthesised actions compute the documented value of the element values. -/
theorem sugar_values {SG : SGrammar} (hw : SG.wf = true) {i : Nat} {k : HKey}
    (hi : SG.helpers[i]? = some k) {v : Val} {w : List Nat}
    (hd : Der (desugar SG).1 [.n (SG.nUser + 1 + i)] w [v.toTree]) :
    ∃ es : List Val,
      (∀ e ∈ es, ∃ w', Der (desugar SG).1 [SGrammar.symOfAtom k.x] w' [e.toTree]) ∧
      (k.kind ≠ .list → k.kind ≠ .listOpt → w = (es.map fun e => e.toTree.yield).flatten) ∧
      interp (desugar SG).2.1 rules v = docValue k.kind (es.map (interp (desugar SG).2.1 rules)) := by
  obtain ⟨es, hs, hel, hy⟩ := SGrammar.helper_shape ((SGrammar.wf_iff SG).1 hw) hi hd
  exact ⟨es, hel, hy, shape_values rules hs⟩

/-- The same, addressed by a sugar term `t` that occurs in the grammar: the value delivered to the
user action for `t` is the documented one. -/
theorem term_values {SG : SGrammar} (hw : SG.wf = true) {t : STerm} {k : HKey}
    (ht : t ∈ SG.allTerms) (hk : t.key = some k) {v : Val} {w : List Nat}
    (hd : Der (desugar SG).1 [.n (SG.ruleIdx k)] w [v.toTree]) :
    ∃ es : List Val,
      (∀ e ∈ es, ∃ w', Der (desugar SG).1 [SGrammar.symOfAtom k.x] w' [e.toTree]) ∧
      (k.kind ≠ .list → k.kind ≠ .listOpt → w = (es.map fun e => e.toTree.yield).flatten) ∧
      interp (desugar SG).2.1 rules v = docValue k.kind (es.map (interp (desugar SG).2.1 rules)) := by
  have hW := (SGrammar.wf_iff SG).1 hw
  obtain ⟨i, hi, e⟩ := SGrammar.ruleIdx_of_mem hW (SGrammar.key_mem hW ht hk)
  rw [e] at hd
  exact sugar_values rules hw hi hd

/-- `@list(x, sep)` in full: first element, then (separator, element) pairs; the separators are
derived from `sep`, appear in the input between the elements, and are absent from the value. -/
theorem list_sugar_values {SG : SGrammar} {i : Nat} {k : HKey} (hi : SG.helpers[i]? = some k)
    (hk : k.kind = .list) {v : Val} {w : List Nat}
    (hd : Der (desugar SG).1 [.n (SG.nUser + 1 + i)] w [v.toTree]) :
    ∃ (e0 : Val) (ps : List (Val × Val)),
      (∀ e ∈ e0 :: ps.map (·.2), ∃ w', Der (desugar SG).1 [SGrammar.symOfAtom k.x] w' [e.toTree]) ∧
      (∀ s ∈ ps.map (·.1), ∃ w', Der (desugar SG).1 [SGrammar.symOfAtom k.sep] w' [s.toTree]) ∧
      w = e0.toTree.yield ++ (ps.map fun p => p.1.toTree.yield ++ p.2.toTree.yield).flatten ∧
      interp (desugar SG).2.1 rules v =
        .list ((e0 :: ps.map (·.2)).map (interp (desugar SG).2.1 rules)) := by
  obtain ⟨kind, x, sep⟩ := k
  subst hk
  obtain ⟨e0, ps, hc, hel, hse, hy⟩ := list_tree (SGrammar.helper_node hi) v w hd
  exact ⟨e0, ps, hel, hse, hy, list_values rules hc⟩

/-! ### Non-vacuity: `s = e*! ;  e = TA | TA TB` on the input `TA  TA TB  TA` -/

def exF : SGrammar :=
  ⟨["TA", "TB"],
   [⟨"s", [⟨[.starF (.rule 1)]⟩]⟩,
    ⟨"e", [⟨[.atom (.tok 0)]⟩, ⟨[.atom (.tok 0), .atom (.tok 1)]⟩]⟩]⟩

theorem exF_wf : exF.wf = true := by decide +kernel
example : exF.wf = true := exF_wf

/-- Rules `S' s e e*! e+!`; productions 4,5 = `e*!`, 6,7 = `e+!`. -/
example : (desugar exF).1.prods =
    #[⟨0, [.n 1]⟩, ⟨1, [.n 3]⟩, ⟨2, [.t 2]⟩, ⟨2, [.t 2, .t 3]⟩,
      ⟨3, [.n 4]⟩, ⟨3, []⟩, ⟨4, [.n 4, .n 2]⟩, ⟨4, [.n 2]⟩] := by decide +kernel

example : (desugar exF).2.1 = #[11, 0, 0, 0, 9, 10, 4, 3] := by decide +kernel

/-- `_rules` of the desugared grammar (rule of every production), the `rules` argument of `interp`. -/
def rulesOf (G : Grammar) : Array Int := (G.prods.toList.map fun p => (p.lhs : Int)).toArray

/-- The value tree the parser builds for `TA  TA TB  TA` below the helper `e*!`. -/
def exV : Val :=
  .node 4 [.node 6 [.node 6 [.node 7 [.node 2 [.tok 0 2]], .node 3 [.tok 1 2, .tok 2 3]],
                    .node 2 [.tok 3 2]]]

/-- It is a derivation tree of the helper rule `e*!` (rule 3 = `nUser + 1 + 0`) … -/
theorem exV_der : Der (desugar exF).1 [.n (exF.nUser + 1 + 0)] [2, 2, 3, 2] [exV.toTree] := by
  have e1 : Der (desugar exF).1 [.n 2] [2] [.node 2 [.leaf 2]] :=
    Der.single (q := 2) (pr := ⟨2, [.t 2]⟩) (by decide) (Der.term Der.nil)
  have e2 : Der (desugar exF).1 [.n 2] [2, 3] [.node 3 [.leaf 2, .leaf 3]] :=
    Der.single (q := 3) (pr := ⟨2, [.t 2, .t 3]⟩) (by decide) (Der.term (Der.term Der.nil))
  have c1 := Der.single (q := 7) (pr := ⟨4, [.n 2]⟩) (by decide) e1
  have c2 := Der.single (q := 6) (pr := ⟨4, [.n 4, .n 2]⟩) (by decide) (c1.append e2)
  have c3 := Der.single (q := 6) (pr := ⟨4, [.n 4, .n 2]⟩) (by decide) (c2.append e1)
  exact Der.single (q := 4) (pr := ⟨3, [.n 4]⟩) (by decide) c3

/-- … so `sugar_values` applies to it (helper 0 of `exF` is `e*!`) … -/
example : ∃ es : List Val,
    (∀ e ∈ es, ∃ w', Der (desugar exF).1 [.n 2] w' [e.toTree]) ∧
    [2, 2, 3, 2] = (es.map fun e => e.toTree.yield).flatten ∧
    interp (desugar exF).2.1 (rulesOf (desugar exF).1) exV =
      .list ((es.map (interp (desugar exF).2.1 (rulesOf (desugar exF).1))).filter fun x => !x.discard) := by
  obtain ⟨es, h1, h2, h3⟩ := sugar_values (rulesOf (desugar exF).1) exF_wf
    (i := 0) (k := ⟨.starF, .rule 1, .rule 1⟩) (by decide +kernel) exV_der
  exact ⟨es, h1, h2 nofun nofun, h3⟩

/-- … and the value is the list of the elements that are not discarded (the harness' `Discard()`:
nodes with an odd number of children), here only the middle `e = TA TB`. -/
example : interp (desugar exF).2.1 (rulesOf (desugar exF).1) exV =
    .list [.node 2 [.tok 1 2, .tok 2 3]] := by
  rfl

end Lox.Props.C03
