import Lox.Props.C02_e2e
import Lox.Props.C11
/-! Property theorems for C10 (emitted tables are faithful), END TO END for lexer mode tables on
the model of the emitter: for EVERY well-formed DFA, `mode_table` + `table.go` write an array from
which both readers of the framework (`Lox.Lex.rowAt` of the validator `bisim`, `Rt.decodeRow` of
the runtime theorems) get back, for every state, exactly its flags, its transitions (sorted,
disjoint) and its action pairs; nothing is out of range; the decoded automaton steps like the DFA.
And for every rule list the generator's array is a well-formed mode (`Rt.wfMode`), so the runtime
theorems of C11 / C07 (no index out of range, progress, termination, conservation) hold for every
specification on the model of the generator, not only for validated tables.

Models: `Lox/Lex/EmitModel.lean` (`emitMode`, `genMode`), `Lox/Table/Model.lean`. Tie: family
`lexemit` (harness/drv/ops_lexemit.go). -/
namespace Lox.Props.C10
open Lox.Lex Lox.Lex.Gen

/-- `AddRow` never panics in `mode_table` (state IDs are `0, 1, 2, …`): every DFA has an array. -/
theorem emit_total (F : DFA) (acts : Nat → List Pair) : ∃ tbl, emitMode F acts = some tbl :=
  emitMode_total F acts

/-- `F` is a non-empty DFA of the model, well formed (targets are states, two
transitions of a state that share a code point are the same transition, labels `lo ≤ hi`: what
`C10.subset_wellformed`, `optimize_correct`, `splitStart_correct`, `mergeTransitions_correct`
establish for the output of `Build`) with labels inside `0..0x10FFFF`; `acts s` are the action
pairs of state `s`. Then the emitted array `tbl`
* is a well-formed table (`wfTable`: offsets, counts, triples and pairs all inside the array, rows
  sorted by `lo`, pairwise disjoint, inside `0..0x10FFFF`, targets are states) with one offset per
  state (`tbl[0]` = number of states);
* read by either decoder gives for every state `s` the row `⟨flags, triples, pairs⟩` with
  `flags = 1` iff `Accept && NonGreedy`, `pairs = acts s`, and `triples` = the transitions of the
  state `(lo, hi, target)`, each exactly once, in increasing disjoint order;
* steps like the DFA: `tableStep tbl s c = F.step s c` on every code point (no step at all from a
  state with the non-greedy-accepting flag, as in `PushRune`). -/
theorem emit_faithful (F : DFA) (acts : Nat → List Pair) (hwf : F.WF) (hr : F.Runes)
    (hn : 0 < F.states.length) :
    ∃ tbl, emitMode F acts = some tbl ∧ wfTable tbl = true ∧ nStates tbl = F.states.length ∧
      ∀ s st, F.states[s]? = some st →
        rowAt tbl s = some ⟨stateFlags st, stateTriples st, acts s⟩ ∧
        Rt.decodeRow tbl (s : Int) = some ⟨stateFlags st, stateTriples st, acts s⟩ ∧
        (∀ x, x ∈ stateTriples st ↔ ∃ t ∈ st.trans, x = (t.1.b, t.1.e, (t.2 : Int))) ∧
        (stateTriples st).Pairwise (fun a b => a.2.1 < b.1) ∧
        (∀ x ∈ stateTriples st, 0 ≤ x.1 ∧ x.1 ≤ x.2.1 ∧ x.2.1 ≤ maxRune ∧
          0 ≤ x.2.2 ∧ x.2.2 < F.states.length) ∧
        ∀ c, tableStep tbl s c = if stateFlags st % 2 = 0 then F.step s c else none := by
  obtain ⟨tbl, ht⟩ := emitMode_total F acts
  refine ⟨tbl, ht, emit_wfTable ht hn hwf hr, (emit_nStates ht hn).1, ?_⟩
  intro s st hst
  have hok := transOK_of_wf hwf hr hst
  have hsorted := sortedFrom_spec _ _ hok.sorted
  refine ⟨emit_rowAt ht hst, emit_decodeRow ht hst, fun x => hok.mem_triples, hsorted.2, ?_,
    fun c => emit_tableStep ht hwf hr hst c⟩
  intro x hx
  obtain ⟨t, htm, rfl⟩ := hok.mem_triples.1 hx
  have := hok.lo t htm
  have := hok.valid t htm
  have := hok.hi t htm
  have := hok.tgt t htm
  simp only
  omega

/-- `slices.SortFunc(inputs, rang3.Compare)` (pdqsort) is modelled by its result: any list that
holds every key of the transition map once and is ordered by `rang3.Compare` is the list
`sortedKeys` the model uses (`rang3.Compare` is a total order on ranges and map keys are
distinct). -/
theorem sortFunc_unique (ts : List (Lox.Rang3.Range × Nat)) (l : List Lox.Rang3.Range)
    (hmem : ∀ k, k ∈ l ↔ ∃ t ∈ ts, t.1 = k) (hnodup : l.Nodup)
    (hsorted : l.Pairwise fun a b => Lox.Rang3.cmp a b ≤ 0) : l = sortedKeys ts := by
  refine Lox.Util.pairwise_ext Lox.Rang3.cmp_asymm ?_ (sortedKeys_sorted ts) (fun k => by rw [hmem, mem_sortedKeys])
  refine (hsorted.and hnodup).imp fun {a b} hab => ?_
  rcases Int.lt_or_eq_of_le hab.1 with h | h
  · exact h
  · exact absurd ((Lox.Rang3.cmp_eq_zero_iff a b).1 h) hab.2

/-- With no non-greedy-accepting state the decoded table RUNS like the DFA from every state on
every word, and the pairs stored on a state are the pairs given for it. -/
theorem emit_runs (F : DFA) (acts : Nat → List Pair) (hwf : F.WF) (hr : F.Runes)
    (hn : 0 < F.states.length) (hg : F.Greedy) (tbl : Mode) (ht : emitMode F acts = some tbl) :
    (∀ w s, s < F.states.length → tableRunFrom tbl s w = F.run s w) ∧
    ∀ s, s < F.states.length → rowPairs tbl s = acts s :=
  ⟨emit_run ht hwf hr hg, fun _ hs => emit_rowPairs ht hs⟩

/-- **The emitted array is a well-formed mode** (`Rt.wfMode`, checked by `lex.wfmodes` on every
emitted table and assumed by the runtime theorems of C11 / C07) for a DFA as in `emit_faithful`
without transitions into state 0 (`splitStartState`), when the pairs of every state are empty or
`mode actions…, one terminal action` with existing modes, and state 0 has none. -/
theorem emit_wfMode (F : DFA) (acts : Nat → List Pair) (nModes : Nat) (hwf : F.WF) (hr : F.Runes)
    (hn : 0 < F.states.length) (hno : NoEdgeIntoStart F)
    (hacts : ∀ s, s < F.states.length → Rt.wfPairs nModes (acts s) = true) (h0 : acts 0 = [])
    (tbl : Mode) (ht : emitMode F acts = some tbl) : Rt.wfMode nModes tbl = true :=
  Lox.Lex.Gen.emit_wfMode nModes ht hn hwf hr hno hacts h0

/-- The automaton `Build` returns satisfies the hypotheses of `emit_faithful` / `emit_runs`. -/
theorem build_emittable (xs : List Rx) (hne : xs ≠ []) (hok : ∀ r ∈ xs, r.clsOK = true) (F : DFA)
    (h : buildDFA (modeNFA xs) = some (.ok F)) :
    F.WF ∧ 0 < F.states.length ∧ NoEdgeIntoStart F ∧
    ((∀ r ∈ xs, r.runesOK = true) → F.Runes) ∧ ((∀ r ∈ xs, r.greedy = true) → F.Greedy) :=
  have hB := buildDFA_built xs hok F h
  ⟨hB.wf, hB.pos, hB.noStart, hB.runes, hB.greedy⟩

/-- `m` is the array the generator emits for some mode of a lexer with `nModes` modes: rules over
code points, none matching the empty string (the premise of C11; known finding K3 otherwise), the
action pairs of every rule of the documented shape (`Rt.wfPairs`: mode actions with existing
modes, then exactly one terminal action – what `tokenRulePairs` / `fragRulePairs` produce).
Non-greedy operators are allowed. -/
def GeneratedMode (nModes : Nat) (m : Mode) : Prop :=
  ∃ (xs : List Rx) (rules : List Rule), rules.map (·.1) = xs.map Rx.toRe ∧ xs ≠ [] ∧
    (∀ r ∈ xs, r.clsOK = true) ∧ (∀ r ∈ xs, r.runesOK = true) ∧
    (∀ r ∈ rules, Rt.wfPairs nModes r.2 = true) ∧ (∀ r ∈ rules, ¬ Matches r.1 []) ∧
    genMode xs rules = some m

/-- Every generated mode table is a well-formed mode: `lex.wfmodes` cannot
fail on the output of the (model of the) generator. -/
theorem generator_wfMode (nModes : Nat) (m : Mode) (h : GeneratedMode nModes m) :
    Rt.wfMode nModes m = true := by
  obtain ⟨xs, rules, hmap, _, hok, hrunes, hpairs, hnonempty, hgen⟩ := h
  exact genMode_wfMode nModes hgen hmap hok hrunes hpairs hnonempty

/-- A lexer all of whose mode tables are generated is `Rt.WFModes` (checker `Rt.wfModes`): the
hypothesis of every runtime theorem of C11 and C07 (`C11.no_oob`, `progress`,
`lexAll_terminates`, `conservation`, `C07.mode_stack_discipline`, …). -/
theorem generator_wfModes (modes : Array Mode) (hsz : 0 < modes.size)
    (h : ∀ m ∈ modes.toList, GeneratedMode modes.size m) : Rt.WFModes modes := by
  rw [← Rt.wfModes_iff]
  simp only [Rt.wfModes, Bool.and_eq_true, decide_eq_true_eq, List.all_eq_true]
  exact ⟨hsz, fun m hm => generator_wfMode modes.size m (h m hm)⟩

/-- For instance: the model of `simplelexer` over generated tables reaches EOF on every input,
without a Go panic (`C11.lexAll_terminates`). -/
theorem generator_lexAll_terminates (modes : Array Mode) (hsz : 0 < modes.size)
    (h : ∀ m ∈ modes.toList, GeneratedMode modes.size m) (inp : Input) (fuel n : Nat)
    (hfuel : 2 * inp.size < fuel) (hn : inp.size < n) :
    ∃ ts p, lexAll modes inp fuel n {} [] = (ts ++ [.eof p], "ok") ∧ ∀ t ∈ ts, ∀ q, t ≠ .eof q :=
  Lox.Props.C11.lexAll_terminates (generator_wfModes modes hsz h) inp fuel n hfuel hn

/-- Non-vacuity: `exKwDFA` (`Lox/Examples/KwLexer.lean`) is the automaton `Build` returns for `'if'`, `[a-z]+`
(`C02.exKw`). -/
example : buildDFA (modeNFA Lox.Props.C02.exKw) = some (.ok exKwDFA) := Lox.Props.C02.exKw_gen.1

/-- The hypotheses of `emit_faithful` and `emit_runs` hold for it (through `build_emittable`). -/
example : exKwDFA.WF ∧ 0 < exKwDFA.states.length ∧ exKwDFA.Runes ∧ exKwDFA.Greedy := by
  obtain ⟨h1, h2, _, h4, h5⟩ := build_emittable Lox.Props.C02.exKw (by decide) (by decide) exKwDFA
    Lox.Props.C02.exKw_gen.1
  exact ⟨h1, h2, h4 (by decide), h5 (by decide)⟩

/-- The emitted array: the unsorted transitions of states 0 and 1 come out sorted (no two states
share a row here; see the next example for sharing). -/
example : emitMode exKwDFA (fun s => [[], [(3, 3)], [(3, 2)], [(3, 3)]].getD s []) =
    some Lox.Props.C02.exKwTbl := Lox.Props.C02.exKw_emitMode

/-- Row sharing (`AddRow` finds the key in `rowMap`): states 1 and 2 are identical leaves, both
offsets point to one stored row; a state with the non-greedy-accepting flag. -/
example : emitMode
    { states := [
        { nfa := [], trans := [(⟨98, 98⟩, 2), (⟨97, 97⟩, 1)], accept := false, ng := false },
        { nfa := [], trans := [], accept := true, ng := false },
        { nfa := [], trans := [], accept := true, ng := false },
        { nfa := [], trans := [(⟨97, 97⟩, 1)], accept := true, ng := true }] }
    (fun s => [[], [(3, 2)], [(3, 2)], [(3, 3)]].getD s []) =
    some #[4, 13, 13, 18, 8, 0, 2, 97, 97, 1, 98, 98, 2, 4, 0, 0, 3, 2, 7, 1, 1, 97, 97, 1, 3, 3] := by
  decide +kernel

/-- `GeneratedMode` is satisfiable: the one-mode lexer `IF = 'if'  ID = [a-z]+`. -/
example : GeneratedMode 1 Lox.Props.C02.exKwTbl :=
  ⟨Lox.Props.C02.exKw, Lox.Props.C02.exKwRules, rfl, by decide, by decide, by decide,
    by decide, Lox.Props.C02.exKw_nonempty, Lox.Props.C02.exKw_genMode⟩

end Lox.Props.C10
