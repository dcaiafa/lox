import Lox.Dec.Interleave
/-! C18 "Generated parsers and lexers are safe to run concurrently" — the logical half:
instances that keep their own state and only read shared immutable tables cannot influence each
other, whatever the interleaving. Outside the model (and named as such in DESIGN §7 C18): the Go
memory model, and the premise that generated code never writes its package-level tables
(checked by the fact extractor, `expect/shared_state.json`). -/
namespace Lox.Props.C18
open Lox.Dec.Interleave

variable {n : Nat} {T : Type} {S In Out : Fin n → Type}

/-- For every schedule, the trace of component `i` inside the interleaved run is the trace of
component `i` running alone on the subsequence of its own events, and so is its final state. -/
theorem interleave_independent (step : Step n T S In Out) (tb : T) (g : Global S)
    (sch : List (Tagged In)) (i : Fin n) :
    proj i (run step tb g sch).2 = (runSolo step tb i (g i) (proj i sch)).2 ∧
    (run step tb g sch).1 i = (runSolo step tb i (g i) (proj i sch)).1 :=
  run_proj step tb i g sch

/-- A component is unaffected by what the *other* components are fed. -/
theorem others_irrelevant (step : Step n T S In Out) (tb : T) (g : Global S)
    (sch₁ sch₂ : List (Tagged In)) (i : Fin n) (h : proj i sch₁ = proj i sch₂) :
    proj i (run step tb g sch₁).2 = proj i (run step tb g sch₂).2 ∧
    (run step tb g sch₁).1 i = (run step tb g sch₂).1 i := by
  rw [(run_proj step tb i g sch₁).1, (run_proj step tb i g sch₂).1,
    (run_proj step tb i g sch₁).2, (run_proj step tb i g sch₂).2, h]
  exact ⟨rfl, rfl⟩

/-- Hence any two interleavings of the same per-component event sequences give the same
per-component traces and the same final global state. -/
theorem interleave_perm (step : Step n T S In Out) (tb : T) (g : Global S)
    (sch₁ sch₂ : List (Tagged In)) (h : ∀ i, proj i sch₁ = proj i sch₂) :
    (∀ i, proj i (run step tb g sch₁).2 = proj i (run step tb g sch₂).2) ∧
    (run step tb g sch₁).1 = (run step tb g sch₂).1 :=
  ⟨fun i => (others_irrelevant step tb g sch₁ sch₂ i (h i)).1,
    funext fun i => (others_irrelevant step tb g sch₁ sch₂ i (h i)).2⟩

/-- Component 0 counts (state `Nat`), component 1 keeps a stack (state `List Nat`). -/
def exS : Fin 2 → Type
  | 0 => Nat
  | 1 => List Nat

def exStep0 (tb s x : Nat) : Nat × Nat := (s + x + tb, s + x + tb)
def exStep1 (tb : Nat) (s : List Nat) (x : Nat) : List Nat × Nat := (x :: s, s.length + tb)

def exStep : Step 2 Nat exS (fun _ => Nat) (fun _ => Nat)
  | 0 => exStep0
  | 1 => exStep1

def exInit : Global exS
  | 0 => (0 : Nat)
  | 1 => ([] : List Nat)

def exSch₁ : List (Tagged (n := 2) (fun _ => Nat)) := [⟨0, 1⟩, ⟨1, 7⟩, ⟨0, 2⟩, ⟨1, 8⟩, ⟨0, 3⟩]
def exSch₂ : List (Tagged (n := 2) (fun _ => Nat)) := [⟨1, 7⟩, ⟨1, 8⟩, ⟨0, 1⟩, ⟨0, 2⟩, ⟨0, 3⟩]

/-- The hypothesis of `interleave_perm` holds for two genuinely different schedules. -/
example : exSch₁ ≠ exSch₂ ∧ ∀ i, proj i exSch₁ = proj i exSch₂ := by decide +kernel

/-- … and the traces are what the solo runs give (table value 10). -/
example :
    proj 0 (run exStep 10 exInit exSch₁).2 = [11, 23, 36] ∧
    proj 1 (run exStep 10 exInit exSch₁).2 = [10, 11] ∧
    proj 0 (run exStep 10 exInit exSch₂).2 = [11, 23, 36] ∧
    (runSolo exStep 10 0 (0 : Nat) [1, 2, 3]).2 = [11, 23, 36] := by decide +kernel

/-- With a shared *mutable* cell the statement fails. Two components drawing tickets from one
shared counter: component 0's trace inside the interleaved run differs from its solo trace on its
own events, and two interleavings of the same per-component sequences give component 0 different
traces. -/
example :
    let sch₁ : List (Tagged (n := 2) (fun _ => Unit)) := [⟨1, ()⟩, ⟨0, ()⟩]
    let sch₂ : List (Tagged (n := 2) (fun _ => Unit)) := [⟨0, ()⟩, ⟨1, ()⟩]
    (∀ i, proj i sch₁ = proj i sch₂) ∧
    proj 0 (runM ticketStep 0 (fun _ => ()) sch₁) = [1] ∧
    runSoloM ticketStep 0 0 () (proj 0 sch₁) = [0] ∧
    proj 0 (runM ticketStep 0 (fun _ => ()) sch₁) ≠ proj 0 (runM ticketStep 0 (fun _ => ()) sch₂) := by
  decide +kernel

end Lox.Props.C18
