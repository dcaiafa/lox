import Lox.Dec.ContainersSetProofs
import Lox.Dec.ContainersMultiProofs
/-! C13 "Output is deterministic" — the insertion-ordered containers of `/repo/internal/base`
(`stablemap.Map`, `stablemap.MultiMap`, `set.Set`, `stack.Stack`, `array.Array`), modelled at
pointer level in `Lox/Dec/Containers.lean` (node store, `next`/`prev` links, sentinel, the Go map
`nodes` as an association list whose order nothing may depend on) and tied to the real packages by
family `containers` (`harness/drv/ops_containers.go`).

The generator iterates over these containers instead of over Go maps; the theorems say that what
comes out is a function of the sequence of operations alone: the containers refine lists in
first-insertion order, for all operation sequences, whatever order the Go runtime gives the
underlying map. -/
set_option linter.unusedSectionVars false
namespace Lox.Props.C13
open Lox.Dec.Containers

section Map
variable {K V : Type} [DecidableEq K] [Inhabited K] [Inhabited V]

/-- What the invariant says: the map is the zero value `Map{}`, or it is initialised and, for
some list `cyc` of node ids, `Ring m cyc` holds — `m.list` is node 0 (the sentinel); following
`next` from 0 visits exactly `cyc` and returns to 0; following `prev` visits `cyc` backwards (so
`prev` is the inverse of `next` on the ring); 0 and the nodes of `cyc` are pairwise different and
allocated; the Go map `m.nodes` is, up to order, exactly `{key(i) ↦ i | i ∈ cyc}`; the keys along
the ring are pairwise different. -/
theorem stablemap_inv_iff (m : CMap K V) :
    Inv m ↔ m = CMap.zero ∨ ∃ cyc : List Nat,
      m.list = some 0 ∧
      (∃ g, m.nodes = some g ∧ g.Perm (cyc.map fun i => (keyAt m.heap i, i))) ∧
      cyc.length < m.heap.size ∧ (∀ i ∈ cyc, i < m.heap.size) ∧ (0 :: cyc).Nodup ∧
      Chain (nextAt m.heap) 0 cyc 0 ∧ Chain (prevAt m.heap) 0 cyc.reverse 0 ∧
      (cyc.map (keyAt m.heap)).Nodup := by
  constructor
  · rintro ⟨l, ⟨h, _⟩ | ⟨cyc, hr, _⟩⟩
    · exact Or.inl h
    · exact Or.inr ⟨cyc, hr.list, hr.nodes, hr.size, hr.bound, hr.nodup, hr.fwd, hr.bwd, hr.keys⟩
  · rintro (rfl | ⟨cyc, h1, h2, h3, h4, h5, h6, h7, h8⟩)
    · exact ⟨[], rep_zero⟩
    · exact ⟨_, Or.inr ⟨cyc, ⟨h1, h2, h3, h4, h5, h6, h7, h8⟩, rfl⟩⟩

theorem rep_of_inv_abs {m : CMap K V} {l : AMap K V} (hi : Inv m) (ha : abs m = .ok l) :
    Rep m l := by
  obtain ⟨l', h⟩ := hi
  cases h.forEach.symm.trans ha
  exact h

/-- The zero value satisfies the invariant and represents the empty map. -/
theorem stablemap_init :
    Inv (CMap.zero : CMap K V) ∧ abs (CMap.zero : CMap K V) = .ok [] :=
  ⟨⟨[], rep_zero⟩, rfl⟩

/-- Under the invariant the abstraction function (follow `next` from the sentinel, with fuel
`allocated nodes + 1`) never fails. -/
theorem stablemap_abs_total (m : CMap K V) (hi : Inv m) : ∃ l, abs m = .ok l := by
  obtain ⟨l, h⟩ := hi
  exact ⟨l, h.forEach⟩

/-- One operation: it does not panic, its observable result is the specification's, the invariant
is preserved and the new state represents the specification's new state. -/
theorem stablemap_step_refines (m : CMap K V) (l : AMap K V) (op : Op K V) (hi : Inv m)
    (ha : abs m = .ok l) :
    ∃ m', step op m = .ok ((specStep op l).1, m') ∧ Inv m' ∧ abs m' = .ok (specStep op l).2 := by
  obtain ⟨m', h1, h2⟩ := step_refines (rep_of_inv_abs hi ha) op
  exact ⟨m', h1, ⟨_, h2⟩, h2.forEach⟩

/-- `stablemap.Map` refines "the live entries in insertion order" for ALL operation sequences,
from every state that satisfies the invariant, in particular from the zero value: no operation
panics, the sequence of observable results (Get/GetOrZero/Has/Len results, the ForEach/Keys/Values
sequences) is the one the list specification gives, and the final state satisfies the invariant
and represents the specification's final list. -/
theorem stablemap_refines :
    (∀ (m : CMap K V) (l : AMap K V) (ops : List (Op K V)), Inv m → abs m = .ok l →
      ∃ m', run ops m = .ok ((runSpec ops l).1, m') ∧ Inv m' ∧ abs m' = .ok (runSpec ops l).2) ∧
    (∀ ops : List (Op K V),
      ∃ m', run ops (CMap.zero : CMap K V) = .ok ((runSpec ops []).1, m') ∧ Inv m' ∧
        abs m' = .ok (runSpec ops []).2) := by
  have key : ∀ (m : CMap K V) (l : AMap K V) (ops : List (Op K V)), Inv m → abs m = .ok l →
      ∃ m', run ops m = .ok ((runSpec ops l).1, m') ∧ Inv m' ∧ abs m' = .ok (runSpec ops l).2 := by
    intro m l ops hi ha
    obtain ⟨m', h1, h2⟩ := run_refines (rep_of_inv_abs hi ha) ops
    exact ⟨m', h1, ⟨_, h2⟩, h2.forEach⟩
  exact ⟨key, fun ops => key _ _ ops stablemap_init.1 stablemap_init.2⟩

/-! The specification is the obvious one: -/

/-- `Put` of a present key keeps the key sequence; `Put` of a new key appends it. -/
theorem spec_put_keys (l : AMap K V) (k : K) (v : V) :
    (aPut l k v).map (·.1) =
      if k ∈ l.map (·.1) then l.map (·.1) else l.map (·.1) ++ [k] := by
  unfold aPut
  by_cases h : k ∈ l.map (·.1)
  · rw [if_pos (List.any_fst_eq_true.mpr h), if_pos h, List.map_map]
    apply List.map_congr_left
    intro e _
    simp only [Function.comp]
    split <;> rfl
  · rw [if_neg (fun h' => h (List.any_fst_eq_true.mp h')), if_neg h]
    simp

/-- After `Put k v` the value under `k` is `v`; other keys keep their value. -/
theorem spec_get_put (l : AMap K V) (k k' : K) (v : V) :
    aGet (aPut l k v) k' = if k' = k then (v, true) else aGet l k' := by
  have hlk : ∀ l : AMap K V, (l.map (fun e => if e.1 = k then (e.1, v) else e)).lookup k' =
      if k' = k then (l.lookup k').map (fun _ => v) else l.lookup k' := by
    intro l
    induction l with
    | nil => simp
    | cons e l ih =>
      obtain ⟨a, b⟩ := e
      rw [List.map_cons]
      by_cases hak : a = k
      · subst hak
        rw [if_pos rfl, List.lookup_cons, List.lookup_cons, ih]
        by_cases hk : k' = a
        · simp [hk]
        · simp [hk, beq_false_of_ne hk]
      · rw [if_neg hak, List.lookup_cons, List.lookup_cons, ih]
        by_cases hk : k' = k
        · simp [hk, beq_false_of_ne (Ne.symm hak)]
        · simp [hk]
  unfold aGet
  cases h : l.lookup k with
  | some w =>
    rw [aPut_of_lookup_isSome (by rw [h]; rfl), hlk]
    by_cases hk : k' = k
    · simp [hk, h]
    · simp [hk]
  | none =>
    rw [aPut_of_lookup_none h, List.lookup_append, List.lookup_cons, List.lookup_nil]
    by_cases hk : k' = k
    · simp [hk, h]
    · simp [hk, beq_false_of_ne hk]

/-- `Remove` erases the key and keeps the order of the others. -/
theorem spec_remove_keys (l : AMap K V) (k : K) :
    (aRemove l k).map (·.1) = (l.map (·.1)).filter (fun k' => decide (k' ≠ k)) := by
  simp only [aRemove, List.filter_map]
  rfl

/-- "Insertion-ordered": let the Go runtime rearrange the map `nodes` arbitrarily before every
single operation (`sched i` is applied before step `i`; any permutation is allowed). No observable
result of any operation sequence changes: every schedule produces the results of the list
specification, hence any two schedules produce the same results. -/
theorem foreach_order_independent_of_go_map
    (sched₁ sched₂ : Nat → List (K × Nat) → List (K × Nat))
    (h₁ : ∀ i g, (sched₁ i g).Perm g) (h₂ : ∀ i g, (sched₂ i g).Perm g) (ops : List (Op K V)) :
    (runSched sched₁ 0 ops (CMap.zero : CMap K V)).map (·.1) = .ok (runSpec ops []).1 ∧
    (runSched sched₁ 0 ops (CMap.zero : CMap K V)).map (·.1) =
      (runSched sched₂ 0 ops (CMap.zero : CMap K V)).map (·.1) := by
  obtain ⟨m₁, e₁, _⟩ := runSched_refines (rep_zero (K := K) (V := V)) sched₁ h₁ 0 ops
  obtain ⟨m₂, e₂, _⟩ := runSched_refines (rep_zero (K := K) (V := V)) sched₂ h₂ 0 ops
  rw [e₁, e₂]
  exact ⟨rfl, rfl⟩

/-- The same from any state: two states that differ only in the order of the Go map (and satisfy
the invariant) are indistinguishable by any operation sequence, also when the map keeps being
rearranged on both sides. -/
theorem go_map_order_unobservable (m : CMap K V) (hi : Inv m)
    (f : List (K × Nat) → List (K × Nat)) (hf : ∀ g, (f g).Perm g)
    (sched₁ sched₂ : Nat → List (K × Nat) → List (K × Nat))
    (h₁ : ∀ i g, (sched₁ i g).Perm g) (h₂ : ∀ i g, (sched₂ i g).Perm g) (ops : List (Op K V)) :
    (runSched sched₁ 0 ops m).map (·.1) = (runSched sched₂ 0 ops (reorder f m)).map (·.1) ∧
    (run ops m).map (·.1) = (run ops (reorder f m)).map (·.1) := by
  obtain ⟨l, h⟩ := hi
  obtain ⟨m₁, e₁, _⟩ := runSched_refines h sched₁ h₁ 0 ops
  obtain ⟨m₂, e₂, _⟩ := runSched_refines (h.reorder hf) sched₂ h₂ 0 ops
  obtain ⟨m₃, e₃, _⟩ := run_refines h ops
  obtain ⟨m₄, e₄, _⟩ := run_refines (h.reorder hf) ops
  rw [e₁, e₂, e₃, e₄]
  exact ⟨rfl, rfl⟩

/-- The invariant itself does not depend on the order of the Go map. -/
theorem inv_reorder (m : CMap K V) (hi : Inv m) (f : List (K × Nat) → List (K × Nat))
    (hf : ∀ g, (f g).Perm g) : Inv (reorder f m) ∧ abs (reorder f m) = abs m := by
  obtain ⟨l, h⟩ := hi
  exact ⟨⟨l, h.reorder hf⟩, (h.reorder hf).forEach.trans h.forEach.symm⟩

end Map

/-! Non-vacuity: the sequence Put a, Put b, Put a again, Remove a, Put a (Keys = [b, a]) on the
pointer-level model, the final store, and the same run with the Go map
reversed before every step. -/

def exampleOps : List (Op Nat Nat) :=
  [.put 1 10, .put 2 20, .put 1 11, .keys, .remove 1, .put 1 12, .keys, .values, .get 1, .get 7,
   .len, .has 2, .forEach]

example : (run exampleOps CMap.zero).map (·.1) =
    .ok [.unit, .unit, .unit, .keys [1, 2], .unit, .unit, .keys [2, 1], .values [20, 12],
      .got 12 true, .got 0 false, .nat 2, .bool true, .pairs [(2, 20), (1, 12)]] := by decide +kernel

example : (run exampleOps CMap.zero).map (·.1) = .ok (runSpec exampleOps []).1 := by decide +kernel

example : (runSched (fun _ g => g.reverse) 0 exampleOps CMap.zero).map (·.1) =
    (run exampleOps CMap.zero).map (·.1) := by decide +kernel

/-- The store after the run (per node: next, prev, key, value): node 1 (the removed first `a`) is unlinked (`next = prev = nil`), the
ring is 0 → 2 → 3 → 0 and the Go map holds exactly the ring's nodes. -/
def dumpLinks (m : CMap Nat Nat) : List (List (Option Nat)) :=
  m.heap.toList.map fun n => [n.next, n.prev, some n.key, some n.value]

example : (run exampleOps CMap.zero).map (fun r => dumpLinks r.2) =
    .ok [[some 2, some 3, some 0, some 0], [none, none, some 1, some 11],
      [some 3, some 0, some 2, some 20], [some 0, some 2, some 1, some 12]] := by decide +kernel

example : (run exampleOps CMap.zero).map (fun r => (r.2.nodes, r.2.list)) =
    .ok (some [(1, 3), (2, 2)], some 0) := by decide +kernel

/-- The invariant is not trivially true: a store whose `prev` link is wrong violates it, and there
`ForEach` is still defined (it only follows `next`), so the invariant says more than "`abs`
succeeds". A broken `next` link makes the traversal fail with an explicit error. -/
example :
    let bad : CMap Nat Nat :=
      ⟨some [(5, 1)], some 0, #[⟨some 1, some 1, 0, 0⟩, ⟨some 0, none, 5, 50⟩]⟩
    abs bad = .ok [(5, 50)] ∧ ¬ Inv bad := by
  refine ⟨by decide +kernel, ?_⟩
  rintro ⟨l, ⟨h, _⟩ | ⟨cyc, hr, _⟩⟩
  · cases h
  · have h0 := chain_head hr.fwd
    have h1 : nextAt (#[⟨some 1, some 1, 0, 0⟩, ⟨some 0, none, 5, 50⟩] : Heap Nat Nat) 0 = some 1 := by
      decide +kernel
    rw [h1] at h0
    cases cyc with
    | nil => simp at h0
    | cons x r =>
      simp only [List.headD_cons, Option.some.injEq] at h0
      subst h0
      have hb := hr.bwd
      simp only [List.reverse_cons] at hb
      have := chain_last hb
      simp only [List.getLastD_eq_getLast?, List.getLast?_append, List.getLast?_singleton] at this
      rw [show ((some 1).or r.reverse.getLast?).getD 0 = 1 from rfl] at this
      revert this
      decide +kernel

example :
    let bad : CMap Nat Nat :=
      ⟨some [(5, 1)], some 0, #[⟨some 1, some 1, 0, 0⟩, ⟨some 1, some 0, 5, 50⟩]⟩
    abs bad = .error .fuel := by decide +kernel

example :
    let bad : CMap Nat Nat :=
      ⟨some [(5, 1)], some 0, #[⟨some 1, some 1, 0, 0⟩, ⟨none, some 0, 5, 50⟩]⟩
    abs bad = .error .nilDeref := by decide +kernel

section Set
variable {T : Type} [DecidableEq T] [Inhabited T]

/-- `set.Set` refines duplicate-free lists in first-insertion order, for all programs over any
number of set variables (Add, AddSlice, AddSet, Remove, Has, Empty, Len, Elements, Equal, ForEach,
Clone, Clear, New), starting from zero values: no operation panics, every observable result
(`Add`/`AddSlice`/`AddSet`'s `changed`, Has, Empty, Len, Equal, the Elements/ForEach sequences) is
the specification's, and afterwards every variable `r` represents the specification's list for
`r`: that list is duplicate-free and is what `Elements` returns. -/
theorem set_refines (ops : List (SetOp T)) :
    ∃ regs', setRun ops (fun _ => (CSet.zero : CSet T)) =
        .ok ((setRunSpec ops fun _ => []).1, regs') ∧
      ∀ r, SetRep (regs' r) ((setRunSpec ops fun _ => []).2 r) ∧
        ((setRunSpec ops fun _ => []).2 r).Nodup ∧
        setElements (regs' r) = .ok ((setRunSpec ops fun _ => []).2 r) := by
  obtain ⟨regs', h1, h2⟩ :=
    setRun_refines (regs := fun _ => (CSet.zero : CSet T)) (aregs := fun _ => [])
      (fun _ => setRep_zero) ops
  exact ⟨regs', h1, fun r => ⟨h2 r, (h2 r).nodup, (h2 r).elements⟩⟩

/-- … and from any states that represent lists. -/
theorem set_refines_from (regs : Nat → CSet T) (aregs : Nat → ASet T)
    (h : ∀ r, SetRep (regs r) (aregs r)) (ops : List (SetOp T)) :
    ∃ regs', setRun ops regs = .ok ((setRunSpec ops aregs).1, regs') ∧
      ∀ r, SetRep (regs' r) ((setRunSpec ops aregs).2 r) :=
  setRun_refines h ops

/-- `Equal` is set equality (on the duplicate-free lists the sets represent). -/
theorem set_equal_is_set_equality {s o : CSet T} {l lo : ASet T} (hs : SetRep s l)
    (ho : SetRep o lo) : ∃ b, setEqual s o = .ok b ∧ (b = true ↔ ∀ x, x ∈ l ↔ x ∈ lo) :=
  ⟨sEqual l lo, hs.equal ho, sEqual_iff hs.nodup ho.nodup⟩

/-- `Clone` preserves the order (and the clone is a separate object: the original is unchanged
by construction, `setClone` does not return it). -/
theorem set_clone_preserves_order {s : CSet T} {l : ASet T} (hs : SetRep s l) :
    ∃ c, setClone s = .ok c ∧ SetRep c l ∧ setElements c = .ok l := by
  obtain ⟨c, h1, h2⟩ := hs.clone
  exact ⟨c, h1, h2, h2.elements⟩

/-- `AddSet` appends the elements of the other set that are new, in the other set's order, and
reports whether there were any. -/
theorem set_addSet_appends_in_order {s o : CSet T} {l lo : ASet T} (hs : SetRep s l)
    (ho : SetRep o lo) :
    ∃ s', setAddSet s o = .ok (lo.any (fun x => decide (x ∉ l)), s') ∧
      SetRep s' (l ++ lo.filter (fun x => decide (x ∉ l))) := by
  obtain ⟨s', h1, h2⟩ := hs.addSet ho
  obtain ⟨e1, e2⟩ := sAddAll_nodup l lo ho.nodup
  rw [e1] at h2
  rw [e2] at h1
  exact ⟨s', h1, h2⟩

/-- `Add` reports `changed` exactly when the element was absent, and then appends it. -/
theorem set_add_changed {s : CSet T} {l : ASet T} (hs : SetRep s l) (x : T) :
    ∃ s', setAdd s x = .ok (decide (x ∉ l), s') ∧
      SetRep s' (if x ∈ l then l else l ++ [x]) := by
  obtain ⟨s', h1, h2⟩ := hs.add x
  refine ⟨s', ?_, ?_⟩
  · rw [h1]; unfold sAdd; split <;> simp [*]
  · unfold sAdd at h2; split at h2 <;> simp_all

end Set

example :
    let ops : List (SetOp Nat) :=
      [.add 0 3, .add 0 3, .addSlice 0 [1, 2, 3, 4], .elements 0, .new 1 [4, 9, 4], .addSet 0 1,
       .elements 0, .equal 0 1, .clone 2 0, .equal 0 2, .remove 0 3, .elements 0, .elements 2,
       .addSet 0 0, .empty 3, .len 0]
    (setRun ops fun _ => CSet.zero).map (·.1) =
      .ok [.bool true, .bool false, .bool true, .elems [3, 1, 2, 4], .unit, .bool true,
        .elems [3, 1, 2, 4, 9], .bool false, .unit, .bool true, .unit, .elems [1, 2, 4, 9],
        .elems [3, 1, 2, 4, 9], .bool false, .bool true, .nat 4] := by decide +kernel

section Multi
variable {K V : Type} [DecidableEq K] [Inhabited K]

/-- `stablemap.MultiMap` (Add, Get+Elements, Has, Len, Remove, Clear, Keys, ForEach) refines
"keys in first-insertion order, each with its values in insertion order" for all operation
sequences from the zero value: no panic (in particular `arr.Add` never hits a nil `*Array`), the
observable results are the specification's, and `ForEach` on the final state yields the
specification's final list. -/
theorem multimap_refines (ops : List (MOp K V)) :
    ∃ m', mmRun ops (CMulti.zero : CMulti K V) = .ok ((mmRunSpec ops []).1, m') ∧
      MRep m' (mmRunSpec ops []).2 ∧ mmForEach m' = .ok (mmRunSpec ops []).2 := by
  obtain ⟨m', h1, h2⟩ := mmRun_refines (mrep_zero (K := K) (V := V)) ops
  exact ⟨m', h1, h2, h2.forEach⟩

end Multi

example :
    let ops : List (MOp Nat Nat) :=
      [.add 1 5, .add 2 6, .add 1 7, .get 1, .get 3, .forEach, .remove 1, .add 1 8, .forEach, .keys]
    (mmRun ops CMulti.zero).map (·.1) =
      .ok [.unit, .unit, .unit, .got [5, 7] true, .got [] false, .all [(1, [5, 7]), (2, [6])],
        .unit, .unit, .all [(2, [6]), (1, [8])], .keys [2, 1]] := by decide +kernel

/-! `stack.Stack` and `array.Array` are slices: the model is the specification. -/

/-- `Pop` after `Push` returns the pushed element and the stack as it was (LIFO); `Peek` too. -/
theorem stack_push_pop {T : Type} (s : List T) (e : T) :
    stackPop (slicePush s e) = .ok (e, s) ∧ stackPeek (slicePush s e) = .ok e := by
  simp [stackPop, stackPeek, slicePush]

/-- `Pop`/`Peek` of the empty stack panic (index out of range) — never a default value. -/
theorem stack_empty_panics {T : Type} :
    stackPop ([] : List T) = .error .index ∧ stackPeek ([] : List T) = .error .index :=
  ⟨rfl, rfl⟩

/-- `Get(len)` after `Add` returns the added element; earlier indices are unchanged. -/
theorem array_get_add {T : Type} (s : List T) (e : T) (i : Nat) :
    arrayGet (slicePush s e) (i : Int) =
      if i < s.length then arrayGet s (i : Int)
      else if i = s.length then .ok e else .error .index := by
  have h0 : ¬ ((i : Int) < 0) := Int.not_lt.mpr (Int.natCast_nonneg i)
  simp only [arrayGet, slicePush, if_neg h0, Int.toNat_natCast]
  by_cases h1 : i < s.length
  · rw [if_pos h1, List.getElem?_append_left h1]
  · by_cases h2 : i = s.length
    · subst h2; simp
    · have : (s ++ [e]).length ≤ i :=
        List.length_append ▸ Nat.succ_le_of_lt (Nat.lt_of_le_of_ne (Nat.le_of_not_lt h1) (Ne.symm h2))
      rw [if_neg h1, if_neg h2, List.getElem?_eq_none this]

end Lox.Props.C13

