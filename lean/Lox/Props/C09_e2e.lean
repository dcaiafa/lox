import Lox.Props.C09
import Lox.LR.PrefixSound
import Lox.Props.C01_e2e
import Lox.Props.C01_sugar_e2e
import Lox.LR.EmitProofsJustify
import Lox.Examples.GrammarD30
import Lox.Examples.GrammarNoEof
/-!
# C09, end to end on the model of the generator: syntax-error behaviour for ALL grammars

Property (verbatim): "For every accepted grammar and every finite token sequence, including lexer
ERROR tokens, parse() terminates without panicking. Reading @error as a terminal that only the
parser itself can supply: if the sequence is not a sentence, parse() either returns false or
delivers at least one Error to an @error action, and the first Error delivered carries the first
token at which the input stops being a prefix of any sentence. When parse() returns true, the
symbols it consumed (input tokens in order, possibly with stretches replaced by @error) form a
sentence."

`Lox/Props/C09.lean` and `Lox/Props/C09_prefix.lean` decide C09 PER EMITTED ARTEFACT (hypotheses
`checkSafe`/`check`/`justify`/`noShiftEOFB`/`acceptOnlyEOFB` … = validators run on the tables of one
grammar). Here the tables are the output of the MODEL of the generator
(`Lox.LR.Emit.generateP info G nT ord` = `Cons.construct`, model of `lr1.ConstructLALR`, then
`Emit.emitParserP`, model of `codegen.EmitParser`; tied to the real code number for number by the
families `construct`, `genmodel`, `resolve`, `emit`) and NO validator is run: the statements hold
for every well-formed grammar (`wfGrammarB`), every name order listing each symbol once (`ordOKB`)
and – where the proof only needs the soundness half – every precedence table `info`.

* Any emitted table (conflicts resolved by `@left/@right` or not; by `generator_safe`): no panic,
  accepted edit is a sentence, an Error is delivered, no silent accept, bounded recoveries, coverage;
  termination keeps the hypotheses `termB` and `recoveryOKB` (`…_partial`); for grammars WITHOUT
  `@error` `recoveryOKB` is derived (only `termB` stays).
* Conflict-free grammars (`conflictFree`: every cell `createActions` builds holds one action,
  = LALR(1) by definition, `Lox.Props.C04.conflictFree_iff_lalr1`; by `generator_valid` and
  `generator_justified`): a sentence never recovers, exact lookaheads, and – with `productiveB`,
  which the front end does not enforce – the first `Error` blames the right token.
* **`recoveryOKB` is not derived** for grammars with `@error`: trying to derive it exposed defect D30
  (for the LALR(1) grammar `s = b @error C; b = a; a = ε` the pinned `_recover()` looped forever on
  every input; repaired, see the section "`recoveryOKB` is not derived": `hang_repaired_recoveryOK`,
  `hang_repaired_parse`). `termB` ("conflict-free ⇒ no reduction cycle") is not derived either.
* The Boolean checkers `noShiftEOFB` / `acceptOnlyEOFB` range over EVERY index of the `_actions`
  array, also indices that are not states (where `_Find` would read row data as a row offset); in
  that form `noShiftEOFB` is false for some well-formed conflict-free grammar (`noShiftEOFB_false`).
  What the C09 theorems need – the property for the STATES – holds for every emitted table, and
  `generator_recoveries_bounded` / `generator_consumed_is_edit` need no table-level hypothesis.
-/
namespace Lox.Props.C09
open Lox.LR Lox.LR.Rt Lox.LR.Emit Lox.LR.Cons
open Lox.Dec (ProdInfo)
open Lox.Props.C01 (wfGrammarB generator_safe generator_valid generator_total)

/-! ## Any emitted table: every well-formed grammar, every precedence table -/

section AnyTable
variable {info : Nat → ProdInfo} {G : Grammar} {nT nR : Nat} {ord : List Sym} {T : Tables}
  {cert : Array (List Item)}

theorem generator_safeOK (hwf : wfGrammarB G nT nR = true) (hord : ordOKB nT nR ord = true)
    (hgen : generateP info G nT ord = some (T, cert)) (hsmall : cert.size ≤ 2147483647) :
    SafeOK G nT nR T cert :=
  checkSafe_spec (generator_safe hwf hord hgen hsmall)

/-- On the tables the model of the generator emits for ANY
well-formed grammar and precedence table, `parse` never panics: for every token sequence, lexer
ERROR tokens (1) included, with and without `_onBounds` (`wb`), whatever the fuel and however often
it recovers (stack never empty, every `_Find` / `_rules` / `_termCounts` index in range in the main
loop, `_makeError`, the stack search and the reduce simulation of `_recover`; type assertions on
`_lasym` hold). -/
theorem generator_parse_no_panic (hwf : wfGrammarB G nT nR = true) (hord : ordOKB nT nR ord = true)
    (hgen : generateP info G nT ord = some (T, cert)) (hsmall : cert.size ≤ 2147483647)
    (inp : Array Nat) (wb : Bool) (fuel : Nat) : ∀ w, (parse T inp wb fuel).1 ≠ .panic w :=
  parse_no_panic (generator_safe hwf hord hgen hsmall) inp wb fuel

/-- "When parse() returns true, the symbols it consumed
(input tokens in order, possibly with stretches replaced by @error) form a sentence": the accepting
stack is `[⟨_, v⟩, bottom]`, the lookahead is EOF, the leaves of `v` read as terminals
(`Error ↦ ERROR = 1`) derive from the start symbol with `v` as derivation tree, and they are the
consumed symbols of the coverage invariant `Cov`. -/
theorem generator_accepted_edit_is_sentence (hwf : wfGrammarB G nT nR = true)
    (hord : ordOKB nT nR ord = true) (hgen : generateP info G nT ord = some (T, cert))
    (hsmall : cert.size ≤ 2147483647) {inp : Array Nat} {wb : Bool} {fuel : Nat}
    (hacc : (parse T inp wb fuel).1 = .accept) :
    (parse T inp wb fuel).2.la = tEOF ∧
    ∃ st0 v b bot, (parse T inp wb fuel).2.stack = [{ state := st0, sym := v, bounds := b }, bot] ∧
      bot.sym = .nil ∧ stackLeaves (parse T inp wb fuel).2.stack = leaves v ∧
      Der G [.n (startSym G)] (wordOf v) [v.toTree] ∧ Cov inp (parse T inp wb fuel).2 :=
  accepted_edit_is_sentence (generator_safe hwf hord hgen hsmall) hacc

/-- If `parse` accepts and `_recover()` returned `true` at least
once, some action was called with an `Error` argument. -/
theorem generator_error_delivered (hwf : wfGrammarB G nT nR = true) (hord : ordOKB nT nR ord = true)
    (hgen : generateP info G nT ord = some (T, cert)) (hsmall : cert.size ≤ 2147483647)
    {inp : Array Nat} {wb : Bool} {fuel : Nat} (hacc : (parseG T inp wb fuel).1 = .accept)
    (hrec : 0 < (parseG T inp wb fuel).2.2) : Delivered (parseG T inp wb fuel).2.1.log :=
  error_delivered (generator_safe hwf hord hgen hsmall) hacc hrec

/-- If `parse` accepts, `_recover()` never returned `true` and the
input holds neither ERROR (1) nor EOF (0) tokens, the input is a sentence (derivation tree = the
value on top of the accepting stack). Contrapositive: on a non-sentence `parse` returns false or
recovers, and then delivers an Error (`generator_error_delivered`). -/
theorem generator_no_silent_accept (hwf : wfGrammarB G nT nR = true) (hord : ordOKB nT nR ord = true)
    (hgen : generateP info G nT ord = some (T, cert)) (hsmall : cert.size ≤ 2147483647)
    {inp : Array Nat} {wb : Bool} {fuel : Nat} (hinp1 : ∀ i : Nat, inp[i]? ≠ some 1)
    (hinp0 : ∀ i : Nat, inp[i]? ≠ some 0) (hacc : (parseG T inp wb fuel).1 = .accept)
    (h0 : (parseG T inp wb fuel).2.2 = 0) :
    ∃ st0 v b bot, (parse T inp wb fuel).2.stack = [{ state := st0, sym := v, bounds := b }, bot] ∧
      Der G [.n (startSym G)] inp.toList [v.toTree] :=
  no_silent_accept (generator_safe hwf hord hgen hsmall) hinp1 hinp0 hacc h0

/-- No STATE of an emitted table shifts EOF: a `_Find` hit on `_actions`
for a state and the EOF lookahead is the accept code or a reduction. (This is `NoShiftEOF`
restricted to the states; the Boolean `noShiftEOFB T`, which also ranges over indices that are not
states, does not hold for every emitted table: `noShiftEOFB_false`.) -/
theorem generator_noShiftEOF (hwf : wfGrammarB G nT nR = true) (hord : ordOKB nT nR ord = true)
    (hgen : generateP info G nT ord = some (T, cert)) (hsmall : cert.size ≤ 2147483647)
    {st : Nat} (hst : st < cert.size) {v : Int} (hf : find T.actions (st : Int) tEOF = .hit v) :
    v = acceptCode ∨ v < 0 :=
  noShiftEOF_inR (generator_safeOK hwf hord hgen hsmall)
    ⟨by omega, by simpa using hst⟩ hf

/-- A STATE of an emitted table holds the accept code only under the
EOF lookahead. -/
theorem generator_acceptOnlyEOF (hwf : wfGrammarB G nT nR = true) (hord : ordOKB nT nR ord = true)
    (hgen : generateP info G nT ord = some (T, cert)) (hsmall : cert.size ≤ 2147483647)
    {st : Nat} (hst : st < cert.size) {la : Int}
    (hf : find T.actions (st : Int) la = .hit acceptCode) : la = tEOF :=
  acceptOnlyEOF_inR (generator_safeOK hwf hord hgen hsmall)
    ⟨by omega, by simpa using hst⟩ hf

/- FULL STATEMENTS (not proved; the first is FALSE as it stands):
     generator_noShiftEOFB    : … → noShiftEOFB T = true       (false: `noShiftEOFB_false`)
     generator_acceptOnlyEOFB : … → acceptOnlyEOFB T = true
   Both checkers evaluate `findAll T.actions _ k` for EVERY index `k < T.actions.size`; for `k` beyond
   the number of states `_Find` would interpret row data (counts, keys, actions) as a row offset. No
   run of `parse` does that (`parse_no_panic`: every state on the stack is a state), so the theorems
   below need no table-level hypothesis at all. -/

/-- Along any run of `parse` on an emitted table – whatever the
fuel, i.e. however long the run – `_recover()` returns `true` at most `2 * |input| + 1` times (by the
`_recovering` flag of fix F12; no `NoShiftEOF` hypothesis: the invariant of validated tables supplies
what `C09.recoveries_bounded` needs of it). -/
theorem generator_recoveries_bounded (hwf : wfGrammarB G nT nR = true)
    (hord : ordOKB nT nR ord = true) (hgen : generateP info G nT ord = some (T, cert))
    (hsmall : cert.size ≤ 2147483647) (inp : Array Nat) (wb : Bool) (fuel : Nat) :
    (parseG T inp wb fuel).2.2 ≤ 2 * inp.size + 1 :=
  parseG_bound_safe (generator_safeOK hwf hord hgen hsmall)
    inp wb fuel

/-- In every state at the top of the loop of `parse` the consumed
symbols followed by the pending lookaheads are the input tokens in order with stretches replaced by
`Error`s (`Cov`, see `consumed_is_edit`), and the LR stack invariant holds. -/
theorem generator_consumed_is_edit (hwf : wfGrammarB G nT nR = true)
    (hord : ordOKB nT nR ord = true) (hgen : generateP info G nT ord = some (T, cert))
    (hsmall : cert.size ≤ 2147483647) {inp : Array Nat} {wb : Bool} {fuel : Nat} {s : PState}
    (h : ParseReach T inp wb fuel s) : Cov inp s :=
  (parseReach_SInv
    (generator_safeOK hwf hord hgen hsmall) h).cov

/- FULL STATEMENT `generator_parse_terminates` (not proved; it was FALSE on the pinned template,
   defect D30, section "`recoveryOKB` is not derived" below):
     wfGrammarB G nT nR = true → ordOKB nT nR ord = true → generate G nT ord = some (T, cert) →
     conflictFree G nT ord = true → cert.size ≤ 2147483647 →
       ∀ inp wb, ∃ N, ∀ fuel, N ≤ fuel → (parse T inp wb fuel).1 ≠ .timeout -/

/-- EXTRA hypotheses w.r.t. the full statement above:
`ht` (`termB`: no cycle of reductions; "conflict-free ⇒ no reduction cycle" is not derived) and
`hr` (`recoveryOKB`: the reduce simulation inside `_recover` cannot loop; on the pinned template it
failed on an LALR(1) grammar whose emitted parser did hang – defect D30, see the section
"`recoveryOKB` is not derived" below). With them, for every input – lexer ERROR tokens included –
there is a fuel from which the model of `parse` never returns `timeout`. -/
theorem generator_parse_terminates_partial (hwf : wfGrammarB G nT nR = true)
    (hord : ordOKB nT nR ord = true) (hgen : generateP info G nT ord = some (T, cert))
    (hsmall : cert.size ≤ 2147483647) (ht : termB G T cert = true)
    (hr : recoveryOKB T cert.size = true) (inp : Array Nat) (wb : Bool) :
    ∃ N, ∀ fuel, N ≤ fuel → (parse T inp wb fuel).1 ≠ .timeout :=
  parse_terminates (generator_safe hwf hord hgen hsmall) ht hr inp wb

/-- Under the same two extra hypotheses `parse` decides: with
enough fuel the outcome is `accept` or `reject`. -/
theorem generator_parse_total_partial (hwf : wfGrammarB G nT nR = true)
    (hord : ordOKB nT nR ord = true) (hgen : generateP info G nT ord = some (T, cert))
    (hsmall : cert.size ≤ 2147483647) (ht : termB G T cert = true)
    (hr : recoveryOKB T cert.size = true) (inp : Array Nat) (wb : Bool) :
    ∃ N, ∀ fuel, N ≤ fuel →
      (parse T inp wb fuel).1 = .accept ∨ (parse T inp wb fuel).1 = .reject :=
  parse_total (generator_safe hwf hord hgen hsmall) ht hr inp wb

/-- For grammars WITHOUT `@error` (the ERROR terminal 1 stands
on no right-hand side) the hypothesis `recoveryOKB` is derivable: no state has an action on ERROR
(`Lox.Props.C01.generator_no_error_actions`), so the reduce simulation of `_recover` has no edge.
(With `@error` it is not derived; on the pinned template it was false, defect D30.) -/
theorem generator_recoveryOK_errorFree (hwf : wfGrammarB G nT nR = true)
    (hord : ordOKB nT nR ord = true) (hgen : generateP info G nT ord = some (T, cert))
    (hno : ¬ TermUsed G 1) : recoveryOKB T cert.size = true :=
  recoveryOKB_of_noerr (Lox.Props.C01.generator_no_error_actions hwf hord hgen hno)

/-- For every well-formed grammar without
`@error` and every precedence table: `parse` terminates on every input (lexer ERROR tokens
included) – EXTRA hypothesis w.r.t. the full statement only `ht` (`termB`). -/
theorem generator_parse_terminates_errorFree_partial (hwf : wfGrammarB G nT nR = true)
    (hord : ordOKB nT nR ord = true) (hgen : generateP info G nT ord = some (T, cert))
    (hsmall : cert.size ≤ 2147483647) (hno : ¬ TermUsed G 1) (ht : termB G T cert = true)
    (inp : Array Nat) (wb : Bool) :
    ∃ N, ∀ fuel, N ≤ fuel →
      (parse T inp wb fuel).1 = .accept ∨ (parse T inp wb fuel).1 = .reject :=
  generator_parse_total_partial hwf hord hgen hsmall ht
    (generator_recoveryOK_errorFree hwf hord hgen hno) inp wb

end AnyTable

/-! ## Conflict-free grammars: exact lookaheads, the first `Error` blames the right token -/

section ConflictFree
variable {G : Grammar} {nT nR : Nat} {ord : List Sym} {T : Tables} {cert : Array (List Item)}

/-- For every well-formed conflict-free grammar the emitted tables with
the states' item lists satisfy everything the ⊆ validator `justify` establishes (`JustifyOK`) –
without running it: every item of every state has a derivation by the rules that define the
LALR(1) item sets INSIDE the item sets, along the edges `_Find` reads in the emitted arrays; every
`_actions` entry is called for by an item (a reduce entry by the completed item with exactly that
lookahead), every `_goto` entry by an item with that rule after the dot; distinct states have
distinct LR(0) kernels. Derived from the Prop-level `generator_satisfies_conflict_checks`
(`ConflictOK`, on the transitions `ConstructLALR` recorded) and the fact that on a conflict-free
run the emitted arrays have those transitions (`Emit.Run.trans_of_skel`) and are closed (they pass
`check`), so that every LALR(1) item is justified along them (`justd_of_closed`). -/
theorem generator_justified (hwf : wfGrammarB G nT nR = true) (hord : ordOKB nT nR ord = true)
    (hgen : generate G nT ord = some (T, cert)) (hfree : conflictFree G nT ord = true)
    (hsmall : cert.size ≤ 2147483647) : JustifyOK G T cert :=
  justifyOK_of_generate (Lox.Props.C01.wfGrammarB_spec hwf) (ordOKB_spec hord) hgen hfree hsmall

/-- … hence the item list of every state IS its LALR(1) item set by
definition w.r.t. the automaton read off the emitted arrays: nothing missing (`check`), nothing
invented (`generator_justified`). -/
theorem generator_lookaheads_exact (hwf : wfGrammarB G nT nR = true)
    (hord : ordOKB nT nR ord = true) (hgen : generate G nT ord = some (T, cert))
    (hfree : conflictFree G nT ord = true) (hsmall : cert.size ≤ 2147483647) (s : Nat) (it : Item) :
    it ∈ itemsOf cert s ↔ LALRItem G (autoOf T cert) s it :=
  (closed_of_checkOK (check_spec (generator_valid hwf hord hgen hfree hsmall))).mem_iff_lalr
    (generator_justified hwf hord hgen hfree hsmall).justd s it

/-- On a sentence `_recover()` is never called (also for
grammars with `@error` productions). -/
theorem generator_sentence_never_recovers (hwf : wfGrammarB G nT nR = true)
    (hord : ordOKB nT nR ord = true) (hgen : generate G nT ord = some (T, cert))
    (hfree : conflictFree G nT ord = true) (hsmall : cert.size ≤ 2147483647) {w : List Nat}
    {t : Tree} (hd : Der G [.n (startSym G)] w [t]) {wb : Bool} {fuel : Nat} {s : PState}
    (hr : ParseReach T w.toArray wb fuel s) : isRecoverStep T s = false :=
  sentence_never_recovers (generator_valid hwf hord hgen hfree hsmall) hd hr

/-- No productivity needed; lexer ERROR tokens allowed. The run is plain up to `s` and the iteration
from `s` is the first successful `_recover()`: the `Error` it injects carries the lookahead token of
`s` (index `j`), every earlier `Error` value wraps a lexer ERROR token, and no sentence agrees with
the input on the positions `0..j`. -/
theorem generator_first_error_not_prefix (hwf : wfGrammarB G nT nR = true)
    (hord : ordOKB nT nR ord = true) (hgen : generate G nT ord = some (T, cert))
    (hfree : conflictFree G nT ord = true) (hsmall : cert.size ≤ 2147483647)
    {inp : Array Nat} {wb : Bool} {fuel : Nat} {s1 s s' : PState}
    (h1 : readToken T inp Rt.initState = .ok s1) (hreach : PlainReach T inp wb fuel s1 s)
    (hrec : isRecoverStep T s = true) (hstep : step T inp wb fuel s = .cont s') :
    (∃ i ty ex, s'.lasym = .err i ty ex ∧ s'.la = tERROR ∧ symTokIdx s.lasym = some i ∧
      lidx s.lasym = i) ∧
    ErrsInv (lexErrAt inp) s ∧
    ∀ (w : List Nat) (t : Tree), Der G [.n (startSym G)] w [t] →
      ¬ ∀ i, i ≤ lidx s.lasym → inp[i]? = w.toArray[i]? :=
  first_error_token_partial (generator_valid hwf hord hgen hfree hsmall) h1 hreach hrec hstep

/-- "The first Error delivered carries the first token at which
the input stops being a prefix of any sentence" – stated for the first Error INJECTED (known finding
K8: a later error can replace it before delivery), for every well-formed conflict-free PRODUCTIVE
grammar (`productiveB`: every rule derives a token string; the front end does not enforce it, and
without it the statement is false: `Gunprod` in `C09_prefix.lean`). The input holds no lexer ERROR
token; the run is plain up to `s` and the iteration from `s` is the first successful `_recover()`.
With `j` the index of the lookahead token of `s`:
1. the `Error` injected carries token `j`; it was never shifted (it is still the lookahead of `s`)
   and exactly `inp[0..j)` has been consumed;
2. `inp[0..j)` IS a prefix of a sentence;
3. no sentence agrees with the input on the positions `0..j` (for `j = |inp|`, the EOF lookahead:
   the input is not a sentence). -/
theorem generator_first_error_token (hwf : wfGrammarB G nT nR = true)
    (hord : ordOKB nT nR ord = true) (hgen : generate G nT ord = some (T, cert))
    (hfree : conflictFree G nT ord = true) (hsmall : cert.size ≤ 2147483647)
    (hp : productiveB G nR = true)
    {inp : Array Nat} {wb : Bool} {fuel : Nat} {s1 s s' : PState}
    (hinp1 : ∀ i : Nat, inp[i]? ≠ some 1)
    (h1 : readToken T inp Rt.initState = .ok s1) (hreach : PlainReach T inp wb fuel s1 s)
    (hrec : isRecoverStep T s = true) (hstep : step T inp wb fuel s = .cont s') :
    (∃ i ty ex, s'.lasym = .err i ty ex ∧ s'.la = tERROR ∧ s.lasym = .tok i ty ∧
      lidx s.lasym = i ∧ (stackLeaves s.stack).map leafNat = inp.toList.take i) ∧
    (∃ v t, Der G [.n (startSym G)] (inp.toList.take (lidx s.lasym) ++ v) [t]) ∧
    (∀ (w : List Nat) (t : Tree), Der G [.n (startSym G)] w [t] →
      ¬ ∀ i, i ≤ lidx s.lasym → inp[i]? = w.toArray[i]?) :=
  first_error_token_of_justified (generator_valid hwf hord hgen hfree hsmall)
    (generator_justified hwf hord hgen hfree hsmall) (productiveB_sound hp) hinp1 h1 hreach hrec
    hstep

/-- In EVERY state at the top of the loop of `parse` (also
after recoveries) the symbols consumed so far, read as terminals with `Error ↦ ERROR = 1`, are a
prefix of a sentence of `G`. -/
theorem generator_consumed_symbols_viable (hwf : wfGrammarB G nT nR = true)
    (hord : ordOKB nT nR ord = true) (hgen : generate G nT ord = some (T, cert))
    (hfree : conflictFree G nT ord = true) (hsmall : cert.size ≤ 2147483647)
    (hp : productiveB G nR = true) {inp : Array Nat} {wb : Bool} {fuel : Nat} {s : PState}
    (h : ParseReach T inp wb fuel s) :
    ∃ v t, Der G [.n (startSym G)] ((stackLeaves s.stack).map leafNat ++ v) [t] :=
  Rt.consumed_viable (check_spec (generator_valid hwf hord hgen hfree hsmall))
    (generator_justified hwf hord hgen hfree hsmall) (productiveB_sound hp) h

/-- Correct-prefix property of the abstract LR machine on the
emitted tables: in every configuration reached from `init w` the input splits as
`w = u ++ c.input` with the consumed part `u` a prefix of a sentence. -/
theorem generator_abs_correct_prefix (hwf : wfGrammarB G nT nR = true)
    (hord : ordOKB nT nR ord = true) (hgen : generate G nT ord = some (T, cert))
    (hfree : conflictFree G nT ord = true) (hsmall : cert.size ≤ 2147483647)
    (hp : productiveB G nR = true) {w : List Nat} {c : Abs.Config}
    (h : Abs.Reaches G (autoOf T cert) (Abs.init w) c) :
    ∃ u, w = u ++ c.input ∧ ∃ v t, Der G [.n (startSym G)] (u ++ v) [t] :=
  abs_correct_prefix_of_justified (generator_valid hwf hord hgen hfree hsmall)
    (generator_justified hwf hord hgen hfree hsmall) (productiveB_sound hp) h

/-- Immediate error detection, both halves: the machine fails in
`c`; then `w = u ++ c.input`, `u` IS a prefix of a sentence, and `u` followed by the offending
token (the lookahead of `c`, never shifted) is NOT a prefix of any sentence followed by EOF. -/
theorem generator_abs_error_detection (hwf : wfGrammarB G nT nR = true)
    (hord : ordOKB nT nR ord = true) (hgen : generate G nT ord = some (T, cert))
    (hfree : conflictFree G nT ord = true) (hsmall : cert.size ≤ 2147483647)
    (hp : productiveB G nR = true) {w : List Nat} {c : Abs.Config}
    (h : Abs.Reaches G (autoOf T cert) (Abs.init w) c)
    (hfail : Abs.step G (autoOf T cert) c = .fail) :
    ∃ u, w = u ++ c.input ∧ (∃ v t, Der G [.n (startSym G)] (u ++ v) [t]) ∧
      ∀ w' t, Der G [.n (startSym G)] w' [t] → ¬ (u ++ [Abs.la c.input]) <+: (w' ++ [eof]) :=
  abs_error_detection_of_justified (generator_valid hwf hord hgen hfree hsmall)
    (generator_justified hwf hord hgen hfree hsmall) (productiveB_sound hp) h hfail

end ConflictFree

/-! ## `recoveryOKB` is not derived: the grammar on which the pinned `_recover()` never returned

`@start s = b @error C; b = a; a = @empty` (`hangG` of `Lox/Examples/GrammarD30.lean`; terminals
EOF=0 ERROR=1 C=2 X=3; rules S'=0 s=1 b=2 a=3; productions 0 `S' → s`, 1 `s → b ERROR C`,
2 `b → a`, 3 `a → ε`; name order `C EOF ERROR S' X a b s`). lox accepts it without a conflict. State 0 has ONE action: reduce
`a → ε` on ERROR. Whatever the first token is (unless it is a lexer ERROR token), state 0 has no
action on it and `parse` calls `_recover()`. The inner loop of `_recover` follows reductions on
ERROR WITHOUT popping. On the pinned tree it ignored the `ok` of `_Find(_goto, state, rule)` and ran
`0 —(a → ε, goto(0,a) = 1)→ 1 —(b → a, goto(1,b) MISSING: 0)→ 0 → …` forever: the real generated
parser did not return on "", "c", "x", "c c", "x c" (defect D30, found while trying to derive
`recoveryOKB`; witness corpus/C09/D30_recover_goto_miss.json). The repaired template leaves the
simulation when the goto entry is missing (`fix:` commit 3abd5ce in /repo); model and theorems below
are about the repaired code. `hangT` is, number for number, what lox writes into `parser.gen.go`
for this grammar. `recoveryOKB` stays a per-artefact check: a cycle of simulated reductions whose
gotos all exist is not excluded by any theorem here. -/

theorem hang_tables {T : Tables} {cert : Array (List Item)}
    (h : generate hangG 4 hangOrd = some (T, cert)) : T = hangT ∧ cert.size = 6 := by
  have hg := hang_eval.2.2.1
  rw [h] at hg
  simp only [Option.map_some, Option.some.injEq, Prod.mk.injEq] at hg
  obtain ⟨h1, h2, h3, h4, h5⟩ := hg
  refine ⟨?_, h5⟩
  cases T
  simp only [hangT, Tables.mk.injEq]
  exact ⟨Array.toList_inj.mp h1, Array.toList_inj.mp h2, Array.toList_inj.mp h3,
    Array.toList_inj.mp h4⟩

/-- On the repaired template the missing goto entry ends the simulation: from state 0 the chain is
`0 —(a → ε)→ 1 —(b → a, goto(1,b) missing)→ stop`, the ranking check passes … -/
theorem hang_repaired_recoveryOK : recoveryOKB hangT 6 = true := by decide +kernel

/-- … and `parse` returns (`reject`: nothing can be recovered at the only stack depth) on the inputs
on which the pinned parser did not return: `c`, `x`, `c c`, the empty input. -/
theorem hang_repaired_parse :
    (parse hangT #[2] false 200).1 = .reject ∧ (parse hangT #[3] false 200).1 = .reject ∧
    (parse hangT #[2, 2] true 200).1 = .reject ∧ (parse hangT #[] false 200).1 = .reject := by
  decide +kernel

/-- All hypotheses of `generator_parse_terminates_partial` hold on this grammar. -/
theorem hang_hyps : wfGrammarB hangG 4 4 = true ∧ ordOKB 4 4 hangOrd = true ∧
    conflictFree hangG 4 hangOrd = true ∧ productiveB hangG 4 = true ∧
    (generate hangG 4 hangOrd).map (fun r => (termB hangG r.1 r.2, recoveryOKB r.1 r.2.size)) =
      some (true, true) :=
  ⟨by decide +kernel, by decide +kernel, hang_eval.1, hang_eval.2.1, hang_eval.2.2.2⟩

/-! ## The Boolean `noShiftEOFB` is not derivable either

`S' → S; S → a U | b c` (`noEofG` of `Lox/Examples/GrammarNoEof.lean`) where the rule `U` has NO
production (well formed in the sense of `wfGrammarB`, conflict-free; the real front end rejects an
undefined rule, and `productiveB` is false). The state after `a` has no action, its `_actions` row is empty (count 0), and an index
that is not a state, read as a row offset, leads `findAll` across that empty row: it sees the
count `0` as the key EOF and the count of the next row as a non-negative "shift". -/

theorem noShiftEOFB_false : wfGrammarB noEofG 5 3 = true ∧ ordOKB 5 3 noEofOrd = true ∧
    conflictFree noEofG 5 noEofOrd = true ∧
    (generate noEofG 5 noEofOrd).map (fun r => (noShiftEOFB r.1, acceptOnlyEOFB r.1)) =
      some (false, true) :=
  ⟨by decide +kernel, by decide +kernel, noEof_eval.1, noEof_eval.2.1⟩

/-- … while `generator_noShiftEOF` applies to it: none of its 6 STATES shifts EOF. -/
example : ∃ T cert, generate noEofG 5 noEofOrd = some (T, cert) ∧
    ∀ st, st < cert.size → ∀ v, find T.actions (st : Int) tEOF = .hit v → v = acceptCode ∨ v < 0 := by
  obtain ⟨hwf, hord, hfree, _⟩ := noShiftEOFB_false
  obtain ⟨T, cert, hgen⟩ := generator_total hfree
  have hsz := noEof_eval.2.2
  rw [hgen] at hsz
  simp only [Option.map_some, Option.some.injEq] at hsz
  exact ⟨T, cert, hgen, fun st hst v hf =>
    generator_noShiftEOF (nR := 3) hwf hord hgen (by omega) hst hf⟩

/-- Deciding `¬ TermUsed G a` (for the non-vacuity example below). -/
theorem not_termUsed_of_all {G : Grammar} {a : Nat}
    (h : (G.prods.toList.all fun pr => !pr.rhs.contains (.t a)) = true) : ¬ TermUsed G a := by
  rintro ⟨q, qr, hq, hm⟩
  have := List.all_eq_true.mp h qr (Util.mem_toList_iff_getElem?.mpr ⟨_, hq⟩)
  simp only [Bool.not_eq_true', List.contains_eq_mem, decide_eq_false_iff_not] at this
  exact this hm

/-- Non-vacuity of `generator_recoveryOK_errorFree` / `generator_parse_terminates_errorFree_partial`:
the grammar of defect D1 (`Lox.Props.C01.gD1`, no `@error`, 10 states) meets every hypothesis
(`termB` by evaluation), hence its generated parser decides every input. -/
example : ∃ T cert, generate Lox.Props.C01.gD1 7 Lox.Props.C01.e2eOrd = some (T, cert) ∧
    recoveryOKB T cert.size = true ∧
    ∀ inp wb, ∃ N, ∀ fuel, N ≤ fuel →
      (parse T inp wb fuel).1 = .accept ∨ (parse T inp wb fuel).1 = .reject := by
  open Lox.Props.C01 in
  obtain ⟨T, cert, hgen, hsz⟩ := e2eEx_gD1_run
  have hterm := e2eEx_gD1_eval.2.2
  rw [hgen] at hterm
  have hno : ¬ TermUsed gD1 1 := not_termUsed_of_all (by decide)
  have hgenP : generateP noPrec gD1 7 e2eOrd = some (T, cert) := hgen
  exact ⟨T, cert, hgen, generator_recoveryOK_errorFree e2eEx_gD1_hyps.1 e2eEx_gD1_hyps.2.1 hgenP hno,
    fun inp wb => generator_parse_terminates_errorFree_partial e2eEx_gD1_hyps.1 e2eEx_gD1_hyps.2.1 hgenP
      (by omega) hno (Option.some.inj hterm) inp wb⟩

/-! ## Non-vacuity: a grammar with an `@error` production, and an input that recovers

The curated `s = item* ; item = A SEMI | @error SEMI` (`Lox.Props.C01.exErr`) after desugaring:
terminals EOF=0 ERROR=1 A=2 SEMI=3, rules `S' s item item* item+`, 8 productions, 10 states. All
hypotheses of every theorem above hold by evaluation; the consequences for the input `A ; ;`
(tokens `2 3 3`: the second `;` stands where `A` or `@error` must start) are obtained THROUGH the
theorems. -/

open Lox.Props.C01 (exErr exErrOrd exErr_free) in
/-- The hypotheses: well formed, name order, conflict-free, productive, `termB`, `recoveryOKB`,
10 states. -/
theorem e2e_hyps : wfGrammarB (desugar exErr).1 exErr.nTerms exErr.nRules = true ∧
    ordOKB exErr.nTerms exErr.nRules exErrOrd = true ∧
    productiveB (desugar exErr).1 exErr.nRules = true ∧
    (generate (desugar exErr).1 exErr.nTerms exErrOrd).map (fun r =>
      (r.2.size, termB (desugar exErr).1 r.1 r.2, recoveryOKB r.1 r.2.size)) =
      some (10, true, true) :=
  ⟨Lox.Props.C01.desugar_wf Lox.Props.C01.exErr_wf, Lox.Props.C01.exErr_ordOK,
    Lox.Props.C01.exErr_eval.2.1, Lox.Props.C01.exErr_eval.2.2.2⟩

/-- The first recovery of a run, found by evaluation: the state `s` from which the loop calls
`_recover()` for the first time (after plain iterations only) and the state `s'` it returns. -/
def firstRecover (T : Tables) (inp : Array Nat) (wb : Bool) (fuel : Nat) :
    Nat → PState → Option (PState × PState)
  | 0, _ => none
  | k + 1, s =>
    match step T inp wb fuel s with
    | .cont s' => if isRecoverStep T s then some (s, s') else firstRecover T inp wb fuel k s'
    | .done _ _ => none

theorem firstRecover_spec {T : Tables} {inp : Array Nat} {wb : Bool} {fuel : Nat} :
    ∀ (k : Nat) {s1 s s' : PState}, firstRecover T inp wb fuel k s1 = some (s, s') →
      PlainReach T inp wb fuel s1 s ∧ isRecoverStep T s = true ∧ step T inp wb fuel s = .cont s'
  | 0, _, _, _, h => by simp [firstRecover] at h
  | k + 1, s1, s, s', h => by
    unfold firstRecover at h
    cases hst : step T inp wb fuel s1 with
    | done o sf => simp [hst] at h
    | cont s2 =>
      simp only [hst] at h
      cases hr : isRecoverStep T s1 with
      | true =>
        simp only [hr, if_true, Option.some.injEq, Prod.mk.injEq] at h
        obtain ⟨rfl, rfl⟩ := h
        exact ⟨.refl _, hr, hst⟩
      | false =>
        simp only [hr, Bool.false_eq_true, if_false] at h
        obtain ⟨h1, h2, h3⟩ := firstRecover_spec k h
        exact ⟨.step hr hst h1, h2, h3⟩

open Lox.Props.C01 (exErr exErrOrd exErr_free) in
/-- What evaluation gives for `A ; ;`: the run accepts after exactly one recovery (with bounds),
and the first recovery happens with token number 2 as lookahead. -/
theorem e2e_run : (generate (desugar exErr).1 exErr.nTerms exErrOrd).map (fun r =>
      ((parseG r.1 #[2, 3, 3] true 60).1, (parseG r.1 #[2, 3, 3] true 60).2.2,
       (match readToken r.1 #[2, 3, 3] Rt.initState with
        | .ok s1 => (firstRecover r.1 #[2, 3, 3] true 60 60 s1).map (fun p => lidx p.1.lasym)
        | .error _ => none))) = some (.accept, 1, some 2) := by
  rw [Lox.Props.C01.exErr_generate.1]
  decide +kernel

open Lox.Props.C01 (exErr exErrOrd exErr_free) in
/-- **All hypotheses hold on a concrete grammar with an `@error` production, and the consequences
are derived through the theorems** for the input `A ; ;` that recovers: no panic for any input;
at most `2·3+1` recoveries; the run accepted, so an `Error` was delivered to an action
(`generator_error_delivered`) and the consumed symbols form a sentence in which a stretch is
replaced by `@error` (`generator_accepted_edit_is_sentence`); `parse` terminates on every input
(`generator_parse_total_partial`); and the first `Error` blames token 2: `A ;` is a prefix of a
sentence, and no sentence starts with `A ; ;` (`generator_first_error_token`). -/
example : ∃ T cert, generate (desugar exErr).1 exErr.nTerms exErrOrd = some (T, cert) ∧
    (∀ inp wb fuel w, (parse T inp wb fuel).1 ≠ .panic w) ∧
    (parseG T #[2, 3, 3] true 60).2.2 ≤ 7 ∧
    Delivered (parseG T #[2, 3, 3] true 60).2.1.log ∧
    (∃ v, Der (desugar exErr).1 [.n (startSym (desugar exErr).1)] (wordOf v) [v.toTree] ∧
      stackLeaves (parse T #[2, 3, 3] true 60).2.stack = leaves v) ∧
    (∀ inp wb, ∃ N, ∀ fuel, N ≤ fuel →
      (parse T inp wb fuel).1 = .accept ∨ (parse T inp wb fuel).1 = .reject) ∧
    (∃ v t, Der (desugar exErr).1 [.n (startSym (desugar exErr).1)] ([2, 3] ++ v) [t]) ∧
    (∀ w t, Der (desugar exErr).1 [.n (startSym (desugar exErr).1)] w [t] →
      ¬ ∀ i, i ≤ 2 → (#[2, 3, 3] : Array Nat)[i]? = w.toArray[i]?) := by
  obtain ⟨hwf, hord, hprod, hchk⟩ := e2e_hyps
  have hfree := exErr_free
  obtain ⟨T, cert, hgen⟩ := generator_total hfree
  have hrun := e2e_run
  rw [hgen] at hchk hrun
  simp only [Option.map_some, Option.some.injEq, Prod.mk.injEq] at hchk hrun
  obtain ⟨hsz, hterm, hrecok⟩ := hchk
  obtain ⟨hacc, hcnt, hfirst⟩ := hrun
  have hsmall : cert.size ≤ 2147483647 := by omega
  have hgenP : generateP noPrec (desugar exErr).1 exErr.nTerms exErrOrd = some (T, cert) := hgen
  -- the accepting run
  have hacc' : (parse T #[2, 3, 3] true 60).1 = .accept := by
    rw [← hacc]; exact (congrArg Prod.fst (ghost_erases T #[2, 3, 3] true 60)).symm
  obtain ⟨-, st0, v, b, bot, hstack, -, hleaves, hder, -⟩ :=
    generator_accepted_edit_is_sentence hwf hord hgenP hsmall hacc'
  -- the first recovery
  cases h1 : readToken T #[2, 3, 3] Rt.initState with
  | error w => rw [h1] at hfirst; cases hfirst
  | ok s1 =>
    rw [h1] at hfirst
    simp only at hfirst
    cases hfr : firstRecover T #[2, 3, 3] true 60 60 s1 with
    | none => rw [hfr] at hfirst; cases hfirst
    | some p =>
      obtain ⟨s, s'⟩ := p
      rw [hfr] at hfirst
      simp only [Option.map_some, Option.some.injEq] at hfirst
      obtain ⟨hreach, hrec, hstep⟩ := firstRecover_spec 60 hfr
      have hinp : ∀ i : Nat, (#[2, 3, 3] : Array Nat)[i]? ≠ some 1 := by
        intro i
        match i with
        | 0 | 1 | 2 => simp
        | i + 3 => simp
      obtain ⟨-, hvia, hneg⟩ := generator_first_error_token hwf hord hgen hfree hsmall hprod hinp h1
        hreach hrec hstep
      rw [hfirst] at hvia hneg
      exact ⟨T, cert, hgen, fun inp wb fuel => generator_parse_no_panic hwf hord hgenP hsmall inp wb fuel,
        generator_recoveries_bounded hwf hord hgenP hsmall _ _ _,
        generator_error_delivered hwf hord hgenP hsmall hacc (by omega),
        ⟨v, hder, hleaves⟩,
        fun inp wb => generator_parse_total_partial hwf hord hgenP hsmall hterm hrecok inp wb,
        by simpa using hvia, hneg⟩

/-- `generator_sentence_never_recovers` on the same grammar: the sentence `A ;` never calls
`_recover()`. -/
example : ∃ T cert, generate (desugar Lox.Props.C01.exErr).1 Lox.Props.C01.exErr.nTerms
      Lox.Props.C01.exErrOrd = some (T, cert) ∧
    (∀ wb fuel s, ParseReach T #[2, 3] wb fuel s → isRecoverStep T s = false) := by
  obtain ⟨hwf, hord, _, hchk⟩ := e2e_hyps
  have hfree := Lox.Props.C01.exErr_free
  obtain ⟨T, cert, hgen⟩ := generator_total hfree
  rw [hgen] at hchk
  simp only [Option.map_some, Option.some.injEq, Prod.mk.injEq] at hchk
  have hsmall : cert.size ≤ 2147483647 := by omega
  refine ⟨T, cert, hgen, fun wb fuel s hr => ?_⟩
  -- `A ;` is a sentence: s → item* → item+ → item → A SEMI
  have hs : startSym (desugar Lox.Props.C01.exErr).1 = 1 := by decide
  have h2 : Der (desugar Lox.Props.C01.exErr).1 [.n 2] [2, 3] [.node 2 [.leaf 2, .leaf 3]] := by
    simpa using Der.nonterm (G := (desugar Lox.Props.C01.exErr).1) (q := 2)
      (pr := ⟨2, [.t 2, .t 3]⟩) (by decide) (.term (.term .nil)) .nil
  have h7 : Der (desugar Lox.Props.C01.exErr).1 [.n 4] [2, 3]
      [.node 7 [.node 2 [.leaf 2, .leaf 3]]] := by
    simpa using Der.nonterm (G := (desugar Lox.Props.C01.exErr).1) (q := 7) (pr := ⟨4, [.n 2]⟩)
      (by decide) h2 .nil
  have h4 : Der (desugar Lox.Props.C01.exErr).1 [.n 3] [2, 3]
      [.node 4 [.node 7 [.node 2 [.leaf 2, .leaf 3]]]] := by
    simpa using Der.nonterm (G := (desugar Lox.Props.C01.exErr).1) (q := 4) (pr := ⟨3, [.n 4]⟩)
      (by decide) h7 .nil
  have h1 : Der (desugar Lox.Props.C01.exErr).1 [.n 1] [2, 3]
      [.node 1 [.node 4 [.node 7 [.node 2 [.leaf 2, .leaf 3]]]]] := by
    simpa using Der.nonterm (G := (desugar Lox.Props.C01.exErr).1) (q := 1) (pr := ⟨1, [.n 3]⟩)
      (by decide) h4 .nil
  rw [← hs] at h1
  exact generator_sentence_never_recovers hwf hord hgen hfree hsmall h1 (w := [2, 3]) hr

end Lox.Props.C09
