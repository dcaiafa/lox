import Lox.LR.RuntimeProofsErase
import Lox.LR.RuntimeProofsBounds
import Lox.LR.RuntimeExample
/-! # C16 `_onBounds`

"If the parser type defines _onBounds, it is called exactly once, right after the action, for every
reduction of a user-written production whose derived token span is non-empty, with the action's
result and the first and last input token of that span; calls made for generated list and optional
nodes carry the first and last token of the elements gathered so far. It is never called for a
reduction that derives nothing, and its presence changes nothing else about the parse."

All theorems are about the executable model `Lox.LR.parse` (`Lox/LR/Model.lean`, transcribing
`parserTemplate` in `internal/codegen/emit_parser.go`; `withBounds = true` is the `emit_bounds`
variant of the template) for ARBITRARY tables, inputs and fuel: no validity assumption.

Vocabulary (`Lox/LR/RuntimeDefs.lean`): `yieldIdx v` = indices of the input tokens at the leaves
of the value `v` (the derived token span; an `Error` leaf counts with its `Error.Token`);
`eraseB` drops every `_Bounds` field and every `.bounds` event; the model logs `.act p kids` for
EVERY production, user-written or generated helper, so the statements about `.act` events cover
both (for a helper node `yieldIdx (node p kids)` is "the elements gathered so far"). -/
namespace Lox.Props.C16
open Lox.LR Lox.LR.Rt

/-- The lookahead invariant holds at the top of every iteration of `parse`, so the type
assertions `p._lasym.(Token)` / `p._lasym.(Error)` of the `emit_bounds` shift branch never fail. -/
theorem laOK_reachable {T : Tables} {inp : Array Nat} {wb : Bool} {fuel : Nat} {s : PState}
    (h : ParseReach T inp wb fuel s) : LaOK s := by
  obtain ⟨s1, h1, hr⟩ := h
  exact hr.inv (fun _ _ hp hs => step_LaOK hp hs) (init_LaOK h1)

/-- One iteration with `_onBounds` from `s` and one without from the erased state agree up to
erasure: same continue/stop, same outcome, erased states equal. -/
theorem erasure_step (T : Tables) (inp : Array Nat) (fuel : Nat) (s : PState) (h : LaOK s) :
    (step T inp true fuel s).mapS eraseB = (step T inp false fuel (eraseB s)).mapS eraseB :=
  (step_eraseB T inp false true fuel s h.1).symm

/-- Whole runs: same outcome, same sequence of action calls, same number of `ReadToken` calls,
same lexer position, and final states equal once `_Bounds` fields and `_onBounds` calls are
dropped (in particular same stack states and values, same lookahead, same `_recovering`). -/
theorem erasure (T : Tables) (inp : Array Nat) (fuel : Nat) :
    (parse T inp true fuel).1 = (parse T inp false fuel).1 ∧
    actEvents (parse T inp true fuel).2.log = (parse T inp false fuel).2.log ∧
    (parse T inp true fuel).2.reads = (parse T inp false fuel).2.reads ∧
    (parse T inp true fuel).2.pos = (parse T inp false fuel).2.pos ∧
    eraseB (parse T inp true fuel).2 = eraseB (parse T inp false fuel).2 := by
  have h := parse_eraseB T inp fuel
  have hn := actEvents_eq_self (parse_NoBoundsEv T inp fuel)
  -- generalised first: comparing fields of the two `parse` terms makes the unifier unfold `parse`
  generalize parse T inp true fuel = a at h
  generalize parse T inp false fuel = b at h hn
  have hl : actEvents a.2.log = actEvents b.2.log := congrArg PState.log h.2
  have hr := congrArg PState.reads h.2
  have hp := congrArg PState.pos h.2
  exact ⟨h.1, hl.trans hn, hr, hp, h.2⟩

/-- Stack states and values agree entry by entry. -/
theorem erasure_stack (T : Tables) (inp : Array Nat) (fuel : Nat) :
    (parse T inp true fuel).2.stack.map (fun e => (e.state, e.sym)) =
      (parse T inp false fuel).2.stack.map (fun e => (e.state, e.sym)) := by
  have h := congrArg (fun s => s.stack.map (fun e => (e.state, e.sym))) (parse_eraseB T inp fuel).2
  simpa [eraseB, List.map_map, Function.comp_def, Entry.eraseB] using h

/-- Without `_onBounds` the log has no `_onBounds` call (sanity of the model). -/
theorem no_calls_without (T : Tables) (inp : Array Nat) (fuel : Nat) :
    ∀ ev ∈ (parse T inp false fuel).2.log, ev.isBounds = false :=
  parse_NoBoundsEv T inp fuel

/-- The span of a node is the concatenation of the spans of its children. -/
theorem yield_node (p : Nat) (kids : List Val) :
    yieldIdx (.node p kids) = kids.flatMap yieldIdx := yieldIdx_node p kids

/-- In every state at the top of the loop of `parse` (with `_onBounds`), every stack entry except
the bottom one has `Empty` set iff its span is empty, and otherwise `Begin`/`End` are the first
and last token of its span. -/
theorem bounds_inv {T : Tables} {inp : Array Nat} {fuel : Nat} {s : PState}
    (h : ParseReach T inp true fuel s) : ∀ e ∈ s.stack.dropLast,
      (e.bounds.empty = true ↔ yieldIdx e.sym = []) ∧
      (e.bounds.empty = false → (yieldIdx e.sym).head? = some e.bounds.b ∧
        (yieldIdx e.sym).getLast? = some e.bounds.e) :=
  (parseReach_BInv h).1

/-- The same in the state `parse` returns with, whatever the outcome. -/
theorem bounds_inv_final (T : Tables) (inp : Array Nat) (fuel : Nat) :
    ∀ e ∈ (parse T inp true fuel).2.stack.dropLast,
      (e.bounds.empty = true ↔ yieldIdx e.sym = []) ∧
      (e.bounds.empty = false → (yieldIdx e.sym).head? = some e.bounds.b ∧
        (yieldIdx e.sym).getLast? = some e.bounds.e) :=
  (parse_BInv T inp fuel).1

/-- The chronological log of a run with `_onBounds`. (a) Every action call `.act p kids` is
IMMEDIATELY followed by the call `_onBounds(node p kids, b, e)` when the span of the reduction is
non-empty, `b`/`e` being its first/last token; when the span is empty the next event, if any, is
not an `_onBounds` call. (b) Every `_onBounds` call is such a follower: directly preceded by the
action call of the same reduction, carrying its result and the first/last token of its span.
Hence exactly one call per reduction with a non-empty span, none otherwise. -/
theorem on_bounds_calls (T : Tables) (inp : Array Nat) (fuel : Nat) :
    (∀ (pre post : List Event) (p : Nat) (kids : List Val),
      (parse T inp true fuel).2.log.reverse = pre ++ .act p kids :: post →
        (yieldIdx (.node p kids) ≠ [] → ∃ b e post', post = .bounds p (.node p kids) b e :: post' ∧
          (yieldIdx (.node p kids)).head? = some b ∧ (yieldIdx (.node p kids)).getLast? = some e) ∧
        (yieldIdx (.node p kids) = [] → ∀ ev, post.head? = some ev → ev.isBounds = false)) ∧
    (∀ (pre post : List Event) (p : Nat) (v : Val) (b e : Nat),
      (parse T inp true fuel).2.log.reverse = pre ++ .bounds p v b e :: post →
        ∃ pre' kids, pre = pre' ++ [.act p kids] ∧ v = .node p kids ∧
          (yieldIdx v).head? = some b ∧ (yieldIdx v).getLast? = some e) :=
  ⟨(parse_BInv T inp fuel).2.act_follow, (parse_BInv T inp fuel).2.bounds_pred⟩

/-- The same discipline holds for the log of every intermediate state. -/
theorem on_bounds_calls_reachable {T : Tables} {inp : Array Nat} {fuel : Nat} {s : PState}
    (h : ParseReach T inp true fuel s) : LogWF s.log.reverse := (parseReach_BInv h).2

/-! Non-vacuity: runs of the tables lox generated for the grammar of `Lox/LR/RuntimeExample.lean`. -/

open Lox.LR.Rt.Example in
/-- `a b ;` is accepted; every reduction has a non-empty span and gets its call: `B? → B` with
(1,1), `stmt` with (0,2), the helper nodes `stmt+`, `stmt*` and `S` with (0,2). -/
example : (parse T #[2, 3, 5] true 40).1 = .accept ∧
    ((parse T #[2, 3, 5] true 40).2.log.reverse.take 4 =
      [.act 8 [.tok 1 3], .bounds 8 (.node 8 [.tok 1 3]) 1 1,
       .act 2 [.tok 0 2, .node 8 [.tok 1 3], .tok 2 5],
       .bounds 2 (.node 2 [.tok 0 2, .node 8 [.tok 1 3], .tok 2 5]) 0 2]) := by
  constructor <;> rfl

open Lox.LR.Rt.Example in
/-- The empty input is accepted with two reductions deriving nothing: no `_onBounds` call. -/
example : (parse T #[] true 40).1 = .accept ∧
    (parse T #[] true 40).2.log.reverse = [.act 5 [], .act 1 [.node 5 []]] := by
  constructor <;> rfl

open Lox.LR.Rt.Example in
/-- `a ;`: the empty optional `B? → ε` (production 9) gets no call, the enclosing `stmt` does,
with the tokens 0 and 1 (the empty child in the middle is skipped). -/
example : (parse T #[2, 5] true 40).2.log.reverse.take 3 =
    [.act 9 [], .act 2 [.tok 0 2, .node 9 [], .tok 1 5],
     .bounds 2 (.node 2 [.tok 0 2, .node 9 [], .tok 1 5]) 0 1] := by
  rfl

end Lox.Props.C16
