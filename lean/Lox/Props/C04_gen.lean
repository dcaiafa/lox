import Lox.LR.GenModelProofsClosure
import Lox.LR.GenModelProofsActions
import Lox.Util.Nodup
/-! # C04, generator side — the generator's own FIRST / Closure / LR0Key / createActions invent nothing

C04: conflicts are reported exactly when the grammar is not LALR(1). A FIRST set with a terminal
too many gives a lookahead too many and may report a conflict that does not exist; a terminal too
few hides one (that direction is `Lox/Props/C01_gen.lean`). The theorems are about the model
`Lox/LR/GenModel.lean` of the generator's code (tie: family `genmodel`). -/
namespace Lox.Props.C04
open Lox.LR Lox.LR.Gen

/-- **FIRST is sound** (textbook reading), for every grammar, every fuel and every symbol string:
a terminal in the model's `First(g, α)` can stand first in a sentential form derived from `α`; if ε
is in it then `α ⇒* ε`. No hypothesis: every table the loop passes through is sound. -/
theorem first_sound (G : Grammar) (nT : Nat) (α : List Sym) :
    (∀ b ∈ (firstOfSyms G nT α).1, SFirst G α b) ∧ ((firstOfSyms G nT α).2 = true → SNull G α) :=
  firstSeq_sound (firstSets_sound G nT) α

/-- **FIRST is sound w.r.t. complete derivations** (`Der`) when every symbol on a right-hand side
and in `α` derives some terminal string (without that, `A = x B; B = B y` has `x ∈ FIRST(A)` in
the textbook sense although `A` derives no terminal string at all). -/
theorem first_sound_der {G : Grammar} (hp : ∀ pr ∈ G.prods.toList, ∀ s ∈ pr.rhs, Productive G s)
    (nT : Nat) {α : List Sym} (hα : ∀ s ∈ α, Productive G s) :
    (∀ b ∈ (firstOfSyms G nT α).1, ∃ w ts, Der G α (b :: w) ts) ∧
      ((firstOfSyms G nT α).2 = true → ∃ ts, Der G α [] ts) :=
  have hs := first_sound G nT α
  have hα' : AllProductive G α := fun _ hB => hα _ hB
  ⟨fun b hb => let ⟨_, hd⟩ := hs.1 b hb
      (derives_iff.mp hd).der_first (fun q qr hq _ hB => hp qr (Util.mem_toList_iff_getElem?.mpr ⟨q, hq⟩) _ hB) hα',
    fun h => (derives_iff.mp (hs.2 h)).der .nil⟩

/-- **The model's FIRST is exactly the semantic FIRST.** -/
theorem first_exact {G : Grammar} {nT : Nat} (ht : TermsBelow G nT) (α : List Sym) :
    (∀ b, b ∈ (firstOfSyms G nT α).1 ↔ SFirst G α b) ∧
      ((firstOfSyms G nT α).2 = true ↔ SNull G α) :=
  firstSets_exact ht α

/-- With complete derivations on both sides, for grammars whose symbols are all productive. -/
theorem first_exact_der {G : Grammar} {nT : Nat} (ht : TermsBelow G nT)
    (hp : ∀ pr ∈ G.prods.toList, ∀ s ∈ pr.rhs, Productive G s) {α : List Sym}
    (hα : ∀ s ∈ α, Productive G s) (b : Nat) :
    b ∈ (firstOfSyms G nT α).1 ↔ ∃ w ts, Der G α (b :: w) ts := by
  constructor
  · exact (first_sound_der hp nT hα).1 b
  · rintro ⟨w, ts, hd⟩
    exact ((first_exact ht α).1 b).mpr ⟨w.map Sym.t, by simpa using Gen.Der.derives hd⟩

/-- The lookahead sets `Closure` iterates over, FIRST(β a), never contain ε (so the index 0 that
the pseudo-terminal `Epsilon` shares with EOF never becomes a lookahead). -/
theorem firstLA_no_epsilon (G : Grammar) (nT : Nat) (β : List Sym) (a : Nat) :
    (firstOfSyms G nT (β ++ [.t a])).2 = false :=
  firstLA_no_eps _ β a

/-- `A = x B; B = B y`: all hypotheses of `first_sound` are trivially met (there are none) and the
unproductive `B` shows why `first_sound_der` needs its hypothesis: `x ∈ FIRST(A)`. -/
def gUnprod : Grammar := ⟨#[⟨0, [.n 1]⟩, ⟨1, [.t 2, .n 2]⟩, ⟨2, [.n 2, .t 3]⟩]⟩

example : firstOfSyms gUnprod 4 [.n 1] = ([2], false) := by decide +kernel
example : TermsBelow gUnprod 4 := termsBelowB_iff.mp (by decide +kernel)

/-- A grammar whose symbols are all productive: `s = s a | ε` (left recursion, nullable). -/
def gLeft : Grammar := ⟨#[⟨0, [.n 1]⟩, ⟨1, [.n 1, .t 2]⟩, ⟨1, []⟩]⟩

private theorem gLeft_productive : ∀ pr ∈ gLeft.prods.toList, ∀ s ∈ pr.rhs, Productive gLeft s := by
  have hs : Productive gLeft (.n 1) :=
    ⟨[], [.node 2 []], by simpa using Der.nonterm (G := gLeft) (q := 2) (pr := ⟨1, []⟩) rfl .nil .nil⟩
  have ht : Productive gLeft (.t 2) := ⟨[2], [.leaf 2], .term .nil⟩
  intro pr hpr s hs'
  simp [gLeft] at hpr
  rcases hpr with rfl | rfl | rfl <;> simp at hs'
  · subst hs'; exact hs
  · rcases hs' with rfl | rfl
    · exact hs
    · exact ht

example : firstOfSyms gLeft 3 [.n 1] = ([2], true) := by decide +kernel

/-- `first_sound_der` applies to `gLeft`: `a ∈ FIRST(s)` comes with a complete derivation. -/
example : ∃ w ts, Der gLeft [.n 1] (2 :: w) ts :=
  (first_sound_der gLeft_productive 3 (α := [.n 1])
    (by intro s hs; simp at hs; subst hs
        exact gLeft_productive ⟨0, [.n 1]⟩ (by simp [gLeft]) _ (by simp))).1 2
    (by decide +kernel)

/-! ## Closure and Goto: exactly the least closed set -/

/-- What `Closure` returns is exactly the LEAST item set that contains its
argument and is closed under the LR(1) closure rule taken with the semantic first sets: an item
is in the result iff it is derivable from the argument by the rule (`ClosureOf`). -/
theorem closure_spec {G : Grammar} {nT : Nat} (ht : TermsBelow G nT) {I C : List Item}
    (h : closure? G nT I = some C) : ∀ x, x ∈ C ↔ ClosureOf G I x :=
  mem_closure_iff ht h

/-- The three parts of "least closed superset" spelled out. -/
theorem closure_least {G : Grammar} {nT : Nat} (ht : TermsBelow G nT) {I C : List Item}
    (h : closure? G nT I = some C) :
    (∀ x ∈ I, x ∈ C) ∧ ClosedSet G C ∧
      ∀ S : List Item, (∀ x ∈ I, x ∈ S) → ClosedSet G S → ∀ x ∈ C, x ∈ S := by
  have spec := closure_spec ht h
  exact ⟨fun x hx => (spec x).mpr (.base hx), closedSet_closure ht h,
    fun S hIS hS x hx => ((spec x).mp hx).least hIS hS⟩

/-- `Closure` invents nothing: every item of the result that is not in the argument has dot 0 and
a lookahead that the closure rule justifies from an item of the result. -/
theorem closure_justified {G : Grammar} {nT : Nat} (ht : TermsBelow G nT) {I C : List Item}
    (h : closure? G nT I = some C) {x : Item} (hx : x ∈ C) :
    x ∈ I ∨ ∃ it ∈ C, ClosureRule G it x := by
  have spec := closure_spec ht h
  cases (spec x).mp hx with
  | base hi => exact Or.inl hi
  | step hprev hrule => exact Or.inr ⟨_, (spec _).mpr hprev, hrule⟩

/-- **closure_idempotent** (as sets): closing a closed set adds nothing. -/
theorem closure_idempotent {G : Grammar} {nT : Nat} (ht : TermsBelow G nT) {I C C' : List Item}
    (h : closure? G nT I = some C) (h' : closure? G nT C = some C') : ∀ x, x ∈ C' ↔ x ∈ C :=
  fun x => ⟨(closure_least ht h').2.2 C (fun _ hx => hx) (closure_least ht h).2.1 x,
    (closure_least ht h').1 x⟩

/-- `Goto(I, X)` = closure of the items of `I` advanced over `X`: by definition of
the model (mirror of `goto.go`), and semantically: an item is in `Goto(I, X)` iff it is derivable
by the closure rule from the advanced items. -/
theorem goto_spec {G : Grammar} {nT : Nat} (I : List Item) (X : Sym) :
    goto? G nT I X = closure? G nT (advance G I X) ∧
      (∀ x, x ∈ advance G I X ↔ ∃ it ∈ I, afterDot G it = some X ∧ x = ⟨it.p, it.d + 1, it.a⟩) ∧
      (TermsBelow G nT → ∀ C, goto? G nT I X = some C →
        ∀ x, x ∈ C ↔ ClosureOf G (advance G I X) x) :=
  ⟨rfl, fun _ => mem_advance, fun ht _ h => closure_spec ht h⟩

/-- Non-vacuity: `Goto(I0, tt)` on the grammar of D1 (`s = tt r; tt = T; r = oo X | oo Y Z;
oo = O | ε`): `oo → ·O` and `oo → ·` with lookaheads `X` and `Y`. -/
def gD1 : Grammar := ⟨#[⟨0, [.n 1]⟩, ⟨1, [.n 2, .n 3]⟩, ⟨2, [.t 2]⟩, ⟨3, [.n 4, .t 3]⟩,
  ⟨3, [.n 4, .t 4, .t 5]⟩, ⟨4, [.t 6]⟩, ⟨4, []⟩]⟩

example : (goto? gD1 7 [⟨0, 0, 0⟩, ⟨1, 0, 0⟩, ⟨2, 0, 3⟩, ⟨2, 0, 4⟩, ⟨2, 0, 6⟩] (.n 2)).map sortItems =
    some [⟨1, 1, 0⟩, ⟨3, 0, 0⟩, ⟨4, 0, 0⟩, ⟨5, 0, 3⟩, ⟨5, 0, 4⟩, ⟨6, 0, 3⟩, ⟨6, 0, 4⟩] := by decide +kernel

example : TermsBelow gD1 7 := termsBelowB_iff.mp (by decide +kernel)

/-! ## LR0Key: states are identified by their kernel cores -/

/-- Two item sets get the same `LR0Key` iff they have the same set of kernel
(production, dot) pairs (kernel = production 0 or dot ≠ 0; lookaheads and closure items do not
matter). This is the LALR merge criterion of `ConstructLALR`. -/
theorem lr0Key_spec (I J : List Item) :
    lr0Key I = lr0Key J ↔
      ∀ p d : Nat, (∃ a, (⟨p, d, a⟩ : Item) ∈ I ∧ (p = 0 ∨ d ≠ 0)) ↔
        (∃ a, (⟨p, d, a⟩ : Item) ∈ J ∧ (p = 0 ∨ d ≠ 0)) := by
  rw [lr0Key_eq_iff, Prod.forall]
  refine forall_congr' fun p => forall_congr' fun d => ?_
  have conv : ∀ K : List Item, (∃ it ∈ K, isKernel it = true ∧ (it.p, it.d) = (p, d)) ↔
      ∃ a, (⟨p, d, a⟩ : Item) ∈ K ∧ (p = 0 ∨ d ≠ 0) := by
    intro K
    constructor
    · rintro ⟨⟨p', d', a⟩, hit, hk, heq⟩
      cases heq
      exact ⟨a, hit, by simpa [isKernel] using hk⟩
    · rintro ⟨a, hit, hk⟩
      exact ⟨⟨p, d, a⟩, hit, by simpa [isKernel] using hk, rfl⟩
  rw [conv I, conv J]

/-- The key lists each kernel pair once, in `SortItems` order, and `ItemSet.Items()` /
`LR0Key` / `Next` depend only on the SET of items (Go iterates over hash sets). -/
theorem lr0Key_canonical (I : List Item) :
    SSorted pairLt (lr0Key I) ∧ (lr0Key I).Nodup ∧
      ∀ J : List Item, (∀ x, x ∈ I ↔ x ∈ J) → lr0Key I = lr0Key J ∧ sortItems I = sortItems J :=
  ⟨sorted_lr0Key I, nodup_of_sorted pairLt_order (sorted_lr0Key I), fun J h =>
    ⟨lr0Key_eq_iff.mpr (fun pd => by
        constructor
        · rintro ⟨it, hit, r⟩; exact ⟨it, (h it).mp hit, r⟩
        · rintro ⟨it, hit, r⟩; exact ⟨it, (h it).mpr hit, r⟩),
      sortItems_ext h⟩⟩

/-- `Next`: exactly the symbols after a dot, each once. -/
theorem next_spec (G : Grammar) (I : List Item) :
    (∀ X, X ∈ next G I ↔ ∃ it ∈ I, afterDot G it = some X) ∧ (next G I).Nodup :=
  ⟨fun _ => mem_next, nodup_of_sorted symLt_order (sorted_next G I)⟩

example : lr0Key [⟨3, 1, 4⟩, ⟨0, 0, 0⟩, ⟨3, 1, 2⟩, ⟨5, 0, 2⟩, ⟨2, 2, 9⟩] = [(0, 0), (2, 2), (3, 1)] := by
  decide +kernel

/-! ## createActions: the candidate actions are the textbook ones -/

/-- For an item set `I` (lookaheads are terminals, every terminal after a dot
has a transition — i.e. the Go code does not panic) and a terminal `a`, the cell that
`createActions` builds holds every kind of action at most once, and holds
* accept iff `[S' → S·, a] ∈ I`,
* reduce `p` iff `[p, |rhs p|, a] ∈ I` with `p ≠ 0`,
* a shift iff some item of `I` has the terminal `a` after its dot; its target is the transition
  on `a`. -/
theorem actions_spec {G : Grammar} {nT : Nat} {tr : Nat → Option Nat} {I : List Item}
    (hI : ∀ it ∈ I, it.a < nT)
    (htr : ∀ it ∈ I, ∀ x, afterDot G it = some (.t x) → tr x ≠ none) (a : Nat) :
    ∃ cell, cellOn G nT tr I a = .ok cell ∧ (cell.map kindOf).Nodup ∧
      (∀ c, c ∈ cell.map kindOf ↔ CandOf G I a c) ∧
      (∀ s ps, Lox.Dec.Action.shift s ps ∈ cell → tr a = some s) := by
  exact ⟨_, cellOn_eq .., cellAt_spec hI htr a⟩

/-- **Conflict = more than one candidate.** The generator calls (state, `a`) conflicting when its
cell holds more than one action (`actions.Len() != 1` in `resolveConflicts`, `<== CONFLICT` in
the report); by `actions_spec` that is: at least two different textbook candidates — the
definition of an LR(1) conflict of the item set. -/
theorem gen_conflict_iff {G : Grammar} {nT : Nat} {tr : Nat → Option Nat} {I : List Item}
    (hI : ∀ it ∈ I, it.a < nT)
    (htr : ∀ it ∈ I, ∀ x, afterDot G it = some (.t x) → tr x ≠ none) (a : Nat)
    {cell : List Lox.Dec.Action} (hc : cellOn G nT tr I a = .ok cell) :
    1 < cell.length ↔ ∃ c₁ c₂, CandOf G I a c₁ ∧ CandOf G I a c₂ ∧ c₁ ≠ c₂ := by
  obtain ⟨h2, h3, _⟩ := cellAt_spec hI htr a
  rw [cellAt_eq hc] at h2 h3
  exact Util.one_lt_length_iff h2 h3

/-- Non-vacuity: the dangling-else state `s = I s · | I s · E s` with lookahead `E`
(grammar `s = I s | I s E s | X`; terminals 2 = I, 3 = E, 4 = X): a shift/reduce conflict. -/
def gIf : Grammar := ⟨#[⟨0, [.n 1]⟩, ⟨1, [.t 2, .n 1]⟩, ⟨1, [.t 2, .n 1, .t 3, .n 1]⟩, ⟨1, [.t 4]⟩]⟩

example : cellOn gIf 5 (fun x => if x = 3 then some 7 else none) [⟨1, 2, 3⟩, ⟨2, 2, 3⟩, ⟨1, 2, 0⟩, ⟨2, 2, 0⟩] 3 =
    .ok [.reduce 1, .shift 7 [2, 2]] := by rfl

example : ∀ it ∈ [(⟨1, 2, 3⟩ : Item), ⟨2, 2, 3⟩, ⟨1, 2, 0⟩, ⟨2, 2, 0⟩], it.a < 5 := by decide

example : CandOf gIf [⟨1, 2, 3⟩, ⟨2, 2, 3⟩, ⟨1, 2, 0⟩, ⟨2, 2, 0⟩] 3 (.reduce 1) :=
  ⟨by decide, ⟨1, [.t 2, .n 1]⟩, rfl, by simp⟩

/-- The transition hypothesis of `actions_spec` on that state: only `E` (3) stands after a dot. -/
example : ∀ it ∈ [(⟨1, 2, 3⟩ : Item), ⟨2, 2, 3⟩, ⟨1, 2, 0⟩, ⟨2, 2, 0⟩], ∀ x,
    afterDot gIf it = some (.t x) → (fun x => if x = 3 then some 7 else none) x ≠ none := by
  intro it hit x hx
  simp only [List.mem_cons, List.not_mem_nil, or_false] at hit
  rcases hit with rfl | rfl | rfl | rfl <;> simp [afterDot, gIf] at hx <;> subst hx <;> simp

/-- Two different candidates: the conflict `gen_conflict_iff` speaks of. -/
example : CandOf gIf [⟨1, 2, 3⟩, ⟨2, 2, 3⟩, ⟨1, 2, 0⟩, ⟨2, 2, 0⟩] 3 .shift :=
  ⟨⟨2, 2, 3⟩, by simp, rfl⟩

end Lox.Props.C04
