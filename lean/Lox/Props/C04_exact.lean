import Lox.LR.LALRExact
import Lox.LR.Example
/-!
# C04 – the emitted item sets and tables are the LALR(1) ones

Property (verbatim, the part treated here): "lox refuses a grammar … if and only if its LALR(1)
automaton has a state and lookahead with more than one action left …; it … never rejects an LALR(1)
grammar … For accepted grammars the emitted action and goto tables are the LALR(1) tables."

**Definition** (`Lox/LR/LALR.lean`, nothing algorithmic): `LR1Item G γ it` – the LR(1) item `it` is
valid for the viable prefix `γ` (start / goto / closure with the semantic `First`); `LR0Item` – the
same without lookaheads; `LALRSet G γ` – the union of the LR(1) items valid for the viable prefixes
with the same LR(0) item set as `γ`; `LALRItem G A s` – the union over the `γ` that lead from state
0 to `s` along the edges of the skeleton `A`; `Cand` – the parsing actions an item set calls for.

**How states are identified.** The automaton skeleton is `autoOf T cert`: its edges are read off the
emitted arrays (`trans`: shift entries of `_actions`, entries of `_goto`, looked up with the
generated `_Find`). `justify` checks `KernelsDistinct` (distinct states have distinct LR(0)
kernels, as `ItemSet.LR0Key` guarantees in the generator). With that, `states_are_lr0_states` shows
that the skeleton IS the LR(0) automaton: every viable prefix reaches exactly one state, two viable
prefixes reach the same state iff the same LR(0) items are valid for them, and the cores of that
state are those LR(0) items. Hence `LALRItem` (by state) and `LALRSet` (by viable prefix, no
automaton mentioned) coincide (`items_are_lalr_sets`).

**Validators.** `check` (`Lox/LR/Check.lean`): nothing is missing (⊇). `justify`
(`Lox/LR/Justify.lean`): nothing is invented (⊆): every item has a ranked derivation inside the
certificate, every table entry is called for by an item (a reduce on `a` by the completed item with
lookahead `a`), kernels are distinct. `productiveB`: every nonterminal derives a token string
(needed only for the automaton-free form: for an unproductive `β` the textbook LR(0) closure of
`[A → α·Bβ]` adds `B`'s productions while no LR(1) item `[B → ·δ, b]` exists since FIRST(βa) = ∅).
All three are run on every emitted table (`lr.validate`, `lr.justify`).
-/
namespace Lox.Props.C04
open Lox.LR

section
variable {G : Grammar} {nTerms nRules : Nat} {T : Tables} {cert : Array (List Item)}

/-- The FIRST of the definition is over sentential forms (`α ⇒* bδ`, Aho/Sethi/Ullman §4.4; this
is what `first.go` computes, also for grammars with rules that derive nothing). In a productive
grammar it coincides with the reading over token strings (`FirstDer`: `α` derives a token string
starting with `b`, or the empty token string and `b = a`) on every suffix of a right-hand side –
the only arguments FIRST is applied to in the closure rule. -/
theorem first_iff_der_first (hp : productiveB G nRules = true) {p : Nat} {pr : Prod}
    (hpr : G.prods[p]? = some pr) (k a b : Nat) :
    First G (pr.rhs.drop k) a b ↔ FirstDer G (pr.rhs.drop k) a b :=
  first_iff_firstDer (productiveB_sound hp)
    (fun B hB => ((productiveB_sound hp) p pr hpr).2 B (List.mem_of_mem_drop hB)) a b

/-- On tables that pass `check` and `justify`, the item set the generator computed
for state `s` is exactly the LALR(1) item set of `s`. -/
theorem items_exact (hc : check G nTerms nRules T cert = .ok ())
    (hj : justify G nTerms nRules T cert = .ok ()) (s : Nat) (it : Item) :
    it ∈ itemsOf cert s ↔ LALRItem G (autoOf T cert) s it :=
  (closed_of_checkOK (check_spec hc)).mem_iff_lalr (justify_spec hj).justd s it

/-- The skeleton read off the tables is the LR(0) automaton: (1) every
viable prefix (= some LR(0) item is valid for it) leads from state 0 to a state; (2) the cores of
the state reached along `γ` are exactly the LR(0) items valid for `γ`; (3) two viable prefixes reach
the same state iff the same LR(0) items are valid for them. -/
theorem states_are_lr0_states (hc : check G nTerms nRules T cert = .ok ())
    (hj : justify G nTerms nRules T cert = .ok ()) (hp : productiveB G nRules = true) :
    (∀ γ p d, LR0Item G γ p d → ∃ s, Path (autoOf T cert) 0 γ s) ∧
    (∀ γ s, Path (autoOf T cert) 0 γ s → ∀ p d,
      HasCore (itemsOf cert s) p d ↔ LR0Item G γ p d) ∧
    (∀ γ γ' s s', Path (autoOf T cert) 0 γ s → Path (autoOf T cert) 0 γ' s' →
      (s = s' ↔ SameLR0 G γ γ')) := by
  have h := (ExactCert.of_ok (check_spec hc) (justify_spec hj) (productiveB_sound hp)).lr0_automaton
  exact ⟨h.1, h.2.1, h.2.2.1⟩

/-- **items_are_lalr_sets** (automaton-free form of `items_exact`). The item set of the state
reached along the viable prefix `γ` is the textbook LALR(1) item set of `γ`: the LR(1) items valid
for some viable prefix with the same LR(0) item set as `γ`. -/
theorem items_are_lalr_sets (hc : check G nTerms nRules T cert = .ok ())
    (hj : justify G nTerms nRules T cert = .ok ()) (hp : productiveB G nRules = true)
    {γ : List Sym} {s : Nat} (hpath : Path (autoOf T cert) 0 γ s) (it : Item) :
    it ∈ itemsOf cert s ↔ LALRSet G γ it :=
  ExactCert.items_eq_lalrSet (ExactCert.of_ok (check_spec hc) (justify_spec hj) (productiveB_sound hp))
    hpath it

/-- The target of an edge is the state of the extended viable prefix: its item set is the LALR(1)
item set of `γ X` (so the shift targets in `_actions` and the entries of `_goto` are the LALR(1)
successor states). -/
theorem successor_is_lalr_set (hc : check G nTerms nRules T cert = .ok ())
    (hj : justify G nTerms nRules T cert = .ok ()) (hp : productiveB G nRules = true)
    {γ : List Sym} {s s' : Nat} {X : Sym} (hpath : Path (autoOf T cert) 0 γ s)
    (htr : trans (autoOf T cert) s X = some s') (it : Item) :
    it ∈ itemsOf cert s' ↔ LALRSet G (γ ++ [X]) it :=
  items_are_lalr_sets hc hj hp (.snoc hpath htr) it

/-- **tables_are_lalr** (action table). The entry of the emitted `_actions` table at `(s, a)` (as
`_Find` reads it) is `act` iff the LALR(1) item set of `s` calls for `act` on `a`: shift to the
`a`-successor iff some LALR(1) item of `s` has `a` after the dot, reduce `p` iff
`[p, |rhs p|, a]` is an LALR(1) item of `s`, accept iff `[S' → S·, EOF]` is and `a = EOF`. In
particular there is an entry iff the LALR(1) set calls for an action, and reduce entries sit only
on genuine LALR(1) lookaheads. -/
theorem tables_are_lalr (hc : check G nTerms nRules T cert = .ok ())
    (hj : justify G nTerms nRules T cert = .ok ()) (s a : Nat) (act : Act) :
    (autoOf T cert).action s a = some act ↔
      Cand G (autoOf T cert) (LALRItem G (autoOf T cert)) s a act :=
  action_iff_cand (valid_of_checkOK (check_spec hc)) (closed_of_checkOK (check_spec hc))
    (justify_spec hj).justd (justify_spec hj).actions s a act

/-- … hence the action is the UNIQUE one the LALR(1) item set determines. -/
theorem lalr_action_unique (hc : check G nTerms nRules T cert = .ok ())
    (hj : justify G nTerms nRules T cert = .ok ()) {s a : Nat} {x y : Act}
    (hx : Cand G (autoOf T cert) (LALRItem G (autoOf T cert)) s a x)
    (hy : Cand G (autoOf T cert) (LALRItem G (autoOf T cert)) s a y) : x = y := by
  have h1 := (tables_are_lalr hc hj s a x).mpr hx
  have h2 := (tables_are_lalr hc hj s a y).mpr hy
  rw [h1] at h2
  exact Option.some.inj h2

/-- … and a missing entry (the parser reports a syntax error) means no LALR(1) action. -/
theorem no_entry_iff (hc : check G nTerms nRules T cert = .ok ())
    (hj : justify G nTerms nRules T cert = .ok ()) (s a : Nat) :
    (autoOf T cert).action s a = none ↔
      ∀ act, ¬ Cand G (autoOf T cert) (LALRItem G (autoOf T cert)) s a act := by
  constructor
  · intro h act hcand
    rw [(tables_are_lalr hc hj s a act).mpr hcand] at h
    cases h
  · intro h
    cases hact : (autoOf T cert).action s a with
    | none => rfl
    | some act => exact absurd ((tables_are_lalr hc hj s a act).mp hact) (h act)

/-- The goto half of `tables_are_lalr`. The emitted `_goto` table has an entry at `(s, B)` iff some
LALR(1) item of `s` has the rule `B` after the dot (its value is the LALR(1) successor state:
`successor_is_lalr_set`). -/
theorem goto_is_lalr (hc : check G nTerms nRules T cert = .ok ())
    (hj : justify G nTerms nRules T cert = .ok ()) (s B : Nat) :
    (∃ s', (autoOf T cert).goto s B = some s') ↔
      ∃ it pr, LALRItem G (autoOf T cert) s it ∧ G.prods[it.p]? = some pr ∧
        pr.rhs[it.d]? = some (.n B) :=
  (closed_of_checkOK (check_spec hc)).trans_iff_lalr (justify_spec hj).justd (justify_spec hj).edges
    s (.n B)

end

/-- **no_invented_conflict**, general form (no hypothesis on the action table, so it also speaks
about grammars lox refuses): for ANY automaton skeleton `A` with item sets that are closed
(`Closed`: start item, goto along the edges, closure w.r.t. the semantic FIRST) and justified
(`Justd`), a (state, terminal) cell has two different candidate actions in the generator's item
sets iff it has in the LALR(1) item sets. -/
theorem no_invented_conflict_of {G : Grammar} {A : Auto} (hc : Closed G A)
    (hj : ∀ s it, it ∈ A.items s → Justd G A s it) (s a : Nat) :
    Conflict G A (fun s it => it ∈ A.items s) s a ↔ Conflict G A (LALRItem G A) s a :=
  Conflict.congr (hc.mem_iff_lalr hj s)

section
variable {G : Grammar} {nTerms nRules : Nat} {T : Tables} {cert : Array (List Item)}

/-- **no_invented_conflict** on emitted tables. -/
theorem no_invented_conflict (hc : check G nTerms nRules T cert = .ok ())
    (hj : justify G nTerms nRules T cert = .ok ()) (s a : Nat) :
    Conflict G (autoOf T cert) (fun s it => it ∈ itemsOf cert s) s a ↔
      Conflict G (autoOf T cert) (LALRItem G (autoOf T cert)) s a :=
  no_invented_conflict_of (closed_of_checkOK (check_spec hc))
    (justify_spec hj).justd s a

/-- Tables that pass `check` and `justify` belong to an LALR(1) grammar: no
(state, terminal) cell of the LALR(1) automaton has two different actions. (`check` fails on every
table with an unresolved or precedence-resolved conflict, so this is the "accepted ⇒ LALR(1)"
direction; the converse direction for refused grammars is `no_invented_conflict_of` applied to the
item sets and transitions of `ConstructLALR`.) -/
theorem accepted_is_lalr1 (hc : check G nTerms nRules T cert = .ok ())
    (hj : justify G nTerms nRules T cert = .ok ()) (s a : Nat) :
    ¬ Conflict G (autoOf T cert) (LALRItem G (autoOf T cert)) s a := by
  rintro ⟨x, y, hx, hy, hne⟩
  exact hne (lalr_action_unique hc hj hx hy)

end

/-! ## Non-vacuity: the tables lox emits for `S = A S | B` (`Lox/LR/Example.lean`) -/

theorem example_justify : justify Example.G 4 2 Example.T Example.cert = .ok () :=
  justify_ok_iff.mpr (by decide +kernel)

theorem example_productive : productiveB Example.G 2 = true := by decide +kernel

/-- The hypotheses of all theorems above hold on the example; e.g. state 1 (after `A`) holds
`[S → A·S, EOF]` and its closure, and these are LALR(1) items of state 1. -/
example : check Example.G 4 2 Example.T Example.cert = .ok () ∧
    justify Example.G 4 2 Example.T Example.cert = .ok () ∧ productiveB Example.G 2 = true ∧
    LALRItem Example.G (autoOf Example.T Example.cert) 1 ⟨2, 0, 0⟩ :=
  ⟨Example.check_ok, example_justify, example_productive,
    (items_exact Example.check_ok example_justify 1 ⟨2, 0, 0⟩).mp (by decide +kernel)⟩

/-- The viable prefix `A A` reaches state 1, so the item set of state 1 is `LALRSet G [A, A]`. -/
example : ∀ it, it ∈ itemsOf Example.cert 1 ↔ LALRSet Example.G [.t 2, .t 2] it :=
  items_are_lalr_sets Example.check_ok example_justify example_productive
    (.snoc (γ := [.t 2]) (s' := 1) (.snoc (γ := []) (s' := 0) (.nil 0) (by decide +kernel)) (by decide +kernel))

/-- The entry of the example's action table at (state 2, EOF) is `reduce 2` (`S → B ·`), and this
is what the LALR(1) item set of state 2 calls for. -/
example : Cand Example.G (autoOf Example.T Example.cert)
    (LALRItem Example.G (autoOf Example.T Example.cert)) 2 0 (.reduce 2) :=
  (tables_are_lalr Example.check_ok example_justify 2 0 (.reduce 2)).mp (by decide +kernel)

/-- An invented lookahead is rejected: with the extra item `[S → B·, A]` in state 2 (and the rest
unchanged) `justify` fails. -/
example : justifyB Example.G 4 2 Example.T
    #[[⟨0,0,0⟩, ⟨1,0,0⟩, ⟨2,0,0⟩], [⟨1,0,0⟩, ⟨1,1,0⟩, ⟨2,0,0⟩], [⟨2,1,0⟩, ⟨2,1,2⟩], [⟨0,1,0⟩],
      [⟨1,2,0⟩]] = false := by
  decide +kernel

/-- Non-vacuity of `no_invented_conflict_of` on a grammar lox REFUSES (`S = S S | a`, ambiguous):
the definition itself has a conflict – on lookahead `a`, the LALR(1) item set of the state reached
along `S S` calls both for shifting `a` and for reducing `S → S S`. Skeleton: the four LR(0)
states with their edges (0 –S→ 1, 0 –a→ 2, 1 –S→ 3, 1 –a→ 2, 3 –S→ 3, 3 –a→ 2). -/
def Gamb : Grammar := ⟨#[⟨0, [.n 1]⟩, ⟨1, [.n 1, .n 1]⟩, ⟨1, [.t 2]⟩]⟩

def Aamb : Auto where
  action s a := if a = 2 ∧ (s = 0 ∨ s = 1 ∨ s = 3) then some (.shift 2) else none
  goto s B := if B = 1 then (if s = 0 then some 1 else if s = 1 ∨ s = 3 then some 3 else none)
    else none
  items _ := []

example : Conflict Gamb Aamb (LALRItem Gamb Aamb) 3 2 := by
  -- items valid for the prefix `S S`
  have i0 : LR1Item Gamb [] ⟨0, 0, 0⟩ := .start
  have fa : First Gamb [] 0 0 := .inr ⟨.refl _, rfl⟩
  have i1 : LR1Item Gamb [] ⟨1, 0, 0⟩ :=
    .closure (pr := ⟨0, [.n 1]⟩) (qr := ⟨1, [.n 1, .n 1]⟩) i0 rfl rfl rfl rfl fa
  -- `[S → ·S S, a]` by closure from `[S → ·S S, EOF]`: a ∈ FIRST(S EOF)
  have f2 : First Gamb [.n 1] 0 2 := by
    refine .inl ⟨[], ?_⟩
    exact Derives.prod (G := Gamb) (q := 2) (qr := ⟨1, [.t 2]⟩) rfl
  have i2 : LR1Item Gamb [] ⟨1, 0, 2⟩ :=
    .closure (pr := ⟨1, [.n 1, .n 1]⟩) (qr := ⟨1, [.n 1, .n 1]⟩) i1 rfl rfl rfl rfl f2
  have j1 : LR1Item Gamb ([] ++ [.n 1]) ⟨1, 1, 2⟩ := .goto (pr := ⟨1, [.n 1, .n 1]⟩) i2 rfl rfl
  have j2 : LR1Item Gamb ([] ++ [.n 1] ++ [.n 1]) ⟨1, 2, 2⟩ :=
    .goto (pr := ⟨1, [.n 1, .n 1]⟩) j1 rfl rfl
  -- `[S → ·a, a]` in the same state, by closure from `[S → S·S, a]`
  have f3 : First Gamb [] 2 2 := .inr ⟨.refl _, rfl⟩
  have k1 : LR1Item Gamb ([] ++ [.n 1]) ⟨1, 0, 2⟩ :=
    .closure (pr := ⟨1, [.n 1, .n 1]⟩) (qr := ⟨1, [.n 1, .n 1]⟩) j1 rfl rfl rfl rfl f3
  have k2 : LR1Item Gamb ([] ++ [.n 1] ++ [.n 1]) ⟨1, 1, 2⟩ :=
    .goto (pr := ⟨1, [.n 1, .n 1]⟩) k1 rfl rfl
  have k3 : LR1Item Gamb ([] ++ [.n 1] ++ [.n 1]) ⟨2, 0, 2⟩ :=
    .closure (pr := ⟨1, [.n 1, .n 1]⟩) (qr := ⟨1, [.t 2]⟩) k2 rfl rfl rfl rfl f3
  have path : Path Aamb 0 ([] ++ [.n 1] ++ [.n 1]) 3 :=
    .snoc (s' := 1) (.snoc (s' := 0) (.nil 0) (by decide)) (by decide)
  refine ⟨.shift 2, .reduce 1, ?_, ?_, by decide⟩
  · exact .shift (p := 2) (d := 0) (b := 2) (pr := ⟨1, [.t 2]⟩) ⟨_, path, k3⟩ rfl rfl (by decide)
  · exact .reduce (p := 1) (pr := ⟨1, [.n 1, .n 1]⟩) ⟨_, path, j2⟩ rfl (by decide)

end Lox.Props.C04
