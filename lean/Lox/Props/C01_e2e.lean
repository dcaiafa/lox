import Lox.LR.VerdictE2E
import Lox.LR.EmitProofsCells
import Lox.LR.UnusedTerminals
import Lox.Props.C01
import Lox.Examples.GrammarD1
/-!
# C01, end to end on the model of the generator: the emitted tables ALWAYS pass the validator

`Lox/Props/C01.lean` decides C01 per emitted artefact: `check` accepted ⇒ the table-driven parser
accepts exactly L(G). Here the artefact is the output of the MODEL of the generator,
`Lox.LR.Emit.generate G nT ord` = `Cons.construct` (model of the worklist of `lr1.ConstructLALR`,
`Lox/LR/ConstructModel.lean`) followed by `Emit.emitParser` (model of `createActions` and of the
closures `actions` / `goto` / `lhs` / `term_counts` of `codegen.EmitParser` over the model of
`codegen/table.go`, `Lox/LR/EmitModel.lean`), tied to the real generator number for number by the
family `emit` (`/verif/harness/drv/ops_emit.go`: the arrays read back from the emitted
`parser.gen.go`).

`emit_find_actions` / `emit_find_goto` say what `_Find` reads on the emitted arrays (the parser half of
C10); `generator_safe` / `generator_sound` are the soundness half for any precedence table;
`generator_no_error_actions` gives `NoErrorActions` for grammars without `@error`. -/
namespace Lox.Props.C01
open Lox.LR Lox.LR.Gen Lox.LR.Cons Lox.LR.Emit Lox.LR.Abs Lox.LR.FixFirst
open Lox.Dec (Action ProdInfo)

/-- Whatever the grammar, the table `st` (conflicts or not) and the
precedences `info`: if `EmitParser` does not panic, then for every state `s` the cells of `s`
after `createActions` + `resolveConflicts` exist, and for every terminal `a` listed in the
(duplicate-free) name order the generated `_Find(_actions, s, a)` returns the code of the FIRST
action of the cell `(s, a)` — `shift` target, `-prod`, or `MaxInt32` — and reports "not found" when
`a` has no cell. It never indexes out of range. -/
theorem emit_find_actions {info : Nat → ProdInfo} {G : Grammar} {nT : Nat} {ord : List Sym}
    {st : CState} {T : Tables} (h : emitParserP info G nT ord st = some T) (hn : ord.Nodup)
    {s : Nat} (hs : s < st.states.length) :
    ∃ cells, cellsOf info G nT (trTerm st.transTab s) (st.states[s]?.getD []) = some cells ∧
      (∀ a, Sym.t a ∈ ord → find T.actions (s : Int) (a : Int) =
        match lookupCell a cells with
        | some (act :: _) => .hit (actCode act)
        | _ => .miss) ∧
      ∀ x, find T.actions (s : Int) x ≠ .oob := by
  obtain ⟨row, hrow, _, hfind⟩ := (emitted_of_emitParserP h).arow s hs
  obtain ⟨cells, hc, hrow⟩ := actionRow_eq_some.mp hrow
  refine ⟨cells, hc, fun a ha => ?_, fun x => ?_⟩
  · rw [hfind, firstCodes_eq hrow, Lox.Table.firstMatch_filterMap, if_pos (mem_termsOf.mpr ha)]
    cases lookupCell a cells with
    | none => rfl
    | some c => cases c <;> rfl
  · rw [hfind]
    exact lookResult_ne_oob _

/-- For every state `s` and every rule `B` listed in the name order,
`_Find(_goto, s, B)` returns the target of the recorded transition of `s` on `B`, and "not found"
when there is none; never out of range. -/
theorem emit_find_goto {info : Nat → ProdInfo} {G : Grammar} {nT : Nat} {ord : List Sym}
    {st : CState} {T : Tables} (h : emitParserP info G nT ord st = some T) (hn : ord.Nodup)
    {s : Nat} (hs : s < st.states.length) :
    (∀ B, Sym.n B ∈ ord → find T.gotos (s : Int) (B : Int) =
      match lookupSym (.n B) (st.trans[s]?.getD []) with
      | some t => .hit (t : Int)
      | none => .miss) ∧
    ∀ x, find T.gotos (s : Int) x ≠ .oob := by
  have he := emitted_of_emitParserP h
  refine ⟨fun B hB => ?_, fun x => by rw [(he.grow s hs).2]; exact lookResult_ne_oob _⟩
  rw [he.find_gotos hs, if_pos hB]
  cases lookupSym (.n B) (st.trans[s]?.getD []) <;> rfl

/-- Production 0 is `S' → start`, `S'` is on no right-hand side, every symbol is in range, and EOF
(terminal 0) is on no right-hand side: what `lr1.NewGrammar` / `SetStart` and the front end
establish, and what `check` itself demands of the grammar (`prod0B`, `noStartB`, `prodsB`; an
EOF on a right-hand side would make a shift on EOF, which `check` refuses). Decidable. -/
def wfGrammarB (G : Grammar) (nT nR : Nat) : Bool :=
  prod0B G && noStartB G && symsInRangeB G nT nR && noEofB G

theorem wfGrammarB_spec {G : Grammar} {nT nR : Nat} (h : wfGrammarB G nT nR = true) :
    GrammarWf G nT nR := by
  simp only [wfGrammarB, Bool.and_eq_true] at h
  obtain ⟨⟨⟨hp0, hns⟩, hsyms⟩, hne⟩ := h
  exact ⟨hp0, symsInRangeB_spec hsyms, noStartB_spec hns, fun _ _ hp => noEofB_spec hne hp⟩

/-- For every grammar that is well formed (`wfGrammarB`), every name order
that lists each symbol once (`ordOKB`; it implies `OrdCovers`, and `wfGrammarB` implies
`TermsBelow`): if the model of the generator returns tables `T` and the certificate `cert`, and the
model's conflict verdict is "no conflict" in the strong sense that `createActions` left exactly one
action in every cell (`conflictFree`: no precedence resolution was needed), then the validator
accepts: `check G nT nR T cert = .ok ()`.

`hsmall` is the `int32` range of the emitted arrays: a shift to state `2147483647` would be
written as `MaxInt32`, which is the accept code. -/
theorem generator_valid {G : Grammar} {nT nR : Nat} {ord : List Sym} {T : Tables}
    {cert : Array (List Item)} (hwf : wfGrammarB G nT nR = true) (hord : ordOKB nT nR ord = true)
    (hgen : generate G nT ord = some (T, cert)) (hfree : conflictFree G nT ord = true)
    (hsmall : cert.size ≤ 2147483647) : check G nT nR T cert = .ok () := by
  obtain ⟨st, _, rfl, hr⟩ :=
    run_of_generate (wfGrammarB_spec hwf) (ordOKB_spec hord) hgen hfree hsmall
  exact check_ok_iff.mpr hr.checkB

/-- On a conflict-free grammar the model of `EmitParser` does not panic:
`generate` returns tables (a cell is never empty, `AddRow` is called with increasing indices). -/
theorem generator_total {G : Grammar} {nT : Nat} {ord : List Sym}
    (hfree : conflictFree G nT ord = true) : ∃ T cert, generate G nT ord = some (T, cert) := by
  obtain ⟨st, hst, hfree⟩ := conflictFree_eq_true.mp hfree
  obtain ⟨T, hT⟩ := emitParser_isSome (ord := ord) hfree
  exact ⟨T, st.cert, generateP_eq_some.mpr ⟨st, hst, hT, rfl⟩⟩

/-- Under the hypotheses of `generator_valid`, for every token sequence `w`
(without the EOF terminal inside) the table-driven parser on the emitted tables accepts `w` with
tree `t` iff `t` is a derivation tree of `w` from the start symbol. -/
theorem generator_correct {G : Grammar} {nT nR : Nat} {ord : List Sym} {T : Tables}
    {cert : Array (List Item)} (hwf : wfGrammarB G nT nR = true) (hord : ordOKB nT nR ord = true)
    (hgen : generate G nT ord = some (T, cert)) (hfree : conflictFree G nT ord = true)
    (hsmall : cert.size ≤ 2147483647) {w : List Nat} (hw : eof ∉ w) (t : Tree) :
    (∃ fuel lg, run G (autoOf T cert) fuel (init w) = .acc t lg) ↔
      Der G [.n (startSym G)] w [t] :=
  tables_exact (generator_valid hwf hord hgen hfree hsmall) hw t

/-- Every grammar the model generates conflict-free tables for is unambiguous. -/
theorem generator_unambiguous {G : Grammar} {nT nR : Nat} {ord : List Sym} {T : Tables}
    {cert : Array (List Item)} (hwf : wfGrammarB G nT nR = true) (hord : ordOKB nT nR ord = true)
    (hgen : generate G nT ord = some (T, cert)) (hfree : conflictFree G nT ord = true)
    (hsmall : cert.size ≤ 2147483647) {w : List Nat} {t₁ t₂ : Tree}
    (h₁ : Der G [.n (startSym G)] w [t₁]) (h₂ : Der G [.n (startSym G)] w [t₂]) : t₁ = t₂ :=
  tables_unambiguous (generator_valid hwf hord hgen hfree hsmall) h₁ h₂

/-- The model of the GENERATED `parse` (with `_readToken`, `_recover`, `_Bounds`; `Lox.LR.parse`)
on the emitted tables accepts every sentence, performs the `_act` calls in the post-order of its
derivation tree and leaves that tree on the stack. -/
theorem generator_accepts_sentences {G : Grammar} {nT nR : Nat} {ord : List Sym} {T : Tables}
    {cert : Array (List Item)} (hwf : wfGrammarB G nT nR = true) (hord : ordOKB nT nR ord = true)
    (hgen : generate G nT ord = some (T, cert)) (hfree : conflictFree G nT ord = true)
    (hsmall : cert.size ≤ 2147483647) {w : List Nat} (hw : ∀ x ∈ w, x ≠ 1) {t : Tree}
    (hd : Der G [.n (startSym G)] w [t]) (wb : Bool) :
    ∃ n, ∀ fuel, n ≤ fuel →
      (parse T w.toArray wb fuel).1 = .accept ∧
      (actsOf (parse T w.toArray wb fuel).2.log).reverse = t.post ∧
      (parse T w.toArray wb fuel).2.stack.head?.map (fun e => e.sym.toTree) = some t :=
  parse_complete (generator_valid hwf hord hgen hfree hsmall) hw hd wb

/-- A rejection by the table-driven parser on the emitted tables is right: the input is not a
sentence. -/
theorem generator_rejects_only_nonsentences {G : Grammar} {nT nR : Nat} {ord : List Sym}
    {T : Tables} {cert : Array (List Item)} (hwf : wfGrammarB G nT nR = true)
    (hord : ordOKB nT nR ord = true) (hgen : generate G nT ord = some (T, cert))
    (hfree : conflictFree G nT ord = true) (hsmall : cert.size ≤ 2147483647) {w : List Nat}
    {fuel : Nat} (hr : run G (autoOf T cert) fuel (init w) = .fail) :
    ¬ ∃ t, Der G [.n (startSym G)] w [t] :=
  tables_reject (generator_valid hwf hord hgen hfree hsmall) hr

/-- For every well-formed grammar, every precedence table `info` and every
name order that lists each symbol once: whatever tables the model of the generator emits —
conflicts resolved by `@left/@right` (the emitted action is the first action of the cell AFTER
`resolveConflicts`) or not resolved at all — pass `checkSafe` with the states' item lists as
certificate. No conflict-freeness is assumed: `resolveConflicts` only deletes actions, and every
action `createActions` puts into a cell is backed by an item of the state. -/
theorem generator_safe {info : Nat → ProdInfo} {G : Grammar} {nT nR : Nat} {ord : List Sym}
    {T : Tables} {cert : Array (List Item)} (hwf : wfGrammarB G nT nR = true)
    (hord : ordOKB nT nR ord = true) (hgen : generateP info G nT ord = some (T, cert))
    (hsmall : cert.size ≤ 2147483647) : checkSafe G nT nR T cert = .ok () := by
  obtain ⟨st, _, rfl, hr⟩ :=
    runS_of_generate (wfGrammarB_spec hwf) (ordOKB_spec hord) hgen hsmall
  exact checkSafe_ok_iff.mpr hr.checkSafeB

/-- Whatever the table-driven parser accepts on tables emitted by the model —
for any grammar and precedences — is a sentence, the returned tree is a derivation tree of the
input and the reductions performed are its post-order. -/
theorem generator_sound {info : Nat → ProdInfo} {G : Grammar} {nT nR : Nat} {ord : List Sym}
    {T : Tables} {cert : Array (List Item)} (hwf : wfGrammarB G nT nR = true)
    (hord : ordOKB nT nR ord = true) (hgen : generateP info G nT ord = some (T, cert))
    (hsmall : cert.size ≤ 2147483647) {w : List Nat} (hw : eof ∉ w) {fuel : Nat} {t : Tree}
    {lg : List (Nat × List Tree)} (hr : run G (autoOf T cert) fuel (init w) = .acc t lg) :
    Der G [.n (startSym G)] w [t] ∧ lg = t.post :=
  tables_sound_safe (generator_safe hwf hord hgen hsmall) hw hr

/-- If the ERROR terminal (1) stands on no right-hand side of a well-formed grammar, the tables the
generator model emits hold no action on ERROR in any state: lookaheads of LALR(1) items are EOF or
terminals of right-hand sides (`lr1_la`). This discharges the hypothesis `NoErrorActions` of `parse_sound`,
`parse_no_panic`, `parse_reject`, `parse_decides` (C01.lean) for EVERY grammar without `@error`. -/
theorem generator_no_error_actions {info : Nat → Lox.Dec.ProdInfo} {G : Grammar} {nT nR : Nat}
    {ord : List Sym} {T : Tables} {cert : Array (List Item)} (hwf : wfGrammarB G nT nR = true)
    (hord : ordOKB nT nR ord = true) (hgen : generateP info G nT ord = some (T, cert))
    (hno : ¬ TermUsed G 1) : NoErrorActions T cert.size := by
  obtain ⟨st, hst, hT, rfl⟩ := generateP_eq_some.mp hgen
  intro s hs
  have := emitted_unused_miss (built_of_wf (wfGrammarB_spec hwf) (ordOKB_spec hord) hst)
    (emitted_of_emitParserP hT) (a := 1) (by decide) hno (s := s) (size_cert st ▸ hs)
  simpa [tERROR] using this

/-! ### Non-vacuity

The grammar of defect D1, `s = tt r; tt = T; r = oo X | oo Y Z; oo = O | ε` (`gD1` of
`Lox/Examples/GrammarD1.lean`: 7 terminals, 5 rules, 7 productions, 10 states), with the name order of the real
run (`EOF ERROR O S' T X Y Z oo r s tt`): all hypotheses hold by evaluation, and what the model
emits is literally what the real generator wrote into `parser.gen.go` for this grammar (the case
`lr.emit 7 5 | …` of the family `emit`). -/

theorem e2eEx_gD1_hyps : wfGrammarB gD1 7 5 = true ∧ ordOKB 7 5 e2eOrd = true ∧
    conflictFree gD1 7 e2eOrd = true :=
  ⟨by decide +kernel, by decide +kernel, e2eEx_gD1_eval.1⟩

example : wfGrammarB gD1 7 5 = true := e2eEx_gD1_hyps.1
example : ordOKB 7 5 e2eOrd = true := e2eEx_gD1_hyps.2.1
example : conflictFree gD1 7 e2eOrd = true := e2eEx_gD1_hyps.2.2

/-- The arrays the model emits = the arrays of the real `parser.gen.go`. -/
example : (generate gD1 7 e2eOrd).map (fun r =>
      (r.1.rules.toList, r.1.termCounts.toList, r.1.actions.toList, r.1.gotos.toList, r.2.size)) =
    some ([0, 1, 2, 3, 3, 4, 4], [1, 2, 1, 2, 3, 1, 0],
      [10, 13, 20, 23, 30, 35, 40, 43, 46, 49, 2, 2, 1, 6, 6, -2, 3, -2, 4, -2, 2, 0, 2147483647,
       6, 6, 4, 3, -6, 4, -6, 4, 3, -5, 4, -5, 4, 3, 7, 4, 8, 2, 0, -1, 2, 0, -3, 2, 5, 9, 2, 0, -4],
      [10, 15, 15, 16, 15, 15, 15, 15, 15, 15, 4, 1, 2, 2, 3, 0, 4, 4, 5, 3, 6], 10) :=
  e2eEx_gD1_eval.2.1

theorem e2eEx_gD1_run : ∃ T cert, generate gD1 7 e2eOrd = some (T, cert) ∧ cert.size = 10 := by
  obtain ⟨⟨T, cert⟩, hgen, he⟩ := Option.map_eq_some_iff.mp e2eEx_gD1_eval.2.1
  exact ⟨T, cert, hgen, congrArg (·.2.2.2.2) he⟩

/-- All hypotheses of `generator_valid` at once, and its conclusion, for `gD1`. -/
example : ∃ T cert, generate gD1 7 e2eOrd = some (T, cert) ∧ cert.size ≤ 2147483647 ∧
    check gD1 7 5 T cert = .ok () := by
  obtain ⟨T, cert, hgen, hsz⟩ := e2eEx_gD1_run
  exact ⟨T, cert, hgen, by omega,
    generator_valid e2eEx_gD1_hyps.1 e2eEx_gD1_hyps.2.1 hgen e2eEx_gD1_hyps.2.2 (by omega)⟩

/-- … so the emitted tables accept `T O Y Z` (a sentence: `r ⇒ oo Y Z`, the derivation the FIRST
defect lost) with its derivation tree. -/
example : ∃ T cert, generate gD1 7 e2eOrd = some (T, cert) ∧
    ∃ fuel lg, run gD1 (autoOf T cert) fuel (init [2, 6, 4, 5]) =
      .acc (.node 1 [.node 2 [.leaf 2], .node 4 [.node 5 [.leaf 6], .leaf 4, .leaf 5]]) lg := by
  obtain ⟨T, cert, hgen, hsz⟩ := e2eEx_gD1_run
  refine ⟨T, cert, hgen, (generator_correct e2eEx_gD1_hyps.1 e2eEx_gD1_hyps.2.1 hgen e2eEx_gD1_hyps.2.2
    (by omega) (by decide) _).mpr ?_⟩
  have h4 : Der gD1 [.n 3] [6, 4, 5] [.node 4 [.node 5 [.leaf 6], .leaf 4, .leaf 5]] := by
    have hr : Der gD1 [.n 4, .t 4, .t 5] ([6] ++ [4, 5]) [.node 5 [.leaf 6], .leaf 4, .leaf 5] :=
      Der.nonterm (q := 5) (pr := ⟨4, [.t 6]⟩) rfl (.term .nil) (.term (.term .nil))
    simpa using Der.nonterm (G := gD1) (q := 4) (pr := ⟨3, [.n 4, .t 4, .t 5]⟩) rfl hr .nil
  have h1 : Der gD1 [.n 2, .n 3] ([2] ++ [6, 4, 5])
      [.node 2 [.leaf 2], .node 4 [.node 5 [.leaf 6], .leaf 4, .leaf 5]] :=
    Der.nonterm (q := 2) (pr := ⟨2, [.t 2]⟩) rfl (.term .nil) h4
  have hs : startSym gD1 = 1 := by decide
  rw [hs]
  simpa using Der.nonterm (G := gD1) (q := 1) (pr := ⟨1, [.n 2, .n 3]⟩) rfl h1 .nil

/-- Non-vacuity of `emit_find_actions` / `emit_find_goto` on a table WITH precedence resolution
(`E = E '+' E @left(1) | NUM`, `ExamplePrec` of `Lox/LR/Example.lean`): in state 4 the cell of `+`
held `[shift 3, reduce 1]` and `resolveConflicts` kept the reduce; `_Find` returns `-1`. -/
def e2ePrecOrd : List Sym := [.n 1, .t 0, .t 1, .t 3, .t 2, .n 0]
def e2ePrecInfo : Nat → ProdInfo := fun p => if p = 1 then ⟨1, 1, false⟩ else ⟨if p = 0 then 0 else 1, 0, false⟩

theorem e2eEx_examplePrec : (generateP e2ePrecInfo ExamplePrec.G 4 e2ePrecOrd).map (fun r =>
      (r.1.actions.toList, r.1.gotos.toList, r.2.size)) =
    some (ExamplePrec.T.actions.toList, ExamplePrec.T.gotos.toList, 5) := by decide +kernel

example : (generateP e2ePrecInfo ExamplePrec.G 4 e2ePrecOrd).map (fun r =>
      (r.1.actions.toList, r.1.gotos.toList)) =
    some (ExamplePrec.T.actions.toList, ExamplePrec.T.gotos.toList) := by
  obtain ⟨r, hr, he⟩ := Option.map_eq_some_iff.mp e2eEx_examplePrec
  rw [hr]
  exact congrArg (fun v => some (v.1, v.2.1)) he

example : e2ePrecOrd.Nodup := by decide +kernel

example : (construct ExamplePrec.G 4 e2ePrecOrd).map (fun st =>
      (cellsOf noPrec ExamplePrec.G 4 (trTerm st.transTab 4) (st.states[4]?.getD []),
       cellsOf e2ePrecInfo ExamplePrec.G 4 (trTerm st.transTab 4) (st.states[4]?.getD []))) =
    some (some [(0, [.reduce 1]), (2, [.shift 3 [1, 1], .reduce 1])],
          some [(0, [.reduce 1]), (2, [.reduce 1])]) := by decide +kernel

/-- `generator_safe` applies to that precedence-resolved run (for which `check` itself fails:
`ExamplePrec.checkB_fails`, the grammar is ambiguous). -/
example : ∃ T cert, generateP e2ePrecInfo ExamplePrec.G 4 e2ePrecOrd = some (T, cert) ∧
    checkSafe ExamplePrec.G 4 2 T cert = .ok () := by
  obtain ⟨⟨T, cert⟩, hgen, he⟩ := Option.map_eq_some_iff.mp e2eEx_examplePrec
  have hsz : cert.size = 5 := congrArg (·.2.2) he
  exact ⟨T, cert, hgen, generator_safe (by decide +kernel) (by decide +kernel) hgen (by omega)⟩

end Lox.Props.C01
