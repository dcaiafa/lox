import Lox.Rang3.Model
import Lox.Rang3.Proofs
import Lox.Rang3.ClassText
/-! Property theorems for C15 (character classes and literals denote exact code-point sets).

`class_exact`, `literal_exact` and `relabel_*` read `NFACons` and the callbacks of mode.go on one state taken by
itself (`Rang3/ClassExpr`). The generator theorems (C02, C10) go through the model of the whole automaton instead
(`Lox.Lex.Gen.litEdges`, `clsEdges`, `relabelEdges`, `mergeState`); no lemma links the two readings, which share
`GoodCb.den_split` (splitting a label keeps its code points) and `flatten_canon`. -/
namespace Lox.Props.C15
open Lox.Rang3

/-- `c ∈ ⟦r⟧`. -/
def Range.mem (c : Int) (r : Range) : Prop := r.b ≤ c ∧ c ≤ r.e

/-- `Intersects` is set intersection being non-empty (for ranges with `b ≤ e`). -/
theorem intersects_iff (a b : Range) (ha : a.b ≤ a.e) (hb : b.b ≤ b.e) :
    a.intersects b = true ↔ ∃ c, Range.mem c a ∧ Range.mem c b := by
  unfold Range.mem
  by_cases h : a.b > b.b
  · simp only [Range.intersects, if_pos h, decide_eq_true_eq]
    exact ⟨fun h' => ⟨a.b, ⟨Int.le_refl _, ha⟩, by omega, h'⟩, fun ⟨c, _, _, _⟩ => by omega⟩
  · simp only [Range.intersects, if_neg h, decide_eq_true_eq]
    exact ⟨fun h' => ⟨b.b, ⟨by omega, h'⟩, Int.le_refl _, hb⟩, fun ⟨c, _, _, _⟩ => by omega⟩

/-- `Contains` is set inclusion (for a non-empty inner range). -/
theorem contains_iff (a b : Range) (hb : b.b ≤ b.e) :
    a.contains b = true ↔ ∀ c, Range.mem c b → Range.mem c a := by
  simp only [Range.contains, Range.mem, Bool.and_eq_true, decide_eq_true_eq]
  refine ⟨fun h c hc => by omega, fun h => ?_⟩
  have h1 := h b.b ⟨Int.le_refl _, hb⟩
  have h2 := h b.e ⟨hb, Int.le_refl _⟩
  omega

/-- `Flatten` (range.go) keeps exactly the code points of its input: for every list of ranges with
`b ≤ e`, `c ∈ ⟦flatten rs⟧ ↔ c ∈ ⟦rs⟧`. -/
theorem flatten_den (rs : List Range) (hv : ∀ r ∈ rs, Valid r) (c : Int) :
    Den (flatten rs) c ↔ Den rs c := (flatten_canon rs hv).den c

/-- The result of `Flatten` is canonical: every range non-empty, strictly increasing and pairwise
non-touching (`x.e + 1 < y.b` whenever `x` comes before `y`). -/
theorem flatten_sorted (rs : List Range) (hv : ∀ r ∈ rs, Valid r) :
    (∀ r ∈ flatten rs, Valid r) ∧ (flatten rs).Pairwise (fun x y => x.e + 1 < y.b) :=
  (flatten_canon rs hv).flat

example : (∀ r ∈ [(⟨5, 9⟩ : Range), ⟨1, 3⟩, ⟨4, 4⟩, ⟨20, 30⟩], Valid r) ∧
    flatten [⟨5, 9⟩, ⟨1, 3⟩, ⟨4, 4⟩, ⟨20, 30⟩] = [⟨1, 9⟩, ⟨20, 30⟩] := by decide +kernel

/-- `Subtract(a, b)` (range.go) is set difference: for all lists of ranges with `b ≤ e`,
`c ∈ ⟦subtract a b⟧ ↔ c ∈ ⟦a⟧ ∧ c ∉ ⟦b⟧`. Covers the early `return a` when either side is empty and
the `eb.B + 1` arm of the loop. -/
theorem subtract_den (a b : List Range) (ha : ∀ r ∈ a, Valid r) (hb : ∀ r ∈ b, Valid r) (c : Int) :
    Den (subtract a b) c ↔ Den a c ∧ ¬ Den b c := subtract_den' a b ha hb c

/-- The result of `Subtract` is canonical (non-empty ranges, strictly increasing, pairwise
non-touching). When `b` is empty Go returns `a` itself, so `a` must then be canonical already
(it always is where `GetRanges` calls `Subtract`, see `eval_sorted`). -/
theorem subtract_sorted (a b : List Range) (ha : ∀ r ∈ a, Valid r) (hb : ∀ r ∈ b, Valid r)
    (hfa : b = [] → Flat a) : Flat (subtract a b) :=
  (subtract_canon a b ha hb hfa).flat

/-- The fuel the model gives to the loop of `Subtract` is never exhausted: any larger amount of fuel
gives the same result (the loop has terminated by itself). -/
theorem subtract_fuel_suffices (a b : List Range) (ha : ∀ r ∈ a, Valid r) (hb : ∀ r ∈ b, Valid r)
    (fuel' : Nat) (hf : 4 * ((flatten a).length + 1) * ((flatten b).length + 1) + 8 ≤ fuel') :
    subtractLoop fuel' (flatten a) (flatten b) [] =
      subtractLoop (4 * ((flatten a).length + 1) * ((flatten b).length + 1) + 8) (flatten a) (flatten b) [] :=
  subtractLoop_fuel_ge (subInv_init (flatten_canon a ha).flat (flatten_canon b hb).flat) (subMeasure_init_lt _ _) hf

/-- Hence `subtract` is the fuel-free loop: with non-empty sides it equals the loop run with any
sufficiently large fuel. -/
theorem subtract_eq_loop (a b : List Range) (ha : ∀ r ∈ a, Valid r) (hb : ∀ r ∈ b, Valid r)
    (hne : a ≠ [] ∧ b ≠ []) (fuel' : Nat)
    (hf : 4 * ((flatten a).length + 1) * ((flatten b).length + 1) + 8 ≤ fuel') :
    subtract a b = subtractLoop fuel' (flatten a) (flatten b) [] := by
  rw [subtract_fuel_suffices a b ha hb fuel' hf]
  unfold subtract
  rw [if_neg (by simp [hne.1, hne.2])]

-- the `eb.B + 1` arm (`[1-9] - [3-5]`), a cut on both sides, and an untouched range
example : (∀ r ∈ [(⟨1, 9⟩ : Range), ⟨20, 30⟩, ⟨40, 41⟩], Valid r) ∧
    (∀ r ∈ [(⟨3, 5⟩ : Range), ⟨0, 0⟩, ⟨18, 22⟩, ⟨29, 35⟩], Valid r) ∧
    subtract [⟨1, 9⟩, ⟨20, 30⟩, ⟨40, 41⟩] [⟨3, 5⟩, ⟨0, 0⟩, ⟨18, 22⟩, ⟨29, 35⟩] =
      [⟨1, 2⟩, ⟨6, 9⟩, ⟨23, 28⟩, ⟨40, 41⟩] := by decide +kernel

-- `subtract_sorted` with `b = []`: the hypothesis is needed (Go returns the unsorted `a` itself)
example : subtract [⟨5, 6⟩, ⟨1, 2⟩] [] = [⟨5, 6⟩, ⟨1, 2⟩] := by decide +kernel

/-- Set-theoretic reading of a class expression over the code space `0 … 0x10FFFF`. -/
def meaning : ClassExpr → Int → Prop
  | .cls false items, c => Den items c
  | .cls true items, c => 0 ≤ c ∧ c ≤ maxRune ∧ ¬ Den items c
  | .sub l r, c => meaning l c ∧ ¬ meaning r c
  | .add l r, c => meaning l c ∨ meaning r c

/-- `GetRanges` (char_class.go, char_class_expr.go) returns the canonical list of the meaning of the expression,
for every expression whose items satisfy `From ≤ To`. -/
theorem eval_canon (e : ClassExpr) (hv : ∀ r ∈ e.items, Valid r) : Canon e.eval (meaning e) := by
  induction e with
  | cls neg items =>
    have hf := flatten_canon items hv
    cases neg with
    | false => exact hf
    | true =>
      refine (subtract_canon _ _ flat_full.1 hf.valid fun _ => flat_full).congr fun c => ?_
      rw [hf.den]
      simp [meaning, Den, and_assoc]
  | sub l r ihl ihr =>
    obtain ⟨hl, hr⟩ := List.forall_mem_append.1 hv
    refine (subtract_canon _ _ (ihl hl).valid (ihr hr).valid fun _ => (ihl hl).flat).congr fun c => ?_
    rw [(ihl hl).den, (ihr hr).den]
    rfl
  | add l r ihl ihr =>
    obtain ⟨hl, hr⟩ := List.forall_mem_append.1 hv
    refine (flatten_canon _ (List.forall_mem_append.2 ⟨(ihl hl).valid, (ihr hr).valid⟩)).congr fun c => ?_
    rw [den_append, (ihl hl).den, (ihr hr).den]
    rfl

/-- `GetRanges` (char_class.go, char_class_expr.go) returns a canonical list. -/
theorem eval_sorted (e : ClassExpr) (hv : ∀ r ∈ e.items, Valid r) : Flat e.eval := (eval_canon e hv).flat

/-- `GetRanges` denotes exactly the set-theoretic meaning of the expression: ranges and single
characters, negation `~[…]` (complement in `0 … 0x10FFFF`), difference `[…]-[…]`
(and the unused `Add`), for every expression whose items satisfy `From ≤ To`. -/
theorem eval_den (e : ClassExpr) (hv : ∀ r ∈ e.items, Valid r) (c : Int) :
    Den e.eval c ↔ meaning e c := (eval_canon e hv).den c

/-- From the text between `[` and `]` to the AST (`parser.on_char_class`): the items are the written
items in order. An escaped dash `\\-` (a `CLASS_CHAR` token with code point 45) is a character wherever
it stands; only an unescaped dash between two characters forms a range. -/
theorem class_items_as_written (ws : List Written) :
    classItems (spell ws) = ws.map Written.toRange := classItems_spell ws

/-- … hence a written class `~?[w₁ … wₙ]` with `From ≤ To` in every range matches exactly the union of
its written items (complemented in `0 … 0x10FFFF` under `~`). -/
theorem class_text_den (neg : Bool) (ws : List Written)
    (hv : ∀ w ∈ ws, Valid w.toRange) (c : Int) :
    Den (ClassExpr.cls neg (classItems (spell ws))).eval c ↔
      meaning (.cls neg (ws.map Written.toRange)) c := by
  rw [classItems_spell]
  exact eval_den _ (by
    intro r hr
    simp only [ClassExpr.items, List.mem_map] at hr
    obtain ⟨w, hw, rfl⟩ := hr
    exact hv w hw) c

/-- `[a\\-z]` is the three characters a, `-`, z; `[a-z]` is the range (non-vacuity of the two readings). -/
example : classItems (spell [.single 97, .single 45, .single 122]) = [⟨97, 97⟩, ⟨45, 45⟩, ⟨122, 122⟩] ∧
    classItems (spell [.range 97 122]) = [⟨97, 122⟩] := by decide +kernel

/-- `.` matches exactly the code points `0 … 0x10FFFF`. -/
theorem dot_den (c : Int) : Den ClassExpr.dot.eval c ↔ 0 ≤ c ∧ c ≤ maxRune := by
  rw [eval_den _ (by intro r hr; simp [ClassExpr.dot, ClassExpr.items] at hr; subst hr; decide)]
  simp [ClassExpr.dot, meaning, Den]

/-- `GetRanges` stays inside the code space when the items do. -/
theorem eval_bounds (e : ClassExpr) (hv : ∀ r ∈ e.items, Valid r)
    (hb : ∀ r ∈ e.items, 0 ≤ r.b ∧ r.e ≤ maxRune) : ∀ r ∈ e.eval, 0 ≤ r.b ∧ r.e ≤ maxRune := by
  have hm : ∀ c, meaning e c → 0 ≤ c ∧ c ≤ maxRune := by
    induction e with
    | cls neg items =>
      intro c hc
      cases neg with
      | false =>
        obtain ⟨r, hr, h1, h2⟩ := hc
        have := hb r hr
        omega
      | true => exact ⟨hc.1, hc.2.1⟩
    | sub l r ihl _ =>
      intro c hc
      exact ihl (List.forall_mem_append.1 hv).1 (List.forall_mem_append.1 hb).1 c hc.1
    | add l r ihl ihr =>
      intro c hc
      rcases hc with hc | hc
      · exact ihl (List.forall_mem_append.1 hv).1 (List.forall_mem_append.1 hb).1 c hc
      · exact ihr (List.forall_mem_append.1 hv).2 (List.forall_mem_append.1 hb).2 c hc
  intro r hr
  have hvr : Valid r := (eval_canon e hv).valid r hr
  unfold Valid at hvr
  have h1 := hm r.b ((eval_den e hv r.b).1 ⟨r, hr, Int.le_refl _, hvr⟩)
  have h2 := hm r.e ((eval_den e hv r.e).1 ⟨r, hr, hvr, Int.le_refl _⟩)
  omega

-- `~[a-z0-9_] - [\u0000-\u001f]`
example : (∀ r ∈ (ClassExpr.sub (.cls true [⟨97, 122⟩, ⟨48, 57⟩, ⟨95, 95⟩]) (.cls false [⟨0, 31⟩])).items, Valid r) := by
  decide +kernel
example : (ClassExpr.sub (.cls true [⟨97, 122⟩, ⟨48, 57⟩, ⟨95, 95⟩]) (.cls false [⟨0, 31⟩])).eval =
    [⟨32, 47⟩, ⟨58, 94⟩, ⟨96, 96⟩, ⟨123, maxRune⟩] := by decide +kernel

/-- For every list of ranges with `b ≤ e`, the loop of `Normalize` (range.go) ends normally: the
four geometric cases are exhaustive for two distinct intersecting ranges taken from the heap in
`Compare` order, and the fuel of the model is not exhausted (measure: total length of the heap). -/
theorem normalize_total (rs : List Range) (hv : ∀ r ∈ rs, Valid r) : normalize rs ≠ none := by
  obtain ⟨L, hL, _⟩ := normalize_spec rs hv
  simp [hL]

/-- More fuel does not change the outcome: the model's `normalize` is the fuel-free loop. -/
theorem normalize_fuel_suffices (rs : List Range) (hv : ∀ r ∈ rs, Valid r) (fuel' : Nat)
    (hf : normalizeFuel rs ≤ fuel') : normalizeLoop fuel' (heapOf rs) [] = normalize rs := by
  obtain ⟨L, hL, _⟩ := normalizeLoop_spec _ _ (ninv_init rs hv)
  have := total_lt_fuel rs
  rw [normalize, hL _ [] this, hL fuel' [] (by omega)]

theorem normalizePieces_total (rs : List Range) (hv : ∀ r ∈ rs, Valid r) : normalizePieces rs ≠ none := by
  obtain ⟨ps, hps, _⟩ := normalizePieces_spec rs hv
  simp [hps]

/-- Every `onChange(o, a, b, c)` call made by `Normalize` splits a label that is currently present:
`o` is in the label set the earlier calls produced (this is `assert.True(len(states) > 0)` in
`mode.normalizeInputs`), `a`, `b`, `c` lie inside `o` and together cover `o`. -/
theorem normalize_callbacks_split (rs : List Range) (hv : ∀ r ∈ rs, Valid r) (log : List NormCb)
    (h : normalize rs = some log) : CbsOk (heapOf rs) log := by
  obtain ⟨L, hL, hcbs, _⟩ := normalize_spec rs hv
  rw [hL] at h
  cases h
  exact hcbs

/-- The final pieces are non-empty, pairwise disjoint and listed in increasing order. -/
theorem normalize_disjoint (rs : List Range) (hv : ∀ r ∈ rs, Valid r) (ps : List Range)
    (h : normalizePieces rs = some ps) :
    (∀ p ∈ ps, Valid p) ∧ ps.Pairwise (fun p q => p.e < q.b) := by
  obtain ⟨h1, h2, _⟩ := normalizePieces_some hv h
  exact ⟨h1, h2⟩

/-- Every input range is the exact union of the final pieces it contains. -/
theorem normalize_refines (rs : List Range) (hv : ∀ r ∈ rs, Valid r) (ps : List Range)
    (h : normalizePieces rs = some ps) (r : Range) (hr : r ∈ rs) (c : Int) :
    (r.b ≤ c ∧ c ≤ r.e) ↔ ∃ p ∈ ps, r.contains p = true ∧ p.b ≤ c ∧ c ≤ p.e := by
  simp only [contains_iff_inside]
  exact (normalizePieces_some hv h).2.2.cover_iff hr c

/-- Every final piece lies inside some input range … -/
theorem normalize_pieces_inside (rs : List Range) (hv : ∀ r ∈ rs, Valid r) (ps : List Range)
    (h : normalizePieces rs = some ps) (p : Range) (hp : p ∈ ps) :
    ∃ r ∈ rs, r.contains p = true := by
  obtain ⟨_, _, href⟩ := normalizePieces_some hv h
  obtain ⟨r, hr, hsub⟩ := href.inside p hp
  exact ⟨r, hr, (contains_iff_inside r p).2 hsub⟩

/-- … and no piece straddles the border of an input range: a piece that meets an input range lies
inside it. So after `normalizeInputs` two transition labels are either equal or disjoint. -/
theorem normalize_no_straddle (rs : List Range) (hv : ∀ r ∈ rs, Valid r) (ps : List Range)
    (h : normalizePieces rs = some ps) (p : Range) (hp : p ∈ ps) (r : Range) (hr : r ∈ rs)
    (hi : p.intersects r = true) : r.contains p = true := by
  obtain ⟨hpv, hdis⟩ := normalize_disjoint rs hv ps h
  obtain ⟨c, hcp, hcr⟩ := (intersects_iff p r (hpv p hp) (hv r hr)).1 hi
  obtain ⟨q, hq, hsub, hcq⟩ := (normalize_refines rs hv ps h r hr c).1 hcr
  have : p = q := disjoint_eq_of_common hdis hp hq hcp hcq
  subst this
  exact hsub

/-- Nothing is gained or lost: the pieces denote exactly the code points of the input. -/
theorem normalize_den (rs : List Range) (hv : ∀ r ∈ rs, Valid r) (ps : List Range)
    (h : normalizePieces rs = some ps) (c : Int) : Den ps c ↔ Den rs c :=
  (normalizePieces_some hv h).2.2.den c

-- `[a-z]`, `[a-f]`, `[d-k]`, `x`, `[0-9]` and a duplicate
example : ∀ r ∈ [(⟨97, 122⟩ : Range), ⟨97, 102⟩, ⟨100, 107⟩, ⟨120, 120⟩, ⟨48, 57⟩, ⟨97, 102⟩], Valid r := by decide +kernel
example : normalize [⟨97, 122⟩, ⟨97, 102⟩] = some [⟨⟨97, 122⟩, ⟨97, 102⟩, ⟨103, 122⟩, ⟨103, 122⟩⟩] := by decide +kernel
example : normalizePieces [⟨97, 122⟩, ⟨97, 102⟩, ⟨100, 107⟩, ⟨120, 120⟩, ⟨48, 57⟩, ⟨97, 102⟩] =
    some [⟨48, 57⟩, ⟨97, 99⟩, ⟨100, 102⟩, ⟨103, 107⟩, ⟨108, 119⟩, ⟨120, 120⟩, ⟨121, 122⟩] := by decide +kernel

/-- The callbacks of `Flatten`, applied as `mergeTransitions` applies them to a set `s` of labels
that starts as the set of input ranges: every single callback leaves the denotation of the label
set unchanged (`MergeOk`), and at the end the label set is exactly the set of returned ranges,
which denotes exactly the input. -/
theorem merge_sound (rs s : List Range) (hv : ∀ r ∈ rs, Valid r) (hs : ∀ x, x ∈ s ↔ x ∈ rs) :
    MergeOk s (flattenWithLog rs).2 ∧
    (∀ x, x ∈ (flattenWithLog rs).2.foldl applyFlatCb s ↔ x ∈ (flattenWithLog rs).1) ∧
    (∀ c, Den ((flattenWithLog rs).2.foldl applyFlatCb s) c ↔ Den rs c) := by
  have hinv := loopInv_sortRanges hv
  have hlog := flattenLoop_log (sortRanges rs) [] s hinv
    (logInv_init (fun x => (hs x).trans (mem_sortRanges rs x).symm))
  refine ⟨hlog.2, hlog.1, fun c => ?_⟩
  exact (den_congr hlog.1 c).trans ((flatten_canon rs hv).den c)

/-- The instance the driver prints (`rang3.flattenlog`): start from `heapOf rs`. -/
theorem merge_sound_heapOf (rs : List Range) (hv : ∀ r ∈ rs, Valid r) :
    ∀ x, x ∈ (flattenWithLog rs).2.foldl applyFlatCb (heapOf rs) ↔ x ∈ flatten rs :=
  (merge_sound rs (heapOf rs) hv (mem_heapOf rs)).2.1

/-- With pairwise distinct labels (the keys of a transition map) both `assert.True` calls in the
callback of `mergeTransitions` hold: `oa` and `ob` are labels of the state when the callback runs. -/
theorem merge_asserts_hold (rs s : List Range) (hv : ∀ r ∈ rs, Valid r) (hnd : rs.Nodup)
    (hs : ∀ x, x ∈ s ↔ x ∈ rs) : MergeAsserts s (flattenWithLog rs).2 :=
  flattenLoop_asserts (sortRanges rs) [] s (loopInv_sortRanges hv)
    (logInv_init (fun x => (hs x).trans (mem_sortRanges rs x).symm))
    (nodup_sortRanges rs hnd) (fun r hr => (hs r).2 ((mem_sortRanges rs r).1 hr)) (by simp)

/-- `Flatten` sorts twice, the second time with an unstable sort that only looks at the lower
bounds. Whatever order that leaves among ranges with equal lower bound, the merge loop returns the
same ranges as the model (which keeps the `Compare` order), and `merge_sound` holds for that order too. -/
theorem flatten_any_order (rs l : List Range) (hv : ∀ r ∈ rs, Valid r)
    (hsorted : l.Pairwise (fun x y => x.b ≤ y.b)) (hperm : ∀ x, x ∈ l ↔ x ∈ rs) :
    (flattenLoop l [] []).1 = flatten rs ∧
    (∀ s, (∀ x, x ∈ s ↔ x ∈ rs) →
      MergeOk s (flattenLoop l [] []).2 ∧
      ∀ x, x ∈ (flattenLoop l [] []).2.foldl applyFlatCb s ↔ x ∈ flatten rs) := by
  have heq := flattenLoop_any_order rs l hv hsorted hperm
  refine ⟨heq, fun s hs => ?_⟩
  have hvl : ∀ r ∈ l, Valid r := fun r hr => hv r ((hperm r).1 hr)
  have hlog := flattenLoop_log l [] s (loopInv_init hsorted hvl)
    (logInv_init (fun x => (hs x).trans (hperm x).symm))
  rw [heq] at hlog
  exact ⟨hlog.2, hlog.1⟩

/-- Canonical lists are determined by their denotation … -/
theorem canonical_unique (l1 l2 : List Range) (h1 : Flat l1) (h2 : Flat l2)
    (h : ∀ c, Den l1 c ↔ Den l2 c) : l1 = l2 := flat_unique h1 h2 h

/-- … so two class expressions with the same meaning get literally the same ranges. -/
theorem eval_canonical (e1 e2 : ClassExpr) (h1 : ∀ r ∈ e1.items, Valid r) (h2 : ∀ r ∈ e2.items, Valid r)
    (h : ∀ c, meaning e1 c ↔ meaning e2 c) : e1.eval = e2.eval :=
  ((eval_canon e1 h1).congr h).unique (eval_canon e2 h2)

-- three pieces of `[a-k]` and a separate `x` merged back (valid, pairwise distinct)
example : (∀ r ∈ [(⟨100, 102⟩ : Range), ⟨97, 99⟩, ⟨120, 120⟩, ⟨103, 107⟩], Valid r) ∧
    [(⟨100, 102⟩ : Range), ⟨97, 99⟩, ⟨120, 120⟩, ⟨103, 107⟩].Nodup := by decide +kernel
-- an arrangement sorted by lower bound only that differs from the `Compare` order
example : [(⟨1, 5⟩ : Range), ⟨1, 2⟩, ⟨4, 9⟩].Pairwise (fun x y => x.b ≤ y.b) ∧
    sortRanges [⟨1, 5⟩, ⟨1, 2⟩, ⟨4, 9⟩] = [⟨1, 2⟩, ⟨1, 5⟩, ⟨4, 9⟩] := by decide +kernel
example : flattenWithLog [⟨100, 102⟩, ⟨97, 99⟩, ⟨120, 120⟩, ⟨103, 107⟩] =
    ([⟨97, 107⟩, ⟨120, 120⟩],
     [⟨⟨97, 99⟩, ⟨100, 102⟩, ⟨97, 102⟩⟩, ⟨⟨97, 102⟩, ⟨103, 107⟩, ⟨97, 107⟩⟩]) := by decide +kernel

/-- A class term accepts the single code point `c` iff `c` is in the meaning of the expression. -/
theorem class_exact (e : ClassExpr) (hv : ∀ r ∈ e.items, Valid r) (c : Int) :
    inRanges e.eval c = true ↔ meaning e c := by
  rw [← eval_den e hv c]
  simp [inRanges, Den]

/-- The chain built for a literal spells exactly the literal's code-point sequence. -/
theorem literal_exact (cps w : List Int) : chainMatches (literalLabels cps) w = true ↔ w = cps := by
  induction cps generalizing w with
  | nil => cases w <;> simp [literalLabels, chainMatches]
  | cons c cps ih =>
    cases w with
    | nil => simp [literalLabels, chainMatches]
    | cons d w =>
      have := ih w
      simp only [literalLabels] at this
      simp only [literalLabels, List.map_cons, chainMatches, Bool.and_eq_true, decide_eq_true_eq,
        this, List.cons.injEq]
      constructor
      · rintro ⟨⟨h1, h2⟩, h3⟩; exact ⟨by omega, h3⟩
      · rintro ⟨h1, h2⟩; exact ⟨⟨by omega, by omega⟩, h2⟩

example : chainMatches (literalLabels [105, 102]) [105, 102] = true ∧
    chainMatches (literalLabels [105, 102]) [105] = false := by decide +kernel

/-- `normalizeInputs`: applying all callbacks of a `Normalize` run to the transitions of any state
leaves, for every target, the set of code points leading to it unchanged. -/
theorem relabel_split_sound (rs : List Range) (hv : ∀ r ∈ rs, Valid r) (log : List NormCb)
    (h : normalize rs = some log) (t : Trans) (q : Nat) (c : Int) :
    DenT (log.foldl relabelSplit t) q c ↔ DenT t q c :=
  relabelSplit_fold_denT t (heapOf rs) log (normalize_callbacks_split rs hv log h) q c

/-- `mergeTransitions`: for a state whose labels are non-empty and whose transitions are
deterministic (no code point leads to two targets), merging the labels `rs` of target `q` with the
callbacks of `Flatten` leaves, for every target, the set of code points leading to it unchanged;
the labels stay non-empty, so the statement applies again to the next target. -/
theorem relabel_merge_sound (t : Trans) (q : Nat) (rs : List Range)
    (hval : ∀ p ∈ t, Valid p.1) (hdet : ∀ q1 q2 c, DenT t q1 c → DenT t q2 c → q1 = q2)
    (hnd : rs.Nodup) (hrs : ∀ x, x ∈ rs ↔ (x, q) ∈ t) :
    (∀ q' c, DenT ((flattenWithLog rs).2.foldl (fun t cb => relabelMerge t cb q) t) q' c ↔ DenT t q' c) ∧
      ∀ p ∈ (flattenWithLog rs).2.foldl (fun t cb => relabelMerge t cb q) t, Valid p.1 := by
  have hv : ∀ r ∈ rs, Valid r := fun r hr => hval (r, q) ((hrs r).1 hr)
  refine relabelMerge_fold t q hval hdet _ rs t (merge_sound rs rs hv (fun _ => Iff.rfl)).1
    (merge_asserts_hold rs rs hv hnd (fun _ => Iff.rfl)) (flattenLoop_log_form _ _) hrs
    (fun _ _ => Iff.rfl) ?_ hv
  intro c
  constructor
  · rintro ⟨x, hx, hc⟩
    exact ⟨(x, q), (hrs x).1 hx, rfl, hc⟩
  · rintro ⟨p, hp, hpq, hc⟩
    obtain ⟨x, y⟩ := p
    simp only at hpq; subst hpq
    exact ⟨x, (hrs x).2 hp, hc⟩

-- a state with `[a-c]→1, [d-f]→1, x→2`: the two labels of target 1 are merged, `x` stays
example : (flattenWithLog [⟨97, 99⟩, ⟨100, 102⟩]).2.foldl (fun t cb => relabelMerge t cb 1)
    [(⟨97, 99⟩, 1), (⟨100, 102⟩, 1), (⟨120, 120⟩, 2)] = [(⟨97, 102⟩, 1), (⟨120, 120⟩, 2)] := by decide +kernel
-- a state with `[a-z]→7` while `[a-f]` occurs elsewhere: its label is split, the target kept
example : ([⟨⟨97, 122⟩, ⟨97, 102⟩, ⟨103, 122⟩, ⟨103, 122⟩⟩] : List NormCb).foldl relabelSplit
    [(⟨97, 122⟩, 7)] = [(⟨97, 102⟩, 7), (⟨103, 122⟩, 7)] := by decide +kernel

end Lox.Props.C15
