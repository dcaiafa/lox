import Lox.Dec.ResolveProofs
import Lox.Dec.OpPrecProofs
/-!
# C05 – `@left(n)` / `@right(n)` grouping

Property (verbatim): "For an expression rule whose binary-operator alternatives carry @left(n) or
@right(n), the generated parser groups every operator sequence the way a precedence-climbing parser
would: a higher n binds tighter, operators sharing a level and declared @left group left-to-right,
and those declared @right group right-to-left. Atoms, parenthesised sub-expressions and unqualified
alternatives are unaffected."

Two layers, both for **all** inputs:

* `op_machine_climb`: a shift-reduce parser for `E → E op E | atom` whose S/R decisions follow the
  documented relation builds, for every operand/operator sequence, the tree of precedence
  climbing (`Lox.Dec.OpPrec`).
* `resolve_documented_partial`: the decision `resolveConflicts` really takes
  (`Lox.Dec.resolveOne`, model of `/repo/internal/parsergen/lr1/construct.go`) is the documented
  one for different levels and for `@left`; for `@right` only under the extra hypothesis that the
  shift has a single contributing item, which `createActions`/`AddShift` never produce for an
  expression grammar (one item per lookahead) – **known finding K1**. `k1_calc_cell` is the
  kernel-checked negation on the cell of `examples/calc`, and `op_machine_k1` says what the
  generated parser does instead: it groups as if every operator were `@left`.

`doc_same_verdict`, `resolveOneDoc_length`: the resolver with K1 repaired (`Lox.Dec.resolveOneDoc`)
resolves the same cells, so no conflict verdict depends on K1 (`C04.generator_verdict_exact_doc`).
-/
namespace Lox.Props.C05
open Lox.Dec Lox.Dec.OpPrec

/-! ## The documented decision (`Lox.Dec.documented`) -/

/-
Full statement (FALSE on the pinned code, see `k1_calc_cell`):

  theorem resolve_documented (info) (t p0 rest rp)
      (hres : (resolveOne info [.shift t (p0 :: rest), .reduce rp]).2 = true) :
      (resolveOne info [.shift t (p0 :: rest), .reduce rp]).1 =
        keepOf (.shift t (p0 :: rest)) (.reduce rp)
          (documented (info p0).prec (info rp).prec (info rp).rightAssoc)
-/

/-- What `resolveConflict` keeps on a resolved shift/reduce cell is the documented action for
every associativity `b` that, on equal precedences, is what the `switch` of `resolveConflicts`
tests: a single contributor, which is the reduced production and `@right`. -/
theorem resolve_documented_of (info : Nat → ProdInfo) {t p0 : Nat} {rest : List Nat} {rp : Nat}
    {acts : List Action}
    (hacts : acts = [.shift t (p0 :: rest), .reduce rp] ∨ acts = [.reduce rp, .shift t (p0 :: rest)])
    (hres : (resolveOne info acts).2 = true) {b : Bool}
    (hb : (info p0).prec = (info rp).prec →
      (rest.isEmpty && p0 == rp && (info p0).rightAssoc) = b) :
    (resolveOne info acts).1 =
      keepOf (.shift t (p0 :: rest)) (.reduce rp) (documented (info p0).prec (info rp).prec b) := by
  obtain ⟨k, hk, hr⟩ := resolveOne_pair_resolved info hacts hres
  rw [hr, (decideSR_cons_eq_some_iff.1 hk).2.2.2.2, documented_congr hb]

/-- Under the K1 hypothesis the `switch` does test the associativity of the reduced production. -/
theorem switch_eq_assoc {info : Nat → ProdInfo} {p0 : Nat} {rest : List Nat} {rp : Nat}
    (hK1 : (info p0).prec = (info rp).prec → (info rp).rightAssoc = true → p0 :: rest = [rp])
    (heq : (info p0).prec = (info rp).prec) :
    (rest.isEmpty && p0 == rp && (info p0).rightAssoc) = (info rp).rightAssoc := by
  cases hr : (info rp).rightAssoc with
  | true =>
    obtain ⟨rfl, rfl⟩ := List.cons.inj (hK1 heq hr)
    simp [hr]
  | false =>
    by_cases h : p0 = rp
    · subst h; simp [hr]
    · simp [h]

/-- Whenever `resolveConflict` resolves a shift/reduce cell (in
either order), the action it keeps is the documented one – the associativity being that of the
production on the stack, `rp` –

* whenever the two precedences differ,
* when they are equal and `rp` is `@left`,
* when they are equal and `rp` is `@right` **only under the extra hypothesis `hK1`**: the shift has
  exactly one contributing item and it belongs to `rp` itself (`shift.Prods = [reduce.Prods[0]]`,
  the condition written in the `switch` of `resolveConflicts`).

`hK1` is the only extra hypothesis; it is vacuous in the first two cases. -/
theorem resolve_documented_partial (info : Nat → ProdInfo) (t p0 : Nat) (rest : List Nat) (rp : Nat)
    (acts : List Action)
    (hacts : acts = [.shift t (p0 :: rest), .reduce rp] ∨ acts = [.reduce rp, .shift t (p0 :: rest)])
    (hres : (resolveOne info acts).2 = true)
    (hK1 : (info p0).prec = (info rp).prec → (info rp).rightAssoc = true → p0 :: rest = [rp]) :
    (resolveOne info acts).1 =
      keepOf (.shift t (p0 :: rest)) (.reduce rp)
        (documented (info p0).prec (info rp).prec (info rp).rightAssoc) :=
  resolve_documented_of info hacts hres (switch_eq_assoc hK1)

/-- The same with the associativity read where `resolveConflicts` reads it, on the *shifted*
production `shift.Prods[0]`: under `hK1` both productions coincide, and `@left` on either one makes
the code reduce. The documented rule (and precedence climbing) means the production on the stack;
the two readings differ only on levels that mix `@left` and `@right`, where the code always
reduces. -/
theorem resolve_documented_shiftassoc_partial (info : Nat → ProdInfo) (t p0 : Nat) (rest : List Nat)
    (rp : Nat) (acts : List Action)
    (hacts : acts = [.shift t (p0 :: rest), .reduce rp] ∨ acts = [.reduce rp, .shift t (p0 :: rest)])
    (hres : (resolveOne info acts).2 = true)
    (hK1 : (info p0).prec = (info rp).prec → (info p0).rightAssoc = true → p0 :: rest = [rp]) :
    (resolveOne info acts).1 =
      keepOf (.shift t (p0 :: rest)) (.reduce rp)
        (documented (info p0).prec (info rp).prec (info p0).rightAssoc) :=
  resolve_documented_of info hacts hres fun heq => by
    cases hr : (info p0).rightAssoc with
    | true =>
      obtain ⟨rfl, rfl⟩ := List.cons.inj (hK1 heq hr)
      simp
    | false => simp

/-- The hypotheses of `resolve_documented_partial` are satisfiable with `hK1` doing real work: one
`@right(3)` production, a single contributing item; the documented answer (shift) comes out. -/
example :
    let info : Nat → ProdInfo := fun _ => ⟨1, 3, true⟩
    (resolveOne info [.shift 13 [8], .reduce 8]).2 = true ∧
      ((info 8).prec = (info 8).prec → (info 8).rightAssoc = true → [8] = [8]) ∧
      (resolveOne info [.shift 13 [8], .reduce 8]).1 = [.shift 13 [8]] := by
  decide +kernel

/-- **K1, negation of the full statement on the real cell.** In the table lox builds for
`examples/calc`, state 22 (`expr = expr '^' expr .`) on `'^'` holds, before resolution,
`shift I13` with **eight** contributing items of production 8 (one per lookahead) and
`reduce 8` (dumped from the real `createActions` by the correspondence family `resolve`, see its
`meta.json`). The documented decision for `@right(3)` against itself is *shift*; `resolveConflict`
keeps the *reduce*, so `2 ^ 3 ^ 2` is grouped `(2 ^ 3) ^ 2`. -/
theorem k1_calc_cell :
    let cell := [Action.shift 13 [8, 8, 8, 8, 8, 8, 8, 8], Action.reduce 8]
    (resolveOne calcInfo cell).2 = true ∧
      documented (calcInfo 8).prec (calcInfo 8).prec (calcInfo 8).rightAssoc = Keep.shift ∧
      (resolveOne calcInfo cell).1 = [Action.reduce 8] ∧
      (resolveOne calcInfo cell).1 ≠
        keepOf (.shift 13 [8, 8, 8, 8, 8, 8, 8, 8]) (.reduce 8)
          (documented (calcInfo 8).prec (calcInfo 8).prec (calcInfo 8).rightAssoc) := by
  decide +kernel

/-- Already two contributing items defeat `@right`. -/
example :
    let info : Nat → ProdInfo := fun _ => ⟨0, 3, true⟩
    resolveOne info [.shift 1 [0, 0], .reduce 0] = ([.reduce 0], true) := by
  decide +kernel

/-! ## The model with K1 switched off (`Lox.Dec.resolveOneDoc`) -/

/-- Repairing K1 cannot change any conflict verdict: the documented resolver resolves exactly the
cells the pinned one resolves (so C04's verdict theorems do not depend on K1). -/
theorem doc_same_verdict (info : Nat → ProdInfo) (acts : List Action) :
    (resolveOneDoc info acts).2 = (resolveOne info acts).2 := by
  have key : ∀ ps rp, (decideSRDoc info ps rp).isSome = (decideSR info ps rp).isSome := by
    intro ps rp
    cases ps with
    | nil => simp [decideSRDoc, decideSR]
    | cons p0 rest => cases h : decideSR info (p0 :: rest) rp <;> simp [decideSRDoc, h]
  rcases srPair_or_not acts with ⟨t, ps, rp, hacts⟩ | hno
  · rw [resolveOne_pair_snd info hacts, resolveOneDoc_pair info hacts, ← key]
    cases decideSRDoc info ps rp <;> rfl
  · rw [resolveOne_other info acts hno, resolveOneDoc_other info acts hno]

/-- The documented resolver (`resolveOneDoc`: known finding K1 repaired) leaves as many actions in
a cell as the pinned one. -/
theorem resolveOneDoc_length (info : Nat → ProdInfo) (acts : List Action) :
    (resolveOneDoc info acts).1.length = (resolveOne info acts).1.length := by
  have hdoc : (resolveOneDoc info acts).1.length =
      bif (resolveOneDoc info acts).2 then 1 else acts.length := by
    rcases srPair_or_not acts with ⟨t, ps, rp, hacts⟩ | hno
    · rw [resolveOneDoc_pair info hacts]
      cases decideSRDoc info ps rp with
      | none => rfl
      | some k => cases k <;> rfl
    · rw [resolveOneDoc_other info acts hno]
      rfl
  rw [hdoc, doc_same_verdict, resolveOne_length, cond_eq_ite]

/-- Under the K1 hypothesis the pinned resolver *is* the documented one on S/R cells. -/
theorem resolve_eq_doc_partial (info : Nat → ProdInfo) (t p0 : Nat) (rest : List Nat) (rp : Nat)
    (acts : List Action)
    (hacts : acts = [.shift t (p0 :: rest), .reduce rp] ∨ acts = [.reduce rp, .shift t (p0 :: rest)])
    (hK1 : (info p0).prec = (info rp).prec → (info rp).rightAssoc = true → p0 :: rest = [rp]) :
    resolveOne info acts = resolveOneDoc info acts := by
  have hd : decideSR info (p0 :: rest) rp = decideSRDoc info (p0 :: rest) rp := by
    cases hd : decideSR info (p0 :: rest) rp with
    | none => simp [decideSRDoc, hd]
    | some k =>
      simp only [decideSRDoc, hd]
      rw [(decideSR_cons_eq_some_iff.1 hd).2.2.2.2, documented_congr (switch_eq_assoc hK1)]
  rw [resolveOne_pair info hacts, resolveOneDoc_pair info hacts, hd]

/-- The hypotheses of `resolve_documented_shiftassoc_partial` and `resolve_eq_doc_partial` are
satisfiable as well (same cell), and a cell of different levels needs no `hK1` at all. -/
example :
    let info : Nat → ProdInfo := fun p => ⟨1, p, true⟩
    (resolveOne info [.reduce 2, .shift 13 [3, 3, 3]]).2 = true ∧
      ((info 3).prec = (info 2).prec → (info 2).rightAssoc = true → [3, 3, 3] = [2]) ∧
      resolveOne info [.reduce 2, .shift 13 [3, 3, 3]] = resolveOneDoc info [.reduce 2, .shift 13 [3, 3, 3]] := by
  decide +kernel

theorem srDecision_of_some {info : Nat → ProdInfo} {t : Nat} {ps : List Nat} {rp : Nat} {k : Keep}
    (hk : decideSR info ps rp = some k) :
    srDecision info [.shift t ps, .reduce rp] = some (decide (k = .reduce)) := by
  unfold srDecision
  rw [resolveOne_pair info (.inl rfl), hk]
  cases k <;> rfl

/-- **Known finding K1, general form.** A cell "`b` incoming, `a` on the stack" of an expression
rule (both productions in one rule, both qualified) whose shift has two or more contributing items
of `b` – which is what `createActions` produces, one item per lookahead – is resolved to *reduce*
iff `prec b ≤ prec a`, whatever the associativities are. -/
theorem k1_decision (info : Nat → ProdInfo) (t a b n : Nat)
    (hrule : (info b).rule = (info a).rule) (ha : 0 < (info a).prec) (hb : 0 < (info b).prec) :
    srDecision info [.shift t (List.replicate (n + 2) b), .reduce a] =
      some (decide ((info b).prec ≤ (info a).prec)) := by
  have hall : ∀ q ∈ List.replicate (n + 1) b,
      (info q).rule = (info b).rule ∧ (info q).prec = (info b).prec := fun q hq => by
    rw [List.eq_of_mem_replicate hq]; exact ⟨rfl, rfl⟩
  rw [List.replicate_succ,
    srDecision_of_some (decideSR_cons_eq_some_iff.2 ⟨hall, hrule, hb, ha, rfl⟩), Option.some.injEq, decide_eq_decide,
    documented_eq_reduce_iff]
  simp only [List.replicate_succ, List.isEmpty_cons, Bool.false_and, and_true]
  omega

/-- For comparison, the cell with a single contributing item: *shift* on equal precedence happens
only for a `@right` production against **itself**; two different `@right` operators of one level
are still grouped to the left (second facet of K1's site). -/
theorem single_item_decision (info : Nat → ProdInfo) (t a b : Nat)
    (hrule : (info b).rule = (info a).rule) (ha : 0 < (info a).prec) (hb : 0 < (info b).prec) :
    srDecision info [.shift t [b], .reduce a] =
      some (decide ((info b).prec < (info a).prec ∨
        ((info b).prec = (info a).prec ∧ ¬ (b = a ∧ (info b).rightAssoc = true)))) := by
  rw [srDecision_of_some (decideSR_cons_eq_some_iff.2 ⟨by simp, hrule, hb, ha, rfl⟩),
    Option.some.injEq, decide_eq_decide, documented_eq_reduce_iff]
  simp

/-- Non-vacuity of `k1_decision` / `single_item_decision` (`@right(3)` against itself). -/
example :
    let info : Nat → ProdInfo := fun _ => ⟨2, 3, true⟩
    (info 8).rule = (info 8).rule ∧ 0 < (info 8).prec ∧
      srDecision info [.shift 13 (List.replicate (6 + 2) 8), .reduce 8] = some true ∧
      srDecision info [.shift 13 [8], .reduce 8] = some false := by
  decide +kernel

/-- If every shift/reduce decision of the parser follows the documented
relation – with `a` the operator on the stack and `b` the incoming one: reduce iff `a`'s level is
higher, or the levels are equal and `a` is `@left` – then for **every** operand/operator sequence
the shift-reduce parser builds exactly the tree precedence climbing builds for the operator table:
higher `n` binds tighter, `@left` levels group left-to-right, `@right` levels right-to-left. On a
level mixing both, the associativity of the operator on the stack decides (this is what
precedence climbing does). Proof: `Lox.Dec.OpPrec.run_eq_unwind`, induction on the input with the
stack invariant `Inv` (precedences on the operator stack strictly increase, or stay equal only
across right-associative operators). -/
theorem op_machine_climb {Op Atom : Type} (table : Op → Nat × Bool) (dec : Op → Op → Bool)
    (hdec : DocumentedDecision table dec) (a0 : Atom) (ws : List (Op × Atom)) :
    opParse dec a0 ws = climb table a0 ws := by
  rw [opParse, run_eq_unwind table dec hdec ws [] (.leaf a0) trivial]
  rfl

/-- `docDec` satisfies `DocumentedDecision`: the hypothesis of `op_machine_climb` is satisfiable for
every table. -/
theorem docDec_documented {Op : Type} (table : Op → Nat × Bool) :
    DocumentedDecision table (docDec table) := by
  intro a b
  simp [docDec]

/-- `docDec` is `documented` read as "reduce?": shift precedence = level of the incoming operator,
reduce precedence and associativity = those of the operator on the stack. -/
theorem docDec_eq_documented {Op : Type} (table : Op → Nat × Bool) (a b : Op) :
    docDec table a b = (documented (table b).1 (table a).1 (table a).2 == Keep.reduce) := by
  rw [Bool.eq_iff_iff, beq_iff_eq, documented_eq_reduce_iff]
  simp only [docDec, Bool.or_eq_true, Bool.and_eq_true, decide_eq_true_eq, beq_iff_eq,
    Bool.not_eq_true', eq_comm (a := (table b).1)]

/-- Non-vacuity and a sanity check of both parsers on the calc table
(0 `+`, 1 `-` level 1 left; 2 `*`, 3 `/` level 2 left; 5 `^` level 3 right):
`1 + 2 * 3 ^ 4 ^ 5 - 6` is `(1 + (2 * (3 ^ (4 ^ 5)))) - 6`. -/
example :
    let table : Nat → Nat × Bool := fun o => if o ≤ 1 then (1, false) else if o ≤ 4 then (2, false) else (3, true)
    let ws : List (Nat × Nat) := [(0, 2), (2, 3), (5, 4), (5, 5), (1, 6)]
    opParse (docDec table) 1 ws = climb table 1 ws ∧
      climb table 1 ws =
        .node 1 (.node 0 (.leaf 1) (.node 2 (.leaf 2) (.node 5 (.leaf 3) (.node 5 (.leaf 4) (.leaf 5))))) (.leaf 6) := by
  decide +kernel

/-- **op_machine_k1 (what lox's parsers really do).** Let the S/R cell for "`a` on the stack, `b`
incoming" be what `createActions` builds for an expression rule – the shift carries
`items a b + 2 ≥ 2` contributing items of `b`'s production – and let the parser follow
`resolveOne` on it. Then for every operand/operator sequence it builds the precedence-climbing
tree of the table **with every operator forced `@left`**: levels are respected, `@right` is
ignored. -/
theorem op_machine_k1 {Op Atom : Type} (table : Op → Nat × Bool) (prodOf : Op → Nat)
    (info : Nat → ProdInfo) (rule : Nat)
    (hinfo : ∀ o, info (prodOf o) = ⟨rule, (table o).1, (table o).2⟩)
    (hpos : ∀ o, 0 < (table o).1)
    (target items : Op → Op → Nat) (dec : Op → Op → Bool)
    (hdec : ∀ a b, srDecision info
      [.shift (target a b) (List.replicate (items a b + 2) (prodOf b)), .reduce (prodOf a)] =
        some (dec a b))
    (a0 : Atom) (ws : List (Op × Atom)) :
    opParse dec a0 ws = climb (forceLeft table) a0 ws := by
  apply op_machine_climb
  intro a b
  have h := hdec a b
  rw [k1_decision info _ _ _ _ (by simp [hinfo]) (by simp [hinfo, hpos]) (by simp [hinfo, hpos])] at h
  have h' := Option.some.inj h
  rw [← h']
  simp only [hinfo, forceLeft, decide_eq_true_eq, and_true]
  omega

/-- The hypotheses of `op_machine_k1` are satisfiable: the calc table (operators 0 … 5, operator `o`
is production `o`, eight contributing items per shift). -/
example (a0 : Nat) (ws : List (Nat × Nat)) :
    let table : Nat → Nat × Bool := fun o => if o ≤ 1 then (1, false) else if o ≤ 4 then (2, false) else (3, true)
    let dec : Nat → Nat → Bool := fun a b => decide ((table b).1 ≤ (table a).1)
    opParse dec a0 ws = climb (forceLeft table) a0 ws := by
  intro table dec
  let info : Nat → ProdInfo := fun p => ⟨2, (table p).1, (table p).2⟩
  have hpos : ∀ o, 0 < (table o).1 := by
    intro o
    simp only [table]
    repeat' split
    all_goals decide
  refine op_machine_k1 table id info 2 (fun _ => rfl) hpos (fun _ _ => 13) (fun _ _ => 6) dec ?_ a0 ws
  intro a b
  exact k1_decision info 13 a b 6 rfl (hpos a) (hpos b)

/-- Non-vacuity of `op_machine_k1` and the visible consequence: with the calc table the machine
driven by the real decisions groups `2 ^ 3 ^ 2` to the left, precedence climbing to the right. -/
example :
    let table : Nat → Nat × Bool := fun o => if o ≤ 1 then (1, false) else if o ≤ 4 then (2, false) else (3, true)
    let info : Nat → ProdInfo := fun p => ⟨2, (table p).1, (table p).2⟩
    let dec : Nat → Nat → Bool := fun a b =>
      srDecision info [.shift 13 (List.replicate 8 b), .reduce a] == some true
    opParse dec 2 [(5, 3), (5, 2)] = .node 5 (.node 5 (.leaf 2) (.leaf 3)) (.leaf 2) ∧
      climb table 2 [(5, 3), (5, 2)] = .node 5 (.leaf 2) (.node 5 (.leaf 3) (.leaf 2)) ∧
      climb (forceLeft table) 2 [(5, 3), (5, 2)] = .node 5 (.node 5 (.leaf 2) (.leaf 3)) (.leaf 2) := by
  decide +kernel

end Lox.Props.C05
