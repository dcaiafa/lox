import Lox.Dec.TerminalsProofs
/-! C19 "Token constants: one per terminal, EOF = 0, ERROR = 1, same numbers in all tables".

`terminals s` is `Grammar.Terminals` (names) after the `CreateNames` traversal, `constBlock` the
`const ( NAME int = i … )` block of `base.gen.go`, `tokenToString` its `_TokenToString`.
Every table of the generator refers to a terminal through `Terminal.Index`, which `AddTerminal`
sets to the slice position; that all emitters use that field is the Go-side tie. -/
namespace Lox.Props.C19
open Lox.Dec.Terminals

/-- EOF is the first terminal and its constant is 0, for every spec. -/
theorem eof_zero (s : Spec) :
    (terminals s)[0]? = some "EOF" ∧ constOf (terminals s) "EOF" = some 0 ∧
      (constBlock (terminals s))[0]? = some ("EOF", 0) :=
  ⟨rfl, rfl, rfl⟩

/-- ERROR is the second terminal and its constant is 1, for every spec. -/
theorem error_one (s : Spec) :
    (terminals s)[1]? = some "ERROR" ∧ constOf (terminals s) "ERROR" = some 1 ∧
      (constBlock (terminals s))[1]? = some ("ERROR", 1) :=
  ⟨rfl, rfl, rfl⟩

/-- The `i`-th line of the const block names the `i`-th terminal and gives it the number `i`;
the numbers used are exactly `0 … n-1`, each once, in order. -/
theorem dense (ts : List String) :
    (constBlock ts).length = ts.length ∧
    (∀ i (h : i < ts.length), (constBlock ts)[i]? = some (ts[i], i)) ∧
    (constBlock ts).map (·.2) = List.range ts.length ∧
    (constBlock ts).map (·.1) = ts := by
  refine ⟨by simp [constBlock], fun i h => by simp [constBlock, h], ?_, ?_⟩
  · simp only [constBlock]
    apply List.ext_getElem <;> simp
  · simp only [constBlock]
    apply List.ext_getElem <;> simp

/-- `dense` for the terminals of a spec: there are at least the two built-in constants. -/
theorem dense_spec (s : Spec) :
    2 ≤ (terminals s).length ∧
    (constBlock (terminals s)).map (·.2) = List.range (terminals s).length :=
  ⟨by simp [terminals], (dense _).2.2.1⟩

/-- Two names never share a number (no uniqueness hypothesis needed): a constant determines its
terminal. -/
theorem number_determines_name (ts : List String) {a b : String} {k : Nat}
    (ha : (a, k) ∈ constBlock ts) (hb : (b, k) ∈ constBlock ts) : a = b := by
  have := (mem_constBlock.mp ha).symm.trans (mem_constBlock.mp hb)
  exact Option.some.inj this

/-- Given unique names (the front-end check, see `accepted_unique`): every declared terminal has
exactly one constant (`constOf` is total on declared terminals, and it is the only line of the
block with that name), and the map name ↦ number is injective. -/
theorem one_per_terminal (ts : List String) (hu : ts.Nodup) :
    (∀ n ∈ ts, ∃ k, constOf ts n = some k ∧ k < ts.length ∧
        ∀ j, (n, j) ∈ constBlock ts ↔ j = k) ∧
    (∀ a b k, constOf ts a = some k → constOf ts b = some k → a = b) := by
  constructor
  · intro n hn
    obtain ⟨k, hlt, rfl⟩ := List.getElem_of_mem hn
    have hk := List.getElem?_eq_getElem hlt
    refine ⟨k, constOf_of_getElem? hu hk, hlt, fun j => ⟨fun hj => ?_, ?_⟩⟩
    · exact Util.getElem?_inj_of_nodup hu (mem_constBlock.mp hj) hk
    · rintro rfl; exact mem_constBlock.mpr hk
  · intro a b k ha hb
    exact Option.some.inj ((constOf_eq_some ha).symm.trans (constOf_eq_some hb))

/-- Hypothesis of `one_per_terminal` is satisfiable on a spec with a mode, an external and two
files; and the resulting numbers. -/
example :
    let s : Spec := [[.token "A", .mode "m" [.token "B", .external ["C", "D"]], .other (some "r")],
      [.token "E"]]
    (terminals s).Nodup ∧
      constBlock (terminals s) =
        [("EOF", 0), ("ERROR", 1), ("A", 2), ("B", 3), ("C", 4), ("D", 5), ("E", 6)] := by
  decide +kernel

/-- The hypothesis matters: with a repeated name the const block has two lines for it. -/
example : constBlock (terminals [[.token "A", .token "A"]]) =
    [("EOF", 0), ("ERROR", 1), ("A", 2), ("A", 3)] := by decide +kernel

/-- A terminal declared earlier in traversal order has a smaller number, and every declared
terminal comes after EOF and ERROR. -/
theorem order (s : Spec) (hu : (terminals s).Nodup) {l₁ l₂ : List String} {a b : String}
    (hs : specNames s = l₁ ++ a :: l₂) (hb : b ∈ l₂) :
    ∃ i j, constOf (terminals s) a = some i ∧ constOf (terminals s) b = some j ∧ 1 < i ∧ i < j := by
  obtain ⟨m, hm, rfl⟩ := List.getElem_of_mem hb
  have ht : terminals s = ("EOF" :: "ERROR" :: l₁) ++ a :: l₂ := by rw [terminals, hs]; rfl
  have hlen : ("EOF" :: "ERROR" :: l₁).length = l₁.length + 2 := rfl
  have ha : (terminals s)[l₁.length + 2]? = some a := by
    rw [ht, List.getElem?_append_right (Nat.le_of_eq hlen), hlen, Nat.sub_self]; rfl
  have hb' : (terminals s)[l₁.length + 2 + (m + 1)]? = some l₂[m] := by
    rw [ht, List.getElem?_append_right (hlen ▸ Nat.le_add_right _ _), hlen,
      Nat.add_sub_cancel_left, List.getElem?_cons_succ, List.getElem?_eq_getElem hm]
  exact ⟨_, _, constOf_of_getElem? hu ha, constOf_of_getElem? hu hb',
    Nat.succ_lt_succ (Nat.succ_pos _), Nat.lt_add_of_pos_right (Nat.succ_pos m)⟩

/-- `order` is not vacuous. -/
example :
    let s : Spec := [[.token "A", .mode "m" [.token "B"]], [.external ["C"]]]
    (terminals s).Nodup ∧ specNames s = ["A"] ++ "B" :: ["C"] ∧ "C" ∈ ["C"] := by decide +kernel

/-- `_TokenToString` answers with the alias-or-name of the `t`-th terminal inside `0 … n-1` and
with `"???"` outside. -/
theorem to_string_cases (ts : List (String × Option String)) (t : Nat) :
    (∀ h : t < ts.length, tokenToString ts t = display ts[t]) ∧
    (ts.length ≤ t → tokenToString ts t = "???") := by
  constructor
  · intro h; simp [tokenToString, h]
  · intro h; simp [tokenToString, h]

/-- `"???"` exactly outside `0 … n-1`, provided no terminal is itself printed as `???`
(names never are, see `accepted_display`; an alias could be: the literal `'???'`). -/
theorem to_string_total (ts : List (String × Option String))
    (hq : ∀ p ∈ ts, display p ≠ "???") (t : Nat) :
    tokenToString ts t = "???" ↔ ts.length ≤ t := by
  constructor
  · intro h
    by_cases hl : t < ts.length
    · rw [(to_string_cases ts t).1 hl] at h
      exact absurd h (hq _ (List.getElem_mem hl))
    · omega
  · exact (to_string_cases ts t).2

/-- Hypothesis of `to_string_total` is satisfiable (with an alias present). -/
example : ∀ p ∈ [("EOF", none), ("ERROR", none), ("ADD", some "+")], display p ≠ "???" := by decide +kernel

/-- Without it the statement fails: a terminal whose alias is the literal `???`. -/
example : tokenToString [("EOF", none), ("ERROR", none), ("Q", some "???")] 2 = "???" := by decide +kernel

/-- The front-end check: if pass `CreateNames` reports no error then the grammar's terminal list
is `terminals s`, its names are pairwise distinct, and every declared name passed
`validateTokenName`. -/
theorem accepted_unique (s : Spec) (hok : (createNames s).err = false) :
    (createNames s).terms = terminals s ∧ (terminals s).Nodup ∧
      ∀ n ∈ specNames s, validTokenName n = true := by
  have h := runSpec_spec Ctx.init s
  obtain ⟨-, ht, hv⟩ := h.2 hok
  have hi := (h.1 inv_init).1
  refine ⟨ht, ?_, hv⟩
  rw [← show (createNames s).terms = terminals s from ht]
  exact hi

/-- `accepted_unique` is not vacuous (and a redefinition is rejected). -/
example :
    (createNames [[.token "A", .mode "m" [.token "B_1", .external ["C"]]], [.token "D"]]).err = false ∧
    (createNames [[.token "A", .mode "A" [.token "B"]]]).err = true ∧
    (createNames [[.token "A"], [.external ["A"]]]).err = true ∧
    (createNames [[.token "EOF"]]).err = true := by decide +kernel

/-- For an accepted spec `_TokenToString` (the generator passes no alias) is `"???"` exactly
outside the constants. -/
theorem accepted_display (s : Spec) (hok : (createNames s).err = false) (t : Nat) :
    tokenToString ((terminals s).map (fun n => (n, none))) t = "???" ↔ (terminals s).length ≤ t := by
  have h := to_string_total ((terminals s).map (fun n => (n, none))) ?_ t
  · simpa using h
  · intro p hp
    obtain ⟨n, hn, rfl⟩ := List.mem_map.mp hp
    simp only [display]
    simp only [terminals, List.mem_cons] at hn
    rcases hn with rfl | rfl | hn
    · decide
    · decide
    · exact valid_ne_qqq ((accepted_unique s hok).2.2 n hn)

/-- The const-block claims of C19 together for an accepted spec, without side hypotheses
(`_TokenToString`: `accepted_display`; declaration order: `order`). -/
theorem accepted_constants (s : Spec) (hok : (createNames s).err = false) :
    constOf (terminals s) "EOF" = some 0 ∧ constOf (terminals s) "ERROR" = some 1 ∧
    (∀ n ∈ terminals s, ∃ k, constOf (terminals s) n = some k ∧ k < (terminals s).length) ∧
    (∀ a b k, constOf (terminals s) a = some k → constOf (terminals s) b = some k → a = b) ∧
    (constBlock (terminals s)).map (·.2) = List.range (terminals s).length := by
  have hu := (accepted_unique s hok).2.1
  have h1 := one_per_terminal _ hu
  refine ⟨rfl, rfl, fun n hn => ?_, h1.2, (dense _).2.2.1⟩
  obtain ⟨k, hk, hlt, -⟩ := h1.1 n hn
  exact ⟨k, hk, hlt⟩

end Lox.Props.C19
