import Lox.LR.CheckSound
import Lox.LR.ParseClean
import Lox.LR.RuntimeSoundPanic
import Lox.LR.RuntimeSoundTerm
import Lox.LR.SoundLog
import Lox.LR.TermSound
import Lox.LR.TermCounter
import Lox.LR.Example
/-! # C01 — the generated parser accepts exactly L(G)

Specification: `Lox.LR.Der` (derivations with trees), `Lox.LR.startSym`.
Machine: `Lox.LR.Abs.run` (the loop of the generated `parse` without recovery) over the automaton
`Lox.LR.autoOf T cert` whose lookups are the generated `_Find` on the emitted `_actions`/`_goto`.
Validator: `Lox.LR.check` (run per emitted artefact by `lr.validate`), sound by `check_sound`.

The abstract theorems hold for every automaton satisfying `Valid` / `Safe`; the `tables_*` theorems
are what one `ok` answer of the validator means for EVERY token sequence; the `parse_*` theorems and
the clean-run theorems (`sentence_clean` … `accept_iff_of_noerror`) say the same of the model of the
generated `parse` with `_recover` (`Lox.LR.parse`). -/
namespace Lox.Props.C01
open Lox.LR Lox.LR.Abs

variable {G : Grammar} {A : Auto} {first : List Sym → Nat → List Nat}

/-- Completeness: a sentence with derivation tree `t` is accepted, with exactly that tree (and the
reductions performed are the post-order of `t`). No fuel bound is needed from the caller: some
fuel suffices. -/
theorem complete (hv : Valid G A first) (hf : FirstOK G first) {w : List Nat} {t : Tree}
    (hd : Der G [.n (startSym G)] w [t]) : ∃ fuel, run G A fuel (init w) = .acc t t.post :=
  complete_run hv hf hd

/-- Soundness: whatever the fuel, an accepting run returns a derivation tree of the whole input
(the input must not contain the EOF terminal 0 itself). -/
theorem sound (hs : Safe G A) {w : List Nat} (hw : eof ∉ w) {fuel : Nat} {t : Tree}
    {lg : List (Nat × List Tree)} (h : run G A fuel (init w) = .acc t lg) :
    Der G [.n (startSym G)] w [t] :=
  sound_run hs hw h

/-- Unambiguity: a grammar with a valid automaton has at most one derivation tree per sentence. -/
theorem unambiguous (hv : Valid G A first) (hf : FirstOK G first) {w : List Nat} {t₁ t₂ : Tree}
    (h₁ : Der G [.n (startSym G)] w [t₁]) (h₂ : Der G [.n (startSym G)] w [t₂]) : t₁ = t₂ := by
  obtain ⟨n₁, r₁⟩ := complete_run hv hf h₁
  obtain ⟨n₂, r₂⟩ := complete_run hv hf h₂
  have := run_det r₁ r₂ (by simp) (by simp)
  simp at this
  exact this.1

/-- Exactness (headline): the machine accepts `w` with tree `t` iff `t` is a derivation tree of `w`
from the start symbol. -/
theorem exact (hv : Valid G A first) (hs : Safe G A) (hf : FirstOK G first) {w : List Nat}
    (hw : eof ∉ w) (t : Tree) :
    (∃ fuel lg, run G A fuel (init w) = .acc t lg) ↔ Der G [.n (startSym G)] w [t] :=
  ⟨fun ⟨_, _, h⟩ => sound_run hs hw h, fun h => (complete_run hv hf h).imp fun _ h => ⟨_, h⟩⟩

/-- Rejection: if the run fails (no action / no goto) the input is not a sentence. -/
theorem reject (hv : Valid G A first) (hf : FirstOK G first) {w : List Nat} {fuel : Nat}
    (h : run G A fuel (init w) = .fail) : ¬ ∃ t, Der G [.n (startSym G)] w [t] := by
  rintro ⟨t, hd⟩
  obtain ⟨n, r⟩ := complete_run hv hf hd
  have := run_det r h (by simp) (by simp)
  simp at this

/-- The verdict does not depend on the fuel: two runs that both finish agree. -/
theorem deterministic {w : List Nat} {n m : Nat} {r r' : Res} (h : run G A n (init w) = r)
    (h' : run G A m (init w) = r') (hr : r ≠ .timeout) (hr' : r' ≠ .timeout) : r = r' :=
  run_det h h' hr hr'

variable {nTerms nRules : Nat} {T : Tables} {cert : Array (List Item)}

/-- **C01 for a validated artefact.** If `check` accepted (grammar, emitted arrays, item
certificate) then for every token sequence `w` (without the EOF terminal inside) the table-driven
machine accepts `w` with tree `t` exactly when `t` is a derivation tree of `w`. -/
theorem tables_exact (h : check G nTerms nRules T cert = .ok ()) {w : List Nat} (hw : eof ∉ w)
    (t : Tree) :
    (∃ fuel lg, run G (autoOf T cert) fuel (init w) = .acc t lg) ↔
      Der G [.n (startSym G)] w [t] :=
  let ⟨hv, hs, hf⟩ := check_sound h
  exact hv hs hf hw t

/-- A validated artefact never accepts a non-sentence, never returns a wrong tree, whatever the
fuel. -/
theorem tables_sound (h : check G nTerms nRules T cert = .ok ()) {w : List Nat} (hw : eof ∉ w)
    {fuel : Nat} {t : Tree} {lg : List (Nat × List Tree)}
    (hr : run G (autoOf T cert) fuel (init w) = .acc t lg) : Der G [.n (startSym G)] w [t] :=
  sound (check_sound h).2.1 hw hr

/-- A validated artefact accepts every sentence, returning its derivation tree. -/
theorem tables_complete (h : check G nTerms nRules T cert = .ok ()) {w : List Nat} {t : Tree}
    (hd : Der G [.n (startSym G)] w [t]) :
    ∃ fuel, run G (autoOf T cert) fuel (init w) = .acc t t.post :=
  complete (check_sound h).1 (check_sound h).2.2 hd

/-- A validated grammar is unambiguous. -/
theorem tables_unambiguous (h : check G nTerms nRules T cert = .ok ()) {w : List Nat}
    {t₁ t₂ : Tree} (h₁ : Der G [.n (startSym G)] w [t₁]) (h₂ : Der G [.n (startSym G)] w [t₂]) :
    t₁ = t₂ :=
  unambiguous (check_sound h).1 (check_sound h).2.2 h₁ h₂

/-- If the validated machine stops without an action, the input is not a sentence. -/
theorem tables_reject (h : check G nTerms nRules T cert = .ok ()) {w : List Nat} {fuel : Nat}
    (hr : run G (autoOf T cert) fuel (init w) = .fail) : ¬ ∃ t, Der G [.n (startSym G)] w [t] :=
  reject (check_sound h).1 (check_sound h).2.2 hr

/-! ### The model of the GENERATED `parse` (`Lox.LR.parse`, Model.lean) on validated tables

`Lox.LR.parse T inp withBounds fuel` is the transcription of the generated Go `parse` (with
`_readToken`, `_recover`, `_Bounds`; out-of-range reads and failed type assertions are explicit
`panic` outcomes) that the correspondence harness ties to the compiled parsers (`lr.parse`).
`inp` is the array of token types the lexer returns (then EOF forever). -/

/-- **Every sentence is accepted by the generated parser** (also for grammars with `@error`
productions: on a sentence `_recover` is never entered). The `_act` calls logged are the
post-order of the derivation tree and the value left on top of the stack is the tree. -/
theorem parse_complete (h : check G nTerms nRules T cert = .ok ()) {w : List Nat}
    (hw : ∀ x ∈ w, x ≠ 1) {t : Tree} (hd : Der G [.n (startSym G)] w [t]) (wb : Bool) :
    ∃ n, ∀ fuel, n ≤ fuel →
      (parse T w.toArray wb fuel).1 = .accept ∧
      (actsOf (parse T w.toArray wb fuel).2.log).reverse = t.post ∧
      (parse T w.toArray wb fuel).2.stack.head?.map (fun e => e.sym.toTree) = some t := by
  obtain ⟨n, hn⟩ := tables_complete h hd
  exact ⟨n, fun fuel hf => Rt.parse_accept (check_spec h).toSafeOK wb hn hf⟩

/-- **The generated parser accepts only sentences** (tables without ERROR actions, i.e. the grammar
has no `@error`; input without EOF/ERROR token types), whatever the fuel; the logged `_act` calls
are the post-order of the unique derivation tree. -/
theorem parse_sound (h : check G nTerms nRules T cert = .ok ())
    (hne : NoErrorActions T cert.size) {w : List Nat} (hw0 : eof ∉ w) (hw : ∀ x ∈ w, x ≠ 1)
    (wb : Bool) (fuel : Nat) (hacc : (parse T w.toArray wb fuel).1 = .accept) :
    ∃ t, Der G [.n (startSym G)] w [t] ∧
      (actsOf (parse T w.toArray wb fuel).2.log).reverse = t.post ∧
      (parse T w.toArray wb fuel).2.stack.head?.map (fun e => e.sym.toTree) = some t :=
  Rt.accept_of_noerr (check_spec h).toSafeOK hne hw0 hw wb fuel hacc

/-- **The generated parser never panics** on validated tables without ERROR actions (no index out
of range in `_Find`/`_rules`/`_termCounts`, no peek beyond the stack, no failed type assertion). -/
theorem parse_no_panic (h : check G nTerms nRules T cert = .ok ())
    (hne : NoErrorActions T cert.size) {w : List Nat} (hw : ∀ x ∈ w, x ≠ 1)
    (wb : Bool) (fuel : Nat) (m : String) : (parse T w.toArray wb fuel).1 ≠ .panic m :=
  Rt.parse_no_panic (check_spec h).toSafeOK _ wb fuel m

/-! Clean runs. `parseG` (Lox/LR/RuntimeDefs.lean) is `parse` with a ghost counter of the
`_recover()` calls that returned `true`; a run is CLEAN when that counter is 0. With `@error`
productions `parse()` may also return `true` after a recovery, on a non-sentence (C09). -/

/-- **Every sentence is accepted cleanly**, with or without `_onBounds`, for every sufficient fuel
(also for grammars with `@error` productions: on a sentence `_recover()` is never entered). -/
theorem sentence_clean (hc : check G nTerms nRules T cert = .ok ()) {w : List Nat}
    (hw2 : ∀ x ∈ w, 2 ≤ x) (hs : ∃ t, Der G [.n (startSym G)] w [t]) (wb : Bool) :
    ∃ N, ∀ fuel, N ≤ fuel →
      (Rt.parseG T w.toArray wb fuel).1 = .accept ∧ (Rt.parseG T w.toArray wb fuel).2.2 = 0 := by
  obtain ⟨t, hd⟩ := hs
  obtain ⟨N, hN⟩ := parse_complete hc (w := w) (fun x hx => by have := hw2 x hx; omega) hd wb
  obtain ⟨n, hrun⟩ := tables_complete hc hd
  exact ⟨N, fun fuel hf => ⟨by rw [Rt.parseG_fst]; exact (hN fuel hf).1,
    (Rt.parseG_sentence_clean (check_spec hc).toSafeOK hrun wb fuel).1⟩⟩

/-- **A rejection, or a recovery, happens only on a non-sentence**: if `parse()` returns `false`
or `_recover()` returned `true` at least once – whatever the fuel – the input is not a sentence. -/
theorem not_sentence_of_reject (hc : check G nTerms nRules T cert = .ok ()) {w : List Nat}
    {wb : Bool} {fuel : Nat}
    (hrej : (Rt.parseG T w.toArray wb fuel).1 = .reject ∨ 0 < (Rt.parseG T w.toArray wb fuel).2.2) :
    ¬ ∃ t, Der G [.n (startSym G)] w [t] := by
  rintro ⟨t, hd⟩
  obtain ⟨n, hrun⟩ := tables_complete hc hd
  obtain ⟨h1, h2⟩ := Rt.parseG_sentence_clean (check_spec hc).toSafeOK hrun wb fuel
  rcases hrej with h | h
  · exact h2 h
  · omega

/-- **Exactly the sentences are accepted cleanly** (for some fuel; then, by `sentence_clean`, for
every larger one). -/
theorem clean_accept_iff (hc : check G nTerms nRules T cert = .ok ()) {w : List Nat}
    (hw2 : ∀ x ∈ w, 2 ≤ x) (wb : Bool) :
    (∃ fuel, (Rt.parseG T w.toArray wb fuel).1 = .accept ∧
        (Rt.parseG T w.toArray wb fuel).2.2 = 0) ↔
      ∃ t, Der G [.n (startSym G)] w [t] := by
  constructor
  · rintro ⟨fuel, hacc, h0⟩
    obtain ⟨_, v, _, _, _, hd, _, _⟩ := Rt.clean_accept (check_spec hc).toSafeOK (w := w)
      (fun x hx => by have := hw2 x hx; omega) (fun x hx => by have := hw2 x hx; omega) hacc h0
    exact ⟨_, hd⟩
  · intro hs
    obtain ⟨N, hN⟩ := sentence_clean hc hw2 hs wb
    exact ⟨N, hN N (Nat.le_refl N)⟩

/-- For tables that hold no ERROR action (decidable per artefact: `noErrorB`), clean or not makes
no difference: `parse()` returns `true` iff the input is a sentence. -/
theorem accept_iff_of_noerror (hc : check G nTerms nRules T cert = .ok ())
    (hne : NoErrorActions T cert.size) {w : List Nat} (hw2 : ∀ x ∈ w, 2 ≤ x) (wb : Bool) :
    (∃ fuel, (parse T w.toArray wb fuel).1 = .accept) ↔ ∃ t, Der G [.n (startSym G)] w [t] := by
  constructor
  · rintro ⟨fuel, hacc⟩
    obtain ⟨t, hd, _⟩ := parse_sound hc hne (w := w)
      (fun h => by have := hw2 _ h; simp [eof] at this)
      (fun x hx => by have := hw2 x hx; omega) wb fuel hacc
    exact ⟨t, hd⟩
  · intro hs
    obtain ⟨N, hN⟩ := sentence_clean hc hw2 hs wb
    exact ⟨N, by rw [← Rt.parseG_fst]; exact (hN N (Nat.le_refl N)).1⟩

/-- **A rejected input is not a sentence** (same premises). -/
theorem parse_reject (h : check G nTerms nRules T cert = .ok ())
    (hne : NoErrorActions T cert.size) {w : List Nat} (hw : ∀ x ∈ w, x ≠ 1)
    (wb : Bool) (fuel : Nat) (hrej : (parse T w.toArray wb fuel).1 = .reject) :
    ¬ ∃ t, Der G [.n (startSym G)] w [t] :=
  not_sentence_of_reject h (.inl (by rw [Rt.parseG_fst]; exact hrej))

/-! ### The soundness half alone: tables whose conflicts were resolved by `@left/@right`

For such grammars (e.g. examples/calc, examples/bolox) the generator deletes actions, the grammar is
ambiguous and `check` rejects the completeness side. `checkSafe` (op `lr.validate_safe`) still
passes and gives: nothing but sentences is accepted, the returned tree is a derivation tree of the
input, and the reductions performed are its post-order. -/

/-- **Soundness for a `checkSafe`-validated artefact**, whatever the fuel. -/
theorem tables_sound_safe (h : checkSafe G nTerms nRules T cert = .ok ()) {w : List Nat}
    (hw : eof ∉ w) {fuel : Nat} {t : Tree} {lg : List (Nat × List Tree)}
    (hr : run G (autoOf T cert) fuel (init w) = .acc t lg) :
    Der G [.n (startSym G)] w [t] ∧ lg = t.post :=
  ⟨sound (checkSafe_sound h) hw hr, sound_log (checkSafe_sound h) hr⟩

/-- The model of the generated `parse` on `checkSafe`-validated tables without ERROR actions:
it accepts only sentences, the value it leaves is a derivation tree of the input and the `_act`
calls are that tree's post-order; and it never panics. -/
theorem parse_sound_safe (h : checkSafe G nTerms nRules T cert = .ok ())
    (hne : NoErrorActions T cert.size) {w : List Nat} (hw0 : eof ∉ w) (hw : ∀ x ∈ w, x ≠ 1)
    (wb : Bool) (fuel : Nat) :
    (∀ m, (parse T w.toArray wb fuel).1 ≠ .panic m) ∧
    ((parse T w.toArray wb fuel).1 = .accept →
      ∃ t, Der G [.n (startSym G)] w [t] ∧
        (actsOf (parse T w.toArray wb fuel).2.log).reverse = t.post ∧
        (parse T w.toArray wb fuel).2.stack.head?.map (fun e => e.sym.toTree) = some t) :=
  ⟨Rt.parse_no_panic (checkSafe_spec h) _ wb fuel,
    Rt.accept_of_noerr (checkSafe_spec h) hne hw0 hw wb fuel⟩

/-! ### Termination

`Valid ∧ Safe` do not bound the number of consecutive reductions on a NON-sentence
(`termination_needs_more`: tables that pass `check` and loop forever). The validator therefore runs
a second check, `termB` (all local reduce-only runs leave their local stack within a fuel), and
with it the machine finishes on every input, i.e. it DECIDES the language. -/

/-- Abstract termination (`Abs.LocalTerm` is what `termB` establishes). -/
theorem terminates {F : Nat} (hs : Safe G A) (hl : LocalTerm G A F) (w : List Nat) :
    ∃ fuel, run G A fuel (init w) ≠ .timeout :=
  Abs.terminates hs hl w

/-- `check` alone cannot give termination: these tables pass `check`, and the run on `b` (not a
sentence) is out of fuel for every fuel. -/
theorem termination_needs_more :
    check TermCounter.G 4 3 TermCounter.T TermCounter.cert = .ok () ∧
      ∀ fuel, run TermCounter.G (autoOf TermCounter.T TermCounter.cert) fuel (init [3]) =
        .timeout :=
  TermCounter.check_does_not_imply_termination

/-- **The validated machine decides L(G)**: with `check` and `termB`, for every token sequence some
fuel suffices, and the verdict is right: accept with the derivation tree, or fail on a
non-sentence. -/
theorem tables_decide (h : check G nTerms nRules T cert = .ok ()) (ht : termB G T cert = true)
    {w : List Nat} (hw : eof ∉ w) :
    ∃ fuel, (∃ t, run G (autoOf T cert) fuel (init w) = .acc t t.post ∧
              Der G [.n (startSym G)] w [t]) ∨
            (run G (autoOf T cert) fuel (init w) = .fail ∧
              ¬ ∃ t, Der G [.n (startSym G)] w [t]) := by
  obtain ⟨n, hn⟩ := tables_terminate h ht w
  refine ⟨n, ?_⟩
  cases hr : run G (autoOf T cert) n (init w) with
  | acc t lg =>
    exact Or.inl ⟨t, by rw [sound_log (check_sound h).2.1 hr], tables_sound h hw hr⟩
  | fail => exact Or.inr ⟨rfl, tables_reject h hr⟩
  | timeout => exact absurd hr hn

/-- **The generated parser decides L(G)** (model `Lox.LR.parse`; tables validated by `check` and
`termB`, no ERROR actions, input without EOF/ERROR token types): from some fuel on the outcome is
`accept` exactly for sentences and `reject` otherwise – never `panic`, never `timeout`. -/
theorem parse_decides (h : check G nTerms nRules T cert = .ok ()) (ht : termB G T cert = true)
    (hne : NoErrorActions T cert.size) {w : List Nat} (hw0 : eof ∉ w) (hw : ∀ x ∈ w, x ≠ 1)
    (wb : Bool) :
    ∃ N, ∀ fuel, N ≤ fuel →
      ((parse T w.toArray wb fuel).1 = .accept ∧ ∃ t, Der G [.n (startSym G)] w [t]) ∨
      ((parse T w.toArray wb fuel).1 = .reject ∧ ¬ ∃ t, Der G [.n (startSym G)] w [t]) := by
  have hc := (check_spec h).toSafeOK
  obtain ⟨N, hN⟩ := Rt.parse_terminates_checked hc ht (Rt.recoveryOKB_of_noerr hne) w.toArray wb
  refine ⟨N, fun fuel hf => ?_⟩
  cases ho : (parse T w.toArray wb fuel).1 with
  | accept => exact .inl ⟨rfl, (parse_sound h hne hw0 hw wb fuel ho).imp fun _ h => h.1⟩
  | reject => exact .inr ⟨rfl, parse_reject h hne hw wb fuel ho⟩
  | panic m => exact absurd ho (parse_no_panic h hne hw wb fuel m)
  | timeout => exact absurd ho (hN fuel hf)

/-- Termination also for `checkSafe`-validated tables. -/
theorem tables_terminate_safe (h : checkSafe G nTerms nRules T cert = .ok ())
    (ht : termB G T cert = true) (w : List Nat) :
    ∃ fuel, run G (autoOf T cert) fuel (init w) ≠ .timeout :=
  Lox.LR.tables_terminate_safe h ht w

/-! ### Non-vacuity: the hypotheses hold for tables emitted by the real generator -/

example : checkSafe Example.G 4 2 Example.T Example.cert = .ok () :=
  checkSafe_ok_iff.mpr (by decide +kernel)

/-- A precedence-resolved artefact: `check` rejects, `checkSafe` and `termB` accept. -/
example : checkB ExamplePrec.G 4 2 ExamplePrec.T ExamplePrec.cert = false ∧
    checkSafe ExamplePrec.G 4 2 ExamplePrec.T ExamplePrec.cert = .ok () ∧
    termB ExamplePrec.G ExamplePrec.T ExamplePrec.cert = true :=
  ⟨ExamplePrec.checkB_fails, ExamplePrec.checkSafe_ok, ExamplePrec.termB_ok⟩

example : LocalTerm Example.G (autoOf Example.T Example.cert)
    (termFuel Example.G Example.cert) :=
  termB_spec (checkB_spec Example.checkB_ok).toSafeOK Example.termB_ok

/-- All hypotheses of `parse_decides` hold for the example tables. -/
example : ∃ N, ∀ fuel, N ≤ fuel →
    ((parse Example.T [2, 2, 3].toArray false fuel).1 = .accept ∧
      ∃ t, Der Example.G [.n (startSym Example.G)] [2, 2, 3] [t]) ∨
    ((parse Example.T [2, 2, 3].toArray false fuel).1 = .reject ∧
      ¬ ∃ t, Der Example.G [.n (startSym Example.G)] [2, 2, 3] [t]) :=
  parse_decides Example.check_ok Example.termB_ok (noErrorB_spec Example.noErrorB_ok)
    (by decide) (by decide) false

example : termB Example.G Example.T Example.cert = true := Example.termB_ok

example : NoErrorActions Example.T Example.cert.size :=
  noErrorB_spec Example.noErrorB_ok

/-- The model of the generated parser on the example tables: accepts `a a b`, rejects `a a`. -/
example : (parse Example.T #[2, 2, 3] false 20).1 = .accept := by decide +kernel
example : (parse Example.T #[2, 2] false 20).1 = .reject := by decide +kernel

example : check Example.G 4 2 Example.T Example.cert = .ok () := Example.check_ok

example : Valid Example.G (autoOf Example.T Example.cert) (firstOf (firstFix Example.G 4 2)) ∧
    Safe Example.G (autoOf Example.T Example.cert) ∧
    FirstOK Example.G (firstOf (firstFix Example.G 4 2)) := check_sound Example.check_ok

/-- `a a b` is a sentence of the example grammar, so by `tables_complete` the machine accepts it. -/
example : ∃ fuel, run Example.G (autoOf Example.T Example.cert) fuel (init [2, 2, 3]) =
    .acc Example.tree Example.tree.post := tables_complete Example.check_ok Example.der_aab

end Lox.Props.C01
