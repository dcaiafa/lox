import Lox.Lex.RuntimeActions
import Lox.Props.C11
/-! # C07 – Mode stack; every action takes effect

"After a rule carrying @push_mode(M) matches, lexing continues in M; after @pop_mode, in the mode
that was current before the matching push; @emit(T) on a fragment emits T with the accumulated
text, @discard drops it, and an action-less fragment's text is kept and becomes the beginning of
the text of the next rule that emits or discards. Every action written on a rule takes effect when
that rule matches, whatever order the actions are written in."

Three layers, all for **every** input / table / action list:

1. written actions → stored pairs (`Lox/Lex/Actions.lean`: `tokenRulePairs`, `fragRulePairs`, the
   model of `TokenRule/FragRule.RunPass(GenerateGrammar)`; after the fix of D8 the terminal action
   is stored after the mode actions);
2. stored pairs → `PushRune`'s action loop (`runActions` of `Lox/Lex/Model.lean`) against the
   abstract mode stack `applyModeActs` / `applyW`;
3. whole runs of the driver (`lexAllG`, the ghost-instrumented `lexAll`): `mode_stack_discipline`,
   `accum_prefix`.

`SM.reset` (after an ERROR token) resets mode and state but **not** the mode stack – modelled as
is (`absStep`, `reset_keeps_stack`). -/
namespace Lox.Props.C07
open Lox.Lex Lox.Lex.Rt

/-! ## The action loop applies every mode action in order -/

/-- **`runActions` on a well-formed action section** `pre ++ [t]` (mode actions, then the one
terminal pair) stored at `i`: the result is the terminal result and the state machine has
`(mode, stack) = applyModeActs pre (mode, stack)` – every push/pop applied, in order. A pop on the
empty stack (`applyModeActs = none`) is exactly the `_lexerError` result; the state machine then
keeps what had been applied so far (`applyModeActsT`). -/
theorem runActions_mode_stack (modes : Array Mode) (m : Mode) (r : Int) (pre : List Pair) (t : Pair)
    (i : Int) (fuel : Nat) (sm : SM) (mo : Nat)
    (hdec : readPairs m (pre ++ [t]).length i = some (pre ++ [t]))
    (hpre : ∀ p ∈ pre, (p.1 = 1 ∧ p.2.toNat < modes.size) ∨ p.1 = 2)
    (ht : t.1 = 3 ∨ t.1 = 4 ∨ t.1 = 5) (hmo : sm.mode = some mo)
    (hfuel : (pre ++ [t]).length < fuel) :
    runActions modes m r fuel i (i + 2 * ((pre ++ [t]).length : Int)) sm =
      some (match applyModeActs pre (mo, sm.modeStack) with
        | some ms => terminalEffect t { sm with mode := some ms.1, modeStack := ms.2 }
        | none =>
          (.error, { sm with mode := some (applyModeActsT pre (mo, sm.modeStack)).1,
                             modeStack := (applyModeActsT pre (mo, sm.modeStack)).2 })) := by
  rw [runActions_eq modes m r (pre ++ [t]) i fuel sm hdec hfuel,
    execPairs_wf modes.size r pre t sm mo hpre ht hmo]
  rfl

/-- `@pop_mode` on the empty stack is the `_lexerError` result, and only that. -/
theorem pop_empty_error (modes : Array Mode) (m : Mode) (r : Int) (pre : List Pair) (t : Pair)
    (i : Int) (fuel : Nat) (sm : SM) (mo : Nat)
    (hdec : readPairs m (pre ++ [t]).length i = some (pre ++ [t]))
    (hpre : ∀ p ∈ pre, (p.1 = 1 ∧ p.2.toNat < modes.size) ∨ p.1 = 2)
    (ht : t.1 = 3 ∨ t.1 = 4 ∨ t.1 = 5) (hmo : sm.mode = some mo)
    (hfuel : (pre ++ [t]).length < fuel) :
    applyModeActs pre (mo, sm.modeStack) = none ↔
      ∃ sm', runActions modes m r fuel i (i + 2 * ((pre ++ [t]).length : Int)) sm
        = some (.error, sm') := by
  rw [runActions_mode_stack modes m r pre t i fuel sm mo hdec hpre ht hmo hfuel]
  cases h : applyModeActs pre (mo, sm.modeStack) with
  | none => simp
  | some ms =>
    simp only [Option.some.injEq, reduceCtorEq, false_iff, not_exists]
    intro sm' he
    obtain ⟨res, _, hres, _, e⟩ :=
      terminalEffect_eq t { sm with mode := some ms.1, modeStack := ms.2 } ht
    rw [e] at he
    cases he
    rcases hres with h | h | h <;> cases h

/-! ## Every written action takes effect, whatever the order -/

/-- **`all_effective`, fragment rules.** For every written action list `ws` accepted for a
`@frag` rule, executing the emitted pairs (wherever they are stored in a table) performs every
mode action of `ws` in written order (`applyW`) and then exactly the one terminal action of `ws`
(`writtenTerminal`: the written `@emit(T)`/`@discard`, accumulate if there is none) – independent
of where the terminal action was written. A written `@pop_mode` meeting an empty stack gives
`_lexerError`. -/
theorem all_effective_frag (ws : List WAction) (ps : List Pair) (h : fragRulePairs ws = some ps)
    (modes : Array Mode) (m : Mode) (r : Int) (i : Int) (fuel : Nat) (sm : SM) (mo : Nat)
    (hdec : readPairs m ps.length i = some ps)
    (hn : ∀ k, WAction.pushMode k ∈ ws → k < modes.size) (hmo : sm.mode = some mo)
    (hfuel : ps.length < fuel) :
    runActions modes m r fuel i (i + 2 * (ps.length : Int)) sm =
      some (match applyW ws (mo, sm.modeStack) with
        | some ms =>
          terminalEffect (writtenTerminal accumPair ws) { sm with mode := some ms.1, modeStack := ms.2 }
        | none =>
          (.error, { sm with mode := some (applyModeActsT (modePairs ws) (mo, sm.modeStack)).1,
                             modeStack := (applyModeActsT (modePairs ws) (mo, sm.modeStack)).2 })) := by
  have hps := fragRulePairs_eq h
  subst hps
  rw [runActions_eq modes m r _ i fuel sm hdec hfuel,
    execPairs_written modes.size r ws accumPair sm mo (by decide) hn hmo]
  rfl

/-- **`all_effective`, token rules**: the written mode actions in written order, then accept of
the rule's own terminal. -/
theorem all_effective_token (terminal : Nat) (ws : List WAction) (ps : List Pair)
    (h : tokenRulePairs terminal ws = some ps)
    (modes : Array Mode) (m : Mode) (r : Int) (i : Int) (fuel : Nat) (sm : SM) (mo : Nat)
    (hdec : readPairs m ps.length i = some ps)
    (hn : ∀ k, WAction.pushMode k ∈ ws → k < modes.size) (hmo : sm.mode = some mo)
    (hfuel : ps.length < fuel) :
    runActions modes m r fuel i (i + 2 * (ps.length : Int)) sm =
      some (match applyW ws (mo, sm.modeStack) with
        | some ms =>
          (.accept, { sm with mode := some ms.1, modeStack := ms.2, token := terminal, state := 0 })
        | none =>
          (.error, { sm with mode := some (applyModeActsT (modePairs ws) (mo, sm.modeStack)).1,
                             modeStack := (applyModeActsT (modePairs ws) (mo, sm.modeStack)).2 })) := by
  obtain ⟨hps, hterm⟩ := tokenRulePairs_eq h
  subst hps
  rw [runActions_eq modes m r _ i fuel sm hdec hfuel,
    execPairs_written modes.size r ws ((3 : Int), (terminal : Int)) sm mo (Or.inl rfl) hn hmo, hterm]
  cases applyW ws (mo, sm.modeStack) with
  | none => rfl
  | some ms => simp [terminalEffect]

/-- The terminal action that takes effect is the written one: `@emit(T)` emits `T` … -/
theorem frag_emit_effect (ws : List WAction) (ps : List Pair) (h : fragRulePairs ws = some ps)
    (T : Nat) (hT : WAction.emit T ∈ ws) (sm : SM) :
    terminalEffect (writtenTerminal accumPair ws) sm
      = (.accept, { sm with token := (T : Int), state := 0 }) := by
  rw [writtenTerminal_of_mem h hT rfl]; rfl

/-- … `@discard` discards … -/
theorem frag_discard_effect (ws : List WAction) (ps : List Pair) (h : fragRulePairs ws = some ps)
    (hD : WAction.discard ∈ ws) (sm : SM) :
    terminalEffect (writtenTerminal accumPair ws) sm = (.discard, { sm with state := 0 }) := by
  rw [writtenTerminal_of_mem h hD rfl]; rfl

/-- … and an action-less fragment (only mode actions, or none) accumulates: the driver is told
to try again with the same rune and keeps the token start (`accum_prefix`). -/
theorem frag_accum_effect (ws : List WAction) (hN : ∀ w ∈ ws, w.isTerminal = false) (sm : SM) :
    terminalEffect (writtenTerminal accumPair ws) sm = (.tryAgain, { sm with state := 0 }) := by
  rw [writtenTerminal_none hN]; rfl

/-- **Whatever order the actions are written in**: wherever the terminal action stands among the
mode actions, the stored pairs are the same (mode actions in written order, terminal last). -/
theorem terminal_position_irrelevant (ms1 ms2 : List WAction) (t : WAction)
    (h1 : ∀ w ∈ ms1, w.isTerminal = false) (h2 : ∀ w ∈ ms2, w.isTerminal = false)
    (ht : t.isTerminal = true) :
    fragRulePairs (ms1 ++ t :: ms2) = some ((ms1 ++ ms2).map WAction.pair ++ [t.pair]) ∧
    fragRulePairs (ms1 ++ t :: ms2) = fragRulePairs (ms1 ++ ms2 ++ [t]) := by
  have e1 := fragRulePairs_terminal_anywhere ms1 ms2 t h1 h2 ht
  have e2 := fragRulePairs_terminal_anywhere (ms1 ++ ms2) [] t
    (by intro w hw; rcases List.mem_append.1 hw with h | h; exact h1 w h; exact h2 w h)
    (by simp) ht
  simp only [List.append_nil] at e2
  exact ⟨e1, by rw [e1, e2]⟩

/-- `@push_mode(M)`: lexing continues in `M`, the old mode is saved. -/
theorem push_mode_enters (M mo : Nat) (st : List Nat) :
    applyW [.pushMode M] (mo, st) = some (M, mo :: st) := rfl

/-- `@pop_mode`: the mode on top of the saved modes becomes current. -/
theorem pop_mode_returns (M mo : Nat) (st : List Nat) :
    applyW [.popMode] (M, mo :: st) = some (mo, st) := rfl

/-- **After `@pop_mode`, in the mode that was current before the matching push**: whatever the
rules matched in between did (`mid`, the concatenation of their action pairs), as long as it left
the saved modes as the push left them (pushes and pops in `mid` match), the pop restores the mode
and the stack that were current before the push. -/
theorem matching_pop_restores (M : Nat) (p : Int) (mid : List Pair) (mo : Nat) (st : List Nat)
    (M' : Nat) (hmid : applyModeActs mid (M, mo :: st) = some (M', mo :: st)) :
    applyModeActs (((1 : Int), (M : Int)) :: mid ++ [((2 : Int), p)]) (mo, st) = some (mo, st) :=
  applyModeActs_bracket (M : Int) p mid mo st M' (by simpa using hmid)

/-- The mode used by the next `PushRune` is the current mode of the state machine: the row
consulted is the row of `sm.state` in `modes[sm.mode]` (`nil` = mode 0). -/
theorem next_step_in_current_mode {modes : Array Mode} (hwf : WFModes modes) {sm : SM}
    (hin : InRange modes sm) (r : Int) :
    ∃ m row, modes[sm.mode.getD 0]? = some m ∧ decodeRow m sm.state = some row ∧
      pushRune modes sm r = stepRow modes.size row { sm with mode := some (sm.mode.getD 0) } r := by
  obtain ⟨m, row, hm, _, hrow, _, hpr⟩ := pushRune_wf hwf hin r
  exact ⟨m, row, hm, hrow, hpr⟩

/-- Over any run of `lexAll` on a well-formed table (any input, any
fuel – also a run cut short), replaying the ghost log on the abstract mode stack – each row that
fired applies its push/pop pairs in order, an ERROR return resets the mode to mode 0 and leaves
the stack alone – agrees with the state machine: at every row that fired the abstract current
mode is the mode of that row, and after each token the state machine's `(mode, modeStack)` equals
the abstract stack. -/
theorem mode_stack_discipline {modes : Array Mode} (hwf : WFModes modes) (inp : Input)
    (fuel n : Nat) :
    AbsAgrees modes (lexAllG modes inp fuel n {} [] []).2.2 (0, []) :=
  lexAllG_abs hwf inp fuel (0, []) n {} [] [] (inRange_init hwf) (by simp [AbsAgrees]) rfl

/-- `AbsAgrees` spelled out at one return: the abstract stack obtained by folding the push/pop
actions of the rows that fired up to the return of token `t` is the `(mode, stack)` recorded
there. -/
theorem mode_stack_after_token {modes : Array Mode} (hwf : WFModes modes) (inp : Input)
    (fuel n : Nat) (pre post : List Ev) (t : Tok) (mo : Nat) (st : List Nat)
    (hlog : (lexAllG modes inp fuel n {} [] []).2.2 = pre ++ .ret t mo st :: post) :
    absRun modes (pre ++ [.ret t mo st]) (0, []) = (mo, st) := by
  have h := mode_stack_discipline hwf inp fuel n
  rw [hlog] at h
  exact absAgrees_at_ret modes pre post t mo st (0, []) h

/-- … and at one row that fired: it is a row of the abstract current mode. -/
theorem mode_of_fired_row {modes : Array Mode} (hwf : WFModes modes) (inp : Input)
    (fuel n : Nat) (pre post : List Ev) (mode : Nat) (state : Int) (res : Res) (a b : Nat)
    (hlog : (lexAllG modes inp fuel n {} [] []).2.2 = pre ++ .fire mode state res a b :: post) :
    (absRun modes pre (0, [])).1 = mode := by
  have h := mode_stack_discipline hwf inp fuel n
  rw [hlog] at h
  exact absAgrees_at_fire modes pre post mode state res a b (0, []) h

/-- `Reset()` (called after an ERROR token) resets mode and state but keeps the mode stack. -/
theorem reset_keeps_stack (sm : SM) :
    sm.reset.modeStack = sm.modeStack ∧ sm.reset.mode = none ∧ sm.reset.state = 0 := ⟨rfl, rfl, rfl⟩

/-- When `PushRune` answers `_lexerTryAgain` (an action-less fragment matched)
at offset `l.offset` with token start `s`, the token start is unchanged, and the first segment
closed afterwards – the text of the next rule that emits (`tok`) or discards (`discarded`), or the
stretch of an ERROR token, or the text pending at EOF (known finding K5) – starts at `s` and ends
at or after `l.offset`: the fragment's text `[s, l.offset)` is a prefix of it. -/
theorem accum_prefix (modes : Array Mode) (inp : Input) (n : Nat) (start : Option Nat) (l : Lx)
    (g : List Ev) (sm' : SM) (t : Tok) (l' : Lx) (g' : List Ev)
    (hpr : pushRune modes l.sm (l.char inp) = (.tryAgain, sm'))
    (h : readTokenG modes inp (n + 1) start l g = some (some t, l', g')) :
    readToken modes inp (n + 1) start l
      = readToken modes inp n (some (start.getD l.offset)) { l with sm := sm' } ∧
    ∃ seg rest, segsOf g' = segsOf g ++ seg :: rest ∧ seg.start = start.getD l.offset ∧
      l.offset ≤ seg.stop := by
  refine ⟨readToken_succ modes inp n start l hpr, ?_⟩
  obtain ⟨seg, rest, e1, e2, e3⟩ :=
    readTokenG_first_seg modes inp n _ _ _ _
      (show readTokenG modes inp n _ _ (g ++ [fireEv start l .tryAgain]) = _ by
        rw [readTokenG, hpr] at h; exact h) (by simp)
  exact ⟨seg, rest, by simpa using e1, e2, e3⟩

/-- **`@emit(T)` on a fragment emits `T` with the accumulated text**: when `PushRune` answers
accept, the token returned has the type the state machine recorded and the text from the token
start – which accumulating fragments left unchanged – to the current offset. -/
theorem emit_with_accumulated_text (modes : Array Mode) (inp : Input) (n : Nat) (s : Nat) (l : Lx)
    (sm' : SM) (hpr : pushRune modes l.sm (l.char inp) = (.accept, sm')) :
    readToken modes inp (n + 1) (some s) l
      = some (some (.tok sm'.token s l.offset), { l with sm := sm' }) :=
  readToken_succ modes inp n (some s) l hpr

/-- **`@discard` drops it**: the text from the token start to the current offset is dropped and
the next token starts afresh at the current offset (`start = none`). -/
theorem discard_drops_text (modes : Array Mode) (inp : Input) (n : Nat) (start : Option Nat)
    (l : Lx) (g : List Ev) (sm' : SM)
    (hpr : pushRune modes l.sm (l.char inp) = (.discard, sm')) :
    readToken modes inp (n + 1) start l = readToken modes inp n none { l with sm := sm' } ∧
    readTokenG modes inp (n + 1) start l g
      = readTokenG modes inp n none { l with sm := sm' }
          (g ++ [fireEv start l .discard] ++ [.seg ⟨.discarded, start.getD l.offset, l.offset⟩]) :=
  ⟨readToken_succ modes inp n start l hpr, by rw [readTokenG, hpr]; rfl⟩

/-- What the offsets of `accum_prefix` mean for the texts: `[s, o)` spells a prefix of `[s, e)`
when `o ≤ e`. -/
theorem text_prefix {α : Type} (bytes : List α) (s o e : Nat) (h : o ≤ e) :
    ((bytes.drop s).take (o - s)) <+: ((bytes.drop s).take (e - s)) :=
  List.take_prefix_take_left (by omega)

/-- The two-mode table of `Lox.Props.C11.exModes` (`@frag '"' @push_mode(S)`,
`STR = '"' @pop_mode` in mode `S`). -/
def exModes : Array Mode := #[
  #[4, 16, 24, 31, 11, 0, 3, 32, 32, 1, 34, 34, 2, 97, 97, 3, 7, 0, 1, 32, 32, 1, 4, 0, 6, 0, 0, 1,
    1, 5, 0, 4, 0, 0, 3, 2],
  #[3, 12, 17, 8, 0, 2, 34, 34, 2, 98, 122, 1, 4, 0, 0, 5, 0, 6, 0, 0, 2, 0, 3, 3]]

example : WFModes exModes := (wfModes_iff _).1 Lox.Props.C11.exModes_wf

/-- Hypotheses of `all_effective_frag` on a real row: `@frag '"' @push_mode(S)` is stored at
index 27 of mode 0 as `(1,1) (5,0)`. -/
example : fragRulePairs [.pushMode 1] = some [(1, 1), (5, 0)] ∧
    readPairs exModes[0]! 2 27 = some [(1, 1), (5, 0)] := by decide +kernel

/-- `STR = '"' @pop_mode` is stored at index 20 of mode 1 as `(2,0) (3,3)`. -/
example : tokenRulePairs 3 [.popMode] = some [(2, 0), (3, 3)] ∧
    readPairs exModes[1]! 2 20 = some [(2, 0), (3, 3)] := by decide +kernel

/-- The hypothesis of `accum_prefix` on a real step: in mode 1, after `b` (state 1), any rune
makes the action-less fragment `[b-z]` answer try-again. -/
example : pushRune exModes { state := 1, mode := some 1, modeStack := [0] } 99
    = (.tryAgain, { state := 0, mode := some 1, modeStack := [0] }) := by decide +kernel

/-- The hypothesis of `matching_pop_restores`: between the push and the pop, fragments without
mode actions fired. -/
example : applyModeActs [(5, 0), (5, 0)] (1, 0 :: []) = some (1, 0 :: []) := by decide +kernel

/-- A written order with the terminal action first is accepted and stored with it last. -/
example : fragRulePairs [.discard, .popMode, .pushMode 2] = some [(2, 0), (1, 2), (4, 0)] := by decide +kernel

/-- The run of `exModes` on `a "b" "` : `A`, then `STR` with text `"b"` lexed in mode 1 and back
in mode 0, then a fragment pushes mode 1 and EOF is returned there with the `"` pending. -/
example : (lexAllG exModes #[(97, 1), (32, 1), (34, 1), (98, 1), (34, 1), (32, 1), (34, 1)] 20 20 {} [] []).2.2.filterMap
      (fun e => match e with | .ret t mo st => some (t, mo, st) | _ => none)
    = [(.tok 2 0 1, 0, []), (.tok 3 2 5, 0, []), (.eof 6, 1, [0])] := by decide +kernel

end Lox.Props.C07
