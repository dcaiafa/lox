import Lox.Props.C01_e2e
import Lox.Props.C01_sugar
import Lox.LR.DesugarGrammar
import Lox.Examples.SugarList
import Lox.Examples.SugarError
/-!
# C01, the SUGAR end to end: the parser lox generates for a sugar grammar accepts exactly the
documented language of `?`, `*`, `*!`, `+`, `@list`

Three results are composed here, for ALL sugar grammars:

* `Lox.Props.C01.sugar_lang` (C01_sugar.lean): the grammar `desugar SG` the front end builds
  (`ParserTerm.normalize`, family `desugar`) derives exactly the DOCUMENTED language `SDer SG` of the
  sugar grammar the user wrote;
* `Lox.Props.C01.generator_valid` (C01_e2e.lean): the tables the model of the generator
  (`Emit.generate` = `ConstructLALR` + `EmitParser`, family `emit`) emits for a well-formed
  conflict-free grammar pass the validator `check`;
* `Lox.Props.C01.clean_accept_iff`, `sentence_clean`, `not_sentence_of_reject`,
  `accept_iff_of_noerror` (C01.lean): the model of the GENERATED `parse()` (`Lox.LR.parse`, family
  `lr.parse`) on validated tables of any grammar, clean runs against derivations.

Vocabulary. `SDer SG [.atom (.rule 0)] w` (Lox/LR/SugarSpec.lean): `w` is a sentence of the start
rule under the documented reading. `parseG T inp wb fuel` (Lox/LR/RuntimeDefs.lean) is
`Lox.LR.parse` with a ghost counter of the `_recover()` calls that returned `true`
(`parseG_fst`/`parseG_snd`: outcome and state are those of `parse`). **Accepts cleanly** =
outcome `accept` and ghost counter `0` (no error recovery took place; for grammars with `@error`
productions `parse()` may also return `true` after a recovery, on a non-sentence: C09).

Hypotheses, all decidable and all enforced or established by lox itself:
* `SG.wf`: the hypothesis of `sugar_lang` (a start rule exists, references are defined, token
  names, rule names and `ERROR` are pairwise different);
* `ordOKB SG.nTerms SG.nRules ord`: the symbol order handed to the generator model lists every
  symbol of the desugared grammar once (the real run: all symbols sorted by name);
* `generate (desugar SG).1 SG.nTerms ord = some (T, cert)`: `T` are the emitted tables (by
  `generator_total` they exist when the grammar is conflict-free);
* `conflictFree …`: lox reports no conflict (every cell of `createActions` holds one action);
* `cert.size ≤ 2147483647`: the `int32` range of the emitted arrays (number of LR states);
* the input `w` consists of declared tokens: terminal numbers `≥ 2` (0 = EOF, 1 = ERROR).

That `desugar SG` satisfies `wfGrammarB` is PROVED from `SG.wf` (`desugar_wf`), not assumed. -/
namespace Lox.Props.C01
open Lox.LR Lox.LR.Gen Lox.LR.Cons Lox.LR.Emit Lox.LR.Abs Lox.LR.Rt

/-- The grammar the front end builds from a well-formed sugar grammar is
well-formed in the sense the generator theorems need: production 0 is `S' → start`, `S'` is on no
right-hand side, every symbol is in range (`nTerms` = declared tokens + 2, `nRules` = 1 + user
rules + helper rules), and EOF is on no right-hand side. -/
theorem desugar_wf {SG : SGrammar} (hw : SG.wf = true) :
    wfGrammarB (desugar SG).1 SG.nTerms SG.nRules = true := by
  have hW := (SGrammar.wf_iff SG).1 hw
  simp only [wfGrammarB, Bool.and_eq_true]
  exact ⟨⟨⟨SGrammar.desugar_prod0B SG, SGrammar.desugar_noStartB hW⟩,
    SGrammar.desugar_symsInRangeB hW⟩, SGrammar.desugar_noEofB hW⟩

variable {SG : SGrammar} {ord : List Sym} {T : Tables} {cert : Array (List Item)}

/-- The tables the generator model emits for the desugared form of a
well-formed, conflict-free sugar grammar pass the validator. -/
theorem sugar_generator_valid (hw : SG.wf = true)
    (hord : ordOKB SG.nTerms SG.nRules ord = true)
    (hgen : generate (desugar SG).1 SG.nTerms ord = some (T, cert))
    (hfree : conflictFree (desugar SG).1 SG.nTerms ord = true)
    (hsmall : cert.size ≤ 2147483647) :
    check (desugar SG).1 SG.nTerms SG.nRules T cert = .ok () :=
  generator_valid (desugar_wf hw) hord hgen hfree hsmall

/-- For every well-formed sugar grammar `SG` whose desugared form the
generator model accepts without conflicts, and every token sequence `w`: the model of the
generated `parse()` on the emitted tables accepts `w` cleanly (for some fuel; then for every larger
one) IFF `w` is a sentence of `SG` under the documented reading of `?`, `*`, `*!`, `+`, `@list`. -/
theorem sugar_generator_correct (hw : SG.wf = true)
    (hord : ordOKB SG.nTerms SG.nRules ord = true)
    (hgen : generate (desugar SG).1 SG.nTerms ord = some (T, cert))
    (hfree : conflictFree (desugar SG).1 SG.nTerms ord = true)
    (hsmall : cert.size ≤ 2147483647) {w : List Nat} (hw2 : ∀ x ∈ w, 2 ≤ x) (wb : Bool) :
    (∃ fuel, (parseG T w.toArray wb fuel).1 = .accept ∧ (parseG T w.toArray wb fuel).2.2 = 0) ↔
      SDer SG [.atom (.rule 0)] w :=
  (clean_accept_iff (sugar_generator_valid hw hord hgen hfree hsmall) hw2 wb).trans
    (sugar_lang hw w).symm

/-- The generated parser never panics, whatever the input (lexer ERROR tokens included). -/
theorem sugar_generator_no_panic (hw : SG.wf = true)
    (hord : ordOKB SG.nTerms SG.nRules ord = true)
    (hgen : generate (desugar SG).1 SG.nTerms ord = some (T, cert))
    (hfree : conflictFree (desugar SG).1 SG.nTerms ord = true)
    (hsmall : cert.size ≤ 2147483647) (inp : Array Nat) (wb : Bool) (fuel : Nat) :
    ∀ m, (parse T inp wb fuel).1 ≠ .panic m :=
  Rt.parse_no_panic (check_spec (sugar_generator_valid hw hord hgen hfree hsmall)).toSafeOK inp wb fuel

/-- The same on the table-driven machine without recovery (`Abs.run` over `autoOf T cert`): it
accepts `w` iff `w` is a documented sentence, and a failing run refutes sentencehood. -/
theorem sugar_generator_run_correct (hw : SG.wf = true)
    (hord : ordOKB SG.nTerms SG.nRules ord = true)
    (hgen : generate (desugar SG).1 SG.nTerms ord = some (T, cert))
    (hfree : conflictFree (desugar SG).1 SG.nTerms ord = true)
    (hsmall : cert.size ≤ 2147483647) {w : List Nat} (hw0 : eof ∉ w) :
    ((∃ fuel t lg, run (desugar SG).1 (autoOf T cert) fuel (init w) = .acc t lg) ↔
      SDer SG [.atom (.rule 0)] w) ∧
    (∀ fuel, run (desugar SG).1 (autoOf T cert) fuel (init w) = .fail →
      ¬ SDer SG [.atom (.rule 0)] w) := by
  have hc := sugar_generator_valid hw hord hgen hfree hsmall
  refine ⟨sugar_tables_exact hw hc hw0, fun fuel hr hs => ?_⟩
  exact tables_reject hc hr ((sugar_lang hw w).1 hs)

/-- Every sugar grammar lox accepts without conflict is unambiguous under the desugared reading:
a sentence has exactly one derivation tree. -/
theorem sugar_generator_unambiguous (hw : SG.wf = true)
    (hord : ordOKB SG.nTerms SG.nRules ord = true)
    (hgen : generate (desugar SG).1 SG.nTerms ord = some (T, cert))
    (hfree : conflictFree (desugar SG).1 SG.nTerms ord = true)
    (hsmall : cert.size ≤ 2147483647) {w : List Nat} {t₁ t₂ : Tree}
    (h₁ : Der (desugar SG).1 [.n 1] w [t₁]) (h₂ : Der (desugar SG).1 [.n 1] w [t₂]) : t₁ = t₂ := by
  have hc := sugar_generator_valid hw hord hgen hfree hsmall
  rw [← startSym_desugar SG] at h₁ h₂
  exact tables_unambiguous hc h₁ h₂

/-- For a sugar grammar that does not use `@error` (`SGrammar.errorFree`, decidable on the grammar
the user wrote) the emitted tables hold no ERROR action. -/
theorem sugar_generator_no_error_actions (hw : SG.wf = true)
    (hord : ordOKB SG.nTerms SG.nRules ord = true)
    (hgen : generate (desugar SG).1 SG.nTerms ord = some (T, cert))
    (he : SG.errorFree = true) : NoErrorActions T cert.size :=
  generator_no_error_actions (desugar_wf hw) hord hgen (SGrammar.errorFree_unused ((SGrammar.wf_iff SG).1 hw) he)

/-- For sugar grammars WITHOUT `@error` no ghost counter is
needed: `parse()` returns `true` (for some fuel) iff the input is a documented sentence; it never
accepts anything else, whatever the fuel. -/
theorem sugar_generator_correct_noerror (hw : SG.wf = true)
    (hord : ordOKB SG.nTerms SG.nRules ord = true)
    (hgen : generate (desugar SG).1 SG.nTerms ord = some (T, cert))
    (hfree : conflictFree (desugar SG).1 SG.nTerms ord = true)
    (hsmall : cert.size ≤ 2147483647) (he : SG.errorFree = true) {w : List Nat}
    (hw2 : ∀ x ∈ w, 2 ≤ x) (wb : Bool) :
    (∃ fuel, (parse T w.toArray wb fuel).1 = .accept) ↔ SDer SG [.atom (.rule 0)] w :=
  (accept_iff_of_noerror (sugar_generator_valid hw hord hgen hfree hsmall)
    (sugar_generator_no_error_actions hw hord hgen he) hw2 wb).trans (sugar_lang hw w).symm

/-- … and a rejection refutes sentencehood (no `@error`: `parse()` returns `false` only on
non-sentences; with `@error` see `not_sentence_of_reject`). -/
theorem sugar_generator_reject_noerror (hw : SG.wf = true)
    (hord : ordOKB SG.nTerms SG.nRules ord = true)
    (hgen : generate (desugar SG).1 SG.nTerms ord = some (T, cert))
    (hfree : conflictFree (desugar SG).1 SG.nTerms ord = true)
    (hsmall : cert.size ≤ 2147483647) {w : List Nat} {wb : Bool} {fuel : Nat}
    (hrej : (parse T w.toArray wb fuel).1 = .reject) : ¬ SDer SG [.atom (.rule 0)] w :=
  fun hs => not_sentence_of_reject (sugar_generator_valid hw hord hgen hfree hsmall)
    (.inl (by rw [parseG_fst]; exact hrej)) ((sugar_lang hw w).1 hs)

/-! ### Non-vacuity: `s = A? b+ ;  b = @list(B, C)` (`Lox/Examples/SugarList.lean`) -/

theorem exE2E_wf : exE2E.wf = true := by decide +kernel
theorem exE2E_ordOK : ordOKB exE2E.nTerms exE2E.nRules exE2EOrd = true := by decide +kernel

example : exE2E.wf = true := exE2E_wf
example : exE2E.nTerms = 5 ∧ exE2E.nRules = 6 := by decide +kernel
example : (desugar exE2E).2.2 = #["S'", "s", "b", "A?", "b+", "@list(B,C)"] := by decide +kernel
example : (desugar exE2E).1.prods =
    #[⟨0, [.n 1]⟩, ⟨1, [.n 3, .n 4]⟩, ⟨2, [.n 5]⟩, ⟨3, [.t 2]⟩, ⟨3, []⟩,
      ⟨4, [.n 4, .n 2]⟩, ⟨4, [.n 2]⟩, ⟨5, [.n 5, .t 4, .t 3]⟩, ⟨5, [.t 3]⟩] := by decide +kernel
example : ordOKB exE2E.nTerms exE2E.nRules exE2EOrd = true := exE2E_ordOK

theorem exE2E_errorFree : exE2E.errorFree = true := by decide +kernel
example : exE2E.errorFree = true := exE2E_errorFree

/-- `sugar_generator_no_error_actions` delivers what evaluation confirms. -/
example : (generate (desugar exE2E).1 exE2E.nTerms exE2EOrd).map
    (fun r => noErrorB r.1 r.2.size) = some true := by
  simp only [exE2E_generate, Option.map_some]
  decide +kernel

/-- `desugar_wf` delivers what evaluation confirms. -/
example : wfGrammarB (desugar exE2E).1 exE2E.nTerms exE2E.nRules = true := desugar_wf exE2E_wf
example : wfGrammarB (desugar exE2E).1 5 6 = true := by decide +kernel

/-- `A  B C B  B` is a documented sentence: `A?` takes `A`, `b+` is two `b`, the first the list
`B C B`, the second the list `B`. -/
theorem exE2E_member : SDer exE2E [.atom (.rule 0)] [2, 3, 4, 3, 3] := by
  have hA : SDer exE2E [.atom (.tok 0)] [2] := .tok 0
  have hB : SDer exE2E [.atom (.tok 1)] [3] := .tok 1
  have hC : SDer exE2E [.atom (.tok 2)] [4] := .tok 2
  have hl1 : SDer exE2E [.list (.tok 1) (.tok 2)] [3, 4, 3] :=
    SDer.list (x := .tok 1) (s := .tok 2) [3] [([4], [3])] hB (by simp; exact hC) (by simp; exact hB)
  have hl2 : SDer exE2E [.list (.tok 1) (.tok 2)] [3] :=
    SDer.list (x := .tok 1) (s := .tok 2) [3] [] hB (by simp) (by simp)
  have hb1 : SDer exE2E [.atom (.rule 1)] [3, 4, 3] :=
    .rule (A := 1) (r := ⟨"b", _⟩) (p := ⟨[.list (.tok 1) (.tok 2)]⟩) rfl (by simp) hl1
  have hb2 : SDer exE2E [.atom (.rule 1)] [3] :=
    .rule (A := 1) (r := ⟨"b", _⟩) (p := ⟨[.list (.tok 1) (.tok 2)]⟩) rfl (by simp) hl2
  have hplus : SDer exE2E [.plus (.rule 1)] [3, 4, 3, 3] :=
    SDer.plus (x := .rule 1) [[3, 4, 3], [3]] (by simp)
      (by intro v hv; simp at hv; rcases hv with rfl | rfl <;> assumption)
  have hopt : SDer exE2E [.opt (.tok 0)] [2] := .optSome hA
  exact .rule (A := 0) (r := ⟨"s", _⟩) (p := ⟨[.opt (.tok 0), .plus (.rule 1)]⟩) rfl (by simp)
    (.cons hopt hplus)

theorem exE2E_small : exE2ECert.size ≤ 2147483647 := by
  rw [exE2E_generate.2]
  decide

/-- All hypotheses at once for `exE2E`: tables exist, 11 states. -/
theorem exE2E_gen : ∃ T cert, generate (desugar exE2E).1 exE2E.nTerms exE2EOrd = some (T, cert) ∧
    cert.size ≤ 2147483647 :=
  ⟨_, _, exE2E_generate.1, exE2E_small⟩

/-- `sugar_generator_valid` on `exE2E`, whose five hypotheses are the theorems above. -/
theorem exE2E_check : check (desugar exE2E).1 exE2E.nTerms exE2E.nRules exE2ET exE2ECert = .ok () :=
  sugar_generator_valid exE2E_wf exE2E_ordOK exE2E_generate.1 exE2E_free exE2E_small

/-- THROUGH the theorem, a sentence: the generated parser accepts `A B C B B` cleanly. -/
example : ∃ T cert, generate (desugar exE2E).1 exE2E.nTerms exE2EOrd = some (T, cert) ∧
    ∃ N, ∀ fuel, N ≤ fuel → (parseG T #[2, 3, 4, 3, 3] true fuel).1 = .accept ∧
      (parseG T #[2, 3, 4, 3, 3] true fuel).2.2 = 0 :=
  ⟨_, _, exE2E_generate.1,
    sentence_clean exE2E_check (w := [2, 3, 4, 3, 3]) (by decide)
      ((sugar_lang exE2E_wf _).1 exE2E_member) true⟩

/-- The model of the generated parser, evaluated on the emitted tables: `A C` is rejected … -/
theorem exE2E_reject : (generate (desugar exE2E).1 exE2E.nTerms exE2EOrd).map
    (fun r => (parseG r.1 #[2, 4] true 30).1) = some .reject := by
  simp only [exE2E_generate.1, Option.map_some, exE2E_run_AC]

/-- … so THROUGH the theorem, a non-sentence: `A C` is not in the documented language. -/
example : ¬ SDer exE2E [.atom (.rule 0)] [2, 4] :=
  fun hs => not_sentence_of_reject exE2E_check (w := [2, 4]) (.inl exE2E_run_AC)
    ((sugar_lang exE2E_wf _).1 hs)

/-- And evaluation agrees with the theorem on the sentence (fuel 60 suffices): clean accept, hence
(by `clean_accept_iff`) a documented sentence – the converse route to `exE2E_member`. -/
theorem exE2E_accept : (generate (desugar exE2E).1 exE2E.nTerms exE2EOrd).map
    (fun r => ((parseG r.1 #[2, 3, 4, 3, 3] true 60).1, (parseG r.1 #[2, 3, 4, 3, 3] true 60).2.2)) =
    some (.accept, 0) := by
  simp only [exE2E_generate.1, Option.map_some, exE2E_run.1, exE2E_run.2.1]

theorem exE2E_clean : (parseG exE2ET #[2, 3, 4, 3, 3] true 60).1 = .accept ∧
    (parseG exE2ET #[2, 3, 4, 3, 3] true 60).2.2 = 0 :=
  ⟨exE2E_run.1, exE2E_run.2.1⟩

example : SDer exE2E [.atom (.rule 0)] [2, 3, 4, 3, 3] :=
  (sugar_lang exE2E_wf _).2 ((clean_accept_iff exE2E_check
    (w := [2, 3, 4, 3, 3]) (by decide) true).1 ⟨60, exE2E_clean⟩)

/-- THROUGH `sugar_generator_correct_noerror` (`exE2E` has no `@error`): plain acceptance. -/
example : ∃ T cert, generate (desugar exE2E).1 exE2E.nTerms exE2EOrd = some (T, cert) ∧
    ∃ fuel, (parse T #[2, 3, 4, 3, 3] false fuel).1 = .accept :=
  ⟨_, _, exE2E_generate.1, (sugar_generator_correct_noerror exE2E_wf exE2E_ordOK exE2E_generate.1
    exE2E_free exE2E_small exE2E_errorFree (w := [2, 3, 4, 3, 3]) (by decide) false).2 exE2E_member⟩

theorem exErr_wf : exErr.wf = true := by decide +kernel
theorem exErr_ordOK : ordOKB exErr.nTerms exErr.nRules exErrOrd = true := by decide +kernel

example : exErr.wf = true ∧ exErr.errorFree = false := ⟨exErr_wf, by decide +kernel⟩
example : ordOKB exErr.nTerms exErr.nRules exErrOrd = true := exErr_ordOK

/-- A grammar WITH `@error` (`Lox/Examples/SugarError.lean`): it is not `errorFree`, its tables do hold
ERROR actions, and the clean-accept theorems still apply to it. -/
theorem exErr_free : conflictFree (desugar exErr).1 exErr.nTerms exErrOrd = true := exErr_eval.1

/-- On `A ; <bad> ;` (token 3 = SEMI where `A` or `@error` must start: here `A SEMI SEMI`) the
generated parser recovers once and returns `true`; `not_sentence_of_reject` says: not a sentence. -/
theorem exErr_recovers : (generate (desugar exErr).1 exErr.nTerms exErrOrd).map
    (fun r => ((parseG r.1 #[2, 3, 3] false 60).1, (parseG r.1 #[2, 3, 3] false 60).2.2)) =
    some (.accept, 1) := by
  simp only [exErr_generate.1, Option.map_some, exErr_run.1, exErr_run.2]

example : ¬ SDer exErr [.atom (.rule 0)] [2, 3, 3] := by
  exact fun hs => not_sentence_of_reject
    (sugar_generator_valid exErr_wf exErr_ordOK exErr_generate.1 exErr_free
      (by rw [exErr_generate.2.1]; decide)) (w := [2, 3, 3])
    (.inr (by rw [exErr_run.2]; decide)) ((sugar_lang exErr_wf _).1 hs)

end Lox.Props.C01
