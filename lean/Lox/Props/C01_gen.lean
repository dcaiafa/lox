import Lox.LR.GenModelProofsClosure
import Lox.Examples.GrammarD1
/-! # C01, generator side — the generator's own FIRST / Closure / Goto lose nothing

C01 (the generated parser accepts exactly L(G)) is decided per emitted artefact by the validator
(`Lox/Props/C01.lean`). The theorems here are about the GENERATOR's code that produces those
artefacts, mirrored by `Lox/LR/GenModel.lean` (tie: family `genmodel`, ops `lr.first`,
`lr.closure`, `lr.goto`, … against the real `lr1.First`, `lr1.Closure`, `lr1.Goto`): for ALL
grammars the model's FIRST contains every terminal that can stand first (defect D1: the pinned
`first.go` visited a nullable rule only once and lost terminals), and the fixpoint loop stops within
its fuel.

Specification: `Lox.LR.Gen.Derives` (sentential forms), `SFirst`, `SNull`, `Lox.LR.Der`.
The soundness direction ("nothing invented") is in `Lox/Props/C04_gen.lean`. -/
namespace Lox.Props.C01
open Lox.LR Lox.LR.Gen

/-- **FIRST is complete** (textbook reading): if `α ⇒* b β` then `b` is in the model's
`First(g, α)`, and if `α ⇒* ε` then ε is in it. All grammars: left recursion, nullable rules
reached any number of times, unreachable and unproductive rules. `TermsBelow G nT` only says that
`nT` really is the number of terminals (it sizes the fuel). -/
theorem first_complete {G : Grammar} {nT : Nat} (ht : TermsBelow G nT) (α : List Sym) :
    (∀ b, SFirst G α b → b ∈ (firstOfSyms G nT α).1) ∧
      (SNull G α → (firstOfSyms G nT α).2 = true) :=
  ⟨fun b h => ((firstSets_exact ht α).1 b).mpr h, (firstSets_exact ht α).2.mpr⟩

/-- **FIRST is complete w.r.t. complete derivations** (`Der`, the relation C01 is stated with):
the first token of every string derived from `α` is in `First(g, α)`; if `α` derives the empty
string, ε is in it. -/
theorem first_complete_der {G : Grammar} {nT : Nat} (ht : TermsBelow G nT) {α : List Sym}
    {w : List Nat} {ts : List Tree} (hd : Der G α w ts) :
    (∀ b w', w = b :: w' → b ∈ (firstOfSyms G nT α).1) ∧
      (w = [] → (firstOfSyms G nT α).2 = true) := by
  have hder := Gen.Der.derives hd
  constructor
  · rintro b w' rfl
    exact (first_complete ht α).1 b ⟨w'.map Sym.t, by simpa using hder⟩
  · rintro rfl
    exact (first_complete ht α).2 (by simpa [SNull] using hder)

/-- The same without any hypothesis: take `termBound G` for the number of terminals. -/
theorem first_complete_all (G : Grammar) (α : List Sym) :
    (∀ b, SFirst G α b → b ∈ (firstOfSyms G (termBound G) α).1) ∧
      (SNull G α → (firstOfSyms G (termBound G) α).2 = true) :=
  first_complete (termBound_spec G) α

/-- **Corollary: the model's FIRST(β a) satisfies `FirstOK`** – the condition that the
completeness theorem of the LR machine (`Lox.Props.C01.complete`) asks of the FIRST function used in the
closure condition. -/
theorem firstOK_of_model {G : Grammar} {nT : Nat} (ht : TermsBelow G nT) :
    FirstOK G (firstLA (firstSets G nT)) :=
  ⟨fun a hd => (exactTab_firstSets ht _ _).mpr ((sfirst_iff_first _ _ _).mpr (First.of_der a hd))⟩

/-- **The fixpoint loop of `firstSets` stabilises within its fuel**
`#rules × (#terminals + 1) + 1`: the loop exits by itself (`firstConverged`), and one more pass
over all productions changes nothing. -/
theorem first_terminates {G : Grammar} {nT : Nat} (ht : TermsBelow G nT) :
    firstConverged G nT = true ∧ round G (firstSets G nT) = (firstSets G nT, false) :=
  ⟨(firstSets_spec ht).1, (firstSets_spec ht).2.2.2⟩

/-- The result does not depend on the fuel once it suffices: any larger terminal count gives the
same table. -/
theorem first_fuel_irrelevant {G : Grammar} {nT nT' : Nat} (ht : TermsBelow G nT) (h : nT ≤ nT') :
    firstSets G nT' = firstSets G nT := by
  unfold firstSets
  rw [iter_mono (firstFuel G nT) (firstFuel G nT') _ (iter_converges ht)]
  unfold firstFuel
  exact Nat.add_le_add_right (Nat.mul_le_mul_left _ (by omega)) 1

/-! ### Non-vacuity: the grammar of defect D1 (`s = tt r; tt = T; r = oo X | oo Y Z; oo = O | ε`,
`gD1` of `Lox/Examples/GrammarD1.lean`)

Terminals: 0 EOF, 1 ERROR, 2 T, 3 X, 4 Y, 5 Z, 6 O; rules: 0 S', 1 s, 2 tt, 3 r, 4 oo. -/

example : TermsBelow gD1 7 := termsBelowB_iff.mp (by decide +kernel)

/-- `FIRST(r) = {O, X, Y}`: the nullable `oo` is reached twice and `Y` is not lost (the defective
`first` returned `{O, X}`). -/
example : firstOfSyms gD1 7 [.n 3] = ([6, 3, 4], false) := by decide +kernel

/-- `r ⇒ oo Y Z ⇒ Y Z`: a derivation that `first_complete` turns into `Y ∈ FIRST(r)`. -/
example : SFirst gD1 [.n 3] 4 :=
  ⟨[.t 5], .step (Step.mk (G := gD1) (q := 4) [] [] rfl)
    (.step (Step.mk (G := gD1) (q := 6) [] [.t 4, .t 5] rfl) (.refl _))⟩

/-- A complete derivation `r ⇒* Y Z` (hypothesis of `first_complete_der`). -/
example : Der gD1 [.n 3] [4, 5] [.node 4 [.node 6 [], .leaf 4, .leaf 5]] := by
  have h1 : Der gD1 [.n 4, .t 4, .t 5] ([] ++ [4, 5]) [.node 6 [], .leaf 4, .leaf 5] :=
    Der.nonterm (q := 6) (pr := ⟨4, []⟩) rfl .nil (.term (.term .nil))
  simpa using Der.nonterm (q := 4) (pr := ⟨3, [.n 4, .t 4, .t 5]⟩) rfl h1 .nil

/-! ## Closure and Goto: nothing required is missing -/

/-- **`Closure` terminates within its fuel** `#prods × #terminals + 2` passes, for every grammar
and every item list whose lookaheads are terminals. -/
theorem closure_terminates {G : Grammar} {nT : Nat} (ht : TermsBelow G nT) {I : List Item}
    (hI : ∀ it ∈ I, it.a < nT) : ∃ C, closure? G nT I = some C :=
  closure_isSome ht hI

/-- **`Closure` contains its argument and is closed under the LR(1) closure rule taken with the
SEMANTIC first sets**: for `[A → α·Bβ, a]` in the result, every production `q` of `B` and every
terminal `b` with `β a ⇒* b …`, the item `[q, 0, b]` is in the result. (A lookahead lost here is
how the FIRST defect made valid sentences be rejected.) -/
theorem closure_complete {G : Grammar} {nT : Nat} (ht : TermsBelow G nT) {I C : List Item}
    (h : closure? G nT I = some C) : (∀ x ∈ I, x ∈ C) ∧ ClosedSet G C :=
  ⟨fun x hx => (mem_closure_iff ht h x).mpr (.base hx), closedSet_closure ht h⟩

/-- **`Goto(I, X)` is the closure of the items of `I` advanced over `X`** (by definition of the
model, which mirrors `goto.go`), hence contains every advanced item and is closed. -/
theorem goto_complete {G : Grammar} {nT : Nat} (ht : TermsBelow G nT) {I C : List Item} {X : Sym}
    (h : goto? G nT I X = some C) :
    (∀ it ∈ I, afterDot G it = some X → (⟨it.p, it.d + 1, it.a⟩ : Item) ∈ C) ∧ ClosedSet G C := by
  have hc := closure_complete ht (I := advance G I X) h
  exact ⟨fun it hit ha => hc.1 _ (mem_advance.mpr ⟨it, hit, ha, rfl⟩), hc.2⟩

theorem goto_terminates {G : Grammar} {nT : Nat} (ht : TermsBelow G nT) {I : List Item}
    (hI : ∀ it ∈ I, it.a < nT) (X : Sym) : ∃ C, goto? G nT I X = some C := by
  apply closure_terminates ht
  intro x hx
  obtain ⟨it, hit, _, rfl⟩ := mem_advance.mp hx
  exact hI it hit

/-- The closure condition of the validator (`Lox.LR.Valid.closure`, stated with a FIRST function)
holds for every item set `Closure` returns, with the model's own FIRST(β a) as that function: what
the generator builds is what `Valid` asks for. -/
theorem closure_meets_valid {G : Grammar} {nT : Nat} (ht : TermsBelow G nT) {I C : List Item}
    (h : closure? G nT I = some C) (it : Item) (pr : Prod) (B q : Nat) (qr : Prod) (b : Nat)
    (hit : it ∈ C) (hp : G.prods[it.p]? = some pr) (hB : pr.rhs[it.d]? = some (.n B))
    (hq : G.prods[q]? = some qr) (hl : qr.lhs = B)
    (hb : b ∈ firstLA (firstSets G nT) (pr.rhs.drop (it.d + 1)) it.a) : (⟨q, 0, b⟩ : Item) ∈ C :=
  (closure_complete ht h).2 it hit ⟨q, 0, b⟩
    ⟨pr, B, qr, hp, hB, hq, hl, rfl, (exactTab_firstSets ht _ _).mp hb⟩

/-- The Go-panic wrapper agrees with the total model wherever the Go code does not panic. -/
theorem closureGo_eq {G : Grammar} {nT : Nat} {I C : List Item} (h : closureGo G nT I = some C) :
    closure? G nT I = some C :=
  (closureGo_eq_some.mp h).2

/-- Non-vacuity on the grammar of D1: the start state. `tt → ·T` carries the lookaheads
`FIRST(r EOF) = {X, Y, O}`; with the defective FIRST the lookahead `Y` was missing. -/
example : closure? gD1 7 [⟨0, 0, 0⟩] =
    some [⟨2, 0, 4⟩, ⟨2, 0, 3⟩, ⟨2, 0, 6⟩, ⟨1, 0, 0⟩, ⟨0, 0, 0⟩] := by decide +kernel

example : ∀ it ∈ [(⟨0, 0, 0⟩ : Item)], it.a < 7 := by decide

/-- The closure rule instance behind `[2, 0, 4]`: from `[s → ·tt r, EOF]`, `r EOF ⇒ oo Y Z EOF ⇒ Y Z EOF`. -/
example : ClosureRule gD1 ⟨1, 0, 0⟩ ⟨2, 0, 4⟩ :=
  ⟨⟨1, [.n 2, .n 3]⟩, 2, ⟨2, [.t 2]⟩, rfl, rfl, rfl, rfl, rfl,
    ⟨[.t 5, .t 0], .step (Step.mk (G := gD1) (q := 4) [] [.t 0] rfl)
      (.step (Step.mk (G := gD1) (q := 6) [] [.t 4, .t 5, .t 0] rfl) (.refl _))⟩⟩

end Lox.Props.C01
