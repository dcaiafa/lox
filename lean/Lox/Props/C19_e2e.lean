import Lox.Lex.GenSpecProofs
import Lox.Props.C19
/-! Property theorems for C19 (token constants: same numbers in all tables), END TO END for the
LEXER tables on the model of the generator for whole specifications: every accept action
`3, param` stored anywhere in `_lexerModes` carries the number that the `const` block of
`base.gen.go` gives to the token the winning rule emits – its own token for a token rule
(`TokenRule.RunPass`: `Terminal: r.Terminal.Index`), the token named by the written `@emit(T)` for
a fragment (`ActionEmit.GetAction`: `a.Terminal.Index`; `mode_table` writes
`uint32(action.Terminal)`). The numbers are those of `Lox/Dec/Terminals.lean` (`terminals`:
EOF = 0, ERROR = 1, then tokens and `@external` names in declaration order over all files;
`constBlock`, `constOf`), about which `Lox/Props/C19.lean` proves: one constant per terminal,
dense `0 … n-1`, injective.

Model: `Lox/Lex/GenSpecModel.lean` (`genModes`, `tokenNumber`, `GRule.pairs`). -/
namespace Lox.Props.C19
open Lox.Lex Lox.Lex.Rt Lox.Lex.GenSpec
open Lox.Dec.Terminals

/-- **What a token rule stores**: `NAME = expr actions` (accepted: `r.pairs s = some ps`) stores, as
its last pair, accept of the number the const block gives to `NAME`. -/
theorem generator_token_rule_number (s : LSpec) (r : GRule) (name : String) (ps : List Pair)
    (hname : r.name = some name) (h : r.pairs s = some ps) :
    ∃ k : Nat, ps.getLast? = some ((3 : Int), (k : Int)) ∧ name ∈ specNames (toTermSpec s) ∧
      constOf (terminals (toTermSpec s)) name = some k ∧
      (name, k) ∈ constBlock (terminals (toTermSpec s)) := by
  obtain ⟨ws, dflt, _, _, hps, hsh⟩ := pairs_shape h
  rcases hsh with ⟨n, t, hn, ht, rfl, e⟩ | ⟨hnone, _, _⟩
  · rw [hname] at hn
    cases hn
    obtain ⟨h1, h2⟩ := tokenNumber_some ht
    exact ⟨t, by rw [hps, e]; simp, h1, h2, mem_constBlock.mpr (constOf_eq_some h2)⟩
  · rw [hname] at hnone; cases hnone

/-- `modes` is the lexer the generator emits for `s`. Every accept
pair `p` found in the row of any state `q` of any mode `mi` is the last pair of the row; the row
holds the pairs of a rule `r` of that mode; and `p = (3, k)` where `k` is the number of the token
`name` that `r` emits – `r`'s own token if `r` is a token rule, the token of its written
`@emit(name)` if `r` is a fragment:
* `name` is a declared token or `@external` name, `constOf (terminals …) name = some k`, the line
  `name int = k` is the only line of the const block with that name or that number;
* `2 ≤ k < number of terminals`: never EOF (0) or ERROR (1), always a constant of the block. -/
theorem generator_accept_numbers (s : LSpec) (modes : Array Mode) (hgen : genModes s = some modes)
    (hok : s.ok = true) (mi : Nat) (m : Mode) (hm : modes[mi]? = some m) (q : Nat)
    (hq : q < Rt.nStates m) (row : Rt.Row) (hrow : Rt.decodeRow m (q : Int) = some row) (p : Pair)
    (hp : p ∈ row.pairs) (h3 : p.1 = 3) :
    ∃ (name : String) (k : Nat), p = ((3 : Int), (k : Int)) ∧ row.pairs.getLast? = some p ∧
      name ∈ specNames (toTermSpec s) ∧
      constOf (terminals (toTermSpec s)) name = some k ∧
      (∀ j, (name, j) ∈ constBlock (terminals (toTermSpec s)) ↔ j = k) ∧
      (∀ other, (other, k) ∈ constBlock (terminals (toTermSpec s)) → other = name) ∧
      2 ≤ k ∧ k < (terminals (toTermSpec s)).length ∧
      ∃ mname r, (modeNames s)[mi]? = some mname ∧ r ∈ modeRules s mname ∧
        r.pairs s = some row.pairs ∧
        (r.name = some name ∨ (r.name = none ∧ LAct.emit name ∈ r.acts)) := by
  have hnames := (genModes_some hgen).1
  rcases genModes_row hgen hok hm hq hrow with h0 | ⟨mname, r, hr, hmname, hrp⟩
  · rw [h0] at hp; cases hp
  · obtain ⟨name, k, e1, e2, e3, e4⟩ := pairs_accept hrp hp h3
    obtain ⟨hmem, hconst⟩ := tokenNumber_some e3
    obtain ⟨_, hnodup, hvalid⟩ := accepted_unique (toTermSpec s) (namesOK_createNames hnames)
    have hterm : name ∈ terminals (toTermSpec s) := by simp [terminals, hmem]
    obtain ⟨k', hk', hlt, honly⟩ := (one_per_terminal _ hnodup).1 name hterm
    rw [hconst] at hk'
    cases hk'
    have hget := constOf_eq_some hconst
    refine ⟨name, k, e1, e2, hmem, hconst, honly, ?_, ?_, hlt, mname, r, hmname, hr, hrp, e4⟩
    · intro other ho
      exact number_determines_name _ ho ((honly k).2 rfl)
    · obtain ⟨hne1, hne2⟩ := valid_ne_reserved (hvalid name hmem)
      exact terminals_getElem?_two_le hget hne1 hne2

/-- The same number in the lexer tables and in the const block, for two rules emitting one token:
a fragment with `@emit(T)` and the token rule `T` store the same accept pair. -/
theorem generator_emit_same_number (s : LSpec) (r f : GRule) (T : String) (ps fs : List Pair)
    (hr : r.name = some T) (hf : f.name = none) (hT : LAct.emit T ∈ f.acts)
    (h1 : r.pairs s = some ps) (h2 : f.pairs s = some fs) :
    fs.getLast? = ps.getLast? := by
  obtain ⟨k, hk, _, hc, _⟩ := generator_token_rule_number s r T ps hr h1
  obtain ⟨ws, dflt, hw, _, hps, hsh⟩ := pairs_shape h2
  rcases hsh with ⟨n, t, hn, _, _, _⟩ | ⟨_, rfl, hfrag⟩
  · rw [hf] at hn; cases hn
  · obtain ⟨w, hmem, hres⟩ := (allSome_map hw).2 _ hT
    obtain ⟨k', hk', rfl⟩ := Option.map_eq_some_iff.1 hres
    obtain rfl : k = k' := Option.some.inj (hc.symm.trans (tokenNumber_some hk').2)
    rw [hk, hps, writtenTerminal_of_mem hfrag hmem rfl]
    simp [WAction.pair]

/-- Two files; `$default` and a mode; a fragment that emits an `@external` token and one that
emits a token declared later. `A` is terminal 2, `STR` 3, `X` 4, `B` 5. -/
def exSpec : LSpec := [
  [.rule (.token "A" (.lit [97]) []),
   .mode "S" [.token "STR" (.lit [34]) [.popMode], .frag (.lit [120]) [.emit "X"]],
   .rule (.external ["X"])],
  [.rule (.frag (.lit [34]) [.emit "B", .pushMode "S"]), .rule (.token "B" (.lit [98]) []),
   .other (some "start")]]

/-- What the model of the generator emits for it. -/
def exSpecModes : Array Mode := #[
  #[4, 16, 21, 28, 11, 0, 3, 34, 34, 2, 97, 97, 1, 98, 98, 3, 4, 0, 0, 3, 2, 6, 0, 0, 1, 1, 3, 5,
    4, 0, 0, 3, 5],
  #[3, 12, 19, 8, 0, 2, 34, 34, 1, 120, 120, 2, 6, 0, 0, 2, 0, 3, 3, 4, 0, 0, 3, 4]]

theorem exSpec_genModes : genModes exSpec = some exSpecModes := by decide +kernel

theorem exSpec_ok : exSpec.ok = true := by decide +kernel

/-- The generator accepts it, `LSpec.ok` holds, and the numbers are as said. -/
example : (genModes exSpec).isSome = true ∧ exSpec.ok = true ∧
    constBlock (terminals (toTermSpec exSpec)) =
      [("EOF", 0), ("ERROR", 1), ("A", 2), ("STR", 3), ("X", 4), ("B", 5)] :=
  ⟨by rw [exSpec_genModes]; rfl, exSpec_ok, by decide +kernel⟩

/-- The stored pairs of its rules: `@frag '"' @emit(B) @push_mode(S)` stores push of mode 1 (`S`),
then accept 5 (`B`, declared after the fragment); `@frag 'x' @emit(X)` accept 4. -/
example :
    (modeRules exSpec "$default").map (GRule.pairs exSpec) =
      [some [(3, 2)], some [(1, 1), (3, 5)], some [(3, 5)]] ∧
    (modeRules exSpec "S").map (GRule.pairs exSpec) = [some [(2, 0), (3, 3)], some [(3, 4)]] := by
  decide +kernel

/-- The hypotheses of `generator_accept_numbers` on an instance: state 2 of `$default` (after `"`)
stores push of mode 1 and accept 5; `(3, 5)` is an accept pair of that row. Its conclusion then says
`5` is the constant of `B`, the token the fragment emits. -/
example : exSpecModes[0]? = some exSpecModes[0] ∧ 2 < Rt.nStates exSpecModes[0] ∧
    Rt.decodeRow exSpecModes[0] ((2 : Nat) : Int) = some ⟨0, [], [(1, 1), (3, 5)]⟩ ∧
    ((3 : Int), (5 : Int)) ∈ [((1 : Int), (1 : Int)), (3, 5)] :=
  ⟨rfl, by decide +kernel, by decide +kernel, by decide⟩

/-- `generator_accept_numbers` used on that instance: the name is determined by the number. -/
example : ∃ name, constOf (terminals (toTermSpec exSpec)) name = some 5 ∧
    (∃ r ∈ modeRules exSpec "$default", r.name = some name ∨
      (r.name = none ∧ LAct.emit name ∈ r.acts)) := by
  obtain ⟨name, k, hp, _, _, hc, _, _, _, _, mname, r, hmn, hr, _, hrn⟩ :=
    generator_accept_numbers exSpec exSpecModes exSpec_genModes exSpec_ok 0
      exSpecModes[0] rfl 2 (by decide +kernel) ⟨0, [], [(1, 1), (3, 5)]⟩
      (by decide +kernel) (3, 5) (by decide) rfl
  have hk : k = 5 := by
    have := congrArg Prod.snd hp
    simp only at this
    omega
  subst hk
  have hm : mname = "$default" := by
    have h0 : (modeNames exSpec)[0]? = some "$default" := by decide +kernel
    rw [h0] at hmn
    exact (Option.some.inj hmn).symm
  subst hm
  exact ⟨name, hc, r, hr, hrn⟩

end Lox.Props.C19
