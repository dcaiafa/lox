import Lox.Lex.GenTotalProofs
/-! Property theorems for C10, generator part: subset construction, state merging (`optimize`),
the start-state repair (`splitStartState`) and range merging (`mergeTransitions`) change nothing
observable — the automaton that is finally encoded into `_lexerModeN` runs, dies and labels
exactly like the NFA of the rules.

Models: `Lox/Lex/GenDFA.lean`, `Lox/Lex/GenOpt.lean`. "Observable" of a state: `DFA.view`
(its NFA states, `Accept`, `NonGreedy`), `accNFA` (its accepting NFA states, all `pickAction`
looks at). -/
namespace Lox.Props.C10
open Lox.Lex Lox.Lex.Gen Lox.Rang3

/-- The subset construction yields a well-formed DFA: targets are states, two transitions of a
state that share a code point are the same transition, labels are written `lo ≤ hi`, and `Accept`
says whether an NFA state of the set accepts. -/
theorem subset_wellformed (m : NFA) (hPD : PD m.edges) (hv : ValidLabels m.edges) (fuel : Nat)
    (d : DFA) (h : subset m fuel = some d) : d.WF ∧ AccOK m d := subset_wf m hPD hv fuel d h

/-- The partition refinement of `optimize.go`, modelled as written
(initial split accepting / non-accepting; `subPartition` against the first state of each group by
target group per input and by equality of the accepting-NFA-state sets; passes until no group is
created; merged states; group of state 0 swapped to index 0). If it returns `d'`, then `d'` is the
image of `d` under a map `f` of states with `f 0 = 0`: on every word the run of `d'` is the image
of the run of `d` — so exactly the same words die —, a state and its image agree on `Accept` and
have the same accepting NFA states. `d'` is again well formed and not empty. -/
theorem optimize_correct (m : NFA) (d : DFA) (hwf : d.WF) (hacc : AccOK m d) (d' : DFA)
    (h : optimize m d = .ok d') :
    d'.WF ∧ AccOK m d' ∧ (0 < d.states.length → 0 < d'.states.length) ∧
    ∃ f : Nat → Nat, f 0 = 0 ∧ ∀ w,
      d'.run 0 w = (d.run 0 w).map f ∧
      ∀ j, d.run 0 w = some j → d'.accept (f j) = d.accept j ∧
        ∀ q, q ∈ accNFA m d' (f j) ↔ q ∈ accNFA m d j :=
  Lox.Lex.Gen.optimize_correct m d hwf hacc d' h

/-- Same accepting NFA states ⇒ same winning rule: `optimize` does not change the actions
`pickAction` attaches to the state reached by any word. -/
theorem optimize_labels (m : NFA) (d : DFA) (hwf : d.WF) (hacc : AccOK m d) (d' : DFA)
    (h : optimize m d = .ok d') (w : List Int) (j : Nat) (hj : d.run 0 w = some j) :
    ∃ j', d'.run 0 w = some j' ∧
      pickAction m ((d'.states[j']?.map (·.nfa)).getD []) =
        pickAction m ((d.states[j]?.map (·.nfa)).getD []) := by
  obtain ⟨_, _, _, f, _, hf⟩ := Lox.Lex.Gen.optimize_correct m d hwf hacc d' h
  obtain ⟨h1, h2⟩ := hf w
  refine ⟨f j, by rw [h1, hj]; rfl, ?_⟩
  apply pickAction_congr
  intro q
  have := (h2 j hj).2 q
  simp only [accNFA, List.mem_filter] at this
  exact this

/-- `optimize` may merge the start state with a state in the middle of
a token (example below); the generated state machine reads "state 0" as "nothing consumed since
the last token". After `splitStartState` no transition leads into state 0, and the automaton is
unchanged up to the map `g` sending the copy back to the start state: runs correspond (so the
same words die) and corresponding states show the same NFA states, `Accept` and `NonGreedy`. -/
theorem splitStart_correct (d : DFA) (hwf : d.WF) :
    NoEdgeIntoStart (splitStart d) ∧ (splitStart d).WF ∧
    ∃ g : Nat → Nat, g 0 = 0 ∧
      (∀ j, (splitStart d).view j = none ∨ (splitStart d).view j = d.view (g j)) ∧
      ∀ w, ((splitStart d).run 0 w).map g = d.run 0 w :=
  let ⟨h1, h2, g, h3, h4, h5⟩ := Lox.Lex.Gen.splitStart_correct d hwf
  ⟨h1, h2, g, h3, fun j => .inr (h4 j), h5⟩

/-- **`mergeTransitions` changes no step.** Replacing, per target, the input ranges by their
`rang3.Flatten` leaves every state as it was and the successor of every state on every code point
unchanged (hence every run), keeps the automaton well formed and keeps state 0 without incoming
transitions. -/
theorem mergeTransitions_correct (d : DFA) (hwf : d.WF) :
    (mergeTransitions d).WF ∧ (∀ j, (mergeTransitions d).view j = d.view j) ∧
    (∀ s c, (mergeTransitions d).step s c = d.step s c) ∧
    (∀ s w, (mergeTransitions d).run s w = d.run s w) ∧
    (NoEdgeIntoStart d → NoEdgeIntoStart (mergeTransitions d)) := by
  obtain ⟨h1, h2, h3, h4⟩ := Lox.Lex.Gen.mergeTransitions_correct d hwf
  exact ⟨h1, h2, h3, fun s w => run_congr h3 w s, h4⟩

/-- The subset construction ends within the model's fuel `2^n + 1` (a DFA state is a strictly
increasing list of NFA-state IDs below `n`; each iteration consumes a pending state or creates a
new one). -/
theorem subset_terminates (m : NFA) (hb : m.Bounded) : ∃ d, subset m (subsetFuel m) = some d :=
  subset_total m hb

/-- `optimize` is total on well-formed DFAs: the refinement loop ends within `n + 1` passes (the
groups are non-empty and partition the `n` states, every non-final pass creates a group) and
`GetStateGroup` never fails its `assert.True` (the groups always cover all states). -/
theorem optimize_terminates (m : NFA) (d : DFA) (hwf : d.WF) : ∃ d', optimize m d = .ok d' :=
  optimize_total m d hwf

/-- `'a'* '\n'`: the start state has a self loop. -/
def exLoop : List Rx := [.seq (.star false (.lit [97])) (.lit [10])]

-- the subset construction gives three states: start, "after some a", "after the newline"
example : (normalizeNFA (modeNFA exLoop)).bind (fun m => subset m (subsetFuel m)) = some
    { states := [
        { nfa := [0, 2, 3, 4, 6], trans := [(⟨97, 97⟩, 1), (⟨10, 10⟩, 2)], accept := false, ng := false },
        { nfa := [0, 1, 3, 4], trans := [(⟨97, 97⟩, 1), (⟨10, 10⟩, 2)], accept := false, ng := false },
        { nfa := [5], trans := [], accept := true, ng := false }] } := by decide +kernel

-- `optimize` merges the start state with the state "after some a": state 0 gets an incoming edge
example : (normalizeNFA (modeNFA exLoop)).bind (fun m =>
    (subset m (subsetFuel m)).map fun d => optimize m d) = some (.ok
    { states := [
        { nfa := [0, 2, 3, 4, 6, 0, 1, 3, 4], trans := [(⟨97, 97⟩, 0), (⟨10, 10⟩, 1)],
          accept := false, ng := false },
        { nfa := [5], trans := [], accept := true, ng := false }] }) := by decide +kernel

-- `splitStartState` redirects it to a copy
example : buildDFA (modeNFA exLoop) = some (.ok
    { states := [
        { nfa := [0, 2, 3, 4, 6, 0, 1, 3, 4], trans := [(⟨97, 97⟩, 2), (⟨10, 10⟩, 1)],
          accept := false, ng := false },
        { nfa := [5], trans := [], accept := true, ng := false },
        { nfa := [0, 2, 3, 4, 6, 0, 1, 3, 4], trans := [(⟨97, 97⟩, 2), (⟨10, 10⟩, 1)],
          accept := false, ng := false }] }) := by decide +kernel

-- `mergeTransitions`: `[a-c] | [d-f]` leads to one state by two pieces, merged into one range
example : (buildDFA (modeNFA [.alt (.cls [(97, 99)]) (.last (.cls [(100, 102)]))])).map
    (fun r => match r with | .ok F => (F.states.getD 0 default).trans | _ => []) =
    some [(⟨97, 102⟩, 1)] := by decide +kernel

end Lox.Props.C10
