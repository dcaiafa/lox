import Lox.Lex.GenSpecRun
import Lox.Props.C07
import Lox.Props.C11_e2e
/-! Property theorems for C07 (mode stack; every action takes effect), END TO END on the model of
the generator for WHOLE specifications: for EVERY lexer specification `s` the front end accepts
(`genModes s = some modes`) whose rules are written over code points with non-empty classes and
match no empty string (`LSpec.ok`, decidable), the statements of `Lox/Props/C07.lean` hold of
the generated lexer `modes` in terms of the actions WRITTEN on the rules (`applyWritten`), and for
greedy rules the row that fires is, over whole runs, that of the earliest rule matching the longest
viable prefix (`generator_run_matched`).

Compositions of `Lox/Props/C07.lean` / `C11.lean` (per table, hypothesis `WFModes`) and
`Lox.Lex.Gen.genMode_run` (the content of `C02.generator_bisim`) with
`Lox.Lex.GenSpec.genModes_wfModes`. Model: `Lox/Lex/GenSpecModel.lean`
(`LSpec`, `genModes`, `modeIndex`, `GRule.pairs`); `FiredRule`, `specRules` in
`Lox/Lex/GenSpecProofs.lean`; `applyWritten`, `EarliestMatch` in `Lox/Lex/GenSpecRun.lean`;
`runesBetween`, `boundaryRun`, the run invariant for any lexer (`MunchLog`, `lexAllG_munch`) in
`Lox/Lex/GenSpecMunch.lean`. Tie of `genModes` to the Go code:
family `lexgenspec` (harness/drv/ops_lexgenspec.go, op `lex.genmodes`). -/
namespace Lox.Props.C07
open Lox.Lex Lox.Lex.Rt Lox.Lex.Gen Lox.Lex.GenSpec

/-- **`$default` is `_lexerModes[0]`** – the mode `PushRune` starts in (`l.mode == nil`) and
`Reset()` returns to – for every specification whose `@mode` names are identifiers
(`ID = [A-Za-z] [A-Za-z0-9_]*`): `$` sorts before every letter. -/
theorem default_mode_first (s : LSpec) (h : ∀ d ∈ specModes 0 s, startsWithLetter d.1 = true) :
    (modeNames s)[0]? = some defaultName ∧ modeIndex s defaultName = some 0 := by
  have hmn : modeNames s = defaultName :: sortNames ((specModes 0 s).map (·.1)) := by
    show insertName defaultName (sortNames ((specModes 0 s).map (·.1))) = _
    apply insertName_min
    intro x hx
    rw [mem_sortNames] at hx
    obtain ⟨d, hd, rfl⟩ := List.mem_map.1 hx
    exact default_lt_ident (h d hd)
  refine ⟨by rw [hmn]; rfl, ?_⟩
  unfold modeIndex
  rw [if_pos (default_mem_modeNames s), hmn]
  simp

/-- **The order of `_lexerModes`**: `slices.Sort(modeNames)` is modelled by its result – for an
accepted specification any increasing list holding exactly the mode names is `modeNames s`. -/
theorem mode_order_unique (s : LSpec) (hn : namesOK s = true) (l : List String)
    (hs : l.Pairwise (· < ·)) (hmem : ∀ x, x ∈ l ↔ x ∈ (modeDecls s).map (·.1)) :
    l = modeNames s := by
  simp only [namesOK, Bool.and_eq_true, decide_eq_true_eq] at hn
  exact sortNames_unique hn.2 hs hmem

/-- The abstract stack over written actions is the abstract stack over the resolved actions
(`Rt.applyW` of `C07.all_effective_*`) whenever no `@pop_mode` finds the stack empty. -/
theorem applyWritten_eq_applyW (s : LSpec) (as : List LAct) (ws : List WAction)
    (h : resolveActs s as = some ws) (ms ms' : MS) (ha : applyW ws ms = some ms') :
    applyWritten s as ms = ms' := by
  rw [← modePairs_applyWritten h]
  exact applyModeActs_eq_T (applyModeActs_modePairs ws ms ▸ ha)

/-- **Whatever order the actions are written in**: moving the terminal action (`@emit` /
`@discard`) of a fragment to any other place among the mode actions changes neither the abstract
stack nor the stored pairs. -/
theorem written_order_irrelevant (s : LSpec) (as1 as2 : List LAct) (t : LAct)
    (ht : LAct.isTerminal t = true) (ms : MS) :
    applyWritten s (as1 ++ t :: as2) ms = applyWritten s (as1 ++ as2 ++ [t]) ms ∧
    applyWritten s (as1 ++ t :: as2) ms = applyWritten s (as1 ++ as2) ms := by
  have h1 : writtenModeActs (as1 ++ t :: as2) = writtenModeActs (as1 ++ as2) := by
    simp [writtenModeActs, List.filter_append, ht]
  have h2 : writtenModeActs (as1 ++ as2 ++ [t]) = writtenModeActs (as1 ++ as2) := by
    simp [writtenModeActs, List.filter_append, ht]
  constructor
  · rw [applyWritten_modeActs, h1, applyWritten_modeActs s (as1 ++ as2 ++ [t]), h2]
  · rw [applyWritten_modeActs, h1, ← applyWritten_modeActs]

/-- One `PushRune(c)` call of a generated lexer, from any
in-range state machine `sm`, reads the row of `sm.state` in the current mode and
* if the row has a transition on `c` (and is not a non-greedy accepting row): consumes, nothing else;
* otherwise, if the row stores no pairs: EOF (state 0, end of input) or `_lexerError`, modes
  untouched;
* otherwise the row stores the pairs of a rule `r` of the current mode (`FiredRule`), with written
  actions `r.acts` resolving to `ws`, and the call applies EVERY mode action written on `r` in
  written order (`applyW ws`; as names: `applyWritten s r.acts`) and then ends with exactly one
  terminal effect `terminalEffect t` – accept / discard / accumulate (`C07.frag_emit_effect`, …) –
  where `t` is accept of `r`'s own terminal number if `r` is a token rule, and for a fragment its
  written `@emit(T)` / `@discard` wherever it stands, else accumulate (`writtenTerminal`). A written
  `@pop_mode` meeting an empty stack gives `_lexerError` with the actions before it applied. -/
theorem generator_all_actions_effective (s : LSpec) (modes : Array Mode)
    (hgen : genModes s = some modes) (hok : s.ok = true) {sm : SM} (hin : InRange modes sm)
    (c : Int) :
    ∃ m row, modes[sm.mode.getD 0]? = some m ∧ decodeRow m sm.state = some row ∧
      (∀ st, (if row.flags % 2 = 0 then Rt.lookup row.triples c else none) = some st →
        pushRune modes sm c =
          (.consume, { sm with mode := some (sm.mode.getD 0), state := st })) ∧
      ((if row.flags % 2 = 0 then Rt.lookup row.triples c else none) = none →
        (row.pairs = [] ∧
          pushRune modes sm c =
            if sm.state = 0 ∧ c = -1 then (.eof, { sm with mode := some (sm.mode.getD 0) })
            else (.error, { sm with mode := some (sm.mode.getD 0) })) ∨
        ∃ r ws t, FiredRule s modes (sm.mode.getD 0) sm.state r ∧
          resolveActs s r.acts = some ws ∧
          ((∃ n k, r.name = some n ∧ tokenNumber s n = some k ∧ t = ((3 : Int), (k : Int))) ∨
            (r.name = none ∧ t = writtenTerminal accumPair ws)) ∧
          (∀ ms', applyW ws (sm.mode.getD 0, sm.modeStack) = some ms' →
            applyWritten s r.acts (sm.mode.getD 0, sm.modeStack) = ms') ∧
          pushRune modes sm c =
            match applyW ws (sm.mode.getD 0, sm.modeStack) with
            | some ms => terminalEffect t { sm with mode := some ms.1, modeStack := ms.2 }
            | none =>
              (.error,
                { sm with
                  mode := some (applyWritten s r.acts (sm.mode.getD 0, sm.modeStack)).1,
                  modeStack := (applyWritten s r.acts (sm.mode.getD 0, sm.modeStack)).2 })) := by
  have hwf := genModes_wfModes hgen hok
  obtain ⟨m, row, hm, hrow, heq⟩ := Lox.Props.C11.pushRune_char hwf hin c
  refine ⟨m, row, hm, hrow, ?_, ?_⟩
  · intro st hst
    rw [heq, hst]
  · intro hnone
    rw [hnone] at heq
    obtain ⟨_, hst0, m', hm', hlt⟩ := hin
    cases hm.symm.trans hm'
    rw [heq, ← Rt.rowPairs_eq hm hrow]
    rcases genModes_firedRule hgen hok hst0 hm hlt with h0 | ⟨r, hr⟩
    · exact .inl ⟨h0, by rw [h0]; rfl⟩
    · obtain ⟨ws, t, hw, ht, hex⟩ := pairs_exec hr.pairs c
        { sm with mode := some (sm.mode.getD 0) } (sm.mode.getD 0) rfl
      exact .inr ⟨r, ws, t, hr, hw, ht, applyWritten_eq_applyW s r.acts ws hw _,
        (genModes_some hgen).2.1 ▸ hex⟩

/-- Over any run of a generated lexer (any input, any fuel – also a
run cut short) replay the ghost log on the abstract mode stack from `($default, [])`. Then
* the replay agrees with the state machine (`C07.mode_stack_discipline`): at every row that fired
  the abstract current mode is the mode of that row, and after each token the state machine's
  `(mode, modeStack)` is the abstract stack;
* every step of the replay at a row that fired is the fold of the actions WRITTEN on a rule `r` of
  the abstract current mode whose pairs that row stores (`applyWritten s r.acts`: pushes and pops
  in written order, modes by name, `@emit` / `@discard` skipped wherever they stand) – or the row
  stores nothing (ERROR / EOF) and the abstract stack does not move.
(The remaining steps of `absRun` are returns: an ERROR return resets the mode to mode 0 and keeps
the stack, `C07.reset_keeps_stack`.) -/
theorem generator_mode_stack (s : LSpec) (modes : Array Mode) (hgen : genModes s = some modes)
    (hok : s.ok = true) (inp : Input) (fuel n : Nat) :
    AbsAgrees modes (lexAllG modes inp fuel n {} [] []).2.2 (0, []) ∧
    ∀ pre post mode state res a b,
      (lexAllG modes inp fuel n {} [] []).2.2 = pre ++ .fire mode state res a b :: post →
      (absRun modes pre (0, [])).1 = mode ∧
      ((Rt.rowPairs modes mode state = [] ∧
          absRun modes (pre ++ [.fire mode state res a b]) (0, []) = absRun modes pre (0, [])) ∨
        ∃ r, FiredRule s modes mode state r ∧
          absRun modes (pre ++ [.fire mode state res a b]) (0, []) =
            applyWritten s r.acts (absRun modes pre (0, []))) := by
  have hwf := genModes_wfModes hgen hok
  have hT := genModes_tablesWF hgen hok
  refine ⟨mode_stack_discipline hwf inp fuel n, ?_⟩
  intro pre post mode state res a b hlog
  obtain ⟨hmode, hstep, hfire⟩ := lexAllG_at_fire hwf hT inp fuel n hlog
  obtain ⟨h0, m, hm, hlt⟩ := hfire.inRange hT
  refine ⟨hmode, ?_⟩
  rcases genModes_firedRule hgen hok h0 hm hlt with hnil | ⟨r, hr⟩
  · exact .inl ⟨hnil, by rw [hstep, hnil]; rfl⟩
  · exact .inr ⟨r, hr, by rw [hstep, hr.applyWritten]⟩

/-- **The row reached stores the earliest rule matched** (greedy rules). In the table of every mode
`mname` (index `mi`) that has a rule: the row reached from state 0 by a word `w` – the runes consumed since the state
machine was last in state 0 – stores the pairs of the EARLIEST rule of that mode that matches `w`
exactly (`label (specRules s mname) w`; `[]` if none does), a word is consumable iff it is a prefix
of a match of some rule of the mode (`viable`), and state 0 stores nothing and is entered by no
transition (`startClean`). So the rule whose written actions `generator_mode_stack` folds is the
earliest rule matching the longest viable prefix (`C02.generator_munch`). -/
theorem generator_matched_rule (s : LSpec) (modes : Array Mode) (hgen : genModes s = some modes)
    (hok : s.ok = true) (hgreedy : s.greedy = true) (mi : Nat) (mname : String) (m : Mode)
    (hname : (modeNames s)[mi]? = some mname) (hm : modes[mi]? = some m)
    (hne : modeRules s mname ≠ []) :
    wfTable m = true ∧ startClean m = true ∧
    (∀ w, (tableRunFrom m 0 w).isSome ↔ viable (specRules s mname) w) ∧
    ∀ w q, tableRunFrom m 0 w = some q →
      Lox.Lex.rowPairs m q = label (specRules s mname) w ∧
      Rt.rowPairs modes mi (q : Int) = label (specRules s mname) w := by
  obtain ⟨name, rs, pss, hM⟩ := genModes_modeOf hgen hm
  obtain rfl : mname = name := Option.some.inj (hname.symm.trans hM.name_eq)
  have hS := hM.tableSpec hok hgreedy hne
  refine ⟨hS.wf, hM.startClean hok, fun w => ?_, fun w q hq => ?_⟩
  · rw [Option.isSome_iff_ne_none, ← Classical.not_not (a := viable _ w), ← hS.dead w, tableRun,
      Option.map_eq_none_iff]
  · have h1 := (hS.run_stop hq).2.1
    refine ⟨h1, ?_⟩
    rw [rt_rowPairs_eq hm hS.wf (tableRunFrom_lt hS.wf w 0 q (wfTable_nStates hS.wf) hq), h1]

/-- **The mode stack is folded over the rules MATCHED, over any input**
(greedy rules, every mode has a rule). In the ghost log of any run of a generated lexer (any input,
any fuel, also a run cut short), at EVERY row that fires – `boundaryRun 0 pre` being the byte offset
where the previous row fired, or where the last ERROR stretch ended, or 0 – there are rune indices
`i ≤ j` at byte offsets `boundaryRun 0 pre` and `b` (the offset of the event) such that, with
`w = runesBetween inp i j` the runes consumed in between and `mname` the mode whose row fired (the
abstract current mode, `generator_mode_stack`):
* `w` is viable under the rules of `mname` and no longer stretch `[i, k)` of the input is: `w` is
  the LONGEST viable prefix of the rest of the input (maximal munch);
* if `r0` is the EARLIEST rule of `mname` matching `w` (`EarliestMatch`), the row that fired stores
  the pairs of `r0` (`FiredRule`) and the abstract mode stack moves by the actions WRITTEN on `r0`,
  in written order (`applyWritten s r0.acts`);
* if no rule of `mname` matches `w`, the row stores nothing (the call returns ERROR, or EOF at the
  end of the input with `w = []`) and the abstract stack does not move. -/
theorem generator_run_matched (s : LSpec) (modes : Array Mode) (hgen : genModes s = some modes)
    (hok : s.ok = true) (hgreedy : s.greedy = true) (hne : s.modesNonempty = true)
    (inp : Input) (fuel n : Nat) :
    ∀ pre post mode state res a b,
      (lexAllG modes inp fuel n {} [] []).2.2 = pre ++ .fire mode state res a b :: post →
      ∃ mname i j, (modeNames s)[mode]? = some mname ∧ i ≤ j ∧ j ≤ inp.size ∧
        offsetOf inp i = boundaryRun 0 pre ∧ offsetOf inp j = b ∧
        viable (specRules s mname) (runesBetween inp i j) ∧
        (∀ k, j < k → k ≤ inp.size → ¬ viable (specRules s mname) (runesBetween inp i k)) ∧
        (∀ r0, EarliestMatch (modeRules s mname) (runesBetween inp i j) r0 →
          FiredRule s modes mode state r0 ∧
          absRun modes (pre ++ [.fire mode state res a b]) (0, []) =
            applyWritten s r0.acts (absRun modes pre (0, []))) ∧
        ((∀ r ∈ modeRules s mname, ¬ Matches r.body.toRe (runesBetween inp i j)) →
          Rt.rowPairs modes mode state = [] ∧
          absRun modes (pre ++ [.fire mode state res a b]) (0, []) =
            absRun modes pre (0, [])) := by
  intro pre post mode state res a b hlog
  obtain ⟨_, hstep, hfire⟩ := lexAllG_at_fire (genModes_wfModes hgen hok)
    (genModes_tablesWF hgen hok) inp fuel n hlog
  obtain ⟨mname, i, j, hname, hij, hj, hbd, hoff, hv, hlong, hrule, hnone⟩ :=
    fire_matched hgen hok hgreedy hne hfire
  exact ⟨mname, i, j, hname, hij, hj, hbd, hoff, hv, hlong,
    fun r0 hr0 => ⟨hrule r0 hr0, by rw [hstep, (hrule r0 hr0).applyWritten]⟩,
    fun h => ⟨hnone h, by rw [hstep, hnone h]; rfl⟩⟩

/-! ## Non-vacuity: the two-mode specification `C11.exSpec`
`A = 'a'`, `@frag '"' @push_mode(S)`, `@mode S { STR = '"' @pop_mode   @frag [b-z] }`,
`@frag ' '+ @discard`; `genModes exSpec = some exSpecModes` (`C11.exSpec_genModes`). -/

open Lox.Props.C11 (exSpec exSpecModes exSpec_genModes exSpec_ok)

/-- The hypotheses of the theorems above hold on it. -/
example : exSpec.ok = true ∧ exSpec.greedy = true ∧ exSpec.modesNonempty = true ∧
    (∀ d ∈ specModes 0 exSpec, startsWithLetter d.1 = true) := by
  refine ⟨exSpec_ok, by decide +kernel, by decide +kernel, by decide +kernel⟩

example : InRange exSpecModes ({} : SM) :=
  inRange_init (Lox.Props.C11.generator_wfModes exSpec exSpecModes exSpec_genModes exSpec_ok)

/-- The mode names in the order of `_lexerModes`, and the written actions of the two rules with mode
actions folded on the abstract stack. -/
example : modeNames exSpec = ["$default", "S"] ∧
    applyWritten exSpec [.pushMode "S"] (0, []) = (1, [0]) ∧
    applyWritten exSpec [.popMode] (1, [0]) = (0, []) ∧
    applyWritten exSpec [.popMode, .pushMode "S"] (0, []) = (0, []) := by decide +kernel

/-- `EarliestMatch` on an instance: in mode `S` the word `"` is matched by `STR` (first rule). -/
example : EarliestMatch (modeRules exSpec "S") [34] ⟨0, some "STR", .lit [34], [.popMode]⟩ :=
  ⟨[], [⟨0, none, .cls [(98, 122)], []⟩], rfl, Matches.cls (by decide),
    fun _ h => by cases h⟩

/-- The run on `a "b" "` : `A`, then `STR` with text `"b"` lexed in mode `S` and back in
`$default`, then the fragment pushes `S` again and EOF is returned there with the `"` pending; the
rows that fired, with their offsets. -/
example :
    (lexAllG exSpecModes #[(97, 1), (32, 1), (34, 1), (98, 1), (34, 1), (32, 1), (34, 1)] 20 20 {} []
        []).2.2.filterMap
      (fun e => match e with | .ret t mo st => some (t, mo, st) | _ => none)
    = [(.tok 2 0 1, 0, []), (.tok 3 2 5, 0, []), (.eof 6, 1, [0])] ∧
    (lexAllG exSpecModes #[(97, 1), (32, 1), (34, 1), (98, 1), (34, 1), (32, 1), (34, 1)] 20 20 {} []
        []).2.2.filterMap
      (fun e => match e with | .fire mo st _ _ off => some (mo, st, off) | _ => none)
    = [(0, 1, 1), (0, 3, 2), (0, 2, 3), (1, 2, 4), (1, 1, 5), (0, 3, 6), (0, 2, 7), (1, 0, 7)] := by
  decide +kernel

/-- The hypotheses of `mode_order_unique` and of `generator_matched_rule` (mode `S`, index 1). -/
example : namesOK exSpec = true ∧ ["$default", "S"].Pairwise (· < ·) ∧
    (modeNames exSpec)[1]? = some "S" ∧ exSpecModes[1]? = some exSpecModes[1] ∧
    (modeRules exSpec "S").length = 2 := by
  refine ⟨by decide +kernel, by decide +kernel, by decide +kernel, rfl, by decide +kernel⟩

/-- `generator_matched_rule` used on the instance: in mode `S`, after `"` the table is in a state
storing the pairs of `STR = '"' @pop_mode` – pop, accept 3 – without running the table. -/
example : ∀ q, tableRunFrom exSpecModes[1] 0 [34] = some q →
    Lox.Lex.rowPairs exSpecModes[1] q = label (specRules exSpec "S") [34] := by
  intro q hq
  have hne : modeRules exSpec "S" ≠ [] := by
    intro h
    have : (modeRules exSpec "S").length = 2 := by decide +kernel
    rw [h] at this; cases this
  exact ((generator_matched_rule exSpec exSpecModes exSpec_genModes exSpec_ok
    (by decide +kernel) 1 "S" exSpecModes[1] (by decide +kernel) rfl hne).2.2.2 [34] q hq).1

end Lox.Props.C07
