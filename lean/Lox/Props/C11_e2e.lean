import Lox.Lex.GenSpecProofs
import Lox.Props.C11
/-! Property theorems for C11 (lexing reaches EOF and accounts for every character), END TO END on
the model of the generator for WHOLE specifications: for EVERY lexer specification `s` – any number
of files, `@mode` blocks, token / `@frag` / `@external` / `@macro` rules with any written actions –
that the front end accepts (`genModes s = some modes`: names unique, `@push_mode` / `@emit` name
existing modes / tokens, action lists legal, no cross-file conflict) and whose rules are written
over code points with non-empty classes and match no empty string (`LSpec.ok`, decidable), the
generated lexer `modes` – `NFACons`, `ModeBuilder.Build`, `mode_table`, `table.go` for every mode,
modes sorted by name, push-mode parameters = mode indices, accept parameters = terminal numbers –
run by `PushRune` / `simplelexer.ReadToken` reaches EOF on every input, never panics, and every byte
is in exactly one emitted / discarded / error / pending segment.

These are the theorems of `Lox/Props/C11.lean` with their hypothesis `WFModes modes` discharged by
`Lox.Lex.GenSpec.genModes_wfModes` (built on `Lox.Lex.Gen.genMode_wfMode`), and `NoAccum modes` by
`genModes_noAccum`. Non-greedy operators are allowed.

Model (read this): `Lox/Lex/GenSpecModel.lean` (`LSpec`, `genModes`), on top of
`Lox/Lex/EmitModel.lean` (`genMode`); premises `LSpec.ok`, `LSpec.noAccum` in
`Lox/Lex/GenSpecProofs.lean`. Runtime model: `Lox/Lex/Model.lean`, ghost log `Lox/Lex/Runtime.lean`.

Known findings kept visible: K3 (a rule matching the empty string: `LSpec.ok` fails, the lexer
hangs – `k3_spec`), K5 (text accumulated by an action-less `@frag` pending at EOF is reported by
nothing – the `pending` segment kind of `generator_conservation`, empty when `LSpec.noAccum`;
`k5_spec`). -/
namespace Lox.Props.C11
open Lox.Lex Lox.Lex.Rt Lox.Lex.Gen Lox.Lex.GenSpec

/-- **The generated lexer of every `ok` specification is well formed** (`WFModes`: what
`lex.wfmodes` checks on emitted tables). -/
theorem generator_wfModes (s : LSpec) (modes : Array Mode) (hgen : genModes s = some modes)
    (hok : s.ok = true) : WFModes modes :=
  genModes_wfModes hgen hok

/-- **No Go panic** in `PushRune` of a generated lexer, for any rune, from any in-range state. -/
theorem generator_no_oob (s : LSpec) (modes : Array Mode) (hgen : genModes s = some modes)
    (hok : s.ok = true) {sm : SM} (hin : InRange modes sm) (r : Int) :
    (pushRune modes sm r).1 ≠ .oob ∧ ModesOK modes (pushRune modes sm r).2 ∧
    ((pushRune modes sm r).1 ≠ .error → InRange modes (pushRune modes sm r).2) :=
  no_oob (genModes_wfModes hgen hok) hin r

/-- One `ReadToken` call of a generated lexer, started between two
tokens, returns – it neither loops nor panics – after at most `2 · remaining runes + 1` `PushRune`
calls, and returns a token or an ERROR token having advanced by at least one rune, or EOF at the
end of the input. -/
theorem generator_progress (s : LSpec) (modes : Array Mode) (hgen : genModes s = some modes)
    (hok : s.ok = true) (inp : Input) (hv : ValidInput inp) (fuel : Nat) (l : Lx)
    (hin : InRange modes l.sm) (h0 : l.sm.state = 0) (hidx : l.idx ≤ inp.size)
    (hfuel : 2 * (inp.size - l.idx) + 1 ≤ fuel) :
    ∃ t l', readToken modes inp fuel none l = some (some t, l') ∧
      InRange modes l'.sm ∧ l'.sm.state = 0 ∧ l'.idx ≤ inp.size ∧
      match t with
      | .tok _ _ _ => l.idx < l'.idx
      | .eof _ => l'.idx = inp.size
      | .err _ _ => l.idx < l'.idx :=
  progress (genModes_wfModes hgen hok) inp hv fuel l hin h0 hidx hfuel

/-- Reading tokens with a generated lexer reaches EOF on every
input: the status is `"ok"`, never `"timeout"` (the real lexer would not return) and never
`"panic"`, and the tokens are non-EOF tokens followed by one EOF. -/
theorem generator_lexAll_terminates (s : LSpec) (modes : Array Mode)
    (hgen : genModes s = some modes) (hok : s.ok = true) (inp : Input) (fuel n : Nat)
    (hfuel : 2 * inp.size < fuel) (hn : inp.size < n) :
    ∃ ts p, lexAll modes inp fuel n {} [] = (ts ++ [.eof p], "ok") ∧ ∀ t ∈ ts, ∀ q, t ≠ .eof q :=
  lexAll_terminates (genModes_wfModes hgen hok) inp fuel n hfuel hn

/-- On every valid input the run of a generated lexer reaches EOF and
the logged segments – text of an emitted token, text dropped by `@discard`, stretch of an ERROR
token, text pending at EOF (K5) – are contiguous and in order from byte 0 to the byte length of
the input; the tokens returned are exactly the reports of the segments, in order. -/
theorem generator_conservation (s : LSpec) (modes : Array Mode) (hgen : genModes s = some modes)
    (hok : s.ok = true) (inp : Input) (hv : ValidInput inp) (fuel n : Nat)
    (hfuel : 2 * inp.size < fuel) (hn : inp.size < n) :
    ∃ toks log, lexAllG modes inp fuel n {} [] [] = (toks, "ok", log) ∧
      lexAll modes inp fuel n {} [] = (toks, "ok") ∧
      Contig (segsOf log) 0 (totalBytes inp) ∧
      (segsOf log).filterMap Seg.report = toks :=
  conservation (genModes_wfModes hgen hok) inp hv fuel n hfuel hn

/-- … so every byte offset of the input lies in exactly one segment. -/
theorem generator_each_byte_once (s : LSpec) (modes : Array Mode) (hgen : genModes s = some modes)
    (hok : s.ok = true) (inp : Input) (hv : ValidInput inp) (fuel n : Nat)
    (hfuel : 2 * inp.size < fuel) (hn : inp.size < n) (x : Nat) (hx : x < totalBytes inp) :
    ((segsOf (lexAllG modes inp fuel n {} [] []).2.2).filter
      fun sg => decide (sg.start ≤ x ∧ x < sg.stop)).length = 1 := by
  obtain ⟨toks, log, e, _, hc, _⟩ := generator_conservation s modes hgen hok inp hv fuel n hfuel hn
  rw [e]
  exact segments_each_byte_once inp _ hc x hx

/-- If every `@frag` of the specification carries `@emit` or `@discard`
(`LSpec.noAccum`) no row of the generated tables carries an accumulate pair. -/
theorem generator_noAccum (s : LSpec) (modes : Array Mode) (hgen : genModes s = some modes)
    (hok : s.ok = true) (hna : s.noAccum = true) : NoAccum modes :=
  genModes_noAccum hgen hok hna

/-- **Complement of K5 for all specifications**: without action-less fragments every `pending`
segment of every run is empty – no text is dropped unreported; with `generator_conservation` every
byte is then in the text of a token, in text dropped by `@discard`, or in the stretch of an ERROR
token. -/
theorem generator_no_pending_text (s : LSpec) (modes : Array Mode)
    (hgen : genModes s = some modes) (hok : s.ok = true) (hna : s.noAccum = true)
    (inp : Input) (fuel n : Nat) :
    ∀ sg ∈ segsOf (lexAllG modes inp fuel n {} [] []).2.2, sg.kind = .pending → sg.start = sg.stop :=
  no_pending_text (genModes_wfModes hgen hok) (genModes_noAccum hgen hok hna) inp fuel n

/-- **The hypothesis `genModes s = some modes` holds for every specification the front end
accepts**: `genModes` is `none` only for the errors it models (names: `namesOK`; a rule without
pairs: undefined `@push_mode` / `@emit` name, illegal action list; a cross-file conflict), never
because a step of `Build` / `EmitLexer` panics or the model runs out of fuel, provided classes are
written `lo ≤ hi` (`C02.generator_total` for every mode). -/
theorem generator_total (s : LSpec) (hn : namesOK s = true)
    (hp : ∀ r ∈ allRules s, (r.pairs s).isSome = true)
    (hc : ∀ n ∈ modeNames s,
      conflictFree ((modeRules s n).map (·.file)) ((modeRules s n).map (·.body)) = true)
    (hcls : ∀ r ∈ allRules s, r.body.clsOK = true) :
    ∃ modes, genModes s = some modes := by
  unfold genModes
  rw [if_pos hn]
  have : ∃ ys, allSome ((modeNames s).map fun n => genModeOf s (modeRules s n)) = some ys := by
    apply allSome_isSome_of
    intro x hx
    obtain ⟨n, hnm, rfl⟩ := List.mem_map.1 hx
    unfold genModeOf
    obtain ⟨pss, hpss⟩ := allSome_isSome_of (l := (modeRules s n).map (GRule.pairs s)) (by
      intro y hy
      obtain ⟨r, hr, rfl⟩ := List.mem_map.1 hy
      exact hp r (modeRules_sub s n r hr))
    rw [hpss]
    simp only [hc n hnm, if_true]
    obtain ⟨tbl, ht⟩ := genMode_total ((modeRules s n).map (·.body))
      (((modeRules s n).map fun r => r.body.toRe).zip pss) (by
        intro x hx
        obtain ⟨r, hr, rfl⟩ := List.mem_map.1 hx
        exact hcls r (modeRules_sub s n r hr))
    rw [ht]; rfl
  obtain ⟨ys, hys⟩ := this
  exact ⟨ys.toArray, by rw [hys]; rfl⟩

/-- `A = 'a'`, `@frag '"' @push_mode(S)`, `@mode S { STR = '"' @pop_mode   @frag [b-z] }`,
`@frag ' '+ @discard` (the specification of `C11.exModes`). -/
def exSpec : LSpec := [[
  .rule (.token "A" (.lit [97]) []),
  .rule (.frag (.lit [34]) [.pushMode "S"]),
  .mode "S" [.token "STR" (.lit [34]) [.popMode], .frag (.cls [(98, 122)]) []],
  .rule (.frag (.plus false (.lit [32])) [.discard])]]

/-- What the model of the generator emits for it. -/
def exSpecModes : Array Mode := #[
  #[4, 16, 21, 28, 11, 0, 3, 32, 32, 3, 34, 34, 2, 97, 97, 1, 4, 0, 0, 3, 2, 6, 0, 0, 1, 1, 5, 0,
    7, 0, 1, 32, 32, 3, 4, 0],
  #[3, 12, 19, 8, 0, 2, 34, 34, 1, 98, 122, 2, 6, 0, 0, 2, 0, 3, 3, 4, 0, 0, 5, 0]]

theorem exSpec_genModes : genModes exSpec = some exSpecModes := by decide +kernel

theorem exSpec_ok : exSpec.ok = true := by decide +kernel

/-- The hypotheses of the theorems above hold on it (also those of `generator_total`). -/
example : exSpec.ok = true := exSpec_ok

example : namesOK exSpec = true ∧ (∀ r ∈ allRules exSpec, (r.pairs exSpec).isSome = true) ∧
    (∀ n ∈ modeNames exSpec, conflictFree ((modeRules exSpec n).map (·.file))
      ((modeRules exSpec n).map (·.body)) = true) ∧
    (∀ r ∈ allRules exSpec, r.body.clsOK = true) := by
  refine ⟨(genModes_some exSpec_genModes).1, ?_, fun _ => genModes_conflictFree exSpec_genModes, ?_⟩
  · have : (allRules exSpec).all (fun r => (r.pairs exSpec).isSome) = true := by decide +kernel
    exact fun r hr => List.all_eq_true.1 this r hr
  · exact fun r hr => (ok_rule exSpec_ok hr).1

/-- The model's arrays and the arrays lox writes for this specification (`C11.exModes`) are the
same automata: equal after renumbering the states breadth first (`canonMode`). -/
example : exSpecModes.toList.map (fun m => canonMode m.toList) =
    exModes.toList.map (fun m => canonMode m.toList) ∧
    (exModes.toList.map fun m => (canonMode m.toList).isSome) = [true, true] := by decide +kernel

/-- The run on `a "bc"`: `A`, `STR` with text `"bc"`, EOF. -/
example : lexAll exSpecModes #[(97, 1), (32, 1), (34, 1), (98, 1), (99, 1), (34, 1)] 20 20 {} []
    = ([.tok 2 0 1, .tok 3 2 6, .eof 6], "ok") := by decide +kernel

/-- `A = 'a'`, `@frag ' '+ @discard`, `@frag '<' @push_mode(M) @discard`,
`@mode M { B = 'b'  @frag '>' @discard @pop_mode }`, in two files with an `@external` and a parser
rule in between: `LSpec.ok` and `LSpec.noAccum` hold together. -/
def exNoAccumSpec : LSpec := [
  [.rule (.token "A" (.lit [97]) []), .rule (.frag (.plus false (.lit [32])) [.discard]),
   .rule (.external ["X"]), .other (some "start")],
  [.rule (.frag (.lit [60]) [.pushMode "M", .discard]),
   .mode "M" [.token "B" (.lit [98]) [], .frag (.lit [62]) [.discard, .popMode]]]]

example : (genModes exNoAccumSpec).isSome = true ∧ exNoAccumSpec.ok = true ∧
    exNoAccumSpec.noAccum = true := by decide +kernel

/-- K3: `A = 'a'*`. -/
def k3Spec : LSpec := [[.rule (.token "A" (.star false (.lit [97])) [])]]

/-- K3: the premise `LSpec.ok` fails (the rule matches the empty string), the generator emits the
table `C11.k3Tok` all the same, and on `aab` the generated lexer never reaches EOF
(`C11.k3_token_never_eof`). -/
theorem k3_spec : k3Spec.ok = false ∧ genModes k3Spec = some k3Tok ∧
    ∀ fuel n, 3 ≤ fuel → (lexAll k3Tok #[(97, 1), (97, 1), (98, 1)] fuel n {} []).2 = "timeout" :=
  ⟨by decide +kernel, by decide +kernel, fun fuel n hf => k3_token_never_eof fuel n hf⟩

/-- K5: `B = 'b'`, `@frag 'x'`. -/
def k5Spec : LSpec := [[.rule (.token "B" (.lit [98]) []), .rule (.frag (.lit [120]) [])]]

/-- K5: `LSpec.ok` holds, `LSpec.noAccum` does not, and on `bxx` the generated lexer returns EOF at
offset 1: bytes 1–2 are a non-empty `pending` segment reported by nothing. -/
theorem k5_spec : k5Spec.ok = true ∧ k5Spec.noAccum = false ∧
    ∃ modes, genModes k5Spec = some modes ∧
      lexAll modes #[(98, 1), (120, 1), (120, 1)] 10 10 {} [] = ([.tok 2 0 1, .eof 1], "ok") ∧
      segsOf (lexAllG modes #[(98, 1), (120, 1), (120, 1)] 10 10 {} [] []).2.2
        = [⟨.tok 2, 0, 1⟩, ⟨.pending, 1, 3⟩] := by
  refine ⟨by decide +kernel, by decide +kernel,
    #[#[3, 12, 17, 8, 0, 2, 98, 98, 1, 120, 120, 2, 4, 0, 0, 3, 2, 4, 0, 0, 5, 0]],
    by decide +kernel, by decide +kernel, by decide +kernel⟩

end Lox.Props.C11
