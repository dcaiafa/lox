import Lox.Lex.GenModeProofs
import Lox.Lex.MunchProofs
import Lox.Examples.KwLexer
/-! Property theorems for C02, END TO END on the model of the generator: for EVERY list of rules
the `_lexerModeN` array the generator emits — `NFACons` of every rule, `ModeBuilder.Build`
(`normalizeInputs`, `NFAToDFA` with `optimize`, `splitStartState`, `mergeTransitions`,
`pickAction`), `EmitLexer`'s `mode_table` row encoding and `codegen/table.go` — computes the
rule-level specification: longest viable match, earliest rule wins. This is the conclusion of
`bisim_sound` (`Lox/Props/C02.lean`) without running the validator `bisim` on the table.

Executable models (read these): `Lox/Lex/EmitModel.lean` (`emitMode`, `genMode`),
`Lox/Lex/GenNFA.lean`, `GenDFA.lean`, `GenOpt.lean`, `Lox/Table/Model.lean`; reader side
`Lox.Lex.rowAt`, `tableStep`, `tableRun` (`Lox/Lex/Bisim.lean`), `readToken` (`Lox/Lex/Model.lean`).
Specification: `Lox.Lex.viable`, `label`, `specRun` (`Lox/Lex/Spec.lean`).
Tie to the Go code: families `lexmodel` (every stage of `Build`) and `lexemit`
(harness/drv/ops_lexemit.go: `lex.emit` = `mode_table` on the real DFA, array for array;
`lex.genmode` = the whole composition, arrays compared up to the numbering of the states).

Hypotheses beyond `xs ≠ []` and `Rx.clsOK` (classes non-empty, ranges written `lo ≤ hi`): the
rules are written over code points `0..0x10FFFF` (`Rx.runesOK`; needed because `mode_table` stores
`uint32(input.B)` and the generated `PushRune` uses `-1` for end of input) and contain no `*?` /
`+?` (`Rx.greedy`; non-greedy rules have their own specification, C08, and known finding K2). -/
namespace Lox.Props.C02
open Lox.Lex Lox.Lex.Gen

/-- **The generator never fails** (classes written `lo ≤ hi`): no panic of `rang3.Normalize`,
`GetStateGroup` or `AddRow`, no loop of the model runs out of fuel. -/
theorem generator_total (xs : List Rx) (rules : List Rule) (hok : ∀ r ∈ xs, r.clsOK = true) :
    ∃ tbl, genMode xs rules = some tbl := genMode_total xs rules hok

/-- For every non-empty list of greedy rules over code points: the
generator emits an array `tbl`; `tbl` is a well-formed table (everything `PushRune` reads is in
range, rows sorted and disjoint, targets are states); and on EVERY word `s` the automaton decoded
from `tbl` (`tableRun`: offsets, `flags, gotoN, triples, pairs` rows, first matching triple) dies
exactly when `s` is not a prefix of a match of any rule, and otherwise stops in a state whose
stored action pairs are those of the earliest rule matching `s` exactly (`[]` if none). -/
theorem generator_bisim (xs : List Rx) (rules : List Rule) (h : rules.map (·.1) = xs.map Rx.toRe)
    (hne : xs ≠ []) (hok : ∀ r ∈ xs, r.clsOK = true) (hrunes : ∀ r ∈ xs, r.runesOK = true)
    (hgreedy : ∀ r ∈ xs, r.greedy = true) :
    ∃ tbl, genMode xs rules = some tbl ∧ wfTable tbl = true ∧
      ∀ s : List Int, tableRun tbl s = specRun rules s := by
  obtain ⟨tbl, ht⟩ := genMode_total xs rules hok
  exact ⟨tbl, ht, genMode_run ht h hne hok hrunes hgreedy⟩

/-- The same as a `TableSpec` (the interface of the maximal-munch theorems of
`Lox/Lex/MunchProofs.lean`). -/
theorem generator_tableSpec (xs : List Rx) (rules : List Rule)
    (h : rules.map (·.1) = xs.map Rx.toRe) (hne : xs ≠ []) (hok : ∀ r ∈ xs, r.clsOK = true)
    (hrunes : ∀ r ∈ xs, r.runesOK = true) (hgreedy : ∀ r ∈ xs, r.greedy = true) :
    ∃ tbl, genMode xs rules = some tbl ∧ TableSpec tbl (viable rules) (label rules) := by
  obtain ⟨tbl, ht⟩ := genMode_total xs rules hok
  exact ⟨tbl, ht, genMode_tableSpec ht h hne hok hrunes hgreedy⟩

/-- State 0 of the emitted table means "nothing consumed since the last token": no transition
leads into it (`splitStartState`), and it stores no action pairs provided no rule matches the
empty string (the premise of C02/C11; its failure is known finding K3). -/
theorem generator_startClean (xs : List Rx) (rules : List Rule)
    (h : rules.map (·.1) = xs.map Rx.toRe) (hne : xs ≠ []) (hok : ∀ r ∈ xs, r.clsOK = true)
    (hrunes : ∀ r ∈ xs, r.runesOK = true) (hgreedy : ∀ r ∈ xs, r.greedy = true)
    (hnonempty : ∀ r ∈ rules, ¬ Matches r.1 []) (tbl : Mode) (ht : genMode xs rules = some tbl) :
    startClean tbl = true := genMode_startClean ht h hok hrunes hnonempty

/-- **`generator_munch` (C02 headline, for all specifications on the model of the generator).**
`modes` are the mode tables of a lexer, `m = modes[current mode]` the array the generator emits
for the rules `xs` / `rules` of that mode, `l` the `simplelexer` state between two tokens. With
`s` the runes not yet read, `k = scanLen m 0 s` and `p = s.take k`: `p` is the LONGEST viable
prefix of `s`, and one `ReadToken` call consumes exactly `p` and then does what
`simplelexer.ReadToken` does (`tokBody`) with the outcome of executing the action pairs of the
EARLIEST rule that matches `p` (`label rules p`; `[]` → ERROR or EOF). The state reached is not 0
if `p ≠ []` and no rule matches the empty string. -/
theorem generator_munch (xs : List Rx) (rules : List Rule) (h : rules.map (·.1) = xs.map Rx.toRe)
    (hne : xs ≠ []) (hok : ∀ r ∈ xs, r.clsOK = true) (hrunes : ∀ r ∈ xs, r.runesOK = true)
    (hgreedy : ∀ r ∈ xs, r.greedy = true)
    (modes : Array Mode) (inp : Input) (m : Mode) (l : Lx) (hgen : genMode xs rules = some m)
    (hmode : modes[l.sm.mode.getD 0]? = some m) (hstate : l.sm.state = 0)
    (start : Option Nat) (n : Nat) :
    viable rules ((l.rest inp).take (scanLen m 0 (l.rest inp))) ∧
    (∀ j, scanLen m 0 (l.rest inp) < j → j ≤ (l.rest inp).length →
      ¬ viable rules ((l.rest inp).take j)) ∧
    ∃ q', tableRunFrom m 0 ((l.rest inp).take (scanLen m 0 (l.rest inp))) = some q' ∧
      ((∀ r ∈ rules, ¬ Matches r.1 []) →
        (l.rest inp).take (scanLen m 0 (l.rest inp)) ≠ [] → q' ≠ 0) ∧
      readToken modes inp (scanLen m 0 (l.rest inp) + (n + 1)) start l =
        tokBody modes inp n (start.getD l.offset) (l.advance inp (scanLen m 0 (l.rest inp)))
          (runPairs modes ((l.advance inp (scanLen m 0 (l.rest inp))).char inp)
            (label rules ((l.rest inp).take (scanLen m 0 (l.rest inp))))
            { l.sm with mode := some (l.sm.mode.getD 0), state := (q' : Int) }) := by
  obtain ⟨h1, h2, q', h3, h4, h5⟩ := (genMode_tableSpec hgen h hne hok hrunes
    hgreedy).munch_driver modes inp m l hmode hstate start n
  exact ⟨h1, h2, q', h3, fun hnm => h4 (genMode_startClean hgen h hok hrunes hnm), h5⟩

/-- A plain token rule for terminal `t` wins on the longest viable prefix: `ReadToken` returns
token `t` with exactly that prefix as its text. -/
theorem generator_munch_token (xs : List Rx) (rules : List Rule)
    (h : rules.map (·.1) = xs.map Rx.toRe) (hne : xs ≠ []) (hok : ∀ r ∈ xs, r.clsOK = true)
    (hrunes : ∀ r ∈ xs, r.runesOK = true) (hgreedy : ∀ r ∈ xs, r.greedy = true)
    (modes : Array Mode) (inp : Input) (m : Mode) (l : Lx) (hgen : genMode xs rules = some m)
    (hmode : modes[l.sm.mode.getD 0]? = some m) (hstate : l.sm.state = 0)
    (start : Option Nat) (n : Nat) (t : Int)
    (hlab : label rules ((l.rest inp).take (scanLen m 0 (l.rest inp))) = [(3, t)]) :
    readToken modes inp (scanLen m 0 (l.rest inp) + (n + 1)) start l =
      some (some (.tok t (start.getD l.offset) (l.advance inp (scanLen m 0 (l.rest inp))).offset),
        { l.advance inp (scanLen m 0 (l.rest inp)) with
          sm := { l.sm with token := t, mode := some (l.sm.mode.getD 0), state := 0 } }) :=
  (genMode_tableSpec hgen h hne hok hrunes hgreedy).munch_token modes inp m l hmode hstate start
    n t hlab

/-! ### Non-vacuity: `'if'` and `[a-z]+` (`Lox/Examples/KwLexer.lean`) -/

/-- The hypotheses of `generator_bisim` / `generator_munch` hold. -/
example : exKwRules.map (·.1) = exKw.map Rx.toRe ∧ exKw ≠ [] ∧ (∀ r ∈ exKw, r.clsOK = true) ∧
    (∀ r ∈ exKw, r.runesOK = true) ∧ (∀ r ∈ exKw, r.greedy = true) := by
  refine ⟨rfl, by decide, by decide, by decide, by decide⟩

theorem exKw_nonempty : ∀ r ∈ exKwRules, ¬ Matches r.1 [] := by
  have hn : ∀ r ∈ exKwRules, nullable r.1 = false := by decide
  intro r hr hm
  have := (Lox.Lex.nullable_iff r.1).mpr hm
  rw [hn r hr] at this
  cases this

/-- No rule matches the empty string (hypothesis of `generator_startClean`). -/
example : ∀ r ∈ exKwRules, ¬ Matches r.1 [] := exKw_nonempty

theorem exKw_genMode : genMode exKw exKwRules = some exKwTbl := exKw_gen.2

/-- Consequences on the instance: the emitted table is evaluated on three words and
`generator_tableSpec` carries the results over to the rules: `"if"` is labelled by `IF` although
`ID` matches it too, `"ig"` by `ID`, and `"i0"` is not viable. -/
example : label exKwRules [105, 102] = [(3, 2)] ∧ label exKwRules [105, 103] = [(3, 3)] ∧
    ¬ viable exKwRules [105, 48] := by
  obtain ⟨tbl, ht, hS⟩ := generator_tableSpec exKw exKwRules rfl (by decide) (by decide)
    (by decide) (by decide)
  cases exKw_genMode.symm.trans ht
  obtain ⟨h1, h2, h3⟩ := exKw_tableRun
  exact ⟨(hS.lab _ _ h1).symm, (hS.lab _ _ h2).symm, (hS.dead _).1 h3⟩

end Lox.Props.C02
