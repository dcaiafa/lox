import Lox.Lex.GenNFAViable
import Lox.Lex.GenTotalProofs
import Lox.Examples.KwLexer
/-! Property theorems for C02, generator part: the lexer generator's OWN algorithms compute the
rule-level specification (longest viable match, earliest rule wins).

Executable models (read these): `Lox/Lex/GenNFA.lean` (`Rx`, `th`/`thompson` = the `NFACons`
methods, `modeNFA` = first step of `ModeBuilder.Build`), `Lox/Lex/GenDFA.lean` (`normalizeNFA` =
`normalizeInputs`, `eclose` = `eClosure`, `subset` = `NFAToDFA` before `optimize`, `pickAction`),
`Lox/Lex/GenOpt.lean` (`optimize`, `splitStart`, `mergeTransitions`, `buildDFA`).
Specification: `Lox.Lex.Matches` (`Regex.lean`); viability and "earliest matching rule" are stated
here on the written expressions (`Gen.Viable`, `Gen.IsWinner`), which `gen_viable` and `gen_label`
(`Lox/Lex/GenModeProofs.lean`) turn into `Lox.Lex.viable` and `Lox.Lex.label` of `Spec.lean`.
Tie to the Go code: family `lexmodel` (harness/drv/ops_lexmodel.go) compares every stage of the
model with the real `NFACons` / `normalizeInputs` / `NFAToDFA` / `optimize` / `splitStartState` /
`mergeTransitions`. -/
namespace Lox.Props.C02
open Lox.Lex Lox.Lex.Gen

/-- For every written expression `r` and every word `w`: the fragment
`NFACons` builds for `r` has a path from its entry `B` to its exit `E` reading `w` iff `w` is in
the language of `r` (both directions, all expressions: literals, classes, concatenation,
n-ary alternation, `?`, `*`, `+`, `*?`, `+?`, with lox's auxiliary ε states). -/
theorem thompson_correct (r : Rx) (w : List Int) : (thompson r).Accepts w ↔ Matches r.toRe w :=
  th_correct r 0 w

/-- The same at any state of the mode's state factory (rules are built one after the other). -/
theorem thompson_correct_at (r : Rx) (n : Nat) (w : List Int) :
    Path (th r n).edges (th r n).b w (th r n).e ↔ Matches r.toRe w := th_correct r n w

/-- Every `Re` is the reading of an `NFACons`-shaped expression … -/
theorem ofRe_toRe : ∀ r : Re, (ofRe r).toRe = r
  | .eps => rfl
  | .cls _ => rfl
  | .seq r s => by simp [ofRe, Rx.toRe, ofRe_toRe r, ofRe_toRe s]
  | .alt r s => by simp [ofRe, Rx.toRe, Alts.toRe, ofRe_toRe r, ofRe_toRe s]
  | .star _ r => by simp [ofRe, Rx.toRe, ofRe_toRe r]

/-- … so the construction is correct for ALL regular expressions of `Lox/Lex/Regex.lean`. -/
theorem thompson_correct_re (r : Re) (w : List Int) :
    (thompson (ofRe r)).Accepts w ↔ Matches r w := by
  rw [thompson_correct, ofRe_toRe]

/-- In the NFA of a mode (start state with an ε edge to every rule) the set
of rules accepting `w` is exactly the set of rules whose expression matches `w`. -/
theorem modeNFA_label (rules : List Rx) (i : Nat) (w : List Int) :
    (modeNFA rules).AcceptsRule i w ↔ ∃ r, rules[i]? = some r ∧ Matches r.toRe w :=
  Lox.Lex.Gen.modeNFA_label rules i w

/-- The mode NFA has no dead state: some state is reachable by `w` iff `w` is a prefix of a word
some rule matches (given at least one rule and non-empty classes). -/
theorem modeNFA_viable (rules : List Rx) (hne : rules ≠ []) (hok : ∀ r ∈ rules, r.clsOK = true)
    (w : List Int) :
    (∃ q, Path (modeNFA rules).edges (modeNFA rules).start w q) ↔ Viable rules w :=
  Lox.Lex.Gen.modeNFA_viable rules hne hok w

/-- `normalizeInputs` never panics on ranges written `lo ≤ hi`, changes no run of the NFA, and
afterwards two labels that share a code point are equal (bridge to C15's `normalize_*`). -/
theorem normalizeInputs_correct (m : NFA) (hv : ValidLabels m.edges) :
    ∃ m', normalizeNFA m = some m' ∧ m'.start = m.start ∧ m'.acc = m.acc ∧ PD m'.edges ∧
      ∀ p w q, Path m'.edges p w q ↔ Path m.edges p w q := by
  obtain ⟨E', hm', hstep, hpd, _⟩ := normalizeNFA_spec m hv
  exact ⟨_, hm', rfl, rfl, hpd, fun _ _ _ => hstep.path⟩

/-- `eClosure` returns exactly the states reachable by ε edges, sorted by ID (its fuel in the
model is never exhausted). -/
theorem eclose_correct (E : List Edge) (S : List Nat) :
    (∀ q, q ∈ eclose E S ↔ ∃ p ∈ S, Path E p [] q) ∧ (eclose E S).Pairwise (· < ·) :=
  ⟨mem_eclose E S, eclose_sorted E S⟩

/-- For an NFA with pairwise equal-or-disjoint labels, the DFA of the subset
construction, run on any `w` from state 0, reaches the state whose NFA-state list is exactly (and
in increasing order, without repetition) the set of NFA states reachable by `w`; it is not empty;
the run is undefined iff the NFA cannot read `w`. -/
theorem subset_correct (m : NFA) (hPD : PD m.edges) (fuel : Nat) (d : DFA)
    (h : subset m fuel = some d) (w : List Int) :
    (∀ j, d.run 0 w = some j → ∃ s, d.states[j]? = some s ∧
      (∀ q, q ∈ s.nfa ↔ Path m.edges m.start w q) ∧ s.nfa.Pairwise (· < ·) ∧ s.nfa ≠ []) ∧
    (d.run 0 w = none → ∀ q, ¬ Path m.edges m.start w q) :=
  Lox.Lex.Gen.subset_correct m hPD fuel d h w

/-- `pickAction`: the least rule index among the accepting NFA states of the DFA state — the
earliest source position wins; `none` iff there is no accepting NFA state. -/
theorem pickAction_least (m : NFA) (S : List Nat) :
    (pickAction m S = none ↔ ∀ i, ¬ ∃ q ∈ S, (q, i) ∈ m.acc) ∧
    (∀ i, pickAction m S = some i ↔
      (∃ q ∈ S, (q, i) ∈ m.acc) ∧ ∀ j, (∃ q ∈ S, (q, j) ∈ m.acc) → i ≤ j) := by
  obtain ⟨h1, h2⟩ := pickAction_spec m S
  refine ⟨?_, ?_⟩
  · rw [h1]; exact forall_congr' fun i => by rw [mem_actionSet]
  · intro i
    rw [h2 i, mem_actionSet]
    exact and_congr_right fun _ => forall_congr' fun j => by rw [mem_actionSet]

/-- Mode NFA → `normalizeInputs` → subset construction: after any word the DFA
is in a state iff the word is viable, and `pickAction` on that state gives the earliest rule
matching the word. -/
theorem subset_label (rules : List Rx) (hne : rules ≠ []) (hok : ∀ r ∈ rules, r.clsOK = true) :
    ∃ m', normalizeNFA (modeNFA rules) = some m' ∧
      ∀ fuel d, subset m' fuel = some d → ∀ w,
        ((d.run 0 w).isSome ↔ Viable rules w) ∧
        ∀ j, d.run 0 w = some j → ∃ s, d.states[j]? = some s ∧
          (∀ q, q ∈ s.nfa ↔ Path (modeNFA rules).edges (modeNFA rules).start w q) ∧
          IsWinner rules w (pickAction m' s.nfa) := by
  obtain ⟨E', hm', hstep, hpd, _⟩ :=
    normalizeNFA_spec (modeNFA rules) (modeNFA_validLabels rules hok)
  refine ⟨_, hm', fun fuel d hd w => ⟨?_, fun j hj => ?_⟩⟩
  · rw [(subset_tracks _ hpd fuel d hd w).1, ← modeNFA_viable rules hne hok w]
    exact exists_congr fun q => hstep.path
  · obtain ⟨s, hs1, hs2, _, _⟩ := (subset_correct _ hpd fuel d hd w).1 j hj
    exact ⟨s, hs1, fun q => (hs2 q).trans hstep.path,
      pickAction_winner rules { modeNFA rules with edges := E' } rfl rfl (fun _ _ _ => hstep.path)
        w s.nfa fun q => and_congr_left' (hs2 q)⟩

/-! ### The whole of `ModeBuilder.Build`

What the automaton returned satisfies – well formed, defined exactly on the viable words,
`pickAction` on the state reached selects the earliest rule matching the word – is
`Lox.Lex.Gen.buildDFA_built` (`Lox/Lex/GenModeProofs.lean`); `generator_bisim`
(`Lox/Props/C02_e2e.lean`) carries it through `mode_table` to `label` / `viable`. -/

/-- The model of `Build` always returns an automaton (classes written `lo ≤ hi`): no panic of
`rang3.Normalize` or `GetStateGroup`, no loop runs out of the model's fuel. -/
theorem build_total (xs : List Rx) (hok : ∀ r ∈ xs, r.clsOK = true) :
    ∃ F, buildDFA (modeNFA xs) = some (.ok F) := buildDFA_total xs hok

example : exKw ≠ [] ∧ (∀ r ∈ exKw, r.clsOK = true) := by decide +kernel

-- `NFACons` allocates `[a-z]+` after `'if'`: term states 3…6, then B = 7, E = 8, start = 9
example : modeNFA exKw =
    { n := 10, start := 9,
      edges := [⟨0, some ⟨105, 105⟩, 1⟩, ⟨1, some ⟨102, 102⟩, 2⟩, ⟨5, some ⟨97, 122⟩, 6⟩,
        ⟨3, none, 5⟩, ⟨6, none, 4⟩, ⟨7, none, 3⟩, ⟨4, none, 3⟩, ⟨4, none, 8⟩,
        ⟨9, none, 0⟩, ⟨9, none, 7⟩],
      acc := [(2, 0), (8, 1)], ng := [] } := by decide +kernel

-- the model of `Build` ends normally on it; after "if" both rules accept and rule 0 wins
example : ∃ F, buildDFA (modeNFA exKw) = some (.ok F) ∧
    (F.run 0 [105, 102]).map (fun j => pickAction (modeNFA exKw) (F.states.getD j default).nfa) =
      some (some 0) ∧
    (F.run 0 [105, 103]).map (fun j => pickAction (modeNFA exKw) (F.states.getD j default).nfa) =
      some (some 1) ∧
    F.run 0 [105, 48] = none :=
  ⟨C10.exKwDFA, exKw_gen.1, by decide +kernel, by decide +kernel, by decide +kernel⟩

end Lox.Props.C02
