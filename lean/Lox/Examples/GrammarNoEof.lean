import Lox.LR.EmitModel
import Lox.LR.RuntimeDefs
/-! `S' → S; S → a U | b c` with a rule `U` that has no production: well formed for the generator model
and conflict-free (the real front end rejects an undefined rule). The state after `a` has an empty
`_actions` row, across which `findAll` reads from an index that is not a state. -/
namespace Lox.Props.C09
open Lox.LR Lox.LR.Rt Lox.LR.Emit Lox.LR.Cons

def noEofG : Grammar := ⟨#[⟨0, [.n 1]⟩, ⟨1, [.t 2, .n 2]⟩, ⟨1, [.t 3, .t 4]⟩]⟩

def noEofOrd : List Sym := [.t 0, .t 1, .t 2, .t 3, .t 4, .n 0, .n 1, .n 2]

/-- One run of the generator: no conflict, 6 states, and the two Boolean table conditions. -/
theorem noEof_eval : conflictFree noEofG 5 noEofOrd = true ∧
    (generate noEofG 5 noEofOrd).map (fun r => (noShiftEOFB r.1, acceptOnlyEOFB r.1)) =
      some (false, true) ∧
    (generate noEofG 5 noEofOrd).map (fun r => r.2.size) = some 6 := by
  decide +kernel

end Lox.Props.C09
