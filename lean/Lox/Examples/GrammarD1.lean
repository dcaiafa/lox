import Lox.LR.EmitModel
/-! The grammar of defect D1, `s = tt r; tt = T; r = oo X | oo Y Z; oo = O | ε` (the FIRST computation
of the pinned lox lost a lookahead on it), and what the model of the generator emits for it: the
arrays of the real `parser.gen.go` (case `lr.emit 7 5 | …` of the family `emit`).

Terminals: 0 EOF, 1 ERROR, 2 T, 3 X, 4 Y, 5 Z, 6 O; rules: 0 S', 1 s, 2 tt, 3 r, 4 oo. -/
namespace Lox.Props.C01
open Lox.LR Lox.LR.Gen Lox.LR.Cons Lox.LR.Emit

def gD1 : Grammar := ⟨#[⟨0, [.n 1]⟩, ⟨1, [.n 2, .n 3]⟩, ⟨2, [.t 2]⟩, ⟨3, [.n 4, .t 3]⟩,
  ⟨3, [.n 4, .t 4, .t 5]⟩, ⟨4, [.t 6]⟩, ⟨4, []⟩]⟩

/-- The name order of the real run: `EOF ERROR O S' T X Y Z oo r s tt`. -/
def e2eOrd : List Sym :=
  [.t 0, .t 1, .t 6, .n 0, .t 2, .t 3, .t 4, .t 5, .n 4, .n 3, .n 1, .n 2]

/-- One run of the generator: no conflict, the arrays, 10 states, and `termB` on what it returns. -/
theorem e2eEx_gD1_eval : conflictFree gD1 7 e2eOrd = true ∧
    (generate gD1 7 e2eOrd).map (fun r =>
      (r.1.rules.toList, r.1.termCounts.toList, r.1.actions.toList, r.1.gotos.toList, r.2.size)) =
    some ([0, 1, 2, 3, 3, 4, 4], [1, 2, 1, 2, 3, 1, 0],
      [10, 13, 20, 23, 30, 35, 40, 43, 46, 49, 2, 2, 1, 6, 6, -2, 3, -2, 4, -2, 2, 0, 2147483647,
       6, 6, 4, 3, -6, 4, -6, 4, 3, -5, 4, -5, 4, 3, 7, 4, 8, 2, 0, -1, 2, 0, -3, 2, 5, 9, 2, 0, -4],
      [10, 15, 15, 16, 15, 15, 15, 15, 15, 15, 4, 1, 2, 2, 3, 0, 4, 4, 5, 3, 6], 10) ∧
    (generate gD1 7 e2eOrd).map (fun r => termB gD1 r.1 r.2) = some true := by
  decide +kernel

end Lox.Props.C01
