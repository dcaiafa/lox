import Lox.LR.EmitModel
import Lox.LR.Desugar
import Lox.LR.RuntimeDefs
/-! The sugar grammar `s = A? b+ ;  b = @list(B, C)`: the arrays the model of the generator emits for it
(those of the real `parser.gen.go`, family `emit`) and runs of the model of the generated parser on them.

Tokens `A B C` (terminals 2 3 4); rules `S' s b A? b+ @list(B,C)` (0 … 5); symbol order = all
symbols sorted by name: `@list(B,C) A A? B C EOF ERROR S' b b+ s`. -/
namespace Lox.Props.C16
open Lox.LR Lox.LR.Emit Lox.LR.Abs Lox.LR.Rt

/-- A decidable summary of an event log: `(0, p, #args, 0)` for an action call,
`(1, p, begin, end)` for an `_onBounds` call. -/
def evSummary : Event → Nat × Nat × Nat × Nat
  | .act p kids => (0, p, kids.length, 0)
  | .bounds p _ b e => (1, p, b, e)

end Lox.Props.C16

namespace Lox.Props.C01
open Lox.LR Lox.LR.Gen Lox.LR.Cons Lox.LR.Emit Lox.LR.Abs Lox.LR.Rt

def exE2E : SGrammar :=
  ⟨["A", "B", "C"],
   [⟨"s", [⟨[.opt (.tok 0), .plus (.rule 1)]⟩]⟩,
    ⟨"b", [⟨[.list (.tok 1) (.tok 2)]⟩]⟩]⟩

def exE2EOrd : List Sym :=
  [.n 5, .t 2, .n 3, .t 3, .t 4, .t 0, .t 1, .n 0, .n 2, .n 4, .n 1]

def exE2ET : Tables :=
  ⟨#[0, 1, 2, 3, 3, 4, 4, 5, 5], #[1, 2, 1, 1, 0, 2, 1, 3, 1],
   #[11, 16, 19, 22, 25, 32, 39, 44, 49, 54, 57, 4, 2, 1, 3, -4, 2, 3, -3, 2, 3, 5, 2, 0,
     2147483647, 6, 3, -2, 4, 9, 0, -2, 6, 3, -8, 4, -8, 0, -8, 4, 3, -6, 0, -6, 4, 3, 5, 0, -1,
     4, 3, -5, 0, -5, 2, 3, 10, 6, 3, -7, 4, -7, 0, -7],
   #[11, 16, 17, 16, 16, 16, 16, 24, 16, 16, 16, 4, 3, 2, 1, 3, 0, 6, 5, 4, 2, 6, 4, 7, 4, 5, 4,
     2, 8]⟩

/-- The certificate (the item lists of the 11 states) the generator returns with `exE2ET`. It is
not written out: the parser runs below never look at it, only at its size. -/
def exE2ECert : Array (List Item) :=
  ((generate (desugar exE2E).1 exE2E.nTerms exE2EOrd).map (·.2)).getD #[]

/-- Both facts in one statement, so that the kernel runs `construct` once for the two of them. -/
theorem exE2E_eval : conflictFree (desugar exE2E).1 exE2E.nTerms exE2EOrd = true ∧
    (generate (desugar exE2E).1 exE2E.nTerms exE2EOrd).map (fun r =>
      (r.1.rules.toList, r.1.termCounts.toList, r.1.actions.toList, r.1.gotos.toList, r.2.size)) =
    some (exE2ET.rules.toList, exE2ET.termCounts.toList, exE2ET.actions.toList,
      exE2ET.gotos.toList, 11) := by
  decide +kernel

theorem exE2E_free : conflictFree (desugar exE2E).1 exE2E.nTerms exE2EOrd = true := exE2E_eval.1

theorem exE2E_generate :
    generate (desugar exE2E).1 exE2E.nTerms exE2EOrd = some (exE2ET, exE2ECert) ∧
      exE2ECert.size = 11 := by
  have h := exE2E_eval.2
  unfold exE2ECert
  cases hg : generate (desugar exE2E).1 exE2E.nTerms exE2EOrd with
  | none => rw [hg] at h; cases h
  | some r =>
    obtain ⟨⟨a, b, c, d⟩, cert⟩ := r
    simp only [hg, Option.map_some, Option.some.injEq, Prod.mk.injEq, Array.toList_inj] at h
    obtain ⟨rfl, rfl, rfl, rfl, hs⟩ := h
    exact ⟨rfl, hs⟩

/-- The arrays the model emits for `exE2E` = the arrays the REAL generator wrote into
`parser.gen.go` for `s = A? b+ ; b = @list(B, C)` (case `lr.emit 5 6 | 0 -2 ; 1 -4 -5 ; 2 -6 ; 3 2 ;
3 ; 4 -5 -3 ; 4 -3 ; 5 -6 4 3 ; 5 3 | -6 2 -4 3 4 0 1 -1 -3 -5 -2` of the family `emit`, i.e. also the
same productions, numbering and name order as `desugar exE2E` / `exE2EOrd`). -/
example : (generate (desugar exE2E).1 exE2E.nTerms exE2EOrd).map (fun r =>
      (r.1.rules.toList, r.1.termCounts.toList, r.1.actions.toList, r.1.gotos.toList)) =
    some ([0, 1, 2, 3, 3, 4, 4, 5, 5], [1, 2, 1, 1, 0, 2, 1, 3, 1],
      [11, 16, 19, 22, 25, 32, 39, 44, 49, 54, 57, 4, 2, 1, 3, -4, 2, 3, -3, 2, 3, 5, 2, 0,
       2147483647, 6, 3, -2, 4, 9, 0, -2, 6, 3, -8, 4, -8, 0, -8, 4, 3, -6, 0, -6, 4, 3, 5, 0, -1,
       4, 3, -5, 0, -5, 2, 3, 10, 6, 3, -7, 4, -7, 0, -7],
      [11, 16, 17, 16, 16, 16, 16, 24, 16, 16, 16, 4, 3, 2, 1, 3, 0, 6, 5, 4, 2, 6, 4, 7, 4, 5, 4,
       2, 8]) := by
  rw [exE2E_generate.1]
  rfl

/-- One run on `A B C B B`: clean accept; the event log (`A? → A` spans token 0; the list `B C B`
grows (1,1) then (1,3); `b` (1,3); `b+` (1,3); the second list and `b` span token 4; `b+` and `s` end
at token 4); and the value handed to the root action `on_s(A?, b+)`. -/
theorem exE2E_run :
    (parseG exE2ET #[2, 3, 4, 3, 3] true 60).1 = .accept ∧
    (parseG exE2ET #[2, 3, 4, 3, 3] true 60).2.2 = 0 ∧
    (parseG exE2ET #[2, 3, 4, 3, 3] true 60).2.1.log.reverse.map C16.evSummary =
      [(0, 3, 1, 0), (1, 3, 0, 0), (0, 8, 1, 0), (1, 8, 1, 1), (0, 7, 3, 0), (1, 7, 1, 3),
       (0, 2, 1, 0), (1, 2, 1, 3), (0, 6, 1, 0), (1, 6, 1, 3), (0, 8, 1, 0), (1, 8, 4, 4),
       (0, 2, 1, 0), (1, 2, 4, 4), (0, 5, 2, 0), (1, 5, 1, 4), (0, 1, 2, 0), (1, 1, 0, 4)] ∧
    ((parseG exE2ET #[2, 3, 4, 3, 3] true 60).2.1.stack.head?.map fun e =>
      (interp (desugar exE2E).2.1 exE2ET.rules e.sym).render) =
      some "(r1 t0 [(r2 [t1 t3]) (r2 [t4])])" := by
  decide +kernel

/-- `A C` is rejected. -/
theorem exE2E_run_AC : (parseG exE2ET #[2, 4] true 30).1 = .reject := by decide +kernel

/-- `B` alone: clean accept; `A? → ε` (production 4) gets no `_onBounds` call. -/
theorem exE2E_run_B : (parseG exE2ET #[3] true 60).1 = .accept ∧ (parseG exE2ET #[3] true 60).2.2 = 0 ∧
    (parseG exE2ET #[3] true 60).2.1.log.reverse.map C16.evSummary =
      [(0, 4, 0, 0), (0, 8, 1, 0), (1, 8, 0, 0), (0, 2, 1, 0), (1, 2, 0, 0),
       (0, 6, 1, 0), (1, 6, 0, 0), (0, 1, 2, 0), (1, 1, 0, 0)] := by
  decide +kernel

end Lox.Props.C01
