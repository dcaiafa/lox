import Lox.LR.EmitModel
import Lox.LR.RuntimeDefs
/-! The grammar of defect D30, `@start s = b @error C; b = a; a = @empty` (witness
corpus/C09/D30_recover_goto_miss.json): the arrays lox writes into `parser.gen.go` for it and what the
model of the generator computes.

Terminals EOF=0 ERROR=1 C=2 X=3; rules S'=0 s=1 b=2 a=3; productions 0 `S' → s`, 1 `s → b ERROR C`,
2 `b → a`, 3 `a → ε`; name order `C EOF ERROR S' X a b s`. -/
namespace Lox.Props.C09
open Lox.LR Lox.LR.Rt Lox.LR.Emit Lox.LR.Cons

def hangG : Grammar := ⟨#[⟨0, [.n 1]⟩, ⟨1, [.n 2, .t 1, .t 2]⟩, ⟨2, [.n 3]⟩, ⟨3, []⟩]⟩

def hangOrd : List Sym := [.t 2, .t 0, .t 1, .n 0, .t 3, .n 3, .n 2, .n 1]

/-- The arrays of the real `parser.gen.go`. -/
def hangT : Tables :=
  { rules := #[0, 1, 2, 3], termCounts := #[1, 3, 1, 0],
    actions := #[6, 9, 12, 15, 18, 21, 2, 1, -3, 2, 1, -2, 2, 1, 4, 2, 0, 2147483647, 2, 2, 5, 2,
      0, -1],
    gotos := #[6, 13, 13, 13, 13, 13, 6, 3, 1, 2, 2, 1, 3, 0] }

/-- One run of the generator: no conflict, productive, exactly these arrays (6 states), and `termB`,
`recoveryOKB` on what it returns. -/
theorem hang_eval : conflictFree hangG 4 hangOrd = true ∧ productiveB hangG 4 = true ∧
    (generate hangG 4 hangOrd).map (fun r =>
      (r.1.rules.toList, r.1.termCounts.toList, r.1.actions.toList, r.1.gotos.toList, r.2.size)) =
    some (hangT.rules.toList, hangT.termCounts.toList, hangT.actions.toList, hangT.gotos.toList, 6) ∧
    (generate hangG 4 hangOrd).map (fun r => (termB hangG r.1 r.2, recoveryOKB r.1 r.2.size)) =
      some (true, true) := by
  decide +kernel

end Lox.Props.C09
