import Lox.LR.EmitModel
/-! Runs of the real `ConstructLALR` (lines of the `conflict` family of the harness): the grammar, the
item sets and transitions lox printed, and what the models compute on them. -/
namespace Lox.Props.C04
open Lox.LR Lox.Dec

/-- `s = s s | A` (ambiguous; lox refuses it). Terminals: 0 EOF, 1 ERROR, 2 A, 3 unused. -/
def VerdictEx.Amb.G : Grammar := ⟨#[⟨0, [.n 1]⟩, ⟨1, [.n 1, .n 1]⟩, ⟨1, [.t 2]⟩]⟩
def VerdictEx.Amb.info : Nat → ProdInfo := fun q => [⟨0, 0, false⟩, ⟨1, 0, false⟩, ⟨1, 0, false⟩].getD q ⟨0, 0, false⟩
def VerdictEx.Amb.tr : TransTab := #[[(.t 2, 1), (.n 1, 2)], [], [(.t 2, 1), (.n 1, 3)], [(.t 2, 1), (.n 1, 3)]]
def VerdictEx.Amb.cert : Array (List Item) := #[[⟨0, 0, 0⟩, ⟨1, 0, 0⟩, ⟨1, 0, 2⟩, ⟨2, 0, 0⟩, ⟨2, 0, 2⟩],
  [⟨2, 1, 0⟩, ⟨2, 1, 2⟩],
  [⟨0, 1, 0⟩, ⟨1, 0, 0⟩, ⟨1, 0, 2⟩, ⟨1, 1, 0⟩, ⟨1, 1, 2⟩, ⟨2, 0, 0⟩, ⟨2, 0, 2⟩],
  [⟨1, 0, 0⟩, ⟨1, 0, 2⟩, ⟨1, 1, 0⟩, ⟨1, 1, 2⟩, ⟨1, 2, 0⟩, ⟨1, 2, 2⟩, ⟨2, 0, 0⟩, ⟨2, 0, 2⟩]]

/-- The validator and the recomputed verdict on the recorded output. -/
theorem VerdictEx.Amb.recorded :
    conflictCheckB VerdictEx.Amb.G 4 2 VerdictEx.Amb.tr VerdictEx.Amb.cert = true ∧
    verdictB VerdictEx.Amb.G 4 VerdictEx.Amb.info VerdictEx.Amb.tr VerdictEx.Amb.cert = true := by
  decide +kernel

/-- An invented lookahead is rejected (⊆): `[s → A ·, 3]` added to state 1. -/
example : conflictCheckB VerdictEx.Amb.G 4 2 VerdictEx.Amb.tr (VerdictEx.Amb.cert.set! 1 [⟨2, 1, 0⟩, ⟨2, 1, 2⟩, ⟨2, 1, 3⟩]) = false := by
  decide +kernel

/-- A missing lookahead is rejected (⊇): `[s → s s ·, A]` removed from state 3 (this is what
would hide the conflict). -/
example : conflictCheckB VerdictEx.Amb.G 4 2 VerdictEx.Amb.tr (VerdictEx.Amb.cert.set! 3
    [⟨1, 0, 0⟩, ⟨1, 0, 2⟩, ⟨1, 1, 0⟩, ⟨1, 1, 2⟩, ⟨1, 2, 0⟩, ⟨2, 0, 0⟩, ⟨2, 0, 2⟩]) = false := by
  decide +kernel

/-- The classic LR(1)-but-not-LALR(1) grammar `s = A x D | B y D | A y E | B x E; x = C; y = C`
(lox refuses it: the merged state after `C` reduces both `x` and `y` on `D` and on `E`). -/
def VerdictEx.NotLalr.G : Grammar := ⟨#[⟨0, [.n 1]⟩, ⟨1, [.t 2, .n 2, .t 5]⟩, ⟨1, [.t 3, .n 3, .t 5]⟩,
  ⟨1, [.t 2, .n 3, .t 6]⟩, ⟨1, [.t 3, .n 2, .t 6]⟩, ⟨2, [.t 4]⟩, ⟨3, [.t 4]⟩]⟩
def VerdictEx.NotLalr.info : Nat → ProdInfo := fun q => [⟨0, 0, false⟩, ⟨1, 0, false⟩, ⟨1, 0, false⟩,
  ⟨1, 0, false⟩, ⟨1, 0, false⟩, ⟨2, 0, false⟩, ⟨3, 0, false⟩].getD q ⟨0, 0, false⟩
def VerdictEx.NotLalr.tr : TransTab := #[[(.t 2, 1), (.t 3, 2), (.n 1, 3)], [(.t 4, 4), (.n 2, 5), (.n 3, 6)],
  [(.t 4, 4), (.n 2, 7), (.n 3, 8)], [], [], [(.t 5, 9)], [(.t 6, 11)], [(.t 6, 12)], [(.t 5, 10)],
  [], [], [], []]
def VerdictEx.NotLalr.cert : Array (List Item) := #[[⟨0, 0, 0⟩, ⟨1, 0, 0⟩, ⟨2, 0, 0⟩, ⟨3, 0, 0⟩, ⟨4, 0, 0⟩],
  [⟨1, 1, 0⟩, ⟨3, 1, 0⟩, ⟨5, 0, 5⟩, ⟨6, 0, 6⟩],
  [⟨2, 1, 0⟩, ⟨4, 1, 0⟩, ⟨5, 0, 6⟩, ⟨6, 0, 5⟩],
  [⟨0, 1, 0⟩],
  [⟨5, 1, 5⟩, ⟨5, 1, 6⟩, ⟨6, 1, 5⟩, ⟨6, 1, 6⟩],
  [⟨1, 2, 0⟩], [⟨3, 2, 0⟩], [⟨4, 2, 0⟩], [⟨2, 2, 0⟩], [⟨1, 3, 0⟩], [⟨2, 3, 0⟩], [⟨3, 3, 0⟩],
  [⟨4, 3, 0⟩]]

theorem VerdictEx.NotLalr.recorded :
    conflictCheckB VerdictEx.NotLalr.G 7 4 VerdictEx.NotLalr.tr VerdictEx.NotLalr.cert = true ∧
    verdictB VerdictEx.NotLalr.G 7 VerdictEx.NotLalr.info VerdictEx.NotLalr.tr VerdictEx.NotLalr.cert = true := by
  decide +kernel

/-- `e = e A e @left(1) | e B e @left(2) | C`: every shift/reduce conflict is settled by the
precedence rule, lox accepts. -/
def VerdictEx.PrecOk.G : Grammar := ⟨#[⟨0, [.n 1]⟩, ⟨1, [.n 1, .t 2, .n 1]⟩, ⟨1, [.n 1, .t 3, .n 1]⟩, ⟨1, [.t 4]⟩]⟩
def VerdictEx.PrecOk.info : Nat → ProdInfo := fun q => [⟨0, 0, false⟩, ⟨1, 1, false⟩, ⟨1, 2, false⟩, ⟨1, 0, false⟩].getD q ⟨0, 0, false⟩
def VerdictEx.PrecOk.tr : TransTab := #[[(.t 4, 1), (.n 1, 2)], [], [(.t 2, 3), (.t 3, 4)], [(.t 4, 1), (.n 1, 5)],
  [(.t 4, 1), (.n 1, 6)], [(.t 2, 3), (.t 3, 4)], [(.t 2, 3), (.t 3, 4)]]
def VerdictEx.PrecOk.cert : Array (List Item) := #[[⟨0, 0, 0⟩, ⟨1, 0, 0⟩, ⟨1, 0, 2⟩, ⟨1, 0, 3⟩, ⟨2, 0, 0⟩, ⟨2, 0, 2⟩, ⟨2, 0, 3⟩, ⟨3, 0, 0⟩, ⟨3, 0, 2⟩, ⟨3, 0, 3⟩],
  [⟨3, 1, 0⟩, ⟨3, 1, 2⟩, ⟨3, 1, 3⟩],
  [⟨0, 1, 0⟩, ⟨1, 1, 0⟩, ⟨1, 1, 2⟩, ⟨1, 1, 3⟩, ⟨2, 1, 0⟩, ⟨2, 1, 2⟩, ⟨2, 1, 3⟩],
  [⟨1, 0, 0⟩, ⟨1, 0, 2⟩, ⟨1, 0, 3⟩, ⟨1, 2, 0⟩, ⟨1, 2, 2⟩, ⟨1, 2, 3⟩, ⟨2, 0, 0⟩, ⟨2, 0, 2⟩, ⟨2, 0, 3⟩, ⟨3, 0, 0⟩, ⟨3, 0, 2⟩, ⟨3, 0, 3⟩],
  [⟨1, 0, 0⟩, ⟨1, 0, 2⟩, ⟨1, 0, 3⟩, ⟨2, 0, 0⟩, ⟨2, 0, 2⟩, ⟨2, 0, 3⟩, ⟨2, 2, 0⟩, ⟨2, 2, 2⟩, ⟨2, 2, 3⟩, ⟨3, 0, 0⟩, ⟨3, 0, 2⟩, ⟨3, 0, 3⟩],
  [⟨1, 1, 0⟩, ⟨1, 1, 2⟩, ⟨1, 1, 3⟩, ⟨1, 3, 0⟩, ⟨1, 3, 2⟩, ⟨1, 3, 3⟩, ⟨2, 1, 0⟩, ⟨2, 1, 2⟩, ⟨2, 1, 3⟩],
  [⟨1, 1, 0⟩, ⟨1, 1, 2⟩, ⟨1, 1, 3⟩, ⟨2, 1, 0⟩, ⟨2, 1, 2⟩, ⟨2, 1, 3⟩, ⟨2, 3, 0⟩, ⟨2, 3, 2⟩, ⟨2, 3, 3⟩]]

theorem VerdictEx.PrecOk.recorded :
    conflictCheckB VerdictEx.PrecOk.G 5 2 VerdictEx.PrecOk.tr VerdictEx.PrecOk.cert = true ∧
    verdictB VerdictEx.PrecOk.G 5 VerdictEx.PrecOk.info VerdictEx.PrecOk.tr VerdictEx.PrecOk.cert = false := by
  decide +kernel

end Lox.Props.C04

namespace Lox.Props.C04
open Lox.LR Lox.LR.Gen Lox.LR.Cons Lox.LR.Emit
open Lox.Dec (ProdInfo Action)

/-! `ord` is the name order of the real run (`EOF`, `ERROR`, `S'`, token and rule names sorted). -/

def constructEx_ordAmb : List Sym := [.t 2, .t 0, .t 1, .n 0, .t 3, .n 1]
def constructEx_ordNotLalr : List Sym :=
  [.t 0, .t 1, .n 0, .t 2, .t 3, .t 4, .t 5, .t 6, .n 1, .n 2, .n 3]
def constructEx_ordPrec : List Sym := [.t 0, .t 1, .n 0, .t 2, .t 3, .t 4, .n 1]

/-- The canonical form in which the harness compares: items in `SortItems` order, transitions of
a state in name order. -/
def canon (ord : List Sym) (st : CState) : List (List Item) × List (List (Sym × Nat)) :=
  (st.states.map sortItems,
   st.trans.map fun row => ord.filterMap fun X => (lookupSym X row).map fun t => (X, t))

/-- Named so that the instance search for the equations below need not build it anew inside a larger
term (it would pass the size limit of the search). -/
local instance canonDecEq : DecidableEq (List (List Item) × List (List (Sym × Nat))) := inferInstance

/-- One run of the model of `ConstructLALR` per grammar: the table in canonical form is the recorded
one, the validator passes on the table as built, and the verdict is that of the real run. -/
theorem VerdictEx.Amb.run :
    (construct VerdictEx.Amb.G 4 constructEx_ordAmb).map (canon constructEx_ordAmb) =
      some (VerdictEx.Amb.cert.toList, VerdictEx.Amb.tr.toList) ∧
    (construct VerdictEx.Amb.G 4 constructEx_ordAmb).map (fun st =>
      (conflictCheckB VerdictEx.Amb.G 4 2 st.transTab st.cert,
       verdictB VerdictEx.Amb.G 4 VerdictEx.Amb.info st.transTab st.cert)) = some (true, true) := by
  decide +kernel

theorem VerdictEx.NotLalr.run :
    (construct VerdictEx.NotLalr.G 7 constructEx_ordNotLalr).map (canon constructEx_ordNotLalr) =
      some (VerdictEx.NotLalr.cert.toList, VerdictEx.NotLalr.tr.toList) ∧
    (construct VerdictEx.NotLalr.G 7 constructEx_ordNotLalr).map (fun st =>
      (conflictCheckB VerdictEx.NotLalr.G 7 4 st.transTab st.cert,
       verdictB VerdictEx.NotLalr.G 7 VerdictEx.NotLalr.info st.transTab st.cert)) = some (true, true) := by
  decide +kernel

/-- One run of the models of `ConstructLALR` and `EmitParser` on the precedence grammar: the table in
canonical form is the recorded one; the validator passes on it and the verdict is "no conflict";
state 5 (after `e A e`) holds the cell `[shift 3, reduce 1]` on `A`, and `_Find` on the emitted
arrays returns `-1` there, misses on `C`, returns `MaxInt32` (accept) for state 2 on EOF and state 5
for `_Find(_goto, 3, e)`. -/
theorem VerdictEx.PrecOk.run :
    (construct VerdictEx.PrecOk.G 5 constructEx_ordPrec).map (canon constructEx_ordPrec) =
      some (VerdictEx.PrecOk.cert.toList, VerdictEx.PrecOk.tr.toList) ∧
    (construct VerdictEx.PrecOk.G 5 constructEx_ordPrec).map (fun st =>
      (conflictCheckB VerdictEx.PrecOk.G 5 2 st.transTab st.cert,
       verdictB VerdictEx.PrecOk.G 5 VerdictEx.PrecOk.info st.transTab st.cert)) = some (true, false) ∧
    (construct VerdictEx.PrecOk.G 5 constructEx_ordPrec).bind (fun st =>
      (emitParserP VerdictEx.PrecOk.info VerdictEx.PrecOk.G 5 constructEx_ordPrec st).map fun T =>
        ((st.states.length, hasConflictsP VerdictEx.PrecOk.info VerdictEx.PrecOk.G 5 st,
          (Gen.cellOn VerdictEx.PrecOk.G 5 (trTerm st.transTab 5) (st.states[5]?.getD []) 2).toOption),
         (find T.actions 5 2, find T.actions 5 4, find T.actions 2 0))) =
    some ((7, false, some [.shift 3 [1, 1, 1], .reduce 1]), (.hit (-1), .miss, .hit 2147483647)) ∧
    (construct VerdictEx.PrecOk.G 5 constructEx_ordPrec).bind (fun st =>
      (emitParserP VerdictEx.PrecOk.info VerdictEx.PrecOk.G 5 constructEx_ordPrec st).map fun T =>
        find T.gotos 3 1) = some (.hit 5) := by
  decide +kernel

end Lox.Props.C04
