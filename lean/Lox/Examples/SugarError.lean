import Lox.LR.EmitModel
import Lox.LR.Desugar
import Lox.LR.RuntimeDefs
/-! The curated sugar grammar with an `@error` production, `s = item* ; item = A SEMI | @error SEMI`:
what the model of the generator emits for it and runs of the model of the generated parser on `A ; ;`.

After desugaring: terminals EOF=0 ERROR=1 A=2 SEMI=3, rules `S' s item item* item+`, 8 productions,
10 states. -/
namespace Lox.Props.C01
open Lox.LR Lox.LR.Gen Lox.LR.Cons Lox.LR.Emit Lox.LR.Abs Lox.LR.Rt

/-- A grammar WITH `@error`: `s = item* ; item = A SEMI | @error SEMI`. It is not `errorFree`,
its tables do hold ERROR actions, and the clean-accept theorems still apply to it. -/
def exErr : SGrammar :=
  ⟨["A", "SEMI"],
   [⟨"s", [⟨[.star (.rule 1)]⟩]⟩,
    ⟨"item", [⟨[.atom (.tok 0), .atom (.tok 1)]⟩, ⟨[.atom .err, .atom (.tok 1)]⟩]⟩]⟩

/-- Rules `S' s item item* item+`; name order `A EOF ERROR S' SEMI item item* item+ s`. -/
def exErrOrd : List Sym := [.t 2, .t 0, .t 1, .n 0, .t 3, .n 2, .n 3, .n 4, .n 1]

/-- The arrays the model of the generator emits. -/
def exErrT : Tables :=
  ⟨#[0, 1, 2, 2, 3, 3, 4, 4], #[1, 1, 2, 2, 1, 0, 2, 1],
   #[10, 17, 20, 23, 30, 33, 40, 43, 50, 57, 6, 2, 1, 0, -5, 1, 2, 2, 3, 7, 2, 3, 8, 6, 2, -7, 0, -7,
     1, -7, 2, 0, -1, 6, 2, 1, 0, -4, 1, 2, 2, 0, 2147483647, 6, 2, -2, 0, -2, 1, -2, 6, 2, -3, 0, -3,
     1, -3, 6, 2, -6, 0, -6, 1, -6],
   #[10, 19, 19, 19, 19, 20, 19, 19, 19, 19, 8, 2, 3, 3, 4, 4, 5, 1, 6, 0, 2, 2, 9]⟩

/-- The certificate the generator returns with `exErrT`; not written out, like `exE2ECert`. -/
def exErrCert : Array (List Item) :=
  ((generate (desugar exErr).1 exErr.nTerms exErrOrd).map (·.2)).getD #[]

/-- One run of the generator: conflict-free, productive, the arrays, 10 states, and the two
per-artefact checks `termB`, `recoveryOKB` on what it returns. -/
theorem exErr_eval : conflictFree (desugar exErr).1 exErr.nTerms exErrOrd = true ∧
    productiveB (desugar exErr).1 exErr.nRules = true ∧
    (generate (desugar exErr).1 exErr.nTerms exErrOrd).map (fun r =>
      (r.1.rules.toList, r.1.termCounts.toList, r.1.actions.toList, r.1.gotos.toList)) =
    some (exErrT.rules.toList, exErrT.termCounts.toList, exErrT.actions.toList,
      exErrT.gotos.toList) ∧
    (generate (desugar exErr).1 exErr.nTerms exErrOrd).map (fun r =>
      (r.2.size, termB (desugar exErr).1 r.1 r.2, recoveryOKB r.1 r.2.size)) =
    some (10, true, true) := by
  decide +kernel

theorem exErr_generate :
    generate (desugar exErr).1 exErr.nTerms exErrOrd = some (exErrT, exErrCert) ∧
      exErrCert.size = 10 ∧ termB (desugar exErr).1 exErrT exErrCert = true ∧
      recoveryOKB exErrT 10 = true := by
  obtain ⟨h, h'⟩ := exErr_eval.2.2
  unfold exErrCert
  cases hg : generate (desugar exErr).1 exErr.nTerms exErrOrd with
  | none => rw [hg] at h; cases h
  | some r =>
    obtain ⟨⟨a, b, c, d⟩, cert⟩ := r
    simp only [hg, Option.map_some, Option.some.injEq, Prod.mk.injEq, Array.toList_inj] at h h'
    obtain ⟨rfl, rfl, rfl, rfl⟩ := h
    obtain ⟨hs, ht, hr⟩ := h'
    exact ⟨rfl, hs, ht, hs ▸ hr⟩

/-- On `A ; ;` (token 3 = SEMI where `A` or `@error` must start) the generated parser recovers once
and accepts. -/
theorem exErr_run : (parseG exErrT #[2, 3, 3] false 60).1 = .accept ∧
    (parseG exErrT #[2, 3, 3] false 60).2.2 = 1 := by
  decide +kernel

end Lox.Props.C01
