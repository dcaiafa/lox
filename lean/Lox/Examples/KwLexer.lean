import Lox.Lex.EmitModel
import Lox.Lex.BisimNG
import Lox.Lex.Runtime
/-! The one-mode lexer `@lexer IF = 'if' ID = [a-z]+`: what the models of `NFACons`, `Build` and
`EmitLexer` compute for it, and the `_lexerMode0` the real lox writes (`lox` built from /repo). -/
namespace Lox.Props.C02
open Lox.Lex Lox.Lex.Gen

/-- `'if'` and `[a-z]+`. -/
def exKw : List Rx := [.lit [105, 102], .plus false (.cls [(97, 122)])]

/-- `IF = 'if'` (terminal 2), `ID = [a-z]+` (terminal 3). -/
def exKwRules : List Rule := [(Re.lit [105, 102], [(3, 2)]), (Re.plus (.cls [(97, 122)]), [(3, 3)])]

/-- The array the model of the generator emits for the example. -/
def exKwTbl : Mode := #[4, 16, 30, 38, 11, 0, 3, 97, 104, 3, 105, 105, 1, 106, 122, 3, 13, 0, 3,
  97, 101, 3, 102, 102, 2, 103, 122, 3, 3, 3, 7, 0, 1, 97, 122, 3, 3, 2, 7, 0, 1, 97, 122, 3, 3, 3]

end Lox.Props.C02

namespace Lox.Props.C10
open Lox.Lex Lox.Lex.Gen

/-- The automaton `Build` returns for `'if'`, `[a-z]+` (`C02.exKw`). -/
def exKwDFA : DFA :=
  { states := [
      { nfa := [0, 3, 5, 7, 9], trans := [(⟨105, 105⟩, 1), (⟨97, 104⟩, 3), (⟨106, 122⟩, 3)],
        accept := false, ng := false },
      { nfa := [1, 3, 4, 5, 6, 8], trans := [(⟨102, 102⟩, 2), (⟨97, 101⟩, 3), (⟨103, 122⟩, 3)],
        accept := true, ng := false },
      { nfa := [2, 3, 4, 5, 6, 8], trans := [(⟨97, 122⟩, 3)], accept := true, ng := false },
      { nfa := [3, 4, 5, 6, 8], trans := [(⟨97, 122⟩, 3)], accept := true, ng := false }] }

end Lox.Props.C10

namespace Lox.Props.C02
open Lox.Lex Lox.Lex.Gen

/-- One run of the model of `Build`, on its own and inside `genMode`. -/
theorem exKw_gen : buildDFA (modeNFA exKw) = some (.ok C10.exKwDFA) ∧
    genMode exKw exKwRules = some exKwTbl := by decide +kernel

theorem exKw_emitMode : emitMode C10.exKwDFA (fun s => [[], [(3, 3)], [(3, 2)], [(3, 3)]].getD s []) =
    some exKwTbl := by decide +kernel

/-- The emitted table on `"if"`, `"ig"` and `"i0"`. -/
theorem exKw_tableRun : tableRun exKwTbl [105, 102] = some [(3, 2)] ∧
    tableRun exKwTbl [105, 103] = some [(3, 3)] ∧ tableRun exKwTbl [105, 48] = none := by
  decide +kernel

/-- What the real lox writes into `_lexerMode0` for
`@lexer IF = 'if' ID = [a-z]+ @parser @start S = IF ID` (`lox` built from /repo; the real
`NFAToDFA` numbers the states by a depth-first walk, the model by order of creation). -/
def exKwReal : List Int := [4, 16, 24, 32, 11, 0, 3, 97, 104, 1, 105, 105, 3, 106,
  122, 1, 7, 0, 1, 97, 122, 1, 3, 3, 7, 0, 1, 97,
  122, 1, 3, 2, 13, 0, 3, 97, 101, 1, 102, 102, 2, 103,
  122, 1, 3, 3]

/-- The model's array and the real array are the same automaton: equal after renumbering the
states breadth first from state 0 (`canonMode`). -/
example : canonMode exKwTbl.toList = canonMode exKwReal ∧ (canonMode exKwReal).isSome := by
  decide +kernel

end Lox.Props.C02

namespace Lox.Props.C10
open Lox.Lex Lox.Lex.Gen

example : Rt.wfModes #[Lox.Props.C02.exKwTbl] = true := by decide +kernel

end Lox.Props.C10
