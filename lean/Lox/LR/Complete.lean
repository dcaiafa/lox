import Lox.LR.DerBasics
import Lox.Util.List
/-! The abstract LR machine: `step` by the action taken (`step_shift` … `step_acc_inv`), `run` in the
fuel (`run_mono`, `run_det`), and completeness under `Valid` (`run_forest`, `complete_run`; used for
C01 and C03). -/
namespace Lox.LR.Abs

theorem Reaches.trans {G A} {a b c : Config} (h1 : Reaches G A a b) (h2 : Reaches G A b c) :
    Reaches G A a c := by
  induction h1 with
  | refl => exact h2
  | step hs _ ih => exact .step hs (ih h2)

@[simp] theorem la_nil : la [] = eof := rfl

@[simp] theorem la_cons (a : Nat) (r : List Nat) : la (a :: r) = a := rfl

theorem la_append (x r : List Nat) : la (x ++ r) = x.headD (la r) := by
  cases x <;> simp [la]

theorem la_cons_tail (r : List Nat) (h : r ≠ []) : r = la r :: r.tail := by
  cases r with
  | nil => exact absurd rfl h
  | cons x xs => simp [la]

@[simp] theorem topState_cons (e : Entry) (st : List Entry) : topState (e :: st) = e.state := rfl

theorem step_of_none {G : Grammar} {A : Auto} {c : Config}
    (h : A.action (topState c.stack) (la c.input) = none) : step G A c = .fail := by
  obtain ⟨_ | ⟨e, st⟩, input, log⟩ := c
  · rfl
  · simp only [topState_cons] at h
    simp only [step, h]

theorem step_accept {G : Grammar} {A : Auto} {c : Config} (hne : c.stack ≠ [])
    (h : A.action (topState c.stack) (la c.input) = some .accept) :
    step G A c = .acc (c.stack.head hne).val := by
  obtain ⟨_ | ⟨e, st⟩, input, log⟩ := c
  · exact absurd rfl hne
  · simp only [topState_cons] at h
    simp only [step, h, List.head_cons]

theorem step_shift {G : Grammar} {A : Auto} {c : Config} {s' : Nat} (hne : c.stack ≠ [])
    (h : A.action (topState c.stack) (la c.input) = some (.shift s')) :
    step G A c = .cont ⟨⟨s', .leaf (la c.input)⟩ :: c.stack, c.input.tail, c.log⟩ := by
  obtain ⟨_ | ⟨e, st⟩, input, log⟩ := c
  · exact absurd rfl hne
  · simp only [topState_cons] at h
    simp only [step, h]

theorem step_reduce {G : Grammar} {A : Auto} {c : Config} {p s' : Nat} {pr : Prod} {e' : Entry}
    {rest : List Entry} (h : A.action (topState c.stack) (la c.input) = some (.reduce p))
    (hp : G.prods[p]? = some pr) (hd : c.stack.drop pr.rhs.length = e' :: rest)
    (hg : A.goto e'.state pr.lhs = some s') :
    step G A c =
      .cont ⟨⟨s', .node p ((c.stack.take pr.rhs.length).map (·.val)).reverse⟩ :: e' :: rest,
        c.input, c.log ++ [(p, ((c.stack.take pr.rhs.length).map (·.val)).reverse)]⟩ := by
  obtain ⟨_ | ⟨e, st⟩, input, log⟩ := c
  · simp at hd
  · simp only [topState_cons] at h
    simp only [step, h, hp, hd, hg]

theorem step_cont_inv {G : Grammar} {A : Auto} {c c' : Config} (h : step G A c = .cont c') :
    c.stack ≠ [] ∧
      ((∃ s', A.action (topState c.stack) (la c.input) = some (.shift s') ∧
          c' = ⟨⟨s', .leaf (la c.input)⟩ :: c.stack, c.input.tail, c.log⟩) ∨
       ∃ p pr e' rest s', A.action (topState c.stack) (la c.input) = some (.reduce p) ∧
          G.prods[p]? = some pr ∧ c.stack.drop pr.rhs.length = e' :: rest ∧
          A.goto e'.state pr.lhs = some s' ∧
          c' = ⟨⟨s', .node p ((c.stack.take pr.rhs.length).map (·.val)).reverse⟩ :: e' :: rest,
            c.input, c.log ++ [(p, ((c.stack.take pr.rhs.length).map (·.val)).reverse)]⟩) := by
  obtain ⟨_ | ⟨e, st⟩, input, log⟩ := c
  · cases h
  · refine ⟨List.cons_ne_nil _ _, ?_⟩
    simp only [step] at h
    split at h
    · cases h
    · cases h
    · next s' hact => exact .inl ⟨s', hact, by cases h; rfl⟩
    · next p hact =>
      split at h
      · cases h
      · next pr hp =>
        split at h
        · cases h
        · next e' rest hd =>
          split at h
          · cases h
          · next s' hg => exact .inr ⟨p, pr, e', rest, s', hact, hp, hd, hg, by cases h; rfl⟩

theorem step_acc_inv {G : Grammar} {A : Auto} {c : Config} {t : Tree} (h : step G A c = .acc t) :
    ∃ e st, c.stack = e :: st ∧ A.action e.state (la c.input) = some .accept ∧ e.val = t := by
  obtain ⟨_ | ⟨e, st⟩, input, log⟩ := c
  · cases h
  · refine ⟨e, st, rfl, ?_⟩
    simp only [step] at h
    split at h
    · cases h
    · next hact => exact ⟨hact, by cases h; rfl⟩
    · cases h
    · split at h
      · cases h
      · split at h
        · cases h
        · split at h <;> cases h

/-- Main completeness lemma: a forest `α` is consumed from any stack whose top state holds an item
with `α` right after the dot; the values pushed are exactly the forest, the reductions logged are
its post-order, and the advanced item is in the new top state. -/
theorem run_forest {G : Grammar} {A : Auto} {first} (hv : Valid G A first) (hf : FirstOK G first)
    {α w ts} (hd : Der G α w ts) :
    ∀ (st : List Entry) (it : Item) (pr : Prod) (γ : List Sym) (wγ : List Nat) (tγ : List Tree)
      (r : List Nat) (lg : List (Nat × List Tree)),
      st ≠ [] → it ∈ A.items (topState st) → G.prods[it.p]? = some pr →
      pr.rhs.drop it.d = α ++ γ → Der G γ wγ tγ → la r = it.a →
      ∃ st', Reaches G A ⟨st, w ++ (wγ ++ r), lg⟩ ⟨st' ++ st, wγ ++ r, lg ++ postList ts⟩ ∧
        (st'.map (·.val)).reverse = ts ∧ st'.length = α.length ∧
        ⟨it.p, it.d + α.length, it.a⟩ ∈ A.items (topState (st' ++ st)) := by
  induction hd with
  | nil =>
    intro st it pr γ wγ tγ r lg _ hit hp hdrop hγ hr
    exact ⟨[], by simpa [postList] using Reaches.refl _, rfl, rfl, by simpa using hit⟩
  | @term a α w ts hα ih =>
    intro st it pr γ wγ tγ r lg hne hit hp hdrop hγ hr
    obtain ⟨hnext, hdrop'⟩ := Util.getElem?_of_drop_eq_cons hdrop
    obtain ⟨s', hact, hit'⟩ := hv.shift _ it pr a hit hp hnext
    obtain ⟨st', hr', hvals, hlen, hfin⟩ :=
      ih (⟨s', .leaf a⟩ :: st) ⟨it.p, it.d + 1, it.a⟩ pr γ wγ tγ r lg (by simp)
        (by simpa using hit') hp hdrop' hγ hr
    refine ⟨st' ++ [⟨s', .leaf a⟩], .step (step_shift hne hact) ?_, by simp [hvals],
      by simp [hlen], by simpa [Nat.add_assoc, Nat.add_comm 1] using hfin⟩
    simpa [la, postList, Tree.post] using hr'
  | @nonterm q qr α w1 w2 ts1 ts2 hq h1 h2 ih1 ih2 =>
    intro st it pr γ wγ tγ r lg hne hit hp hdrop hγ hr
    obtain ⟨e, st0, rfl⟩ := List.exists_cons_of_ne_nil hne
    obtain ⟨hnext, hdrop'⟩ := Util.getElem?_of_drop_eq_cons hdrop
    -- the lookahead after the subtree is in FIRST of what follows the nonterminal
    let rest := w2 ++ (wγ ++ r)
    have hb : la rest ∈ first (pr.rhs.drop (it.d + 1)) it.a := by
      have : la rest = (w2 ++ wγ).headD it.a := by
        rw [← hr, ← la_append, List.append_assoc]
      rw [this, hdrop']
      exact hf.complete it.a (Der.append h2 hγ)
    have hclo := hv.closure _ it pr qr.lhs q qr _ hit hp hnext hq rfl hb
    obtain ⟨st1, hr1, hvals1, hlen1, hfin1⟩ :=
      ih1 (e :: st0) ⟨q, 0, la rest⟩ qr [] [] [] rest lg hne hclo hq (by simp) .nil rfl
    rw [List.nil_append] at hr1
    have hq0 : q ≠ 0 := by
      rintro rfl
      exact hv.noStart it.p pr qr hp hq (List.mem_of_getElem? hnext)
    have hred := hv.reduce _ _ qr hfin1 hq (by simp) hq0
    obtain ⟨s3, hgo, hit3⟩ := hv.goto _ it pr qr.lhs hit hp hnext
    obtain ⟨st2, hr2, hvals2, hlen2, hfin2⟩ :=
      ih2 (⟨s3, .node q ts1⟩ :: e :: st0) ⟨it.p, it.d + 1, it.a⟩ pr γ wγ tγ r
        (lg ++ postList ts1 ++ [(q, ts1)]) (by simp) (by simpa using hit3) hp hdrop' hγ hr
    have htake : (st1 ++ e :: st0).take qr.rhs.length = st1 := by rw [← hlen1]; simp
    have hdrop1 : (st1 ++ e :: st0).drop qr.rhs.length = e :: st0 := by rw [← hlen1]; simp
    have hstep := step_reduce (c := ⟨st1 ++ e :: st0, rest, lg ++ postList ts1⟩) hred hq
      hdrop1 hgo
    rw [htake, hvals1] at hstep
    refine ⟨st2 ++ [⟨s3, .node q ts1⟩], ?_, by simp [hvals2], by simp [hlen2],
      by simpa [Nat.add_assoc, Nat.add_comm 1] using hfin2⟩
    rw [List.append_assoc w1]
    refine (hr1.trans (.step hstep ?_))
    simpa [rest, postList, Tree.post] using hr2

theorem run_of_reaches {G A} {c c' : Config} (h : Reaches G A c c') :
    ∀ n r, run G A n c' = r → r ≠ .timeout → ∃ m, run G A m c = r := by
  induction h with
  | refl => intro n r hr _; exact ⟨n, hr⟩
  | step hs _ ih =>
    intro n r hr hne
    obtain ⟨m, hm⟩ := ih n r hr hne
    exact ⟨m + 1, by simp [run, hs, hm]⟩

theorem run_mono {G A} : ∀ (n k : Nat) (c : Config) (r : Res), run G A n c = r → r ≠ .timeout →
    run G A (n + k) c = r := by
  intro n
  induction n with
  | zero => intro k c r h hne; simp [run] at h; exact absurd h.symm hne
  | succ n ih =>
    intro k c r h hne
    have e : n + 1 + k = (n + k) + 1 := Nat.add_right_comm n 1 k
    rw [e]
    simp only [run] at h ⊢
    cases hs : step G A c with
    | cont c' => rw [hs] at h; simpa using ih k c' r h hne
    | acc t => rw [hs] at h; simpa using h
    | fail => rw [hs] at h; simpa using h

theorem run_det {G A} {n m : Nat} {c : Config} {r r' : Res} (h : run G A n c = r)
    (h' : run G A m c = r') (hne : r ≠ .timeout) (hne' : r' ≠ .timeout) : r = r' := by
  have a := run_mono n m c r h hne
  have b := run_mono m n c r' h' hne'
  rw [Nat.add_comm] at b
  rw [← a, ← b]

theorem complete_run {G : Grammar} {A : Auto} {first} (hv : Valid G A first)
    (hf : FirstOK G first) {w t} (hd : Der G [.n (startSym G)] w [t]) :
    ∃ n, run G A n (init w) = .acc t t.post := by
  obtain ⟨S', hp0⟩ := hv.prod0
  obtain ⟨st', hr, hvals, hlen, hfin⟩ :=
    run_forest hv hf hd [⟨0, .leaf 0⟩] ⟨0, 0, eof⟩ _ [] [] [] [] [] (by simp)
      (by simpa using hv.start) hp0 (by simp) .nil rfl
  obtain ⟨e, rfl⟩ := List.length_eq_one_iff.mp hlen
  obtain rfl : e.val = t := by simpa using hvals
  have hacc := hv.accept e.state (by simpa using hfin)
  have hr' : Reaches G A (init w) ⟨[e, ⟨0, .leaf 0⟩], [], e.val.post⟩ := by
    simpa [init, postList] using hr
  exact run_of_reaches hr' 1 (.acc e.val e.val.post)
    (by simp only [run, step_accept (c := ⟨[e, _], [], _⟩) (by simp) hacc, List.head_cons])
    (by simp)

end Lox.LR.Abs
