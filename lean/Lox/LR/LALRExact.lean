import Lox.LR.JustifySound
/-! Exactness lemmas: `check` (nothing missing) + `justify` (nothing invented) ⇒ the certificate is
the family of LALR(1) item sets and the emitted tables are the LALR(1) tables. The property
theorems are in `Lox/Props/C04_exact.lean`. -/
namespace Lox.LR

theorem closed_of_valid {G : Grammar} {A : Auto} {F : FirstTab} (hv : Valid G A (firstOf F))
    (hc : closedB G F = true) : Closed G A where
  start := hv.start
  step := by
    intro s it pr X hit hp hX
    cases X with
    | t x =>
      obtain ⟨s', hact, hmem⟩ := hv.shift s it pr x hit hp hX
      exact ⟨s', by simp [trans, hact], hmem⟩
    | n B =>
      obtain ⟨s', hgo, hmem⟩ := hv.goto s it pr B hit hp hX
      exact ⟨s', by simpa [trans] using hgo, hmem⟩
  closure := by
    intro s it pr B q qr b hit hp hX hq hl hf
    exact hv.closure s it pr B q qr b hit hp hX hq hl (first_complete hc hf)

theorem closed_of_checkOK {G : Grammar} {nTerms nRules : Nat} {T : Tables}
    {cert : Array (List Item)} (h : CheckOK G nTerms nRules T cert) : Closed G (autoOf T cert) :=
  closed_of_valid (valid_of_checkOK h) h.closed

theorem core_valid_zero {G : Grammar} {A : Auto} (hs : Safe G A) {z : Nat} {it : Item}
    (h : Justd G A z it) : z = 0 → LR0Item G [] it.p it.d := by
  induction h with
  | start _ => intro _; exact .start
  | goto _ _ _ _ hmem _ =>
    intro hz
    subst hz
    have := hs.s0 _ hmem
    simp at this
  | closure _ hp hX hq hl _ _ ih => intro hz; exact .closure (ih hz) hp hX hq hl

theorem core_valid_succ {G : Grammar} {A : Auto} (hs : Safe G A) {γ : List Sym} {X : Sym}
    {s1 s2 : Nat} {it : Item} (h : Justd G A s2 it) :
    trans A s1 X = some s2 → (∀ it', it' ∈ A.items s1 → LR0Item G γ it'.p it'.d) →
    LR0Item G (γ ++ [X]) it.p it.d := by
  induction h with
  | start _ => intro htr _; exact absurd htr (hs.noIn s1 X)
  | @goto s' s p d a pr X' _ hpp hX' _ hmem _ =>
    intro htr ihp
    obtain ⟨pr', hp', hXX, a', hprev⟩ := hs.back _ _ _ _ htr hmem (by simp)
    simp only [Nat.add_sub_cancel] at hXX hprev
    exact .goto (ihp _ hprev) hp' hXX
  | closure _ hp' hX hq hl _ _ ih => intro htr ihp; exact .closure (ih htr ihp) hp' hX hq hl

/-- For EVERY `γ` that reaches the state: this is where the LALR merge is harmless. -/
theorem core_valid {G : Grammar} {A : Auto} (hs : Safe G A)
    (hj : ∀ s it, it ∈ A.items s → Justd G A s it) {γ : List Sym} {s : Nat}
    (hpath : Path A 0 γ s) : ∀ it, it ∈ A.items s → LR0Item G γ it.p it.d := by
  induction hpath with
  | nil => exact fun it hit => core_valid_zero hs (hj 0 it hit) rfl
  | snoc _ htr ihp => exact fun it hit => core_valid_succ hs (hj _ it hit) htr ihp

theorem Productive.der_drop {G : Grammar} (hprod : Productive G) {p : Nat} {pr : Prod}
    (hp : G.prods[p]? = some pr) (k : Nat) : ∃ w ts, Der G (pr.rhs.drop k) w ts :=
  AllProductive.der fun B hB => (hprod p pr hp).2 B (List.mem_of_mem_drop hB)

/-- Productivity is needed: the closure adds `[B → ·δ, b]` only for `b ∈ FIRST(βa)`, which is empty
when `β` derives nothing. -/
theorem LR0Item.in_state {G : Grammar} {A : Auto} (hc : Closed G A) (hprod : Productive G)
    {γ : List Sym} {p d : Nat} (h : LR0Item G γ p d) :
    ∃ s, Path A 0 γ s ∧ HasCore (A.items s) p d := by
  induction h with
  | start => exact ⟨0, .nil 0, eof, hc.start⟩
  | goto _ hp hX ih =>
    obtain ⟨s, hpath, a, hmem⟩ := ih
    obtain ⟨s', htr, hmem'⟩ := hc.step s _ _ _ hmem hp hX
    exact ⟨s', .snoc hpath htr, a, hmem'⟩
  | @closure γ p d pr B q qr _ hp hX hq hl ih =>
    obtain ⟨s, hpath, a, hmem⟩ := ih
    obtain ⟨w, ts, hd⟩ := hprod.der_drop hp (d + 1)
    exact ⟨s, hpath, _, hc.closure s _ _ _ _ _ _ hmem hp hX hq hl (First.of_der a hd)⟩

theorem Path.items_nonempty {G : Grammar} {A : Auto} (hc : Closed G A) (he : EdgesBacked G A)
    {γ : List Sym} {s : Nat} (hpath : Path A 0 γ s) : ∃ it, it ∈ A.items s := by
  cases hpath with
  | nil => exact ⟨_, hc.start⟩
  | snoc hp htr =>
    obtain ⟨it, hmem, pr, hpr, hX⟩ := he _ _ _ htr
    obtain ⟨s', htr', hmem'⟩ := hc.step _ it pr _ hmem hpr hX
    rw [htr] at htr'
    cases htr'
    exact ⟨_, hmem'⟩

/-- What `check` + `justify` give (`ExactCert.of_ok`): nothing missing (`closed`, `safe`), nothing
invented (`justd`, `edges`). -/
structure ExactCert (G : Grammar) (A : Auto) (n : Nat) : Prop where
  closed : Closed G A
  safe : Safe G A
  justd : ∀ s it, it ∈ A.items s → Justd G A s it
  edges : EdgesBacked G A
  kernels : KernelsDistinct A n
  inRange : ∀ s it, it ∈ A.items s → s < n
  productive : Productive G

theorem ExactCert.of_ok {G : Grammar} {nTerms nRules : Nat} {T : Tables}
    {cert : Array (List Item)} (hc : CheckOK G nTerms nRules T cert) (hj : JustifyOK G T cert)
    (hprod : Productive G) : ExactCert G (autoOf T cert) cert.size :=
  ⟨closed_of_checkOK hc, safe_of_checkOK hc, hj.justd, hj.edges, hj.kernels,
    fun _ _ h => mem_itemsOf h, hprod⟩

/-- The skeleton of `A` is the LR(0) automaton of `G` and its item sets are the LALR(1) sets. -/
def IsLALRAutomaton (G : Grammar) (A : Auto) : Prop :=
  (∀ γ p d, LR0Item G γ p d → ∃ s, Path A 0 γ s) ∧
  (∀ γ s, Path A 0 γ s → ∀ p d, HasCore (A.items s) p d ↔ LR0Item G γ p d) ∧
  (∀ γ γ' s s', Path A 0 γ s → Path A 0 γ' s' → (s = s' ↔ SameLR0 G γ γ')) ∧
  (∀ γ s, Path A 0 γ s → ∀ it, it ∈ A.items s ↔ LALRSet G γ it)

section
variable {G : Grammar} {A : Auto} {n : Nat} (h : ExactCert G A n)
include h

theorem ExactCert.cores_eq_lr0 {γ : List Sym} {s : Nat} (hpath : Path A 0 γ s) (p d : Nat) :
    HasCore (A.items s) p d ↔ LR0Item G γ p d := by
  constructor
  · rintro ⟨a, hmem⟩
    exact core_valid h.safe h.justd hpath _ hmem
  · intro hl
    obtain ⟨s', hpath', hcore⟩ := hl.in_state h.closed h.productive
    rw [hpath.det hpath']
    exact hcore

theorem ExactCert.same_state {γ γ' : List Sym} {s s' : Nat} (hpath : Path A 0 γ s)
    (hpath' : Path A 0 γ' s') (hsame : SameLR0 G γ' γ) : s' = s := by
  obtain ⟨it, hit⟩ := hpath.items_nonempty h.closed h.edges
  obtain ⟨it', hit'⟩ := hpath'.items_nonempty h.closed h.edges
  refine h.kernels s' s (h.inRange _ _ hit') (h.inRange _ _ hit) fun p d => ?_
  rw [h.cores_eq_lr0 hpath', h.cores_eq_lr0 hpath]
  exact hsame p d

/-- **The certificate is the family of LALR(1) item sets, textbook form.** -/
theorem ExactCert.items_eq_lalrSet {γ : List Sym} {s : Nat} (hpath : Path A 0 γ s) (it : Item) :
    it ∈ A.items s ↔ LALRSet G γ it := by
  constructor
  · intro hit
    obtain ⟨γ', hpath', hlr1⟩ := (h.justd s it hit).lalr
    refine ⟨γ', fun p d => ?_, hlr1⟩
    rw [← h.cores_eq_lr0 hpath', ← h.cores_eq_lr0 hpath]
  · rintro ⟨γ', hsame, hlr1⟩
    obtain ⟨s', hpath', hmem⟩ := hlr1.in_state h.closed
    rw [← h.same_state hpath hpath' hsame]
    exact hmem

theorem ExactCert.lr0_automaton : IsLALRAutomaton G A := by
  refine ⟨fun γ p d hl => ?_, fun γ s hpath => h.cores_eq_lr0 hpath,
    fun γ γ' s s' hpath hpath' => ⟨fun e p d => ?_, fun hsame => h.same_state hpath' hpath hsame⟩,
    fun γ s hpath => h.items_eq_lalrSet hpath⟩
  · obtain ⟨s, hpath, _⟩ := hl.in_state h.closed h.productive
    exact ⟨s, hpath⟩
  · subst e
    rw [← h.cores_eq_lr0 hpath, ← h.cores_eq_lr0 hpath']

end

theorem action_of_cand {G : Grammar} {A : Auto} {first} (hv : Valid G A first) {s a : Nat}
    {act : Act} (h : Cand G A (fun s it => it ∈ A.items s) s a act) :
    A.action s a = some act := by
  cases h with
  | @shift p d b pr s' hmem hp hX htr =>
    obtain ⟨s'', hact, _⟩ := hv.shift s _ pr a hmem hp hX
    simp only [trans, hact, Option.some.injEq] at htr
    rw [hact, htr]
  | @reduce p pr hmem hp hp0 => exact hv.reduce s _ pr hmem hp rfl hp0
  | accept hmem ha => subst ha; exact hv.accept s hmem

/-- **The action table is the LALR(1) action table**: nothing missing (`Valid`, `Closed`), nothing
invented (`Justd`, `ActionsBacked`). -/
theorem action_iff_cand {G : Grammar} {A : Auto} {first} (hv : Valid G A first) (hc : Closed G A)
    (hj : ∀ s it, it ∈ A.items s → Justd G A s it) (ha : ActionsBacked G A) (s a : Nat) (act : Act) :
    A.action s a = some act ↔ Cand G A (LALRItem G A) s a act :=
  Iff.trans ⟨ha s a act, action_of_cand hv⟩ (Cand.congr (hc.mem_iff_lalr hj s))

end Lox.LR
