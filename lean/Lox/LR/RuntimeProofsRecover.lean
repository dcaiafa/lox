import Lox.LR.RuntimeProofs
/-! What a successful `_recover()` returns (`recover_result`), the remaining-input measure, and the
potential that bounds the number of successful recoveries along a run (`parseG_bound`). Behind
`C09.recover_result`, `C09.recover_progress`, `C09.remaining_monotone`,
`C09.progress_between_recoveries`, `C09.recoveries_bounded`. -/
namespace Lox.LR.Rt

/-- Restated as `C09.recover_result`. `s1` is the state in which the stack search succeeded, `s0`
the one in which the outer `for` of `_recover` was entered. -/
theorem recover_result {T : Tables} {inp : Array Nat} {fuel : Nat} {s s' : PState}
    (h : recover T inp fuel s = .ok s') :
    s'.la = tERROR ∧
    (∃ i ty ex, s'.lasym = .err i ty ex ∧ symTokIdx s.lasym = some i ∧
      (s.lasym = .err i ty ex ∨ (s.lasym = .tok i ty ∧ ∃ st, topState s.stack = some st ∧
        rowKeys T.actions st = some ex))) ∧
    s'.recovering = true ∧
    s'.stack <:+ s.stack ∧
    s'.log = s.log ∧
    (∃ top v, topState s'.stack = some top ∧ find T.actions top tERROR = .hit v ∧
      simulate T s'.qla fuel top = .found) ∧
    (∃ s0 s1, Reads T inp s s0 ∧ s0.la ≠ tERROR ∧ Reads T inp s0 s1 ∧
      s'.qla = s1.la ∧ s'.qlasym = s1.lasym ∧ s'.pos = s1.pos ∧ s'.reads = s1.reads) := by
  obtain ⟨errSym, s0, s1, st, he, h0, hl0, h1, hst, rfl, -⟩ := recover_ok h
  obtain ⟨i, ty, ex, rfl, hsym⟩ := errSymOf_spec he
  obtain ⟨hsuf, e, rest, rfl, hsim⟩ := searchStack_ok hst
  have hf := (h0.trans h1).frame
  refine ⟨rfl, ⟨i, ty, ex, rfl, ?_, hsym⟩, rfl, ?_, hf.log, ?_, ⟨s0, s1, h0, hl0, h1, rfl, rfl, rfl, rfl⟩⟩
  · rcases hsym with hs | ⟨hs, -⟩ <;> rw [hs] <;> rfl
  · rw [← hf.stack]; exact hsuf
  · obtain ⟨v, hv⟩ := simulate_found fuel hsim
    exact ⟨e.state, v, rfl, hv, hsim⟩

theorem realLa_le (x : Int) : realLa x ≤ 1 := by unfold realLa; split <;> omega
theorem realQ_le_realLa (x : Int) : realQ x ≤ realLa x := by
  unfold realQ realLa
  split <;> split <;> simp_all
theorem realQ_eq_realLa {x : Int} (h : x ≠ -1) : realQ x = realLa x := by
  unfold realQ realLa
  simp [h]
theorem realLa_real {x : Int} (h1 : x ≠ tEOF) (h2 : x ≠ tERROR) : realLa x = 1 := by
  unfold realLa; simp [h1, h2]

theorem readToken_remaining {T : Tables} {inp : Array Nat} {s s' : PState}
    (h : readToken T inp s = .ok s') :
    remaining inp s' + realLa s.la ≤ remaining inp s ∧ s.pos ≤ s'.pos := by
  have key : remaining inp (afterLex inp s) + realLa s.la ≤ remaining inp s ∧
      s.pos ≤ (afterLex inp s).pos := by
    have arr : ∀ {a' a q x l : Nat}, a' + x ≤ a → a' + q + x + l ≤ a + q + l := fun h =>
      Nat.add_le_add_right (Nat.add_right_comm .. ▸ Nat.add_le_add_right h _) _
    show inp.size - (if s.pos < inp.size then s.pos + 1 else s.pos) + realQ s.qla +
        realLa (lexRead inp s.pos).2 + realLa s.la ≤ inp.size - s.pos + realQ s.qla + realLa s.la ∧
      s.pos ≤ (if s.pos < inp.size then s.pos + 1 else s.pos)
    by_cases hp : s.pos < inp.size
    · rw [if_pos hp]
      exact ⟨arr (Nat.le_trans (Nat.add_le_add_left (realLa_le _) _) (Nat.sub_succ_lt_self _ _ hp)),
        Nat.le_succ _⟩
    · rw [if_neg hp, lexRead_eof hp]
      exact ⟨arr (Nat.le_refl _), Nat.le_refl _⟩
  rcases readToken_eq_ok h with ⟨hq, rfl⟩ | ⟨-, -, rfl⟩ | ⟨-, -, -, ks, rfl⟩
  · refine ⟨?_, Nat.le_refl _⟩
    show inp.size - s.pos + realQ (-1) + realLa s.qla + realLa s.la ≤
      inp.size - s.pos + realQ s.qla + realLa s.la
    rw [realQ_eq_realLa hq]
    exact Nat.le_refl _
  · exact key
  · exact key

theorem Reads.remaining {T : Tables} {inp : Array Nat} {a b : PState} (h : Reads T inp a b) :
    remaining inp b ≤ remaining inp a ∧ a.pos ≤ b.pos :=
  h.inv (P := fun x => Rt.remaining inp x ≤ Rt.remaining inp a ∧ a.pos ≤ x.pos)
    (fun _ _ hp hr => ⟨Nat.le_trans (Nat.le_trans (Nat.le_add_right _ _) (readToken_remaining hr).1) hp.1,
      Nat.le_trans hp.2 (readToken_remaining hr).2⟩) ⟨Nat.le_refl _, Nat.le_refl _⟩

theorem injectErr_remaining (inp : Array Nat) (s1 : PState) (st : List Entry) (e : Val) :
    remaining inp (injectErr s1 st e) ≤ remaining inp s1 :=
  show inp.size - s1.pos + realQ s1.la ≤ inp.size - s1.pos + realQ s1.qla + realLa s1.la from
    Nat.add_le_add (Nat.le_add_right _ _) (realQ_le_realLa _)

/-- Restated as `C09.recover_progress`. The strict decrease under `_recovering` (no token shifted
since the last recovery) is the offending token dropped by the `if p._recovering` block. -/
theorem recover_progress {T : Tables} {inp : Array Nat} {fuel : Nat} {s s' : PState}
    (h : recover T inp fuel s = .ok s') :
    remaining inp s' ≤ remaining inp s ∧ s.pos ≤ s'.pos ∧
    (s.recovering = true → remaining inp s' < remaining inp s) := by
  obtain ⟨errSym, s0, s1, st, -, h0, -, h1, -, rfl, hrec⟩ := recover_ok h
  have r0 := h0.remaining
  have r1 := h1.remaining
  have hi : remaining inp (injectErr s1 st errSym) ≤ remaining inp s0 :=
    Nat.le_trans (injectErr_remaining inp s1 st errSym) r1.1
  refine ⟨Nat.le_trans hi r0.1, Nat.le_trans r0.2 r1.2, fun hr => ?_⟩
  obtain ⟨sa, sb, ha, hne, hnE, hab, hb0⟩ := hrec hr
  have rab := (readToken_remaining hab).1
  rw [realLa_real hnE hne] at rab
  exact Nat.lt_of_lt_of_le (Nat.lt_of_lt_of_le (Nat.lt_succ_of_le (Nat.le_trans hi hb0.remaining.1)) rab)
    ha.remaining.1

theorem shiftState_remaining (inp : Array Nat) (s : PState) (a : Int) (ti : Nat) :
    remaining inp (shiftState s a ti) = remaining inp s := rfl

theorem step_remaining {T : Tables} {inp : Array Nat} {wb : Bool} {fuel : Nat} {s s' : PState}
    (h : step T inp wb fuel s = .cont s') : remaining inp s' ≤ remaining inp s := by
  cases step_cont h with
  | recover _ _ hr => exact (recover_progress hr).1
  | shift _ _ _ _ _ hr =>
    exact Nat.le_trans (Nat.le_add_right _ _) (readToken_remaining hr).1
  | reduce => exact Nat.le_refl _

theorem Reach.remaining {T : Tables} {inp : Array Nat} {wb : Bool} {fuel : Nat} {a b : PState}
    (h : Reach T inp wb fuel a b) : remaining inp b ≤ remaining inp a :=
  h.inv (P := fun x => Rt.remaining inp x ≤ Rt.remaining inp a)
    (fun _ _ hp hs => Nat.le_trans (step_remaining hs) hp) (Nat.le_refl _)

theorem realShift_of_reset {T : Tables} {inp : Array Nat} {wb : Bool} {fuel : Nat} {s s' : PState}
    (h : step T inp wb fuel s = .cont s') (h1 : s.recovering = true) (h2 : s'.recovering = false) :
    RealShift T s := by
  cases step_cont h with
  | recover _ _ hr =>
    have := (recover_result hr).2.2.1
    rw [h2] at this; cases this
  | shift htop hf hacc hsh _ hr =>
    refine ⟨_, _, htop, hf, hsh, hacc, ?_⟩
    intro hla
    have := (readToken_frame hr).recovering
    simp only [shiftState, hla, ne_eq, not_true_eq_false, if_false] at this
    rw [h1, h2] at this; cases this
  | reduce =>
    change s.recovering = false at h2
    rw [h1] at h2; cases h2

theorem Reach.realShift_of_reset {T : Tables} {inp : Array Nat} {wb : Bool} {fuel : Nat}
    {a b : PState} (h : Reach T inp wb fuel a b) (h1 : a.recovering = true)
    (h2 : b.recovering = false) :
    ∃ c c', Reach T inp wb fuel a c ∧ Lox.LR.step T inp wb fuel c = .cont c' ∧
      Reach T inp wb fuel c' b ∧ RealShift T c := by
  induction h with
  | refl => rw [h1] at h2; cases h2
  | @step s s1 s2 hs hr ih =>
    cases hrec : s1.recovering with
    | false => exact ⟨s, s1, .refl s, hs, hr, Rt.realShift_of_reset hs h1 hrec⟩
    | true =>
      obtain ⟨c, c', hc, hcs, hcb, hsh⟩ := ih hrec h2
      exact ⟨c, c', .step hs hc, hcs, hcb, hsh⟩

/-- `s1` stands for the state a successful `_recover()` returned (whence `h1`), `s2` for the
state in which the next one is called. -/
theorem recover_progress_between {T : Tables} {inp : Array Nat} {wb : Bool} {fuel : Nat}
    {s1 s2 s3 : PState} (h1 : s1.recovering = true) (hr : Reach T inp wb fuel s1 s2)
    (h : recover T inp fuel s2 = .ok s3) :
    (∃ c c', Reach T inp wb fuel s1 c ∧ step T inp wb fuel c = .cont c' ∧
      Reach T inp wb fuel c' s2 ∧ RealShift T c) ∨
    remaining inp s3 < remaining inp s1 := by
  cases h2 : s2.recovering with
  | false => exact .inl (hr.realShift_of_reset h1 h2)
  | true =>
    exact .inr (Nat.lt_of_lt_of_le ((recover_progress h).2.2 h2) hr.remaining)

theorem potential_le {inp : Array Nat} {s s' : PState} {d c : Nat}
    (h : remaining inp s' + d ≤ remaining inp s)
    (hx : (if s'.recovering then 0 else 1) + c ≤ 2 * d + if s.recovering then 0 else 1) :
    potential inp s' + c ≤ potential inp s := by
  unfold potential
  omega

/-- Why `potential = 2 * remaining + [¬ _recovering]` pays one unit per successful recovery: with
`_recovering` clear the recovery sets it (frees 1); with `_recovering` set it drops a token
(frees 2); the shift of a real token clears `_recovering` (costs 1) but consumes the token
(frees 2). Only a shift of EOF would clear `_recovering` for nothing, whence `hE`: `NoShiftEOF` at
this state only, which validated tables give by `SInv.noShiftEOFAt` (`RuntimeSound`). -/
theorem step_potential {T : Tables} {inp : Array Nat} {wb : Bool} {fuel : Nat} {s s' : PState}
    (hE : NoShiftEOFAt T s) (h : step T inp wb fuel s = .cont s') :
    potential inp s' + (if isRecoverStep T s then 1 else 0) ≤ potential inp s := by
  cases step_cont h with
  | recover htop hf hr =>
    obtain ⟨h1, -, h2⟩ := recover_progress hr
    have hrec := (recover_result hr).2.2.1
    rw [isRecoverStep_miss htop hf, if_pos rfl]
    cases hs : s.recovering with
    | false => exact potential_le (d := 0) h1 (by rw [hrec, hs]; decide)
    | true => exact potential_le (d := 1) (h2 hs) (by rw [hrec, hs]; decide)
  | shift htop hf hacc hsh _ hr =>
    have hrem : remaining inp s' + realLa s.la ≤ remaining inp s := (readToken_remaining hr).1
    have hfr : s'.recovering = if s.la ≠ tERROR then false else s.recovering :=
      (readToken_frame hr).recovering
    rw [isRecoverStep_hit htop hf, if_neg Bool.false_ne_true]
    refine potential_le hrem ?_
    by_cases hla : s.la = tERROR
    · rw [hfr, if_neg (not_not_intro hla), hla]
      exact Nat.le_add_left _ _
    · rw [hfr, if_pos hla, realLa_real (hE _ _ htop hf hacc hsh) hla]
      exact Nat.le_add_right_of_le (by decide)
  | reduce htop hf =>
    rw [isRecoverStep_hit htop hf]
    exact Nat.le_refl _

theorem init_potential {T : Tables} {inp : Array Nat} {s1 : PState}
    (h : readToken T inp initState = .ok s1) : potential inp s1 ≤ 2 * inp.size + 1 :=
  potential_le (c := 0) (readToken_remaining h).1
    (by rw [(readToken_frame h).recovering]; exact Nat.le_add_left _ _)

theorem ReachN.potential {T : Tables} {inp : Array Nat} {wb : Bool} {fuel : Nat}
    {P : PState → Prop}
    (hP : ∀ s s', P s → Lox.LR.step T inp wb fuel s = .cont s' →
      P s' ∧ potential inp s' + (if isRecoverStep T s then 1 else 0) ≤ potential inp s)
    {k : Nat} {a b : PState} (h : ReachN T inp wb fuel k a b) (ha : P a) :
    potential inp b + k ≤ potential inp a := by
  induction h with
  | refl => exact Nat.le_refl _
  | step h _ ih =>
    obtain ⟨h1, h2⟩ := hP _ _ ha h
    exact Nat.le_trans (by rw [← Nat.add_assoc]; exact Nat.add_le_add_right (ih h1) _) h2

/-- `P` is there for `parseG_bound_safe`, which gets the potential inequality from `SInv` instead of
`NoShiftEOF`. -/
theorem parseG_bound_of {T : Tables} {inp : Array Nat} {wb : Bool} {fuel : Nat} {P : PState → Prop}
    (h0 : ∀ s1, readToken T inp initState = .ok s1 → P s1)
    (hP : ∀ s s', P s → step T inp wb fuel s = .cont s' →
      P s' ∧ potential inp s' + (if isRecoverStep T s then 1 else 0) ≤ potential inp s) :
    (parseG T inp wb fuel).2.2 ≤ 2 * inp.size + 1 := by
  rcases parseG_spec T inp wb fuel with ⟨w, -, h⟩ | ⟨s1, sl, h1, hr, -⟩
  · rw [h]; exact Nat.zero_le _
  · exact Nat.le_trans (Nat.le_trans (Nat.le_add_left _ _) (hr.potential hP (h0 s1 h1)))
      (init_potential h1)

/-- Restated as `C09.recoveries_bounded`. -/
theorem parseG_bound {T : Tables} (hT : NoShiftEOF T) (inp : Array Nat) (wb : Bool) (fuel : Nat) :
    (parseG T inp wb fuel).2.2 ≤ 2 * inp.size + 1 :=
  parseG_bound_of (P := fun _ => True) (fun _ _ => trivial)
    fun s _ _ h => ⟨trivial, step_potential (hT.at s) h⟩

end Lox.LR.Rt
