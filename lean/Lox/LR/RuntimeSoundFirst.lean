import Lox.LR.RuntimeSoundAbs
/-! C09 `first_error_token`: the first `Error` the parser makes up carries the lookahead of the
first configuration without an action, and (on `check`-validated tables) no sentence agrees with
the input up to and including that token: the input has stopped being a prefix of any sentence
there. That is immediate error detection of the abstract machine (`Abs.error_not_prefix`), which the
run of `parse` up to its first `_recover()` is a run of (`PlainReach.consumed`). A run that accepts
without any `_recover()` is one to its end: C09 `no_silent_accept`. -/
namespace Lox.LR.Abs

theorem step_fail_indep {G : Grammar} {A : Auto} {st : List Entry} {i i' : List Nat}
    {lg lg' : List (Nat × List Tree)} (h : step G A ⟨st, i, lg⟩ = .fail)
    (hla : la i' = la i) : step G A ⟨st, i', lg'⟩ = .fail := by
  cases h' : step G A ⟨st, i', lg'⟩ with
  | fail => rfl
  | acc t =>
    obtain ⟨e, st0, rfl, hact, -⟩ := step_acc_inv h'
    rw [step_accept (c := ⟨e :: st0, i, lg⟩) (List.cons_ne_nil _ _) (hla ▸ hact)] at h
    cases h
  | cont c1 =>
    obtain ⟨hne, ⟨s', hact, -⟩ | ⟨p, pr, e', rest, s', hact, hp, hd, hg, -⟩⟩ :=
      step_cont_inv h'
    · rw [step_shift (c := ⟨st, i, lg⟩) hne (hla ▸ hact)] at h; cases h
    · rw [step_reduce (c := ⟨st, i, lg⟩) (hla ▸ hact) hp hd hg] at h; cases h

/-- `step_cont_inv` in the shape `Reaches.replay` takes: a reduction can be repeated over any input
with the same lookahead. -/
theorem step_cases {G : Grammar} {A : Auto} {c c1 : Config} (h : step G A c = .cont c1) :
    (∃ s', A.action (topState c.stack) (la c.input) = some (.shift s') ∧
      c1 = ⟨⟨s', .leaf (la c.input)⟩ :: c.stack, c.input.tail, c.log⟩) ∨
    (c1.input = c.input ∧ ∀ i', la i' = la c.input →
      step G A ⟨c.stack, i', c.log⟩ = .cont ⟨c1.stack, i', c1.log⟩) := by
  obtain ⟨-, ⟨s', hact, rfl⟩ | ⟨p, pr, e', rest, s', hact, hp, hd, hg, rfl⟩⟩ := step_cont_inv h
  · exact .inl ⟨s', hact, rfl⟩
  · exact .inr ⟨rfl, fun i' hi' => step_reduce (c := ⟨c.stack, i', c.log⟩) (hi' ▸ hact) hp hd hg⟩

/-- The run up to `c` consumed a prefix `x` of the input and only ever looked at `x` and the
lookahead: it can be replayed with any other continuation `r` that starts with the same token. -/
theorem Reaches.replay {G : Grammar} {A : Auto} (hs : Safe G A) {c0 c : Config}
    (h : Reaches G A c0 c) :
    ∃ x, c0.input = x ++ c.input ∧ ∀ r, la r = la c.input →
      Reaches G A ⟨c0.stack, x ++ r, c0.log⟩ ⟨c.stack, r, c.log⟩ := by
  induction h with
  | refl c => exact ⟨[], rfl, fun r _ => .refl _⟩
  | @step c0 c1 c2 hst _ ih =>
    obtain ⟨x1, hx1, hrep⟩ := ih
    obtain ⟨st0, in0, lg0⟩ := c0
    rcases step_cases hst with ⟨s', hact, rfl⟩ | ⟨hin, hind⟩
    · simp only at hact hx1 hrep ⊢
      cases in0 with
      | nil => exact absurd (by simpa [la] using hact) (hs.noShiftEof _ s')
      | cons a rest =>
        simp only [List.tail_cons] at hx1 hrep
        refine ⟨a :: x1, by rw [hx1]; rfl, fun r hr => ?_⟩
        exact .step (step_shift (c := ⟨st0, a :: (x1 ++ r), lg0⟩) (step_cont_inv hst).1 hact)
          (by simpa [la] using hrep r hr)
    · simp only at hin hind hx1 hrep ⊢
      refine ⟨x1, by rw [← hin]; exact hx1, fun r hr => ?_⟩
      have hla : la (x1 ++ r) = la in0 := by
        rw [← hin, hx1, la_append, la_append, hr]
      exact .step (hind _ hla) (hrep r hr)

/-- **Immediate error detection**: if the machine fails in `c` (reached from `init w`, `w = u ++
c.input`), then `u` followed by the lookahead of `c` is not a prefix of any sentence followed by
EOF – the offending token is the first one at which the input stops being a prefix of a sentence. -/
theorem error_not_prefix {G : Grammar} {A : Auto} {first} (hv : Valid G A first)
    (hf : FirstOK G first) (hs : Safe G A) {w : List Nat} {c : Config}
    (h : Reaches G A (init w) c) (hfail : step G A c = .fail) :
    ∃ u, w = u ++ c.input ∧ ∀ w' t, Der G [.n (startSym G)] w' [t] →
      ¬ (u ++ [la c.input]) <+: (w' ++ [eof]) := by
  obtain ⟨u, hu, hrep⟩ := h.replay hs
  refine ⟨u, by simpa [init] using hu, fun w' t hd hpre => ?_⟩
  obtain ⟨z, hz⟩ := hpre
  -- the continuation `r` of `w'` after `u`: same lookahead as `c`
  obtain ⟨r, hw', hr⟩ : ∃ r, w' = u ++ r ∧ la r = la c.input := by
    rcases List.eq_nil_or_concat z with rfl | ⟨z', e, rfl⟩
    · have : w' ++ [eof] = u ++ [la c.input] := by simpa using hz.symm
      obtain ⟨e1, e2⟩ := List.append_inj' this rfl
      refine ⟨[], by simpa using e1, ?_⟩
      simp only [List.cons.injEq, and_true] at e2
      rw [← e2]; rfl
    · have : w' ++ [eof] = (u ++ la c.input :: z') ++ [e] := by
        rw [← hz]; simp [List.append_assoc]
      obtain ⟨e1, _⟩ := List.append_inj' this rfl
      exact ⟨la c.input :: z', e1, by simp [la]⟩
  obtain ⟨n, hrun⟩ := complete_run hv hf hd
  have hreach := hrep r hr
  have hfail' : step G A ⟨c.stack, r, c.log⟩ = .fail := step_fail_indep (by simpa using hfail) hr
  have hrun1 : run G A 1 ⟨c.stack, r, c.log⟩ = .fail := by simp [run, hfail']
  obtain ⟨m, hm⟩ := run_of_reaches hreach 1 _ hrun1 (by simp)
  have hinit : (⟨(init w).stack, u ++ r, (init w).log⟩ : Config) = init w' := by
    simp [init, hw']
  rw [hinit] at hm
  have := run_det hm hrun (by simp) (by simp)
  cases this

end Lox.LR.Abs

namespace Lox.LR.Rt
open Lox.LR.Abs (StackInv)

section
variable {G : Grammar} {nTerms nRules : Nat} {T : Tables} {cert : Array (List Item)}

theorem toList_toArray_drop_zero (w : List Nat) : w.toArray.toList.drop 0 = w := by simp

/-- Every state `parse` passes through on the way to a final state lies on the (unique) path to it. -/
theorem PlainReach.of_reach {inp : Array Nat} {wb : Bool} {fuel : Nat} {a b c : PState} {o : Outcome}
    {b' : PState} (hp : PlainReach T inp wb fuel a b) (hd : Lox.LR.step T inp wb fuel b = .done o b')
    (hr : Reach T inp wb fuel a c) : PlainReach T inp wb fuel c b := by
  induction hp with
  | refl =>
    cases hr with
    | refl => exact .refl _
    | step h _ => rw [hd] at h; cases h
  | step hpl hs hrest ih =>
    cases hr with
    | refl => exact .step hpl hs hrest
    | step h hr' =>
      rw [hs] at h; cases h
      exact ih hd hr'

/-- Behind C09 `sentence_never_recovers`: there the accepting abstract run is `Abs.complete_run` of a
sentence on tables that pass `check`. By `runLoop_absC` the run of `parse` is plain up to its accepting
state, and every state it passes through lies on that path. -/
theorem sentence_run_plain (hc : SafeOK G nTerms nRules T cert) {w : List Nat} {n : Nat} {t : Tree}
    {lg} (hrun : Abs.run G (autoOf T cert) n (Abs.init w) = .acc t lg) {wb : Bool} {fuel : Nat}
    {s : PState} (h : ParseReach T w.toArray wb fuel s) : isRecoverStep T s = false := by
  obtain ⟨s1, h1, hr⟩ := h
  have hi := init_absC h1
  obtain ⟨sf, k, -, hp, -, ⟨-, hf⟩ | ⟨hacc, -⟩⟩ :=
    runLoop_absC hc wb fuel n (init_SInv (G := G) (cert := cert) h1) (by rw [hi, hrun]; nofun)
  · rw [hi, hrun] at hf
    cases hf
  · cases hp.of_reach hacc hr with
    | refl =>
      obtain ⟨-, -, top, htop, hf⟩ | ⟨h, -⟩ | ⟨h, -⟩ | ⟨_, h, -⟩ := step_done hacc
      · exact isRecoverStep_hit htop hf
      all_goals cases h
    | step hpl _ _ => exact hpl

/-- C09 `first_error_token`, runtime part (any tables): the `Error` that the first successful
`_recover()` injects carries the token that is the lookahead of `s`, the first configuration without
an action – a pending lexer `Error` is passed on, a `Token` is wrapped by `_makeError()` – and every
`Error` value that existed before wraps a lexer ERROR token. -/
theorem first_error_runtime {T : Tables} {inp : Array Nat} {wb : Bool} {fuel : Nat}
    {s1 s s' : PState} (h1 : readToken T inp initState = .ok s1)
    (hreach : PlainReach T inp wb fuel s1 s) (hrec : isRecoverStep T s = true)
    (hstep : step T inp wb fuel s = .cont s') :
    (∃ i ty ex, s'.lasym = .err i ty ex ∧ s'.la = tERROR ∧ symTokIdx s.lasym = some i ∧
      (s.lasym = .err i ty ex ∨ s.lasym = .tok i ty)) ∧
    ErrsInv (lexErrAt inp) s := by
  constructor
  · cases step_cont hstep with
    | recover _ _ hr =>
      obtain ⟨hla, ⟨i, ty, ex, hsym, hidx, hcase⟩, -⟩ := recover_result hr
      exact ⟨i, ty, ex, hsym, hla, hidx, hcase.imp_right And.left⟩
    | shift htop hf => rw [isRecoverStep_hit htop hf] at hrec; cases hrec
    | reduce htop hf => rw [isRecoverStep_hit htop hf] at hrec; cases hrec
  · exact hreach.inv (fun _ _ => (ErrsInv.pmoves T inp wb).plain)
      (readToken_ErrsInv (initState_ErrsInv _) h1)

/-- In a run without `_recover()` nothing is queued, so what is left of the input are the tokens
from the lookahead on, and what the stack has consumed are the tokens before it: the consumed word
of `StackInv` is a function of the stack (`StackInv.word_unique`). Lexer ERROR tokens are tokens like
any other here. -/
theorem PlainReach.consumed (hc : SafeOK G nTerms nRules T cert) {inp : Array Nat} {wb : Bool}
    {fuel : Nat} {s1 s : PState} (h1 : readToken T inp initState = .ok s1)
    (hreach : PlainReach T inp wb fuel s1 s) :
    Abs.Reaches G (autoOf T cert) (Abs.init inp.toList) (absC inp s) ∧
    SInv G (autoOf T cert) inp s ∧ (absC inp s).input = inp.toList.drop (lidx s.lasym) ∧
    (stackLeaves s.stack).map leafNat = inp.toList.take (lidx s.lasym) := by
  obtain ⟨hre, hs⟩ := hreach.abs hc (init_SInv h1)
  rw [init_absC h1] at hre
  have hq : s.qla = -1 := hreach.qla (readToken_lex (s := initState) rfl (Nat.zero_le _) h1).2.1
  have hin : (absC inp s).input = inp.toList.drop (lidx s.lasym) := by
    show absIn inp s = _
    unfold absIn
    rw [if_neg (not_not_intro hq)]
  refine ⟨hre, hs, hin, ?_⟩
  obtain ⟨syms, u, hinv, hu⟩ := Abs.reaches_inv (safe_of_safeOK hc) hre (.base (.leaf 0))
  obtain ⟨syms', hci⟩ := hs.cinv
  rw [hci.stackInv_leaves.word_unique hinv, List.nil_append]
  rw [hin] at hu
  exact List.append_cancel_right (hu.symm.trans (List.take_append_drop _ _).symm)

/-- Agreement of `inp` with `w` on the positions `0..j` (EOF at the end of `inp`), in the terms of
`Abs.error_not_prefix`. -/
theorem prefix_of_agree {inp : Array Nat} {w : List Nat} {j : Nat}
    (h : ∀ i, i ≤ j → inp[i]? = w.toArray[i]?) :
    (inp.toList.take j ++ [Abs.la (inp.toList.drop j)]) <+: (w ++ [eof]) := by
  have htake : inp.toList.take j = w.take j := by
    apply List.ext_getElem?
    intro i
    by_cases hi : i < j
    · rw [List.getElem?_take_of_lt hi, List.getElem?_take_of_lt hi, Array.getElem?_toList,
        h i (Nat.le_of_lt hi), List.getElem?_toArray]
    · rw [List.getElem?_eq_none (by simp; omega), List.getElem?_eq_none (by simp; omega)]
  rw [la_drop, h j (Nat.le_refl _), htake, List.getElem?_toArray]
  by_cases hlt : j < w.length
  · refine ⟨w.drop (j + 1) ++ [eof], ?_⟩
    rw [List.getElem?_eq_getElem hlt, Option.getD_some, List.append_assoc, List.singleton_append,
      ← List.cons_append, ← List.drop_eq_getElem_cons hlt, ← List.append_assoc,
      List.take_append_drop]
  · refine ⟨[], ?_⟩
    rw [List.getElem?_eq_none (Nat.le_of_not_lt hlt), List.append_nil,
      List.take_of_length_le (Nat.le_of_not_lt hlt)]
    rfl

/-- C09 `first_error_token`, grammar part (tables that pass `check`): at the token
`j = lidx s.lasym` (possibly EOF at `j = |inp|`) for which `s` has no action, the input has stopped
being a prefix of any sentence. The run up to `s` is a run of the abstract machine
(`PlainReach.consumed`) that fails in the image of `s` (`step_absC`), with the tokens from `j` on as
input: `Abs.error_not_prefix`. -/
theorem first_error_not_prefix (hv : Valid G (autoOf T cert) (firstOf (firstFix G nTerms nRules)))
    (hf : FirstOK G (firstOf (firstFix G nTerms nRules))) (hc : SafeOK G nTerms nRules T cert)
    {inp : Array Nat} {wb : Bool} {fuel : Nat} {s1 s : PState}
    (h1 : readToken T inp initState = .ok s1) (hreach : PlainReach T inp wb fuel s1 s)
    (hrec : isRecoverStep T s = true) {w : List Nat} {t : Tree}
    (hd : Der G [.n (startSym G)] w [t]) :
    ¬ ∀ i, i ≤ lidx s.lasym → inp[i]? = w.toArray[i]? := by
  intro hag
  obtain ⟨hre, hs, hin, -⟩ := hreach.consumed hc h1
  have hfail : Abs.step G (autoOf T cert) (absC inp s) = .fail := by
    rcases step_absC hc hs wb fuel with ⟨-, hf⟩ | ⟨hr, -⟩ | ⟨hr, -⟩
    · exact hf
    · cases hrec.symm.trans hr
    · cases hrec.symm.trans hr
  obtain ⟨u, hu, hneg⟩ := Abs.error_not_prefix hv hf (safe_of_safeOK hc) hre hfail
  rw [hin] at hu hneg
  obtain rfl : u = inp.toList.take (lidx s.lasym) :=
    List.append_cancel_right (hu.symm.trans (List.take_append_drop _ _).symm)
  exact hneg w t hd (prefix_of_agree hag)

/-- A run that accepts without a successful `_recover()` accepted a sentence. It is a run of the
abstract machine, so what the value on top derives is what was consumed (`PlainReach.consumed`): the
whole input, since the accepting EOF lookahead stands at its end. `hinp0`: `lexRead` answers token
type 0 after the end of the input; with a 0 inside the input the accepting EOF lookahead need not
stand at the end. A lexer ERROR token that the grammar expects is shifted like any other terminal. -/
theorem plain_accept_sentence (hc : SafeOK G nTerms nRules T cert) {inp : Array Nat} {wb : Bool}
    {fuel : Nat} (hinp0 : ∀ i : Nat, inp[i]? ≠ some 0)
    (hacc : (parseG T inp wb fuel).1 = .accept) (h0 : (parseG T inp wb fuel).2.2 = 0) :
    ∃ st0 v b bot, (parse T inp wb fuel).2.stack = [{ state := st0, sym := v, bounds := b }, bot] ∧
      Der G [.n (startSym G)] inp.toList [v.toTree] := by
  obtain ⟨hla, st0, v, b, bot, hst, -, hsl, hder, hcov⟩ :=
    accepted_sentence hc (by rw [← parseG_fst]; exact hacc)
  obtain ⟨s1, h1, hr, -⟩ := parseG_accept hacc
  have hcons := ((hr.plain h0).consumed hc h1).2.2.2
  rw [parseG_snd, hsl, (eof_lookahead hcov.pinv hla hinp0).2] at hcons
  have hw : wordOf v = inp.toList :=
    hcons.trans (List.take_of_length_le (Nat.le_of_eq Array.length_toList))
  exact ⟨st0, v, b, bot, hst, hw ▸ hder⟩

/-- C09 `no_silent_accept`. -/
theorem no_silent_accept (hc : SafeOK G nTerms nRules T cert) {inp : Array Nat} {wb : Bool}
    {fuel : Nat} (hinp1 : ∀ i : Nat, inp[i]? ≠ some 1) (hinp0 : ∀ i : Nat, inp[i]? ≠ some 0)
    (hacc : (parseG T inp wb fuel).1 = .accept) (h0 : (parseG T inp wb fuel).2.2 = 0) :
    ∃ st0 v b bot, (parse T inp wb fuel).2.stack = [{ state := st0, sym := v, bounds := b }, bot] ∧
      Der G [.n (startSym G)] inp.toList [v.toTree] :=
  plain_accept_sentence hc hinp0 hacc h0

/-- With no lexer ERROR token in the input either (`hinp1`), the leaves of the value are the input
tokens (`Cov.consumed_eq_input`). -/
theorem clean_accept_leaves (hc : SafeOK G nTerms nRules T cert) {inp : Array Nat} {wb : Bool}
    {fuel : Nat} (hinp1 : ∀ i : Nat, inp[i]? ≠ some 1) (hinp0 : ∀ i : Nat, inp[i]? ≠ some 0)
    (hacc : (parseG T inp wb fuel).1 = .accept) (h0 : (parseG T inp wb fuel).2.2 = 0) :
    ∃ st0 v b bot, (parse T inp wb fuel).2.stack = [{ state := st0, sym := v, bounds := b }, bot] ∧
      bot.sym = .nil ∧ Der G [.n (startSym G)] inp.toList [v.toTree] ∧
      (leaves v).length = inp.size ∧
      ∀ (i : Nat) (h : i < inp.size), (leaves v)[i]? = some (.tok i inp[i]) := by
  obtain ⟨hla, st0, v, b, bot, hst, hnil, hsl, -, hcov⟩ :=
    accepted_sentence hc (by rw [← parseG_fst]; exact hacc)
  obtain ⟨st0', v', b', bot', hst', hder⟩ := plain_accept_sentence hc hinp0 hacc h0
  cases hst.symm.trans hst'
  obtain ⟨-, -, a3, -⟩ := parseG_zero_ErrsInv h0
  rw [parseG_snd] at a3
  generalize (parse T inp wb fuel).2 = sf at *
  -- no `Error` among the consumed symbols: none was made up and the lexer delivered none
  have hne : ∀ x ∈ stackLeaves sf.stack, x.isErr = false := by
    rw [hsl]
    exact leaves_no_err v (errsIn_mono (lexErrAt_false hinp1) _ (a3 _ (hst ▸ List.mem_cons_self)))
  obtain ⟨hq, hlasym⟩ := eof_lookahead hcov.pinv hla hinp0
  obtain ⟨hlen, hget⟩ := hcov.consumed_eq_input hq (by rw [hlasym]; rfl) (by rw [hlasym]; rfl) hne
  rw [hsl] at hlen hget
  exact ⟨st0, v, b, bot, hst, hnil, hder, hlen, hget⟩

end

end Lox.LR.Rt
