import Lox.LR.LALRBasics
import Lox.Util.List
import Lox.Util.Nat
/-! One theory of nullable / FIRST tables, for the two computations of the development: the
generator's `Gen.firstSets` (`first.go`) and the validator's `firstFix` (`Check.lean`).
Specification level (read these; `Props/C01_gen`, `Props/C04_gen` are stated with them): `Step`,
`Derives`, `SFirst`, `SNull`, `Productive`.
What a table SAYS is an `FView`. A `Sound` view lists only what derivations justify; a view that
`Holds` the FIRST inequations of every production lists everything; both: `FView.exact`. The
semantic FIRST is itself such a table (`FView.sem`), so FIRST of a string is composed from that of
its symbols. How a table is COMPUTED is a loop `fixIter` over a pass that reports whether it changed
anything; a pass is a fold of steps that `Grows`: `fixIter_spec`. -/
namespace Lox.LR.Gen
open Lox.LR

inductive Step (G : Grammar) : List Sym → List Sym → Prop where
  | mk {q : Nat} {pr : Prod} (u v : List Sym) : G.prods[q]? = some pr →
      Step G (u ++ .n pr.lhs :: v) (u ++ pr.rhs ++ v)

inductive Derives (G : Grammar) : List Sym → List Sym → Prop where
  | refl (α : List Sym) : Derives G α α
  | step {α β γ : List Sym} : Step G α β → Derives G β γ → Derives G α γ

/-- Semantic FIRST, the textbook definition. -/
def SFirst (G : Grammar) (α : List Sym) (b : Nat) : Prop := ∃ β, Derives G α (.t b :: β)

def SNull (G : Grammar) (α : List Sym) : Prop := Derives G α []

def Productive (G : Grammar) (s : Sym) : Prop := ∃ w ts, Der G [s] w ts

/-- This `⇒*` takes a step anywhere, then the rest; `Lox.LR.Derives` of `LALR` spells the step out. -/
theorem derives_iff {G : Grammar} {α β : List Sym} : Gen.Derives G α β ↔ Lox.LR.Derives G α β := by
  constructor
  · intro h
    induction h with
    | refl => exact .refl _
    | step hs _ ih =>
      cases hs with
      | mk u v hq => exact .step hq ih
  · intro h
    induction h with
    | refl => exact .refl _
    | step hq _ ih => exact .step (.mk _ _ hq) ih

theorem Derives.trans {G : Grammar} {α β γ : List Sym} (h1 : Derives G α β) (h2 : Derives G β γ) :
    Derives G α γ :=
  derives_iff.mpr ((derives_iff.mp h1).trans (derives_iff.mp h2))

theorem Derives.append_right {G : Grammar} {α β : List Sym} (h : Derives G α β) (γ : List Sym) :
    Derives G (α ++ γ) (β ++ γ) :=
  derives_iff.mpr ((derives_iff.mp h).append_right γ)

theorem Derives.of_prod {G : Grammar} {q : Nat} {pr : Prod} (hq : G.prods[q]? = some pr) :
    Derives G [.n pr.lhs] pr.rhs :=
  derives_iff.mpr (Lox.LR.Derives.prod hq)

theorem Der.derives {G : Grammar} {α : List Sym} {w : List Nat} {ts : List Tree}
    (h : Der G α w ts) : Derives G α (w.map Sym.t) :=
  derives_iff.mpr (Lox.LR.Der.derives h)

theorem first_iff {G : Grammar} {α : List Sym} {a b : Nat} :
    First G α a b ↔ SFirst G α b ∨ (SNull G α ∧ b = a) :=
  or_congr (exists_congr fun _ => derives_iff.symm) (and_congr derives_iff.symm Iff.rfl)

theorem SFirst.head {G : Grammar} {s : Sym} {x : Nat} (h : SFirst G [s] x) (r : List Sym) :
    SFirst G (s :: r) x :=
  let ⟨β, h⟩ := h; ⟨β ++ r, h.append_right r⟩

theorem SFirst.skip {G : Grammar} {s : Sym} {r : List Sym} {x : Nat} (hn : SNull G [s])
    (h : SFirst G r x) : SFirst G (s :: r) x :=
  let ⟨β, h⟩ := h; ⟨β, (Derives.append_right hn r).trans h⟩

theorem SNull.cons {G : Grammar} {s : Sym} {r : List Sym} (hs : SNull G [s]) (hr : SNull G r) :
    SNull G (s :: r) :=
  (Derives.append_right hs r).trans hr

/-- What a nullable / FIRST table says: `fst B x` – it lists the terminal `x` for the rule `B`;
`nul B` – it marks `B` nullable. -/
structure FView where
  fst : Nat → Nat → Prop
  nul : Nat → Prop

namespace FView

def NulSeq (V : FView) : List Sym → Prop
  | [] => True
  | .t _ :: _ => False
  | .n B :: r => V.nul B ∧ V.NulSeq r

def FstSeq (V : FView) : List Sym → Nat → Prop
  | [], _ => False
  | .t a :: _, x => x = a
  | .n B :: r, x => V.fst B x ∨ (V.nul B ∧ V.FstSeq r x)

variable {V : FView}

theorem nulSeq_append (u v : List Sym) : V.NulSeq (u ++ v) ↔ V.NulSeq u ∧ V.NulSeq v := by
  induction u with
  | nil => simp [NulSeq]
  | cons s r ih => cases s <;> simp [NulSeq, ih, and_assoc]

theorem fstSeq_append (u v : List Sym) (x : Nat) :
    V.FstSeq (u ++ v) x ↔ V.FstSeq u x ∨ (V.NulSeq u ∧ V.FstSeq v x) := by
  induction u with
  | nil => simp [NulSeq, FstSeq]
  | cons s r ih =>
    cases s with
    | t a => simp [NulSeq, FstSeq]
    | n B =>
      simp only [List.cons_append, FstSeq, NulSeq, ih]
      constructor
      · rintro (h | ⟨h1, h2 | ⟨h2, h3⟩⟩)
        · exact .inl (.inl h)
        · exact .inl (.inr ⟨h1, h2⟩)
        · exact .inr ⟨⟨h1, h2⟩, h3⟩
      · rintro ((h | ⟨h1, h2⟩) | ⟨⟨h1, h2⟩, h3⟩)
        · exact .inl h
        · exact .inr ⟨h1, .inl h2⟩
        · exact .inr ⟨h1, .inr ⟨h2, h3⟩⟩

theorem fstSeq_snoc_t (β : List Sym) (a x : Nat) :
    V.FstSeq (β ++ [.t a]) x ↔ V.FstSeq β x ∨ (V.NulSeq β ∧ x = a) := by
  rw [fstSeq_append]; rfl

theorem not_nulSeq_snoc_t (β : List Sym) (a : Nat) : ¬ V.NulSeq (β ++ [.t a]) := by
  rw [nulSeq_append]; exact fun h => h.2

theorem fstSeq_below {nT : Nat} (hV : ∀ B x, V.fst B x → x < nT) :
    ∀ {α : List Sym}, (∀ a, Sym.t a ∈ α → a < nT) → ∀ x, V.FstSeq α x → x < nT
  | .t a :: _, hα, x, h => (h : x = a) ▸ hα a (List.mem_cons_self ..)
  | .n B :: _, hα, x, h =>
    h.elim (hV B x) fun h => fstSeq_below hV (fun a ha => hα a (List.mem_cons_of_mem _ ha)) x h.2

def Sound (G : Grammar) (V : FView) : Prop :=
  ∀ B, (∀ x, V.fst B x → SFirst G [.n B] x) ∧ (V.nul B → SNull G [.n B])

theorem Sound.seq {G : Grammar} (hV : V.Sound G) :
    ∀ α, (∀ x, V.FstSeq α x → SFirst G α x) ∧ (V.NulSeq α → SNull G α)
  | [] => ⟨fun _ h => h.elim, fun _ => .refl _⟩
  | .t a :: r => ⟨fun x h => by obtain rfl : x = a := h; exact ⟨r, .refl _⟩, fun h => h.elim⟩
  | .n B :: r =>
    have ih := Sound.seq hV r
    ⟨fun x h => h.elim (fun h => ((hV B).1 x h).head r) fun h => .skip ((hV B).2 h.1) (ih.1 x h.2),
      fun h => SNull.cons ((hV B).2 h.1) (ih.2 h.2)⟩

theorem Sound.add {G : Grammar} {V' : FView} (hV : V.Sound G) {q : Nat} {pr : Prod}
    (hq : G.prods[q]? = some pr)
    (hf : ∀ B x, V'.fst B x → V.fst B x ∨ (B = pr.lhs ∧ V.FstSeq pr.rhs x))
    (hn : ∀ B, V'.nul B → V.nul B ∨ (B = pr.lhs ∧ V.NulSeq pr.rhs)) : V'.Sound G := by
  have hseq := hV.seq pr.rhs
  refine fun B => ⟨fun x hx => ?_, fun hB => ?_⟩
  · rcases hf B x hx with h | ⟨rfl, h⟩
    · exact (hV B).1 x h
    · exact let ⟨β, h⟩ := hseq.1 x h; ⟨β, (Derives.of_prod hq).trans h⟩
  · rcases hn B hB with h | ⟨rfl, h⟩
    · exact (hV B).2 h
    · exact (Derives.of_prod hq).trans (hseq.2 h)

def Holds (G : Grammar) (V : FView) : Prop :=
  ∀ pr ∈ G.prods.toList, (∀ x, V.FstSeq pr.rhs x → V.fst pr.lhs x) ∧ (V.NulSeq pr.rhs → V.nul pr.lhs)

theorem Holds.derives {G : Grammar} (hV : V.Holds G) {α β : List Sym} (h : Derives G α β) :
    (∀ x, V.FstSeq β x → V.FstSeq α x) ∧ (V.NulSeq β → V.NulSeq α) := by
  induction h with
  | refl => exact ⟨fun _ h => h, fun h => h⟩
  | step hs _ ih =>
    obtain ⟨u, v, hq⟩ := hs
    have hpr := hV _ (Util.mem_toList_iff_getElem?.mpr ⟨_, hq⟩)
    constructor
    · intro x hx
      have := ih.1 x hx
      rw [List.append_assoc, fstSeq_append, fstSeq_append] at this
      rw [fstSeq_append]
      exact this.imp_right fun h => ⟨h.1, h.2.elim (fun h => .inl (hpr.1 x h))
        fun h => .inr ⟨hpr.2 h.1, h.2⟩⟩
    · intro hn
      have := ih.2 hn
      rw [List.append_assoc, nulSeq_append, nulSeq_append] at this
      rw [nulSeq_append]
      exact ⟨this.1, hpr.2 this.2.1, this.2.2⟩

theorem Holds.complete {G : Grammar} (hV : V.Holds G) (α : List Sym) :
    (∀ b, SFirst G α b → V.FstSeq α b) ∧ (SNull G α → V.NulSeq α) :=
  ⟨fun b ⟨_, h⟩ => (hV.derives h).1 b rfl, fun h => (hV.derives h).2 trivial⟩

theorem exact {G : Grammar} (hs : V.Sound G) (hh : V.Holds G) (α : List Sym) :
    (∀ b, V.FstSeq α b ↔ SFirst G α b) ∧ (V.NulSeq α ↔ SNull G α) :=
  ⟨fun b => ⟨(hs.seq α).1 b, (hh.complete α).1 b⟩, (hs.seq α).2, (hh.complete α).2⟩

/-- The semantic FIRST itself, read as a table. -/
def sem (G : Grammar) : FView := ⟨fun B x => SFirst G [.n B] x, fun B => SNull G [.n B]⟩

theorem sem_sound (G : Grammar) : (sem G).Sound G := fun _ => ⟨fun _ h => h, id⟩

theorem sem_holds (G : Grammar) : (sem G).Holds G := fun pr hpr =>
  have ⟨_, hq⟩ := Util.mem_toList_iff_getElem?.mp hpr
  have hs := (sem_sound G).seq pr.rhs
  ⟨fun x h => let ⟨β, h⟩ := hs.1 x h; ⟨β, (Derives.of_prod hq).trans h⟩,
    fun h => (Derives.of_prod hq).trans (hs.2 h)⟩

/-- FIRST and nullability of a string are composed from those of its symbols. -/
theorem sem_exact (G : Grammar) (α : List Sym) :
    (∀ b, (sem G).FstSeq α b ↔ SFirst G α b) ∧ ((sem G).NulSeq α ↔ SNull G α) :=
  exact (sem_sound G) (sem_holds G) α

end FView

/-- A derivation never rewrites the terminal at the end. -/
theorem sfirst_snoc_t {G : Grammar} (β : List Sym) (a b : Nat) :
    SFirst G (β ++ [.t a]) b ↔ SFirst G β b ∨ (SNull G β ∧ b = a) := by
  rw [← (FView.sem_exact G _).1, FView.fstSeq_snoc_t, (FView.sem_exact G β).1, (FView.sem_exact G β).2]

/-- The lookahead condition of the generator's closure rule (`SFirst` of `β a`) is the `First G β a`
of the definition of the LALR(1) automaton. -/
theorem sfirst_iff_first {G : Grammar} (β : List Sym) (a b : Nat) :
    SFirst G (β ++ [.t a]) b ↔ First G β a b :=
  (sfirst_snoc_t β a b).trans first_iff.symm

/-- `for changed := true; changed; { … }` with fuel, over a pass that reports whether it changed
anything; the flag of the result says that a pass without change was reached. -/
def fixIter {τ : Type} (pass : τ → τ × Bool) : Nat → τ → τ × Bool
  | 0, x => (x, false)
  | n + 1, x => if (pass x).2 then fixIter pass n (pass x).1 else ((pass x).1, true)

theorem fixIter_induction {τ : Type} {pass : τ → τ × Bool} (P : τ → Prop)
    (hpass : ∀ x, P x → P (pass x).1) : ∀ (n : Nat) {x : τ}, P x → P (fixIter pass n x).1
  | 0, _, h => h
  | n + 1, x, h => by
    rw [fixIter]
    split
    · exact fixIter_induction P hpass n (hpass x h)
    · exact hpass x h

theorem fixIter_mono {τ : Type} {pass : τ → τ × Bool} :
    ∀ (n m : Nat) (x : τ), (fixIter pass n x).2 = true → n ≤ m → fixIter pass m x = fixIter pass n x
  | 0, _, _, h, _ => nomatch h
  | n + 1, m + 1, x, h, hm => by
    rw [fixIter] at h ⊢
    rw [fixIter]
    split
    · next hch =>
      rw [if_pos hch] at h
      exact fixIter_mono n m _ h (Nat.le_of_succ_le_succ hm)
    · rfl

section
variable {τ : Type} {Inv : τ → Prop} {μ : τ → Nat}

/-- One stretch of a pass, from the pair `a` (table, change flag so far) to the pair `b`: the
invariant `Inv` is kept, the measure `μ` does not fall, it rises when the flag is raised, and
while the flag stays down the table is the same and `P` was found true of it (in the end: the
inequations of all productions). -/
structure Grows (Inv : τ → Prop) (μ : τ → Nat) (P : τ → Prop) (a b : τ × Bool) : Prop where
  inv : Inv b.1
  le : μ a.1 ≤ μ b.1
  lt : b.2 = true → a.2 = true ∨ μ a.1 < μ b.1
  fix : b.2 = false → a.2 = false ∧ b.1 = a.1 ∧ P a.1

theorem Grows.refl {P : τ → Prop} {a : τ × Bool} (hw : Inv a.1) (hP : P a.1) : Grows Inv μ P a a :=
  ⟨hw, Nat.le_refl _, .inl, fun h => ⟨h, rfl, hP⟩⟩

theorem Grows.trans {P Q : τ → Prop} {a b c : τ × Bool} (h1 : Grows Inv μ P a b)
    (h2 : Grows Inv μ Q b c) : Grows Inv μ (fun F => P F ∧ Q F) a c where
  inv := h2.inv
  le := Nat.le_trans h1.le h2.le
  lt := fun hc => (h2.lt hc).elim
    (fun hb => (h1.lt hb).imp_right fun h => Nat.lt_of_lt_of_le h h2.le)
    (fun h => .inr (Nat.lt_of_le_of_lt h1.le h))
  fix := fun hc => by
    obtain ⟨hb, e2, hQ⟩ := h2.fix hc
    obtain ⟨ha, e1, hP⟩ := h1.fix hb
    exact ⟨ha, e2.trans e1, hP, e1 ▸ hQ⟩

theorem Grows.mono {P Q : τ → Prop} {a b : τ × Bool} (h : Grows Inv μ P a b)
    (hPQ : ∀ F, P F → Q F) : Grows Inv μ Q a b :=
  ⟨h.inv, h.le, h.lt, fun hb => (h.fix hb).imp_right (.imp_right (hPQ _))⟩

/-- A step on one entry `B` of a table measured entry by entry. -/
theorem Grows.step {esz : τ → Nat → Nat} {n : Nat} {P : τ → Prop} {F F' : τ} {c ch : Bool} {B : Nat}
    (hw : Inv F') (hle : ∀ B, esz F B ≤ esz F' B) (hB : B < n)
    (hlt : ch = true → esz F B < esz F' B) (hfix : ch = false → F' = F ∧ P F) :
    Grows Inv (fun F => Util.msum (esz F) n) P (F, c) (F', c || ch) where
  inv := hw
  le := Util.msum_le fun B _ => hle B
  lt := fun h => (Bool.or_eq_true _ _ ▸ h).imp_right fun h =>
    Util.msum_lt (fun B _ => hle B) B hB (hlt h)
  fix := fun h => by
    obtain ⟨hc, hch⟩ := (Bool.or_eq_false_iff).mp h
    exact ⟨hc, hfix hch⟩

theorem Grows.foldl {α : Type} {stp : τ × Bool → α → τ × Bool} {P : α → τ → Prop} :
    ∀ (L : List α) (a : τ × Bool), Inv a.1 →
      (∀ x ∈ L, ∀ a, Inv a.1 → Grows Inv μ (P x) a (stp a x)) →
      Grows Inv μ (fun F => ∀ x ∈ L, P x F) a (L.foldl stp a)
  | [], _, hw, _ => .refl hw nofun
  | x :: L, a, hw, h => by
    have h1 := h x (List.mem_cons_self ..) a hw
    have h2 := Grows.foldl L (stp a x) h1.inv fun p hp => h p (List.mem_cons_of_mem _ hp)
    exact (h1.trans h2).mono fun F hF => List.forall_mem_cons.mpr hF

/-- **The loop.** When every pass `Grows` from a lowered flag and the measure is bounded, the loop
exits by itself as soon as the fuel exceeds what the measure can still rise by; what it returns is a
table the pass leaves unchanged, of which `P` holds. -/
theorem fixIter_spec {pass : τ → τ × Bool} {P : τ → Prop} {bound : Nat}
    (hpass : ∀ x, Inv x → Grows Inv μ P (x, false) (pass x)) (hb : ∀ x, Inv x → μ x ≤ bound) :
    ∀ (n : Nat) (x : τ), Inv x → bound < μ x + n →
      (fixIter pass n x).2 = true ∧ Inv (fixIter pass n x).1 ∧ P (fixIter pass n x).1 ∧
        pass (fixIter pass n x).1 = ((fixIter pass n x).1, false)
  | 0, x, hx, hn => absurd (hb x hx) (by omega)
  | n + 1, x, hx, hn => by
    have hg := hpass x hx
    rw [fixIter]
    split
    · next hch =>
      have := (hg.lt hch).resolve_left nofun
      exact fixIter_spec hpass hb n _ hg.inv (by simp only at this; omega)
    · next hch =>
      obtain ⟨_, e, hP⟩ := hg.fix (Bool.eq_false_iff.mpr hch)
      simp only at e
      rw [e]
      exact ⟨rfl, hx, hP, Prod.ext e (Bool.eq_false_iff.mpr hch)⟩

end

end Lox.LR.Gen
