import Lox.LR.EmitProofsTable
import Lox.LR.GenModelProofsActions
import Lox.LR.ConflictVerdict
import Lox.Util.Nodup
/-! The `_actions` row of one state (`Lox.LR.Emit.actionRow`) in terms of the textbook candidate
actions of its item set (`Lox.LR.Gen.CandOf`). For any state and any precedences the row lists, for
the terminals of the name order, the code of the first action of the resolved cell
(`actionRow_eq`), so that what `_Find` returns on the emitted arrays is a function of the cell and
of the recorded transitions (`Emitted.find_actions`, `Emitted.find_gotos`); every entry stems from
a cell of `createActions` (`actionRow_entries`). In a state whose cells each hold exactly one action
(no conflict) the cell of a candidate is that action (`cand_single`). -/
namespace Lox.LR.Emit
open Lox.LR Lox.LR.Gen Lox.LR.Cons
open Lox.Dec (Action ProdInfo resolveCell resolveOne)
open Lox.Table

theorem resolveOne_noPrec (acts : List Action) : (resolveOne noPrec acts).1 = acts :=
  Lox.Dec.unresolved_unchanged _ _ <| Bool.eq_false_iff.mpr fun h => by
    obtain ⟨_, _, rp, _, _, _, _, _, hrp⟩ := (Lox.Dec.resolveOne_resolved_iff noPrec acts).1 h
    exact absurd hrp (Nat.lt_irrefl 0)

theorem resolveCell_noPrec (cell : List Action) : (resolveCell noPrec cell).1 = cell :=
  (Lox.Dec.resolveCell_fst noPrec cell).trans (resolveOne_noPrec cell)

theorem resolveCell_single (info : Nat → ProdInfo) {cell : List Action} (h : cell.length = 1) :
    (resolveCell info cell).1 = cell := by
  unfold resolveCell
  rw [if_pos (beq_iff_eq.mpr h)]

theorem cellsOf_eq (info : Nat → ProdInfo) (G : Grammar) (nT : Nat) (tr : Nat → Option Nat)
    (I : List Item) : cellsOf info G nT tr I = if panics G nT tr I then none
      else some ((cellTerminals G nT tr I).map fun a =>
        (a, (resolveCell info (cellAt G nT tr I a)).1)) := by
  rw [cellsOf, actionsOf_eq]
  split
  · rfl
  · simp [List.map_map, Function.comp_def]

theorem itemsOf_cert (st : CState) (s : Nat) : itemsOf st.cert s = st.states[s]?.getD [] := by
  simp [itemsOf, CState.cert]

theorem rowOfT_transTab (st : CState) (s : Nat) : rowOfT st.transTab s = st.trans[s]?.getD [] := by
  simp [rowOfT, CState.transTab]

theorem size_cert (st : CState) : st.cert.size = st.states.length := by
  simp [CState.cert]

theorem lookupCell_map_mk (f : Nat → List Action) (a : Nat) : ∀ l : List Nat,
    lookupCell a (l.map fun b => (b, f b)) = if a ∈ l then some (f a) else none
  | [] => rfl
  | b :: l => by
    simp only [List.map_cons, lookupCell, List.mem_cons]
    by_cases h : b = a
    · simp [h]
    · rw [if_neg h, lookupCell_map_mk f a l]
      simp [Ne.symm h]

theorem lookupCell_none {a : Nat} :
    ∀ {cells : List (Nat × List Action)}, lookupCell a cells = none → a ∉ cells.map (·.1)
  | [], _ => by simp
  | (b, c') :: r, h => by
    simp only [lookupCell] at h
    split at h
    · cases h
    · next hne =>
      simp only [List.map_cons, List.mem_cons, not_or]
      exact ⟨fun e => hne e.symm, lookupCell_none h⟩

section
variable {G : Grammar} {nT : Nat} {tr : Nat → Option Nat} {I : List Item}

theorem cellTerminals_cases {a : Nat} (h : a ∈ cellTerminals G nT tr I) :
    (∃ it ∈ I, it.a = a ∧ it.a < nT) ∨ (∃ it ∈ I, afterDot G it = some (.t a)) := by
  obtain ⟨it, hit, c, hw⟩ := mem_cellTerminals.mp h
  cases c with
  | shift s p => exact .inr ⟨it, hit, (want_shift.mp hw).1⟩
  | reduce p =>
    obtain ⟨_, _, _, hlt, _, _, rfl⟩ := want_reduce.mp hw
    exact .inl ⟨it, hit, rfl, hlt⟩
  | accept =>
    obtain ⟨_, _, _, hlt, _, rfl⟩ := want_accept.mp hw
    exact .inl ⟨it, hit, rfl, hlt⟩

end

theorem conflictFreeB_iff_cells {G : Grammar} {nT : Nat} {st : CState} :
    conflictFreeB G nT st = true ↔ ∀ s, s < st.states.length →
      panics G nT (trTerm st.transTab s) (st.states[s]?.getD []) = false ∧
      ∀ a ∈ cellTerminals G nT (trTerm st.transTab s) (st.states[s]?.getD []),
        (cellAt G nT (trTerm st.transTab s) (st.states[s]?.getD []) a).length = 1 := by
  simp only [conflictFreeB, List.all_eq_true, List.mem_range, actionsOf_eq]
  refine forall_congr' fun s => imp_congr_right fun _ => ?_
  cases panics G nT (trTerm st.transTab s) (st.states[s]?.getD []) <;> simp

/-- The facts about one state that the row lemmas need (no Go panic in `createActions`, name order
well formed). -/
structure StateWf (G : Grammar) (nT : Nat) (ord : List Sym) (tr : Nat → Option Nat)
    (I : List Item) : Prop where
  la : ∀ it ∈ I, it.a < nT
  trs : ∀ it ∈ I, ∀ x, afterDot G it = some (.t x) → tr x ≠ none
  below : ∀ it ∈ I, ∀ x, afterDot G it = some (.t x) → x < nT
  ordNodup : ord.Nodup
  ordTerms : ∀ a, a < nT → Sym.t a ∈ ord

structure StateOK (G : Grammar) (nT : Nat) (ord : List Sym) (tr : Nat → Option Nat)
    (I : List Item) : Prop extends StateWf G nT ord tr I where
  single : ∃ cells, actionsOf G nT tr I = some cells ∧ ∀ e ∈ cells, e.2.length = 1

theorem mem_termsOf {ord : List Sym} {a : Nat} : a ∈ termsOf ord ↔ Sym.t a ∈ ord := by
  unfold termsOf
  rw [List.mem_filterMap]
  constructor
  · rintro ⟨X, hX, h⟩
    cases X with
    | t b => simp at h; subst h; exact hX
    | n B => simp at h
  · intro h
    exact ⟨.t a, h, rfl⟩

theorem mem_rulesOf {ord : List Sym} {B : Nat} : B ∈ rulesOf ord ↔ Sym.n B ∈ ord := by
  unfold rulesOf
  rw [List.mem_filterMap]
  constructor
  · rintro ⟨X, hX, h⟩
    cases X with
    | t b => simp at h
    | n C => simp at h; subst h; exact hX
  · intro h
    exact ⟨.n B, h, rfl⟩

theorem nodup_termsOf {ord : List Sym} (h : ord.Nodup) : (termsOf ord).Nodup := by
  unfold termsOf
  apply Util.nodup_filterMap_inj _ _ h
  intro x y b hx hy
  cases x <;> cases y <;> simp at hx hy
  subst hx hy; rfl

theorem nodup_rulesOf {ord : List Sym} (h : ord.Nodup) : (rulesOf ord).Nodup := by
  unfold rulesOf
  apply Util.nodup_filterMap_inj _ _ h
  intro x y b hx hy
  cases x <;> cases y <;> simp at hx hy
  subst hx hy; rfl

section
variable {ord : List Sym} {cells : List (Nat × List Action)} {row : List (Int × Int)}

/-- The row `EmitParser` writes from the cells of a state: for every terminal of the name order
that has a cell, the code of the first action in it (`Get(0)` on an empty cell panics, so when a
row comes out none of them was empty). -/
theorem firstCodes_eq (h : (cellTerms ord cells).mapM (firstCode cells) = some row) :
    row = (termsOf ord).filterMap fun a =>
      ((lookupCell a cells).bind List.head?).map fun act => ((a : Int), actCode act) := by
  rw [Util.mapM_eq_filterMap h, cellTerms, List.filterMap_filter]
  refine congrArg (List.filterMap · _) (funext fun a => ?_)
  unfold firstCode
  cases lookupCell a cells with
  | none => rfl
  | some c => cases c <;> rfl

end

section
variable {G : Grammar} {nT : Nat} {ord : List Sym} {tr : Nat → Option Nat} {I : List Item}

theorem actionRow_eq_some {info : Nat → ProdInfo} {row : List (Int × Int)} :
    actionRow info G nT ord tr I = some row ↔ ∃ cells, cellsOf info G nT tr I = some cells ∧
      (cellTerms ord cells).mapM (firstCode cells) = some row := by
  unfold actionRow
  cases cellsOf info G nT tr I <;> simp

theorem actionRow_eq {info : Nat → ProdInfo} {row : List (Int × Int)}
    (h : actionRow info G nT ord tr I = some row) :
    row = (termsOf ord).filterMap fun a =>
      ((resolveCell info (cellAt G nT tr I a)).1.head?).map fun act => ((a : Int), actCode act) := by
  obtain ⟨cells, hc, h⟩ := actionRow_eq_some.mp h
  rw [cellsOf_eq] at hc
  split at hc
  · cases hc
  cases hc
  rw [firstCodes_eq h]
  refine congrArg (List.filterMap · _) (funext fun a => ?_)
  rw [lookupCell_map_mk]
  split
  · rfl
  · next hat => rw [Classical.not_not.mp (mt cellAt_ne_nil_iff.mp hat)]; rfl

theorem firstMatch_actionRow {info : Nat → ProdInfo} {row : List (Int × Int)}
    (h : actionRow info G nT ord tr I = some row) (a : Nat) :
    firstMatch row (a : Int) = if Sym.t a ∈ ord then
      ((resolveCell info (cellAt G nT tr I a)).1.head?).map actCode else none := by
  rw [actionRow_eq h, firstMatch_filterMap]
  simp only [mem_termsOf]

theorem firstMatch_gotoRow (row : List (Sym × Nat)) (B : Nat) :
    firstMatch (gotoRow ord row) (B : Int) = if Sym.n B ∈ ord then
      (lookupSym (.n B) row).map fun (t : Nat) => (t : Int) else none := by
  rw [gotoRow, firstMatch_filterMap]
  simp only [mem_rulesOf]

theorem StateWf.lt (hs : StateWf G nT ord tr I) {a : Nat} (ha : a ∈ cellTerminals G nT tr I) :
    a < nT := by
  rcases cellTerminals_cases ha with ⟨it, hit, rfl, hlt⟩ | ⟨it, hit, had⟩
  · exact hlt
  · exact hs.below it hit a had

theorem StateOK.cell_single (hs : StateOK G nT ord tr I) {a : Nat}
    (ha : a ∈ cellTerminals G nT tr I) : ∃ act, cellAt G nT tr I a = [act] := by
  obtain ⟨cells, hc, hsingle⟩ := hs.single
  rw [actionsOf_eq] at hc
  split at hc
  · cases hc
  · cases hc
    exact List.length_eq_one_iff.mp (hsingle (a, _) (List.mem_map.mpr ⟨a, ha, rfl⟩))

theorem cand_single (hs : StateOK G nT ord tr I) {a : Nat} {c : Gen.Cand} (hc : CandOf G I a c) :
    ∃ act, cellAt G nT tr I a = [act] ∧ kindOf act = c ∧ a ∈ cellTerminals G nT tr I ∧
      (∀ s ps, act = .shift s ps → tr a = some s) := by
  obtain ⟨_, hkinds, hsh⟩ := cellAt_spec hs.la hs.trs a
  have hk := (hkinds c).mpr hc
  have hat := cellAt_ne_nil_iff.mp fun e => by rw [e] at hk; cases hk
  obtain ⟨x, hx⟩ := hs.cell_single hat
  rw [hx] at hk hsh
  exact ⟨x, hx, by simpa [eq_comm] using hk, hat, fun s ps e => hsh s ps (by simp [e])⟩

theorem mem_cand (hs : StateWf G nT ord tr I) {a : Nat} {act : Action}
    (hact : act ∈ cellAt G nT tr I a) :
    CandOf G I a (kindOf act) ∧ (∀ s ps, act = .shift s ps → tr a = some s) :=
  have ⟨_, hkinds, hsh⟩ := cellAt_spec hs.la hs.trs a
  ⟨(hkinds _).mp (List.mem_map.mpr ⟨act, hact, rfl⟩), fun s ps e => hsh s ps (e ▸ hact)⟩

theorem resolveOne_subset (info : Nat → ProdInfo) (acts : List Action) :
    ∀ x ∈ (resolveOne info acts).1, x ∈ acts := by
  cases hb : (resolveOne info acts).2 with
  | false => rw [Lox.Dec.unresolved_unchanged info acts hb]; exact fun _ h => h
  | true =>
    obtain ⟨a, b, rfl, h⟩ := Lox.Dec.resolveOne_keeps_one info acts hb
    rcases h with h | h <;> simp [h]

theorem resolveCell_subset (info : Nat → ProdInfo) (cell : List Action) :
    ∀ x ∈ (resolveCell info cell).1, x ∈ cell :=
  Lox.Dec.resolveCell_fst info cell ▸ resolveOne_subset info cell

theorem actionRow_entries {info : Nat → ProdInfo} {row : List (Int × Int)}
    (h : actionRow info G nT ord tr I = some row) {k v : Int} (hm : (k, v) ∈ row) :
    ∃ (a : Nat) (act : Action), k = (a : Int) ∧ act ∈ cellAt G nT tr I a ∧ v = actCode act := by
  rw [actionRow_eq h] at hm
  obtain ⟨a, _, act, hact, rfl, rfl⟩ := mem_filterMap_row.mp hm
  exact ⟨a, act, rfl, resolveCell_subset info _ act (List.mem_of_mem_head? hact), rfl⟩

end

/-- What `_Find` returns on the emitted `_actions` for state `s` and terminal `a`: the code of the
first action `resolveConflicts` leaves in the cell of `createActions`; a miss if the cell is empty
or the name order does not list `a`. -/
theorem Emitted.find_actions {info : Nat → ProdInfo} {G : Grammar} {nT : Nat} {ord : List Sym}
    {st : CState} {T : Tables} (he : Emitted info G nT ord st T) {s : Nat}
    (hs : s < st.states.length) (a : Nat) :
    find T.actions (s : Int) (a : Int) = lookResult (if Sym.t a ∈ ord then
      ((resolveCell info (cellAt G nT (trTerm st.transTab s) (st.states[s]?.getD []) a)).1.head?).map
        actCode else none) := by
  obtain ⟨row, hrow, _, hfind⟩ := he.arow s hs
  rw [hfind, firstMatch_actionRow hrow]

theorem Emitted.find_gotos {info : Nat → ProdInfo} {G : Grammar} {nT : Nat} {ord : List Sym}
    {st : CState} {T : Tables} (he : Emitted info G nT ord st T) {s : Nat}
    (hs : s < st.states.length) (B : Nat) :
    find T.gotos (s : Int) (B : Int) = lookResult (if Sym.n B ∈ ord then
      (lookupSym (.n B) (st.trans[s]?.getD [])).map fun (t : Nat) => (t : Int) else none) := by
  rw [(he.grow s hs).2, stateGotoRow, firstMatch_gotoRow]

/-! `EmitParser` does not panic on a conflict-free table: every cell holds an action (`Get(0)`),
`createActions` did not panic (part of `conflictFreeB`), and `AddRow` is called with the state
indices `0, 1, 2, …` (strictly increasing). Also: `conflictFreeB` implies that the model's
`HasConflicts` is false. -/

theorem build_range_isSome {rows : List (Nat × List Int)} {n : Nat}
    (h : rows.map (·.1) = List.range n) : ∃ a, build rows = some a := by
  have : (addRows {} rows).isSome := by
    rw [addRows_isSome, h]
    exact ⟨fun i _ => by show (-1 : Int) < (i : Int); omega, List.pairwise_lt_range⟩
  unfold build
  cases ha : addRows {} rows with
  | none => rw [ha] at this; cases this
  | some t => exact ⟨array t, rfl⟩

section
variable {G : Grammar} {nT : Nat} {ord : List Sym} {st : CState}

theorem stateActionRow_isSome (h : conflictFreeB G nT st = true) {s : Nat}
    (hs : s < st.states.length) : ∃ row, stateActionRow noPrec G nT ord st s = some row := by
  obtain ⟨hp, hsingle⟩ := conflictFreeB_iff_cells.mp h s hs
  simp only [stateActionRow, actionRow, cellsOf_eq, hp, Bool.false_eq_true, if_false]
  apply Util.mapM_isSome
  intro a ha
  have hat : a ∈ cellTerminals G nT (trTerm st.transTab s) (st.states[s]?.getD []) := by
    simpa [cellTerms, lookupCell_map_mk] using (List.mem_filter.mp ha).2
  obtain ⟨act, hact⟩ := List.length_eq_one_iff.mp (hsingle a hat)
  exact ⟨((a : Int), actCode act), by simp [firstCode, lookupCell_map_mk, hat, hact, resolveCell_single]⟩

theorem emitParser_isSome (h : conflictFreeB G nT st = true) :
    ∃ T, emitParser G nT ord st = some T := by
  unfold emitParser emitParserP
  obtain ⟨arows, har⟩ : ∃ arows, actionRows noPrec G nT ord st = some arows := by
    unfold actionRows
    apply Util.mapM_isSome
    intro i hi
    obtain ⟨row, hrow⟩ := stateActionRow_isSome (ord := ord) h (List.mem_range.mp hi)
    exact ⟨(i, flattenPairs row), by simp [hrow]⟩
  have hk : arows.map (·.1) = List.range st.states.length := by
    unfold actionRows at har
    have := Util.mapM_some_map (fun y : Nat × List Int => y.1) id (fun i y hy => by
      cases hr : stateActionRow noPrec G nT ord st i with
      | none => simp [hr] at hy
      | some r => simp only [hr, Option.map_some, Option.some.injEq] at hy; subst hy; rfl) har
    simpa using this
  obtain ⟨a, ha⟩ := build_range_isSome hk
  obtain ⟨g, hg⟩ : ∃ g, build (gotoRows ord st) = some g := by
    apply build_range_isSome (n := st.states.length)
    unfold gotoRows
    simp [List.map_map, Function.comp_def]
  simp only [har, ha, hg]
  exact ⟨_, rfl⟩

theorem conflictFreeB_verdict (info : Nat → ProdInfo) (h : conflictFreeB G nT st = true) :
    hasConflictsP info G nT st = false := by
  unfold hasConflictsP verdictB Lox.Dec.hasConflicts
  rw [List.any_eq_false]
  intro cell hcell
  obtain ⟨s, hs, a, ha, rfl⟩ := mem_tableCells.mp hcell
  rw [itemsOf_cert] at ha ⊢
  have hs' : s < st.states.length := by simpa [CState.cert] using hs
  simp [(conflictFreeB_iff_cells.mp h s hs').2 a ha]

end

end Lox.LR.Emit
