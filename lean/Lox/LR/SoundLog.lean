import Lox.LR.Sound
/-! The reduction log of the abstract machine is the post-order of the values on its stack —
an invariant of the machine itself (no completeness conditions needed), so "actions = post-order
of the returned tree" also holds for tables whose conflicts were resolved by precedence. -/
namespace Lox.LR
namespace Abs

/-- Values on the stack above the bottom entry, bottom-most first. -/
def stackVals (st : List Entry) : List Tree := (st.dropLast.map (·.val)).reverse

def LogInv (c : Config) : Prop := c.log = postList (stackVals c.stack)

theorem logInv_init (w : List Nat) : LogInv (init w) := by
  simp [LogInv, init, stackVals, postList]

theorem stackVals_cons (x : Entry) {st : List Entry} (h : st ≠ []) :
    stackVals (x :: st) = stackVals st ++ [x.val] := by
  simp [stackVals, List.dropLast_cons_of_ne_nil h]

theorem stackVals_drop (st : List Entry) (k : Nat) (h : st.drop k ≠ []) :
    stackVals st = stackVals (st.drop k) ++ ((st.take k).map (·.val)).reverse := by
  have : st.dropLast = st.take k ++ (st.drop k).dropLast := by
    conv => lhs; rw [← List.take_append_drop k st, List.dropLast_append_of_ne_nil h]
  simp [stackVals, this]

theorem logInv_step {G : Grammar} {A : Auto} {c c' : Config} (h : step G A c = .cont c')
    (hi : LogInv c) : LogInv c' := by
  unfold LogInv at hi ⊢
  obtain ⟨hne, ⟨s', -, rfl⟩ | ⟨p, pr, e', rest, s', -, -, hd, -, rfl⟩⟩ := step_cont_inv h
  · rw [stackVals_cons _ hne, postList_append, ← hi]
    simp [postList, Tree.post]
  · rw [stackVals_drop c.stack pr.rhs.length (by simp [hd]), hd, postList_append] at hi
    rw [stackVals_cons _ (by simp), postList_append, hi]
    simp [postList, Tree.post]

theorem logInv_reaches {G : Grammar} {A : Auto} {c c' : Config} (h : Reaches G A c c')
    (hi : LogInv c) : LogInv c' := by
  induction h with
  | refl => exact hi
  | step hs _ ih => exact ih (logInv_step hs hi)

theorem sound_log {G : Grammar} {A : Auto} (hs : Safe G A) {w : List Nat} {n t lg}
    (h : run G A n (init w) = .acc t lg) : lg = t.post := by
  obtain ⟨c', hr, hst, hlg⟩ := reaches_of_run_acc n _ h
  obtain ⟨syms', u, hinv, _⟩ := reaches_inv hs hr (StackInv.base (G := G) (A := A) (.leaf 0))
  have hli := logInv_reaches hr (logInv_init w)
  obtain ⟨_, _, e, b, hstack, hval⟩ := acc_inv hs hst hinv
  simp only [LogInv, hstack] at hli
  rw [← hlg, hli, ← hval]
  simp [stackVals, postList]

end Abs
end Lox.LR
