import Lox.LR.Justify
import Lox.LR.GenModel
/-! A validator for the OUTPUT OF `ConstructLALR` that needs no emitted tables – so it also speaks
about the grammars lox REFUSES ("grammar has conflicts").

Input: the grammar, the generator's item sets per state (`cert`, as `certLine` prints
`ParserTable.States[i].Items()`) and the generator's TRANSITIONS per state (`TransTab`, read from
`ParserTable.Transitions(state).Inputs()/Get`). The automaton skeleton the definition
(`Lox/LR/LALR.lean`: `LALRItem`, `Cand`, `Conflict`) is applied to is `skelAuto tr cert`: its edges
are exactly the given transitions.

Checks (`conflictCheckB`):
* ⊇ (`closedSkelB`): start item in state 0; every symbol after a dot has a transition and the
  advanced item is in the target; closure w.r.t. a FIRST table that is closed under the FIRST
  equations (`firstFix` / `closedB` of `Check.lean`, which contains the semantic FIRST:
  `first_complete`); plus the shape conditions of `Safe` (edges lead to states whose dot>0 items
  have the edge symbol before the dot and a predecessor in the source, no edge into state 0, no
  edge on EOF, `S' → ·S` only in state 0, production-0 items carry EOF) and every edge is called
  for by an item;
* ⊆ (`justSkelWith`): the ranked justification of `Justify.lean` (`rankOKB`, `itemsJustB` – both
  are generic in the automaton) on the skeleton;
* kernels distinct (`kernelsDistinctB`).

Verdict (`verdictB`): `Lox.Dec.hasConflicts` (model of the loop at the end of `resolveConflicts`)
on the cells `Lox.LR.Gen.cellOn` (model of `createActions`) builds from the certificate.

Soundness: `Lox/LR/ConflictCheckSound.lean` (`conflictCheckB_spec`), property theorems
`Lox/Props/C04_verdict.lean` (`Lox.Props.C04.conflict_check_sound`). Core Lean only (linked into the driver). -/
namespace Lox.LR

/-- The transitions of every state: `(symbol, target)` pairs (`TransitionMap`). -/
abbrev TransTab := Array (List (Sym × Nat))

/-- `TransitionMap.Get` as a first-match lookup; `none` = "no transition for input". -/
def lookupSym (X : Sym) : List (Sym × Nat) → Option Nat
  | [] => none
  | (Y, s) :: r => if Y = X then some s else lookupSym X r

def rowOfT (tr : TransTab) (s : Nat) : List (Sym × Nat) := tr[s]?.getD []

/-- The automaton skeleton given by the transitions: only shift actions (one per terminal
transition) and gotos; the items are the certificate. `trans (skelAuto tr cert) s X` is the lookup
of `X` in the transitions of `s` (`trans_skel`). -/
def skelAuto (tr : TransTab) (cert : Array (List Item)) : Auto where
  action s a := (lookupSym (.t a) (rowOfT tr s)).map Act.shift
  goto s B := lookupSym (.n B) (rowOfT tr s)
  items s := itemsOf cert s

/-! ### ⊇: closedness and shape -/

/-- goto: the symbol `X` after the dot has a transition, the advanced item is in its target. -/
def gotoCB (tr : TransTab) (cert : Array (List Item)) (s : Nat) (it : Item) (X : Sym) : Bool :=
  match lookupSym X (rowOfT tr s) with
  | some s' => hasItem (itemsOf cert s') ⟨it.p, it.d + 1, it.a⟩
  | none => false

/-- closure: for `[A → α·Bβ, a]` every `[B → ·γ, b]` with `b ∈ FIRST(βa)` (table `F`) is among the
dot-0 items `d0` of the state. -/
def closureCB (G : Grammar) (F : FirstTab) (d0 : Array (List Nat)) (pr : Prod) (it : Item)
    (B : Nat) : Bool :=
  let fs := firstOf F (pr.rhs.drop (it.d + 1)) it.a
  (List.range G.prods.size).all fun q =>
    match G.prods[q]? with
    | some qr => qr.lhs != B || fs.all fun b => decide (b ∈ d0[q]?.getD [])
    | none => true

/-- shape (`Safe`): a dot-0 item's rule has a goto; `S' → ·S` only in state 0; state 0 has only
dot-0 items; items of production 0 carry EOF. -/
def shapeCB (tr : TransTab) (s : Nat) (it : Item) (pr : Prod) : Bool :=
  (it.d != 0 || it.p == 0 || (lookupSym (.n pr.lhs) (rowOfT tr s)).isSome) &&
  (!(it.p == 0 && it.d == 0) || s == 0) && (s != 0 || it.d == 0) && (it.p != 0 || it.a == 0)

/-- Conditions on one item of state `s`. -/
def itemCB (G : Grammar) (nTerms : Nat) (F : FirstTab) (tr : TransTab) (cert : Array (List Item))
    (s : Nat) (d0 : Array (List Nat)) (it : Item) : Bool :=
  decide (it.a < nTerms) &&
  match G.prods[it.p]? with
  | none => false
  | some pr =>
    (match pr.rhs[it.d]? with
    | some (.t x) => gotoCB tr cert s it (.t x)
    | some (.n B) => gotoCB tr cert s it (.n B) && closureCB G F d0 pr it B
    | none => it.d == pr.rhs.length) &&
    shapeCB tr s it pr

/-- Conditions on one transition `s --X--> s'`. -/
def edgeCB (G : Grammar) (cert : Array (List Item)) (s : Nat) (X : Sym) (s' : Nat) : Bool :=
  X != .t 0 && backB G cert s X s' && hasNext G (itemsOf cert s) X

def skelStateB (G : Grammar) (nTerms : Nat) (F : FirstTab) (tr : TransTab)
    (cert : Array (List Item)) (s : Nat) : Bool :=
  let items := itemsOf cert s
  let d0 := dot0Of items G.prods.size
  items.all (fun it => itemCB G nTerms F tr cert s d0 it) &&
  (rowOfT tr s).all fun e => edgeCB G cert s e.1 e.2

/-- The ⊇ half and the shape conditions. -/
def closedSkelB (G : Grammar) (nTerms nRules : Nat) (tr : TransTab) (cert : Array (List Item)) :
    Bool :=
  let F := firstFix G nTerms nRules
  prod0B G && closedB G F && tr.size == cert.size && hasItem (itemsOf cert 0) ⟨0, 0, 0⟩ &&
  (List.range cert.size).all fun s => skelStateB G nTerms F tr cert s

/-! ### ⊆ and kernels -/

/-- The trusted ⊆ check for given (arbitrary) ranks and parents. -/
def justSkelWith (G : Grammar) (tr : TransTab) (cert : Array (List Item)) (R : RankTab)
    (rk : Nat → Item → Nat) (jf : Nat → Item → Just) : Bool :=
  rankOKB G R && itemsJustB G (skelAuto tr cert) R rk jf cert.size && kernelsDistinctB cert

def justSkelB (G : Grammar) (nTerms nRules : Nat) (tr : TransTab) (cert : Array (List Item)) :
    Bool :=
  let R := rankTabs G nTerms nRules
  let (rk, jf) := Jst.searchRanks G nRules (skelAuto tr cert) cert R
  justSkelWith G tr cert R rk jf

/-- All checks. -/
def conflictCheckB (G : Grammar) (nTerms nRules : Nat) (tr : TransTab) (cert : Array (List Item)) :
    Bool :=
  closedSkelB G nTerms nRules tr cert && justSkelB G nTerms nRules tr cert

/-! ### The verdict computed from the certificate -/

/-- `t.Transitions(state).Get(terminal)`. -/
def trTerm (tr : TransTab) (s : Nat) (x : Nat) : Option Nat := lookupSym (.t x) (rowOfT tr s)

/-- The action cells `createActions` builds for state `s` (model: `Gen.cellOn`), one per terminal
that gets a cell (`Gen.cellTerminals`). -/
def stateCells (G : Grammar) (nTerms : Nat) (tr : TransTab) (cert : Array (List Item)) (s : Nat) :
    List (List Lox.Dec.Action) :=
  (Gen.cellTerminals G nTerms (trTerm tr s) (itemsOf cert s)).filterMap fun a =>
    match Gen.cellOn G nTerms (trTerm tr s) (itemsOf cert s) a with
    | .ok c => some c
    | .error _ => none

def tableCells (G : Grammar) (nTerms : Nat) (tr : TransTab) (cert : Array (List Item)) :
    List (List Lox.Dec.Action) :=
  (List.range cert.size).flatMap fun s => stateCells G nTerms tr cert s

/-- `ParserTable.HasConflicts` as computed from the certificate: `createActions` then the loop of
`resolveConflicts`. -/
def verdictB (G : Grammar) (nTerms : Nat) (info : Nat → Lox.Dec.ProdInfo) (tr : TransTab)
    (cert : Array (List Item)) : Bool :=
  Lox.Dec.hasConflicts info (tableCells G nTerms tr cert)

/-- `createActions` would panic on some state (never when the checks pass). -/
def actionsPanicB (G : Grammar) (nTerms : Nat) (tr : TransTab) (cert : Array (List Item)) : Bool :=
  (List.range cert.size).any fun s =>
    (Gen.actionsOf G nTerms (trTerm tr s) (itemsOf cert s)).isNone

/-! ### Diagnosis (untrusted) and the validator -/

def diagnoseConflictCheck (G : Grammar) (nTerms nRules : Nat) (tr : TransTab)
    (cert : Array (List Item)) : String :=
  let F := firstFix G nTerms nRules
  if !prod0B G then "production 0 is not S' -> start"
  else if !closedB G F then "FIRST table not closed"
  else if !(tr.size == cert.size) then "transition rows and states differ in number"
  else if !hasItem (itemsOf cert 0) ⟨0, 0, 0⟩ then "start item missing in state 0"
  else
    match (List.range cert.size).find? fun s => !skelStateB G nTerms F tr cert s with
    | some s =>
      let items := itemsOf cert s
      let d0 := dot0Of items G.prods.size
      let st := "closed: state " ++ toString s ++ ": "
      (match items.find? fun it => !itemCB G nTerms F tr cert s d0 it with
      | some it => st ++ "item " ++ toString it.p ++ " " ++ toString it.d ++ " " ++ toString it.a
      | none =>
        match (rowOfT tr s).find? fun e => !edgeCB G cert s e.1 e.2 with
        | some e => st ++ "transition to " ++ toString e.2
        | none => st ++ "unknown")
    | none =>
      let R := rankTabs G nTerms nRules
      let A := skelAuto tr cert
      let (rk, jf) := Jst.searchRanks G nRules A cert R
      if !rankOKB G R then "justify: ranked FIRST table"
      else
        match (List.range cert.size).find? fun s =>
            !(A.items s).all fun it => justItemB G A R rk jf s it with
        | some s =>
          (match (A.items s).find? fun it => !justItemB G A R rk jf s it with
          | some it => "justify: state " ++ toString s ++ ": unjustified item " ++ toString it.p ++
              " " ++ toString it.d ++ " " ++ toString it.a
          | none => "justify: state " ++ toString s)
        | none => "two states with the same LR(0) kernel"

/-- The validator: `.ok verdict` when all checks pass (`verdict` = the conflict flag by
definition, `Lox.Props.C04.verdict_exact`), otherwise the first failing condition. -/
def conflictCheck (G : Grammar) (nTerms nRules : Nat) (info : Nat → Lox.Dec.ProdInfo)
    (tr : TransTab) (cert : Array (List Item)) : Except String Bool :=
  if conflictCheckB G nTerms nRules tr cert then .ok (verdictB G nTerms info tr cert)
  else .error (diagnoseConflictCheck G nTerms nRules tr cert)

/-- What the driver answers for `lr.conflict_check`: the verdict by definition when all checks
pass AND it equals the generator's own `ParserTable.HasConflicts` flag; an error otherwise. -/
def conflictVerdict (G : Grammar) (nTerms nRules : Nat) (info : Nat → Lox.Dec.ProdInfo)
    (tr : TransTab) (cert : Array (List Item)) (flag : Bool) : Except String Bool :=
  match conflictCheck G nTerms nRules info tr cert with
  | .error e => .error e
  | .ok v =>
    if v == flag then .ok v
    else .error ("HasConflicts flag is " ++ toString flag ++ ", the verdict by definition is " ++
      toString v)

end Lox.LR
