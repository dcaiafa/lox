import Lox.LR.RuntimeSoundAbs
import Lox.LR.RuntimeProofsRecover
import Lox.LR.RuntimeProofsTerm
import Lox.LR.TermSound
/-! Termination of the concrete `parse`, error recovery included, on validated tables whose
reduce chains are bounded (`termB`) and whose `_recover` simulation graph is ranked
(`simRankOK`): there is a fuel from which `parse` never returns `timeout`.

A plain (shift/reduce) segment of the concrete run is a run of the abstract LR machine
(`Abs.step`) on the abstract image of the state, which terminates by `Abs.term_of_inv`; a segment
ends in `accept`, in a failing `_recover()`, or in a successful `_recover()`, and the latter
strictly decreases `potential` (at most `2·|inp|+1` times, `init_potential`). -/
namespace Lox.LR.Rt
open Lox.LR.Abs (StackInv)

/-- Equality up to trailing 0s: `Abs.la` reads the EOF lookahead off `[]` as well as off `[0]`. -/
def EqIn (l l' : List Nat) : Prop := ∀ k, (l.drop k).headD 0 = (l'.drop k).headD 0

theorem EqIn.symm {l l' : List Nat} (h : EqIn l l') : EqIn l' l := fun k => (h k).symm

def CEq (c c' : Abs.Config) : Prop := c.stack = c'.stack ∧ EqIn c.input c'.input

theorem CEq.symm {c c' : Abs.Config} (h : CEq c c') : CEq c' c := ⟨h.1.symm, h.2.symm⟩

section
variable {G : Grammar} {nTerms nRules : Nat} {T : Tables} {cert : Array (List Item)}

theorem SInv.absInv {inp : Array Nat} {s : PState} (hs : SInv G (autoOf T cert) inp s) :
    Abs.Inv G (autoOf T cert) (absC inp s) := by
  obtain ⟨-, ⟨syms, hci⟩, -⟩ := hs
  obtain ⟨w, hw⟩ := hci.toStackInv
  exact ⟨syms, w, hw⟩

theorem step_done_ne_timeout {inp : Array Nat} {wb : Bool} {fuel : Nat} {s s' : PState} {o : Outcome}
    (hrec : recover T inp fuel s ≠ .timeout) (h : step T inp wb fuel s = .done o s') :
    o ≠ .timeout := by
  rcases step_done h with ⟨ho, -⟩ | ⟨ho, -⟩ | ⟨-, -, top, -, -, hr⟩ | ⟨w, ho, -⟩
  · rw [ho]; intro hc; cases hc
  · rw [ho]; intro hc; cases hc
  · exact absurd hr hrec
  · rw [ho]; intro hc; cases hc

theorem runLoop_succ_cont {inp : Array Nat} {wb : Bool} {fuel : Nat} {s s' : PState} {N : Nat}
    (h : step T inp wb fuel s = .cont s')
    (hN : ∀ n, N ≤ n → (runLoop T inp wb fuel n s').1 ≠ .timeout) :
    ∀ n, N + 1 ≤ n → (runLoop T inp wb fuel n s).1 ≠ .timeout := by
  intro n hn
  obtain ⟨n', rfl⟩ : ∃ n', n = n' + 1 := ⟨n - 1, by omega⟩
  unfold runLoop
  rw [h]
  exact hN n' (by omega)

theorem simChain_le (T : Tables) : ∀ (n : Nat) (st : Int), simChain T n st ≤ n
  | 0, _ => Nat.le_refl 0
  | n + 1, st => by
    unfold simChain
    split
    · have := simChain_le T n ‹_›; omega
    · omega

theorem simNext_inR (hc : SafeOK G nTerms nRules T cert) {st st' : Int} (h : InR cert st)
    (hs : simNext T st = some st') : InR cert st' := by
  unfold simNext at hs
  cases hf : find T.actions st tERROR with
  | oob => rw [hf] at hs; cases hs
  | miss => rw [hf] at hs; cases hs
  | hit action =>
    rw [hf] at hs
    dsimp only at hs
    by_cases hneg : action < 0
    · simp only [hneg, if_true] at hs
      cases hg : geti T.rules (-action) with
      | none => rw [hg] at hs; cases hs
      | some rule =>
        rw [hg] at hs
        dsimp only at hs
        cases hgo : find T.gotos st rule with
        | oob => rw [hgo] at hs; cases hs
        | miss => rw [hgo] at hs; cases hs
        | hit v => rw [hgo] at hs; cases hs; exact goto_entry hc h hgo
    · simp only [hneg, if_false] at hs; cases hs

/-- `simulate_rank` with the ranking checked over the `cert.size` states only: `simNext_inR` keeps
the simulation inside them. -/
theorem simulate_rank_inR (hc : SafeOK G nTerms nRules T cert) {rank : Int → Nat}
    (hOK : simRankOK T rank cert.size = true) (la : Int) (n : Nat) (st : Int) :
    InR cert st → rank st < n → simulate T la n st ≠ .timeout :=
  simulate_rank (P := InR cert) rank (fun st st' hin hs => by
    refine ⟨?_, simNext_inR hc hin hs⟩
    have := simRankOK_lt hOK hin.2 (st' := st') (by rw [hin.cast]; exact hs)
    rwa [hin.cast] at this) n st

/-- `recover_terminates_of_rank` with the ranking checked over the `cert.size` states only: under
`SInv` the stack holds no other state. -/
theorem recover_terminates_inv (hc : SafeOK G nTerms nRules T cert) {rank : Int → Nat} {B : Nat}
    (hB : ∀ st, rank st ≤ B) (hOK : simRankOK T rank cert.size = true) {inp : Array Nat}
    {fuel : Nat} {s : PState} (hs : SInv G (autoOf T cert) inp s)
    (hf1 : B + 1 ≤ fuel) (hf2 : inp.size - s.pos + 3 ≤ fuel) :
    recover T inp fuel s ≠ .timeout :=
  recover_terminates' (fun la e he =>
    simulate_rank_inR hc hOK la fuel e.state ((hs.stackR hc).2 e he) (by have := hB e.state; omega)) hf2

/-- `parse` passes one fuel to the loop and to `_recover`; here the `_recover` fuel `F0` is held
fixed. Induction on the potential, one plain segment (`runLoop_absC`) at a time. -/
theorem runLoop_terminates (hc : SafeOK G nTerms nRules T cert) (ht : termB G T cert = true)
    {inp : Array Nat} {wb : Bool} {F0 : Nat}
    (hrec : ∀ s, SInv G (autoOf T cert) inp s → recover T inp F0 s ≠ .timeout) :
    ∀ (k : Nat) (s : PState), SInv G (autoOf T cert) inp s → potential inp s ≤ k →
      ∃ N, ∀ n, N ≤ n → (runLoop T inp wb F0 n s).1 ≠ .timeout := by
  intro k
  induction k using Nat.strongRecOn with
  | _ k ih =>
    intro s hs hk
    obtain ⟨m, hm⟩ := Abs.term_of_inv (safe_of_safeOK hc) (termB_spec hc ht) _ _ hs.absInv rfl
    -- the plain segment from `s` ends in `sf`, after `j` iterations
    obtain ⟨sf, j, -, hp, hj, hend⟩ := runLoop_absC hc wb F0 m hs hm
    obtain ⟨hsf, hpot⟩ : SInv G (autoOf T cert) inp sf ∧ potential inp sf ≤ potential inp s :=
      hp.inv (P := fun x => SInv G (autoOf T cert) inp x ∧ potential inp x ≤ potential inp s)
        (fun a b ha _ hst => ⟨step_SInv hc ha.1 hst,
          Nat.le_trans (Nat.le_trans (Nat.le_add_right _ _) (step_potential (ha.1.noShiftEOFAt hc) hst)) ha.2⟩)
        ⟨hs, Nat.le_refl _⟩
    have hshift : ∀ N, (∀ n, N ≤ n → (runLoop T inp wb F0 n sf).1 ≠ .timeout) →
        ∀ n, j + N ≤ n → (runLoop T inp wb F0 n s).1 ≠ .timeout := by
      intro N hN n hn
      obtain ⟨n', rfl⟩ : ∃ n', n = j + n' := ⟨n - j, by omega⟩
      rw [hj]
      exact hN n' (by omega)
    cases hstep : step T inp wb F0 sf with
    | done o s' =>
      refine ⟨j + 1, hshift 1 fun n hn => ?_⟩
      obtain ⟨n', rfl⟩ : ∃ n', n = n' + 1 := ⟨n - 1, by omega⟩
      rw [runLoop, hstep]
      exact step_done_ne_timeout (hrec sf hsf) hstep
    | cont s' =>
      have hrc : isRecoverStep T sf = true := by
        rcases hend with ⟨h, -⟩ | ⟨h, -⟩
        · exact h
        · rw [hstep] at h
          cases h
      have hp' := step_potential (hsf.noShiftEOFAt hc) hstep
      rw [hrc, if_pos rfl] at hp'
      obtain ⟨N, hN⟩ := ih (potential inp s') (by omega) s' (step_SInv hc hsf hstep) (Nat.le_refl _)
      exact ⟨j + (N + 1), hshift (N + 1) (runLoop_succ_cont hstep hN)⟩

/-- C09 `parse_terminates`: for every input, lexer ERROR tokens included, there is a fuel from which
the model never answers `timeout`, i.e. the generated `parse()` terminates. `F0` is the `_recover`
fuel of `recover_terminates_inv`; `runLoop_mono_inv` carries the bound found under `F0` to every
larger fuel. -/
theorem parse_terminates (hc : SafeOK G nTerms nRules T cert) (ht : termB G T cert = true)
    (rank : Int → Nat) (B : Nat) (hB : ∀ st, rank st ≤ B)
    (hOK : simRankOK T rank cert.size = true) (inp : Array Nat) (wb : Bool) :
    ∃ N, ∀ fuel, N ≤ fuel → (parse T inp wb fuel).1 ≠ .timeout := by
  let F0 := max (B + 1) (inp.size + 3)
  have hrec : ∀ s, SInv G (autoOf T cert) inp s → recover T inp F0 s ≠ .timeout := fun s hs =>
    recover_terminates_inv hc hB hOK hs (Nat.le_max_left _ _)
      (Nat.le_trans (by omega) (Nat.le_max_right _ _))
  cases h1 : readToken T inp initState with
  | error w =>
    refine ⟨0, fun fuel _ => ?_⟩
    rw [parse_eq, h1]; intro hc'; cases hc'
  | ok s1 =>
    have hs1 : SInv G (autoOf T cert) inp s1 := init_SInv h1
    obtain ⟨N, hN⟩ := runLoop_terminates hc ht (wb := wb) hrec _ s1 hs1 (init_potential h1)
    refine ⟨max F0 N, fun fuel hf => ?_⟩
    rw [parse_eq, h1]
    dsimp only
    rw [runLoop_mono_inv (SInv G (autoOf T cert) inp) (fun s s' hs h => step_SInv hc hs h) hrec
      (Nat.le_trans (Nat.le_max_left _ _) hf) fuel s1 hs1]
    exact hN fuel (Nat.le_trans (Nat.le_max_right _ _) hf)

/-- With the ranking `simChain T (cert.size + 1)` that `recoveryOKB` checks. -/
theorem parse_terminates_checked (hc : SafeOK G nTerms nRules T cert) (ht : termB G T cert = true)
    (hr : recoveryOKB T cert.size = true) (inp : Array Nat) (wb : Bool) :
    ∃ N, ∀ fuel, N ≤ fuel → (parse T inp wb fuel).1 ≠ .timeout :=
  parse_terminates hc ht (simChain T (cert.size + 1)) (cert.size + 1)
    (fun st => simChain_le T _ st) hr inp wb

end

end Lox.LR.Rt
