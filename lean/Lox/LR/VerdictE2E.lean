import Lox.LR.ConstructLoop
import Lox.LR.EmitProofsCheck
/-! `GrammarWf` and `OrdOK` are what the theorems about all grammars assume of the input of the
generator model; `runS_of_generate` / `run_of_generate` turn what `generateP` / `generate` return
into the records `RunS` / `Run` of `EmitProofsCheck`, by which `checkSafe` / `check` accept the
emitted tables (`Props/C01_e2e.lean`).

The output of the model of `ConstructLALR` (`Cons.construct`: states + transitions) satisfies,
for all well-formed grammars, everything the per-run validator `conflictCheckB`
(`Lox/LR/ConflictCheck.lean`) establishes about a run: `ConflictOK` (`conflictOK_of_construct`).
Hence the verdict the model computes (`Emit.hasConflictsP` = `verdictB` on the model's own table) is
the verdict by definition (`hasConflictsP_iff`) without any validator run.
⊇ and the shape conditions (`SkelOK`) come from `Built`, `EdgesCalled` and the validator's FIRST
table (`firstFix_closed`, `firstFix_sound`); ⊆ from `justd_of_closed`: in a closed automaton every
LALR(1) item has a derivation inside the item sets (`Justd`). -/
namespace Lox.LR.Emit
open Lox.LR Lox.LR.Gen Lox.LR.Cons Lox.LR.FixFirst
open Lox.Dec (Action ProdInfo)

/-- What `wfGrammarB` (`Props/C01_e2e.lean`) decides. The generator model asks for less: `TermsBelow`
(`SymsInRange.termsBelow`) and `OrdCovers` (`SymsInRange.ordCovers`). `prod0` is the Boolean, as in
`SkelOK`; as a proposition, `prod0B_spec`. -/
structure GrammarWf (G : Grammar) (nT nR : Nat) : Prop where
  prod0 : prod0B G = true
  syms : SymsInRange G nT nR
  noStart : NoStart G
  noEof : ∀ (p : Nat) (pr : Prod), G.prods[p]? = some pr → Sym.t 0 ∉ pr.rhs

section
variable {G : Grammar} {nT nR : Nat} {ord : List Sym} {st : CState}

theorem built_of_wf (hw : GrammarWf G nT nR) (hO : OrdOK nT nR ord)
    (hst : construct G nT ord = some st) : Built G nT st := by
  obtain ⟨S', h0⟩ := prod0B_spec hw.prod0
  exact built_of_construct (SymsInRange.termsBelow hw.syms) (SymsInRange.ordCovers hw.syms hO) h0
    rfl hst

theorem runS_of_generate {info : Nat → ProdInfo} {T : Tables} {cert : Array (List Item)}
    (hw : GrammarWf G nT nR) (hO : OrdOK nT nR ord)
    (hgen : generateP info G nT ord = some (T, cert)) (hsmall : cert.size ≤ 2147483647) :
    ∃ st, construct G nT ord = some st ∧ st.cert = cert ∧ RunS info G nT nR ord st T := by
  obtain ⟨st, hst, hT, rfl⟩ := generateP_eq_some.mp hgen
  exact ⟨st, hst, rfl,
    { syms := hw.syms, ordOK := hO, noStart := hw.noStart, noEof := hw.noEof,
      p0 := prod0B_spec hw.prod0, built := built_of_wf hw hO hst,
      emitted := emitted_of_emitParserP hT, small := size_cert st ▸ hsmall }⟩

theorem run_of_generate {T : Tables} {cert : Array (List Item)} (hw : GrammarWf G nT nR)
    (hO : OrdOK nT nR ord) (hgen : generate G nT ord = some (T, cert))
    (hfree : conflictFree G nT ord = true) (hsmall : cert.size ≤ 2147483647) :
    ∃ st, construct G nT ord = some st ∧ st.cert = cert ∧ Run G nT nR ord st T := by
  obtain ⟨st, hst, rfl, hr⟩ := runS_of_generate hw hO hgen hsmall
  obtain ⟨st', hst', hfree⟩ := conflictFree_eq_true.mp hfree
  cases hst.symm.trans hst'
  exact ⟨st, hst, rfl, hr, hfree⟩

theorem Built.edgeOK (hb : Built G nT st) (hw : GrammarWf G nT nR) (hec : EdgesCalled G st)
    {s : Nat} {X : Sym} {t : Nat} (htr : lookupSym X (rowOfT st.transTab s) = some t) :
    EdgeOK G st.cert s X t := by
  rw [rowOfT_transTab] at htr
  obtain ⟨I, hI, it, hit, had⟩ := hec s X t htr
  obtain ⟨pr, hp, hX⟩ := afterDot_eq.mp had
  refine ⟨?_, hb.backB hw.noStart htr, it, by rw [itemsOf_cert, hI]; exact hit, pr, hp, hX⟩
  rintro rfl
  exact hw.noEof _ _ hp (List.mem_of_getElem? hX)

theorem skelOK_of_construct (hw : GrammarWf G nT nR) (hO : OrdOK nT nR ord)
    (hst : construct G nT ord = some st) : SkelOK G nT nR st.transTab st.cert := by
  have hb := built_of_wf hw hO hst
  have hec : EdgesCalled G st := construct_edgesCalled (SymsInRange.termsBelow hw.syms) hst
  refine ⟨hw.prod0, firstFix_closed hw.syms, ?_, ?_, fun s it hit => hb.itemCOK hw.noStart nR hit,
    fun s X t htr => hb.edgeOK hw hec htr⟩
  · simp [CState.transTab, CState.cert, hb.inv.lenT]
  · obtain ⟨I0, hI0, hmem⟩ := hb.inv.start
    rw [itemsOf_cert, hI0]
    exact hmem

theorem states_of_mem {s : Nat} {it : Item} (h : it ∈ itemsOf st.cert s) :
    ∃ I, st.states[s]? = some I ∧ it ∈ I :=
  Util.mem_getD_nil.mp (itemsOf_cert st s ▸ h)

theorem conflictOK_of_construct (hw : GrammarWf G nT nR) (hO : OrdOK nT nR ord)
    (hst : construct G nT ord = some st) : ConflictOK G nT nR st.transTab st.cert := by
  have hb := built_of_wf hw hO hst
  have hsk := skelOK_of_construct hw hO hst
  refine ⟨hsk, ?_, ?_⟩
  · intro s it hit
    obtain ⟨I, hs, hit⟩ := states_of_mem hit
    obtain ⟨γ, hpath, hl⟩ := hb.lr1 hs hit
    exact justd_of_closed hsk.closed hl hpath
  · have := kernelsDistinct_of_inv hb.inv
    rw [← size_cert] at this
    exact this

theorem hasConflictsP_iff (hw : GrammarWf G nT nR) (hO : OrdOK nT nR ord)
    (hst : construct G nT ord = some st) (info : Nat → ProdInfo) :
    hasConflictsP info G nT st = true ↔
      ∃ s a, Unsettled G info (skelOf st) (LALRItem G (skelOf st)) s a :=
  verdictB_iff (conflictOK_of_construct hw hO hst) info

end

end Lox.LR.Emit
