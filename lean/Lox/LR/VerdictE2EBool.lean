import Lox.LR.VerdictE2E
/-! The Boolean validator `conflictCheckB` (`Lox/LR/ConflictCheck.lean`) on the output of the
generator model: the ⊇ half with the shape conditions (`closedSkelB`) and the kernel check
(`kernelsDistinctB`) evaluate to `true` for all well-formed grammars
(`closedSkelB_of_construct`, `kernelsDistinctB_of_inv`); what is left of `conflictCheckB` is
the result of the untrusted rank search (`conflictCheckB_eq_search`). Needs one more loop invariant
of `Cons.construct`: the rows of the transition table have pairwise different keys (`RowsNodup`;
`TransitionMap` is a Go map). -/
namespace Lox.LR.Cons
open Lox.LR Lox.LR.Gen

def RowsNodup (st : CState) : Prop := ∀ row ∈ st.trans, (row.map (·.1)).Nodup

theorem nodup_setTrans {row : List (Sym × Nat)} (h : (row.map (·.1)).Nodup) (X : Sym) (j : Nat) :
    ((setTrans row X j).map (·.1)).Nodup := by
  unfold setTrans
  rw [List.map_cons, List.nodup_cons]
  constructor
  · intro hm
    obtain ⟨e, he, hx⟩ := List.mem_map.mp hm
    have := (List.mem_filter.mp he).2
    simp only [bne_iff_ne, ne_eq] at this
    exact this hx
  · exact h.sublist ((List.filter_sublist).map _)

section
variable {G : Grammar} {nT : Nat}

theorem stepSym_trans {st st' : CState} {i : Nat} {X : Sym}
    (hs : stepSym G nT i st X = some st') :
    ∃ j, ∀ row ∈ st'.trans, row ∈ modAt st.trans i (fun row => setTrans row X j) ∨ row = [] := by
  unfold stepSym at hs
  split at hs
  · cases hs
  split at hs
  · cases hs
  dsimp only at hs
  split at hs <;> cases hs
  · exact ⟨_, fun _ h => .inl h⟩
  · exact ⟨_, fun _ h => (List.mem_append.mp h).imp_right List.mem_singleton.mp⟩

theorem RowsNodup.step {st st' : CState} {i : Nat} {X : Sym} (h : RowsNodup st)
    (hs : stepSym G nT i st X = some st') : RowsNodup st' := by
  obtain ⟨j, hrows⟩ := stepSym_trans hs
  intro row hrow
  rcases hrows row hrow with hrow | rfl
  · rcases mem_modAt hrow with hm | ⟨x, hx, rfl⟩
    · exact h row hm
    · exact nodup_setTrans (h x hx) X j
  · exact List.nodup_nil

theorem construct_rowsNodup (ht : TermsBelow G nT) {ord : List Sym} {fuel : Nat} {st : CState}
    (h : constructWith G nT ord fuel = some st) : RowsNodup st := by
  refine (construct_invariant ht RowsNodup (fun st0 hi => ?_) (fun _ hq => hq)
    (fun _ hq hs _ _ => hq.step hs) h).2
  obtain ⟨I0, _, rfl⟩ := initState_some hi
  intro row hrow
  cases List.mem_singleton.mp hrow
  exact List.nodup_nil

end

end Lox.LR.Cons

namespace Lox.LR.Emit
open Lox.LR Lox.LR.Gen Lox.LR.Cons

section
variable {G : Grammar} {nT nR : Nat} {ord : List Sym} {st : CState}

theorem closedSkelB_of_construct (hw : GrammarWf G nT nR) (hO : OrdOK nT nR ord)
    (hst : construct G nT ord = some st) : closedSkelB G nT nR st.transTab st.cert = true := by
  apply closedSkelB_of_skelOK (skelOK_of_construct hw hO hst)
  intro s
  rw [rowOfT_transTab]
  have hr : RowsNodup st := construct_rowsNodup (SymsInRange.termsBelow hw.syms) hst
  cases hrow : st.trans[s]? with
  | none => simp
  | some row =>
    simp only [Option.getD_some]
    exact hr row (List.mem_of_getElem? hrow)

/-- States are keyed by `LR0Key`: equal kernel cores give equal keys, hence equal indices. -/
theorem kernelsDistinctB_of_inv (hinv : Inv G st) : kernelsDistinctB st.cert = true := by
  unfold kernelsDistinctB
  simp only [List.all_eq_true, List.mem_range]
  intro s hs s' hs'
  rw [size_cert] at hs
  have hs'' : s' < st.states.length := by omega
  have e1 : ((st.cert.map kernelCores)[s]?.getD []) = kernelCores st.states[s] := by
    simp [CState.cert, hs]
  have e2 : ((st.cert.map kernelCores)[s']?.getD []) = kernelCores st.states[s'] := by
    simp [CState.cert, hs'']
  rw [e1, e2]
  cases hc : coresDiffer (kernelCores st.states[s]) (kernelCores st.states[s']) with
  | true => rfl
  | false =>
    exfalso
    have hiff := coresDiffer_false.mp hc
    have := hinv.eq_of_kj (List.getElem?_eq_getElem hs) (List.getElem?_eq_getElem hs'') fun pd =>
      (mem_kernelCores_KJ.symm.trans (hiff pd)).trans mem_kernelCores_KJ
    omega

theorem conflictCheckB_eq_search (hw : GrammarWf G nT nR) (hO : OrdOK nT nR ord)
    (hst : construct G nT ord = some st) :
    conflictCheckB G nT nR st.transTab st.cert =
      (rankOKB G (rankTabs G nT nR) &&
        itemsJustB G (skelAuto st.transTab st.cert) (rankTabs G nT nR)
          (Jst.searchRanks G nR (skelAuto st.transTab st.cert) st.cert (rankTabs G nT nR)).1
          (Jst.searchRanks G nR (skelAuto st.transTab st.cert) st.cert (rankTabs G nT nR)).2
          st.cert.size) := by
  have hb := built_of_wf hw hO hst
  unfold conflictCheckB justSkelB
  rw [closedSkelB_of_construct hw hO hst, Bool.true_and]
  simp only [justSkelWith, kernelsDistinctB_of_inv hb.inv, Bool.and_true]

end

end Lox.LR.Emit
