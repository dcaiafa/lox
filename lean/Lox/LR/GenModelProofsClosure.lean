import Lox.LR.GenModelProofs
/-! Closure and Goto of the generator model (`Lox/LR/GenModel.lean`): specification and proofs.

Specification (read these): `ClosureRule` (the LR(1) closure rule with the SEMANTIC first sets),
`ClosureOf` (the least set containing `I` and closed under the rule), `ClosedSet`.
Main results: `closureLoop_spec` (what the loop returns is exactly `ClosureOf`),
`closureLoop_isSome` (the fuel suffices), `mem_advance`; `closureGo_eq_some`, `gotoGo_eq_some` (the
wrappers with the panics of the Go code). -/
namespace Lox.LR.Gen
open Lox.LR

/-- The LR(1) closure rule: from `[A → α·Bβ, a]`, for a production `q` of `B` and a terminal `b`
that can stand first in a sentential form derived from `β a`, the item `[B → ·γ, b]`. -/
def ClosureRule (G : Grammar) (it new : Item) : Prop :=
  ∃ (pr : Prod) (B : Nat) (qr : Prod), G.prods[it.p]? = some pr ∧ pr.rhs[it.d]? = some (.n B) ∧
    G.prods[new.p]? = some qr ∧ qr.lhs = B ∧ new.d = 0 ∧
    SFirst G (pr.rhs.drop (it.d + 1) ++ [.t it.a]) new.a

/-- The least item set containing `I` and closed under the closure rule. -/
inductive ClosureOf (G : Grammar) (I : List Item) : Item → Prop where
  | base {it : Item} : it ∈ I → ClosureOf G I it
  | step {it new : Item} : ClosureOf G I it → ClosureRule G it new → ClosureOf G I new

def ClosedSet (G : Grammar) (C : List Item) : Prop :=
  ∀ it ∈ C, ∀ new, ClosureRule G it new → new ∈ C

theorem ClosureOf.least {G : Grammar} {I : List Item} {P : Item → Prop} (hI : ∀ x ∈ I, P x)
    (hP : ∀ it, P it → ∀ new, ClosureRule G it new → P new) {x : Item} (hx : ClosureOf G I x) : P x := by
  induction hx with
  | base hi => exact hI _ hi
  | step _ hr ih => exact hP _ ih _ hr

/-- The FIRST table is exact (what `firstSets_exact` gives for `firstSets G nT`). -/
def ExactTab (G : Grammar) (F : Tab) : Prop :=
  ∀ (α : List Sym) (b : Nat), b ∈ (firstSeq F α).1 ↔ SFirst G α b

theorem exactTab_firstSets {G : Grammar} {nT : Nat} (ht : TermsBelow G nT) :
    ExactTab G (firstSets G nT) :=
  fun α b => (firstSets_exact ht α).1 b

theorem mem_prodsOf {G : Grammar} {B q : Nat} :
    q ∈ prodsOf G B ↔ ∃ qr : Prod, G.prods[q]? = some qr ∧ qr.lhs = B := by
  unfold prodsOf
  rw [List.mem_filter, List.mem_range]
  constructor
  · rintro ⟨hlt, h⟩
    cases hq : G.prods[q]? with
    | none => simp [hq] at h
    | some qr =>
      simp only [hq, beq_iff_eq] at h
      exact ⟨qr, rfl, h⟩
  · rintro ⟨qr, hq, hB⟩
    exact ⟨(Array.getElem?_eq_some_iff.mp hq).1, by simp [hq, hB]⟩

theorem mem_expand_iff {G : Grammar} {F : Tab} {it new : Item} :
    new ∈ expand G F it ↔
      ∃ (pr : Prod) (B : Nat) (qr : Prod), G.prods[it.p]? = some pr ∧ pr.rhs[it.d]? = some (.n B) ∧
        G.prods[new.p]? = some qr ∧ qr.lhs = B ∧ new.d = 0 ∧
        new.a ∈ firstLA F (pr.rhs.drop (it.d + 1)) it.a := by
  unfold expand
  cases hp : G.prods[it.p]? with
  | none => simp
  | some pr =>
    simp only [Option.some.injEq, exists_and_left, exists_eq_left']
    cases hd : pr.rhs[it.d]? with
    | none => simp
    | some s =>
      cases s with
      | t a => simp
      | n B =>
        simp only [List.mem_flatMap, List.mem_map, mem_prodsOf, Option.some.injEq, Sym.n.injEq,
          exists_eq_left']
        constructor
        · rintro ⟨q, ⟨qr, hqr, hB⟩, x, hx, rfl⟩
          exact ⟨qr, hqr, hB, rfl, hx⟩
        · rintro ⟨qr, hqr, hl, hd0, hf⟩
          refine ⟨new.p, ⟨qr, hqr, hl⟩, new.a, hf, ?_⟩
          cases new
          exact congrArg (Item.mk _ · _) hd0.symm

theorem mem_expand {G : Grammar} {F : Tab} (hF : ExactTab G F) {it new : Item} :
    new ∈ expand G F it ↔ ClosureRule G it new := by
  simp only [mem_expand_iff, ClosureRule, firstLA, hF _ _]

theorem foldl_addNew_eq (cands R N : List Item) :
    cands.foldl addNew (R, N) =
      ((Util.fresh R cands).reverse ++ R, (Util.fresh R cands).reverse ++ N) := by
  induction cands generalizing R N with
  | nil => rfl
  | cons c cands ih =>
    rw [List.foldl_cons, Util.fresh, addNew]
    split
    · exact ih R N
    · rw [ih]
      simp

theorem foldl_addNew (cands : List Item) (R N : List Item) :
    (∀ x, x ∈ (cands.foldl addNew (R, N)).1 ↔ x ∈ R ∨ x ∈ cands) ∧
    (∀ x, x ∈ (cands.foldl addNew (R, N)).2 ↔ x ∈ N ∨ (x ∈ cands ∧ x ∉ R)) ∧
    (R.Nodup → (cands.foldl addNew (R, N)).1.Nodup) ∧
    (cands.foldl addNew (R, N)).1.length + N.length = R.length + (cands.foldl addNew (R, N)).2.length := by
  rw [foldl_addNew_eq]
  refine ⟨fun x => ?_, fun x => ?_, fun h => ?_, ?_⟩
  · rw [List.mem_append, List.mem_reverse, or_comm, ← List.mem_append]
    exact Util.mem_append_fresh
  · rw [List.mem_append, List.mem_reverse, Util.mem_fresh, or_comm]
  · exact (((List.reverse_perm _).append_right R).trans List.perm_append_comm).nodup_iff.2
      (Util.nodup_append_fresh h cands)
  · simp only [List.length_append, List.length_reverse]
    omega

theorem foldl_addNew_nil (cands R : List Item) :
    (∀ x, x ∈ (cands.foldl addNew (R, [])).1 ↔ x ∈ R ∨ x ∈ cands) ∧
      ∀ x, x ∈ (cands.foldl addNew (R, [])).2 ↔ x ∈ cands ∧ x ∉ R :=
  ⟨(foldl_addNew cands R []).1, fun x =>
    ((foldl_addNew cands R []).2.1 x).trans (or_iff_right List.not_mem_nil)⟩

/-- Invariant of the loop on (result, pending). -/
structure LoopInv (G : Grammar) (F : Tab) (I R P : List Item) : Prop where
  base : ∀ x ∈ I, x ∈ R
  pend : ∀ x ∈ P, x ∈ R
  done : ∀ it ∈ R, it ∉ P → ∀ new ∈ expand G F it, new ∈ R
  just : ∀ x ∈ R, ClosureOf G I x

theorem loopInv_round {G : Grammar} {F : Tab} (hF : ExactTab G F) {I R P : List Item}
    (h : LoopInv G F I R P) :
    LoopInv G F I (closureRound G F R P).1 (closureRound G F R P).2 := by
  unfold closureRound
  obtain ⟨h1, h2⟩ := foldl_addNew_nil (P.flatMap (expand G F)) R
  refine ⟨fun x hx => (h1 x).mpr (.inl (h.base x hx)),
    fun x hx => (h1 x).mpr (.inr ((h2 x).mp hx).1), ?_, ?_⟩
  · intro it hit hnp new hnew
    have hitR : it ∈ R := Classical.byContradiction fun hn =>
      hnp ((h2 it).mpr ⟨((h1 it).mp hit).resolve_left hn, hn⟩)
    by_cases hP : it ∈ P
    · exact (h1 new).mpr (Or.inr (List.mem_flatMap.mpr ⟨it, hP, hnew⟩))
    · exact (h1 new).mpr (Or.inl (h.done it hitR hP new hnew))
  · intro x hx
    rcases (h1 x).mp hx with h' | h'
    · exact h.just x h'
    · obtain ⟨it, hit, hnew⟩ := List.mem_flatMap.mp h'
      exact .step (h.just it (h.pend it hit)) ((mem_expand hF).mp hnew)

theorem loopInv_init (G : Grammar) (F : Tab) (I : List Item) :
    LoopInv G F I (I.foldl addNew ([], [])).1 (I.foldl addNew ([], [])).2 := by
  obtain ⟨h1, h2⟩ := foldl_addNew_nil I []
  refine ⟨fun x hx => (h1 x).mpr (.inr hx), fun x hx => (h1 x).mpr (.inr ((h2 x).mp hx).1),
    fun it hit hnp => ?_, fun x hx => .base (((h1 x).mp hx).resolve_left List.not_mem_nil)⟩
  exact absurd ((h2 it).mpr ⟨((h1 it).mp hit).resolve_left List.not_mem_nil, List.not_mem_nil⟩) hnp

theorem closureLoop_invariant {G : Grammar} {F : Tab} (Q : List Item → List Item → Prop)
    (hround : ∀ R P, Q R P → Q (closureRound G F R P).1 (closureRound G F R P).2) (n : Nat)
    {R P C : List Item} (hq : Q R P) (h : closureLoop G F n R P = some C) : Q C [] := by
  induction n generalizing R P with
  | zero => cases h
  | succ n ih =>
    unfold closureLoop at h
    split at h
    · next hP =>
      cases h
      exact List.isEmpty_iff.mp hP ▸ hq
    · exact ih (hround R P hq) h

theorem closureLoop_spec {G : Grammar} {F : Tab} (hF : ExactTab G F) {I : List Item} (n : Nat)
    {R P C : List Item} (h : LoopInv G F I R P) (hr : closureLoop G F n R P = some C) (x : Item) :
    x ∈ C ↔ ClosureOf G I x := by
  have h := closureLoop_invariant (LoopInv G F I) (fun _ _ => loopInv_round hF) n h hr
  exact ⟨h.just x, ClosureOf.least h.base fun it hit new hrule =>
    h.done it hit List.not_mem_nil new ((mem_expand hF).mpr hrule)⟩

/-- The items `[q, 0, x]` the loop can add. -/
def newItems (nP nT : Nat) : List Item :=
  (List.range nP).flatMap fun q => (List.range nT).map fun x => ⟨q, 0, x⟩

theorem length_newItems (nP nT : Nat) : (newItems nP nT).length = nP * nT := by
  unfold newItems
  induction nP with
  | zero => simp
  | succ n ih =>
    rw [List.range_succ, List.flatMap_append, List.length_append, ih]
    simp [Nat.succ_mul]

theorem mem_newItems {nP nT : Nat} {x : Item} :
    x ∈ newItems nP nT ↔ x.p < nP ∧ x.d = 0 ∧ x.a < nT := by
  unfold newItems
  simp only [List.mem_flatMap, List.mem_range, List.mem_map]
  constructor
  · rintro ⟨q, hq, a, ha, rfl⟩
    exact ⟨hq, rfl, ha⟩
  · rintro ⟨h1, h2, h3⟩
    refine ⟨x.p, h1, x.a, h3, ?_⟩
    cases x
    simp only at h2
    simp [h2]

theorem expand_in_newItems {G : Grammar} {nT : Nat} {F : Tab} (ht : TermsBelow G nT)
    (hw : WFTab nT F) {it new : Item} (ha : it.a < nT) (h : new ∈ expand G F it) :
    new ∈ newItems G.prods.size nT := by
  obtain ⟨pr, B, qr, hp, _, hq, _, hd0, hx⟩ := mem_expand_iff.mp h
  refine mem_newItems.mpr ⟨(Array.getElem?_eq_some_iff.mp hq).1, hd0, firstSeq_below hw ?_ _ hx⟩
  intro b hb
  rcases List.mem_append.mp hb with hb | hb
  · exact ht pr (Util.mem_toList_iff_getElem?.mpr ⟨it.p, hp⟩) b (List.mem_of_mem_drop hb)
  · rw [Sym.t.inj (List.mem_singleton.mp hb)]
    exact ha

structure SizeInv (G : Grammar) (nT : Nat) (R0 R : List Item) : Prop where
  nodup : R.Nodup
  below : ∀ x ∈ R, x.a < nT
  sub : ∀ x ∈ R, x ∈ R0 ∨ x ∈ newItems G.prods.size nT

theorem sizeInv_bound {G : Grammar} {nT : Nat} {R0 R : List Item} (h : SizeInv G nT R0 R) :
    R.length ≤ R0.length + G.prods.size * nT := by
  have := List.Nodup.length_le_of_subset h.nodup (l₂ := R0 ++ newItems G.prods.size nT)
    (fun x hx => List.mem_append.mpr (h.sub x hx))
  simpa [length_newItems] using this

theorem sizeInv_round {G : Grammar} {nT : Nat} {F : Tab} (ht : TermsBelow G nT) (hw : WFTab nT F)
    {R0 R P : List Item} (h : SizeInv G nT R0 R) (hP : ∀ x ∈ P, x ∈ R) :
    SizeInv G nT R0 (closureRound G F R P).1 ∧
      (closureRound G F R P).1.length = R.length + (closureRound G F R P).2.length ∧
      ∀ x ∈ (closureRound G F R P).2, x ∈ (closureRound G F R P).1 := by
  unfold closureRound
  obtain ⟨h1, h2, h3, h4⟩ := foldl_addNew (P.flatMap (expand G F)) R []
  have hcand : ∀ x ∈ P.flatMap (expand G F), x ∈ newItems G.prods.size nT := by
    intro x hx
    obtain ⟨it, hit, hnew⟩ := List.mem_flatMap.mp hx
    exact expand_in_newItems ht hw (h.below it (hP it hit)) hnew
  refine ⟨⟨h3 h.nodup, ?_, ?_⟩, by simpa using h4, fun x hx => ((h2 x).mp hx).elim
    (fun h' => nomatch h') fun h' => (h1 x).mpr (.inr h'.1)⟩
  · intro x hx
    rcases (h1 x).mp hx with h' | h'
    · exact h.below x h'
    · exact (mem_newItems.mp (hcand x h')).2.2
  · intro x hx
    rcases (h1 x).mp hx with h' | h'
    · exact h.sub x h'
    · exact Or.inr (hcand x h')

theorem closureLoop_isSome {G : Grammar} {nT : Nat} {F : Tab} (ht : TermsBelow G nT)
    (hw : WFTab nT F) {R0 : List Item} (n : Nat) {R P : List Item} (h : SizeInv G nT R0 R)
    (hP : ∀ x ∈ P, x ∈ R) (hn : R0.length + G.prods.size * nT + 2 ≤ R.length + n) :
    ∃ C, closureLoop G F n R P = some C := by
  induction n generalizing R P with
  | zero =>
    have := sizeInv_bound h
    omega
  | succ n ih =>
    simp only [closureLoop]
    split
    · exact ⟨R, rfl⟩
    · obtain ⟨hinv, hlen, hP'⟩ := sizeInv_round (F := F) ht hw h hP
      by_cases hemp : (closureRound G F R P).2 = []
      · -- nothing was added: the next pass sees an empty `pending`
        have hb := sizeInv_bound h
        cases n with
        | zero => omega
        | succ k =>
          refine ⟨(closureRound G F R P).1, ?_⟩
          simp [closureLoop, hemp]
      · have hpos : 0 < (closureRound G F R P).2.length := List.length_pos_iff.mpr hemp
        exact ih hinv hP' (by omega)

/-- `Closure` returns the least set that contains its argument and is closed under the closure
rule (semantic FIRST). -/
theorem mem_closure_iff {G : Grammar} {nT : Nat} (ht : TermsBelow G nT) {I C : List Item}
    (h : closure? G nT I = some C) (x : Item) : x ∈ C ↔ ClosureOf G I x :=
  closureLoop_spec (exactTab_firstSets ht) _ (loopInv_init G (firstSets G nT) I) h x

theorem closedSet_closure {G : Grammar} {nT : Nat} (ht : TermsBelow G nT) {I C : List Item}
    (h : closure? G nT I = some C) : ClosedSet G C :=
  fun it hit new hr => (mem_closure_iff ht h new).mpr (.step ((mem_closure_iff ht h it).mp hit) hr)

theorem closureLoop_nodup {G : Grammar} {F : Tab} (n : Nat) {R P C : List Item} (hR : R.Nodup)
    (h : closureLoop G F n R P = some C) : C.Nodup :=
  closureLoop_invariant (fun R _ => R.Nodup)
    (fun R P hR => (foldl_addNew (P.flatMap (expand G F)) R []).2.2.1 hR) n hR h

theorem closure_nodup {G : Grammar} {nT : Nat} {I C : List Item} (h : closure? G nT I = some C) :
    C.Nodup := by
  unfold closure? closureWith at h
  exact closureLoop_nodup _ ((foldl_addNew I [] []).2.2.1 (by simp)) h

theorem goto_nodup {G : Grammar} {nT : Nat} {I C : List Item} {X : Sym}
    (h : goto? G nT I X = some C) : C.Nodup := closure_nodup h

theorem closure_isSome {G : Grammar} {nT : Nat} (ht : TermsBelow G nT) {I : List Item}
    (hI : ∀ it ∈ I, it.a < nT) : ∃ C, closure? G nT I = some C := by
  unfold closure? closureWith closureFuel
  obtain ⟨h1, _, h3, _⟩ := foldl_addNew I [] []
  have inv := loopInv_init G (firstSets G nT) I
  refine closureLoop_isSome ht (firstSets_wf ht) (R0 := (I.foldl addNew ([], [])).1) _ ?_ inv.pend
    (by omega)
  exact ⟨h3 (by simp), fun x hx => hI x (((h1 x).mp hx).resolve_left List.not_mem_nil),
    fun x hx => Or.inl hx⟩

theorem mem_advance {G : Grammar} {I : List Item} {X : Sym} {x : Item} :
    x ∈ advance G I X ↔ ∃ it ∈ I, afterDot G it = some X ∧ x = ⟨it.p, it.d + 1, it.a⟩ := by
  unfold advance
  simp only [List.mem_filterMap]
  constructor
  · rintro ⟨it, hit, h⟩
    split at h
    · rename_i ha
      cases h
      exact ⟨it, hit, ha, rfl⟩
    · cases h
  · rintro ⟨it, hit, ha, rfl⟩
    exact ⟨it, hit, by simp [ha]⟩

/-- A Go function that panics on some element of its argument (`none`) and otherwise answers `o`. -/
theorem ite_any_eq_some {α β : Type} {p : α → Bool} {l : List α} {o : Option β} {c : β} :
    (if l.any p then none else o) = some c ↔ (∀ x ∈ l, p x = false) ∧ o = some c := by
  have : l.any p = false ↔ ∀ x ∈ l, p x = false := by
    simp only [List.any_eq_false, Bool.not_eq_true]
  rw [← this]
  cases l.any p
  · exact ⟨fun h => ⟨rfl, h⟩, fun h => h.2⟩
  · exact ⟨nofun, fun h => nomatch h.1⟩

theorem closureGo_eq_some {G : Grammar} {nT : Nat} {I C : List Item} :
    closureGo G nT I = some C ↔
      (∀ it ∈ I, itemPanics G nT it = false) ∧ closure? G nT I = some C :=
  ite_any_eq_some

theorem gotoGo_eq_some {G : Grammar} {nT : Nat} {I C : List Item} {X : Sym} :
    gotoGo G nT I X = some C ↔ (∀ it ∈ I, gotoItemPanics G it = false) ∧
      (∀ it ∈ advance G I X, itemPanics G nT it = false) ∧ goto? G nT I X = some C :=
  ite_any_eq_some.trans (and_congr_right fun _ => closureGo_eq_some)

end Lox.LR.Gen
