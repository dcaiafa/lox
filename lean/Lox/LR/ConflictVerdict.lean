import Lox.LR.ConflictCheckSound
import Lox.LR.ConflictSpec
import Lox.LR.GenModelProofsActions
import Lox.Dec.ResolveProofs
import Lox.Util.Nodup
/-! The verdict computed from a validated certificate (`verdictB`: model of `createActions` +
the loop of `resolveConflicts`) is the verdict BY DEFINITION: `verdictB_iff`. Spec notions:
`Lox/LR/ConflictSpec.lean` (`Contrib`, `Settled`, `Unsettled`, `CellOf`). Like `Cand` and
`Conflict` (`LALRBasics.lean`) they look at the item family `I` in the one state `s` only:
`Contrib.mono_at`, `*.congr`. -/
namespace Lox.LR
open Lox.Dec (ProdInfo Action resolveOne hasConflicts)

theorem Contrib.mono_at {G : Grammar} {I J : Nat → Item → Prop} {s a q : Nat}
    (hIJ : ∀ it, I s it → J s it) (h : Contrib G I s a q) : Contrib G J s a q := by
  obtain ⟨d, b, pr, hm, hp, hX⟩ := h
  exact ⟨d, b, pr, hIJ _ hm, hp, hX⟩

theorem Contrib.congr {G : Grammar} {I J : Nat → Item → Prop} {s a : Nat}
    (h : ∀ it, I s it ↔ J s it) {q : Nat} : Contrib G I s a q ↔ Contrib G J s a q :=
  ⟨Contrib.mono_at fun it => (h it).mp, Contrib.mono_at fun it => (h it).mpr⟩

theorem CellOf.congr {G : Grammar} {A : Auto} {I J : Nat → Item → Prop} {s a : Nat}
    {cell : List Action} (h : ∀ it, I s it ↔ J s it) (hc : CellOf G A I s a cell) :
    CellOf G A J s a cell where
  nodup := hc.nodup
  cand act := (hc.cand act).trans (Cand.congr h)
  prods t ps hm q := (hc.prods t ps hm q).trans (Contrib.congr h)

theorem Settled.congr {G : Grammar} {info : Nat → ProdInfo} {A : Auto} {I J : Nat → Item → Prop}
    {s a : Nat} (h : ∀ it, I s it ↔ J s it) : Settled G info A I s a ↔ Settled G info A J s a := by
  simp only [Settled, Cand.congr h, Contrib.congr h]

theorem Unsettled.congr {G : Grammar} {info : Nat → ProdInfo} {A : Auto} {I J : Nat → Item → Prop}
    {s a : Nat} (h : ∀ it, I s it ↔ J s it) :
    Unsettled G info A I s a ↔ Unsettled G info A J s a := by
  rw [Unsettled, Unsettled, Conflict.congr h, Settled.congr h]

theorem CellOf.conflict_iff {G : Grammar} {A : Auto} {I : Nat → Item → Prop} {s a : Nat}
    {cell : List Action} (hc : CellOf G A I s a cell) :
    1 < cell.length ↔ Conflict G A I s a :=
  Util.one_lt_length_iff hc.nodup hc.cand

theorem actOf_eq_shift {x : Action} {t : Nat} : actOf x = .shift t ↔ ∃ ps, x = .shift t ps := by
  cases x <;> simp [actOf]

theorem actOf_eq_reduce {x : Action} {p : Nat} : actOf x = .reduce p ↔ x = .reduce p := by
  cases x <;> simp [actOf]

theorem actOf_eq_accept {x : Action} : actOf x = .accept ↔ x = .accept := by
  cases x <;> simp [actOf]

/-- `resolveConflict` resolves the cell ⇔ the documented rule settles it. -/
theorem CellOf.resolved_iff {G : Grammar} {A : Auto} {I : Nat → Item → Prop} {s a : Nat}
    {cell : List Action} (hc : CellOf G A I s a cell) (info : Nat → ProdInfo) :
    (resolveOne info cell).2 = true ↔ Settled G info A I s a := by
  rw [Lox.Dec.resolveOne_resolved_iff]
  constructor
  · rintro ⟨t, ps, rp, hcell, hne, hrule, hprec, hpos, hrp⟩
    have hmem : Action.shift t ps ∈ cell := by rcases hcell with rfl | rfl <;> simp
    have hprods := hc.prods t ps hmem
    have hmap : ∀ act, act ∈ cell.map actOf ↔ (act = .shift t ∨ act = .reduce rp) := by
      intro act
      rcases hcell with rfl | rfl
      · simp [actOf]
      · simp [actOf, or_comm]
    refine ⟨t, rp, fun act => (hc.cand act).symm.trans (hmap act), fun q hq => ?_,
      fun q q' hq hq' => ?_, hrp⟩
    · exact ⟨hrule q ((hprods q).mpr hq), hpos q ((hprods q).mpr hq)⟩
    · exact hprec q ((hprods q).mpr hq) q' ((hprods q').mpr hq')
  · rintro ⟨t, rp, hcand, hr, hp, hrp⟩
    have hm : ∀ x, x ∈ cell.map actOf ↔ x = Act.shift t ∨ x = Act.reduce rp :=
      fun x => (hc.cand x).trans (hcand x)
    obtain ⟨ps, hcell⟩ : ∃ ps, cell = [.shift t ps, .reduce rp] ∨ cell = [.reduce rp, .shift t ps] := by
      rcases Util.nodup_pair hc.nodup hm (by simp) with h | h <;> obtain ⟨x, y, rfl, hx, hy⟩ := Util.map_eq_pair h
      · obtain ⟨ps, rfl⟩ := actOf_eq_shift.mp hx
        cases actOf_eq_reduce.mp hy
        exact ⟨ps, .inl rfl⟩
      · obtain ⟨ps, rfl⟩ := actOf_eq_shift.mp hy
        cases actOf_eq_reduce.mp hx
        exact ⟨ps, .inr rfl⟩
    have hprods := hc.prods t ps (by rcases hcell with rfl | rfl <;> simp)
    -- the shift candidate has a contributor, so `ps` is not empty
    obtain ⟨q0, hq0⟩ : ∃ q, Contrib G I s a q := by
      cases (hcand (.shift t)).mpr (.inl rfl) with
      | shift hmem hp' hX _ => exact ⟨_, _, _, _, hmem, hp', hX⟩
    exact ⟨t, ps, rp, hcell, List.ne_nil_of_mem ((hprods q0).mpr hq0),
      fun q hq => (hr q ((hprods q).mp hq)).1,
      fun q hq q' hq' => hp q q' ((hprods q).mp hq) ((hprods q').mp hq'),
      fun q hq => (hr q ((hprods q).mp hq)).2, hrp⟩

theorem CellOf.unsettled_iff {G : Grammar} {A : Auto} {I : Nat → Item → Prop} {s a : Nat}
    {cell : List Action} (hc : CellOf G A I s a cell) (info : Nat → ProdInfo) :
    Unsettled G info A I s a ↔ 1 < cell.length ∧ (resolveOne info cell).2 = false := by
  unfold Unsettled
  rw [← hc.conflict_iff, ← hc.resolved_iff info]
  cases (resolveOne info cell).2 <;> simp

section
variable {G : Grammar} {nTerms nRules : Nat} {tr : TransTab} {cert : Array (List Item)}

theorem SkelOK.la_lt (h : SkelOK G nTerms nRules tr cert) (s : Nat) :
    ∀ it ∈ itemsOf cert s, it.a < nTerms := by
  intro it hit
  obtain ⟨pr, _, hok⟩ := h.items s it hit
  exact hok.la

theorem SkelOK.tr_some (h : SkelOK G nTerms nRules tr cert) (s : Nat) :
    ∀ it ∈ itemsOf cert s, ∀ x, Gen.afterDot G it = some (.t x) → trTerm tr s x ≠ none := by
  intro it hit x hx
  obtain ⟨pr, hp, hX⟩ := Gen.afterDot_eq.mp hx
  obtain ⟨s', hl, _⟩ := (h.item hit hp).step _ hX
  simp [trTerm, hl]

theorem SkelOK.cellOf (h : SkelOK G nTerms nRules tr cert) (s a : Nat) :
    CellOf G (skelAuto tr cert) (fun s it => it ∈ itemsOf cert s) s a
      (Gen.cellAt G nTerms (trTerm tr s) (itemsOf cert s) a) := by
  -- read off the calls, not `Gen.cellAt_spec`: `Gen.CandOf` knows a shift only as a kind, and
  -- `CellOf.prods` speaks of the productions it carries
  have hI := h.la_lt s
  have htr := h.tr_some s
  obtain ⟨hnd, hacc, hred, hsh⟩ :=
    Gen.cellAt_of (Gen.cellOn_calls G nTerms (trTerm tr s) (itemsOf cert s) a)
  obtain ⟨S', hp0⟩ := prod0B_spec h.prod0
  refine ⟨?_, fun act => ?_, fun t ps hx q => ?_⟩
  · rw [List.Nodup, List.pairwise_map] at hnd ⊢
    refine hnd.imp fun {x y} hne e => hne ?_
    cases x <;> cases y <;> cases e <;> rfl
  · rw [List.mem_map]
    cases act with
    | shift t =>
      constructor
      · rintro ⟨x, hx, he⟩
        obtain ⟨ps, rfl⟩ := actOf_eq_shift.mp he
        obtain ⟨⟨q, hq⟩, _⟩ := (hsh t ps).mp hx
        obtain ⟨ht, ⟨p, d, b⟩, hit, had, _⟩ := Gen.shift_mem_callsOn.mp hq
        obtain ⟨pr, hp, hX⟩ := Gen.afterDot_eq.mp had
        exact .shift (p := p) (d := d) (b := b) hit hp hX ((trans_skel tr cert s _).trans ht)
      · intro hc
        cases hc with
        | @shift p d b pr s' hmem hp hX htr' =>
          rw [trans_skel] at htr'
          exact ⟨.shift t _, (hsh t _).mpr ⟨⟨p, Gen.shift_mem_callsOn.mpr
            ⟨htr', ⟨p, d, b⟩, hmem, Gen.afterDot_eq.mpr ⟨pr, hp, hX⟩, rfl⟩⟩, rfl⟩, rfl⟩
    | reduce p =>
      constructor
      · rintro ⟨x, hx, he⟩
        cases actOf_eq_reduce.mp he
        obtain ⟨hp0', pr, hp, hmem⟩ := (Gen.reduce_mem_callsOn hI).mp ((hred p).mp hx)
        exact .reduce hmem hp hp0'
      · intro hc
        cases hc with
        | reduce hmem hp hp0' =>
          exact ⟨_, (hred p).mpr ((Gen.reduce_mem_callsOn hI).mpr ⟨hp0', _, hp, hmem⟩), rfl⟩
    | accept =>
      constructor
      · rintro ⟨x, hx, he⟩
        cases actOf_eq_accept.mp he
        obtain ⟨pr0, hpr0, hmem⟩ := (Gen.accept_mem_callsOn hI).mp (hacc.mp hx)
        rw [hp0] at hpr0
        cases hpr0
        obtain ⟨pr, _, hok⟩ := h.items s _ hmem
        cases (hok.shape.p0 rfl : a = 0)
        exact .accept hmem rfl
      · intro hc
        cases hc with
        | accept hmem ha =>
          subst ha
          exact ⟨_, hacc.mpr ((Gen.accept_mem_callsOn hI).mpr ⟨_, hp0, hmem⟩), rfl⟩
  · rw [((hsh t ps).mp hx).2, Gen.mem_filterMap_callProd]
    constructor
    · rintro ⟨t', ht'⟩
      obtain ⟨_, ⟨p, d, b⟩, hit, had, rfl⟩ := Gen.shift_mem_callsOn.mp ht'
      obtain ⟨pr, hp, hX⟩ := Gen.afterDot_eq.mp had
      exact ⟨d, b, pr, hit, hp, hX⟩
    · rintro ⟨d, b, pr, hit, hp, hX⟩
      have had : Gen.afterDot G ⟨q, d, b⟩ = some (.t a) := Gen.afterDot_eq.mpr ⟨pr, hp, hX⟩
      cases ht : trTerm tr s a with
      | none => exact absurd ht (htr _ hit a had)
      | some t' => exact ⟨t', Gen.shift_mem_callsOn.mpr ⟨ht, _, hit, had, rfl⟩⟩

theorem stateCells_eq (G : Grammar) (nTerms : Nat) (tr : TransTab) (cert : Array (List Item)) (s : Nat) :
    stateCells G nTerms tr cert s = (Gen.cellTerminals G nTerms (trTerm tr s) (itemsOf cert s)).map
      (Gen.cellAt G nTerms (trTerm tr s) (itemsOf cert s)) := by
  simp only [stateCells, Gen.cellOn_eq]
  exact congrFun List.filterMap_eq_map _

theorem mem_tableCells {cell : List Action} :
    cell ∈ tableCells G nTerms tr cert ↔ ∃ s, s < cert.size ∧
      ∃ a ∈ Gen.cellTerminals G nTerms (trTerm tr s) (itemsOf cert s),
        Gen.cellAt G nTerms (trTerm tr s) (itemsOf cert s) a = cell := by
  simp only [tableCells, stateCells_eq, List.mem_flatMap, List.mem_range, List.mem_map]

theorem ConflictOK.cellOf (h : ConflictOK G nTerms nRules tr cert) (s a : Nat) :
    CellOf G (skelAuto tr cert) (LALRItem G (skelAuto tr cert)) s a
      (Gen.cellAt G nTerms (trTerm tr s) (itemsOf cert s) a) :=
  (h.skel.cellOf s a).congr (h.items_exact s)

/-- **The computed verdict is the verdict by definition.** On a certificate and transitions that
pass the checks, `verdictB` (model of `createActions` followed by the loop of `resolveConflicts`:
`ParserTable.HasConflicts`) is `true` iff some cell of the LALR(1) automaton by definition has two
different candidate actions that the documented precedence rule does not settle. -/
theorem verdictB_iff (h : ConflictOK G nTerms nRules tr cert) (info : Nat → ProdInfo) :
    verdictB G nTerms info tr cert = true ↔
      ∃ s a, Unsettled G info (skelAuto tr cert) (LALRItem G (skelAuto tr cert)) s a := by
  simp only [verdictB, hasConflicts, List.any_eq_true, mem_tableCells, Bool.and_eq_true,
    bne_iff_ne, ne_eq, Bool.not_eq_true']
  constructor
  · rintro ⟨_, ⟨s, _, a, ha, rfl⟩, hlen, hres⟩
    have h0 := mt List.length_eq_zero_iff.mp (Gen.cellAt_ne_nil_iff.mpr ha)
    exact ⟨s, a, ((h.cellOf s a).unsettled_iff info).mpr ⟨by omega, hres⟩⟩
  · rintro ⟨s, a, hu⟩
    obtain ⟨hlen, hres⟩ := ((h.cellOf s a).unsettled_iff info).mp hu
    obtain ⟨it, hit⟩ := hu.1.has_item
    exact ⟨_, ⟨s, mem_itemsOf ((h.items_exact s it).mpr hit), a,
      Gen.cellAt_ne_nil_iff.mp fun e => by rw [e] at hlen; exact absurd hlen (by decide), rfl⟩,
      by omega, hres⟩

theorem CellOf.unsettled_iff_left {A : Auto} {I : Nat → Item → Prop} {s a : Nat}
    {cell : List Action} (hc : CellOf G A I s a cell) (info : Nat → ProdInfo) :
    Unsettled G info A I s a ↔ 1 < (resolveOne info cell).1.length := by
  rw [hc.unsettled_iff info, Lox.Dec.resolveOne_length]
  cases (resolveOne info cell).2 <;> simp

/-- The verdict, read off any listing of the candidates of a cell: `P` is any reading of "unsettled"
from a listing (`CellOf.unsettled_iff`, `CellOf.unsettled_iff_left`). -/
theorem ConflictOK.verdict_cells (h : ConflictOK G nTerms nRules tr cert) {info : Nat → ProdInfo}
    {P : List Action → Prop}
    (hP : ∀ {s a cell}, CellOf G (skelAuto tr cert) (LALRItem G (skelAuto tr cert)) s a cell →
      (Unsettled G info (skelAuto tr cert) (LALRItem G (skelAuto tr cert)) s a ↔ P cell)) :
    verdictB G nTerms info tr cert = true ↔
      ∃ s a cell, CellOf G (skelAuto tr cert) (LALRItem G (skelAuto tr cert)) s a cell ∧ P cell :=
  (verdictB_iff h info).trans
    ⟨fun ⟨s, a, hu⟩ => ⟨s, a, _, h.cellOf s a, (hP (h.cellOf s a)).mp hu⟩,
      fun ⟨s, a, _, hc, hp⟩ => ⟨s, a, (hP hc).mpr hp⟩⟩

theorem not_unsettled {info : Nat → ProdInfo} {A : Auto} {I : Nat → Item → Prop} {s a : Nat} :
    ¬ Unsettled G info A I s a ↔ ¬ Conflict G A I s a ∨ Settled G info A I s a := by
  rw [Unsettled, Classical.not_and_iff_not_or_not, Classical.not_not]

theorem ConflictOK.accepted (h : ConflictOK G nTerms nRules tr cert) {info : Nat → ProdInfo}
    (hv : verdictB G nTerms info tr cert = false) (s a : Nat) :
    ¬ Unsettled G info (skelAuto tr cert) (LALRItem G (skelAuto tr cert)) s a :=
  fun hu => Bool.false_ne_true (hv.symm.trans ((verdictB_iff h info).mpr ⟨s, a, hu⟩))

end

end Lox.LR
