import Lox.LR.RuntimeProofs
/-! `_recover()` itself terminates (`C09.recover_terminates`, `C09.recover_terminates_of_rank`): the
ERROR skipping and the token dropping are bounded by the input, the stack search by the stack; the
inner simulation (reductions on ERROR followed without popping) terminates when the graph
`simNext`, `st ↦ goto(st, lhs(reduce(st, ERROR)))`, has a ranking function. Then fuel monotonicity:
more fuel does not change a result that was not a timeout. -/
namespace Lox.LR.Rt

theorem readToken_nu {T : Tables} {inp : Array Nat} {s s' : PState}
    (h : readToken T inp s = .ok s') :
    nu inp s' + 1 ≤ nu inp s ∨ (nu inp s' ≤ nu inp s ∧ s'.la = tEOF) := by
  have key : s.qla = -1 → nu inp (afterLex inp s) + 1 ≤ nu inp s ∨
      (nu inp (afterLex inp s) ≤ nu inp s ∧ (afterLex inp s).la = tEOF) := by
    intro hq
    simp only [nu, afterLex, hq]
    by_cases hp : s.pos < inp.size
    · left; simp only [hp, if_true]; omega
    · right
      simp only [hp, if_false]
      exact ⟨Nat.le_refl _, lexRead_eof hp⟩
  rcases readToken_eq_ok h with ⟨hq, rfl⟩ | ⟨hq, -, rfl⟩ | ⟨hq, -, -, ks, rfl⟩
  · left
    simp only [nu, hq, ne_eq, not_true_eq_false, not_false_eq_true, if_true, if_false]
    omega
  · exact key hq
  · exact key hq

theorem Reads.nu_le {T : Tables} {inp : Array Nat} {a b : PState} (h : Reads T inp a b) :
    nu inp b ≤ nu inp a :=
  h.inv (P := fun x => nu inp x ≤ nu inp a)
    (fun _ _ hp hr => Nat.le_trans ((readToken_nu hr).elim Nat.le_of_succ_le And.left) hp)
    (Nat.le_refl _)

theorem searchStack_no_timeout {T : Tables} {la : Int} {fuel : Nat} :
    ∀ (st : List Entry), (∀ e ∈ st, simulate T la fuel e.state ≠ .timeout) →
      searchStack T la fuel st ≠ .error "TIMEOUT"
  | [], _ => by simp [searchStack]
  | e :: rest, hsim => by
    unfold searchStack
    cases hs : simulate T la fuel e.state with
    | found => simp
    | notFound =>
      exact searchStack_no_timeout rest (fun x hx => hsim x (List.mem_cons_of_mem _ hx))
    | oob => simp
    | timeout => exact absurd hs (hsim e List.mem_cons_self)

def Stops (stop : PState → Option Rec) (s : PState) : Prop :=
  stop s ≠ some .timeout ∧ (s.la = tEOF → stop s ≠ none)

/-- `nu + 2`: every `_readToken()` decreases `nu` or returns EOF (`readToken_nu`), and one more
iteration sees the EOF lookahead. -/
theorem readLoop_terminates {T : Tables} {inp : Array Nat} {stop : PState → Option Rec} :
    ∀ (n : Nat) (s : PState),
    (∀ s1, Reads T inp s s1 → Stops stop s1) → (nu inp s + 2 ≤ n ∨ (s.la = tEOF ∧ 1 ≤ n)) →
    readLoop T inp stop n s ≠ .timeout
  | 0, s, _, h => by omega
  | n + 1, s, hs, h => by
    unfold readLoop
    cases hst : stop s with
    | some r => exact fun hc => (hs s (.refl s)).1 (hc ▸ hst)
    | none =>
      have h' : nu inp s + 2 ≤ n + 1 := h.resolve_right fun hE => (hs s (.refl s)).2 hE.1 hst
      cases hr : readToken T inp s with
      | error w => nofun
      | ok s1 =>
        refine readLoop_terminates n s1 (fun s2 h2 => hs s2 (.step hr h2)) ?_
        rcases readToken_nu hr with h1 | ⟨h1, h2⟩
        · left; omega
        · right; exact ⟨h2, by omega⟩

theorem skipStop_stops {k : PState → Rec} {s : PState} (h : k s ≠ .timeout) :
    Stops (skipStop k) s := by
  unfold Stops skipStop
  split
  · rename_i hla
    exact ⟨nofun, fun hE => by rw [hE] at hla; cases hla⟩
  · exact ⟨fun hc => h (Option.some.inj hc), fun _ => nofun⟩

theorem searchStop_stops {T : Tables} {e : Val} {fuel : Nat} {s : PState}
    (h : ∀ x ∈ s.stack, simulate T s.la fuel x.state ≠ .timeout) : Stops (searchStop T e fuel) s := by
  have := searchStack_no_timeout s.stack h
  unfold Stops searchStop
  split
  · contradiction
  · exact ⟨nofun, fun _ => nofun⟩
  · exact ⟨nofun, fun _ => nofun⟩
  · exact ⟨by split <;> nofun, fun hE => by rw [if_pos hE]; nofun⟩

/-- `+ 3`: `nu inp s ≤ inp.size - s.pos + 1`, and each loop needs `nu + 2`. `hsim` speaks of the
states on the stack only, so that `recover_terminates_inv` (`RuntimeSoundTerm`) can do with a
ranking checked over the states of the automaton. -/
theorem recover_terminates' {T : Tables} {inp : Array Nat} {fuel : Nat} {s : PState}
    (hsim : ∀ la, ∀ e ∈ s.stack, simulate T la fuel e.state ≠ .timeout)
    (hfuel : inp.size - s.pos + 3 ≤ fuel) :
    recover T inp fuel s ≠ .timeout := by
  -- every state `_recover` passes through has the stack of `s` and no more tokens to come
  have hnu : ∀ s1, Reads T inp s s1 → nu inp s1 + 2 ≤ fuel ∨ (s1.la = tEOF ∧ 1 ≤ fuel) := by
    refine fun s1 h1 => .inl (Nat.le_trans (Nat.add_le_add_right h1.nu_le 2) ?_)
    unfold nu; split <;> omega
  rw [recover_eq]
  cases errSymOf T s with
  | error w => nofun
  | ok e =>
    have search : ∀ s0, Reads T inp s s0 →
        readLoop T inp (searchStop T e fuel) fuel s0 ≠ .timeout := fun s0 h0 =>
      readLoop_terminates fuel s0 (fun s1 h1 => searchStop_stops
        (by rw [(h0.trans h1).frame.stack]; exact hsim s1.la)) (hnu s0 h0)
    refine readLoop_terminates fuel s (fun sa hra => skipStop_stops ?_) (hnu s (.refl s))
    unfold dropThen
    split
    · split
      · nofun
      · cases hr : readToken T inp sa with
        | error w => nofun
        | ok sb =>
          have hrb := hra.trans (.single hr)
          exact readLoop_terminates fuel sb
            (fun s0 h0 => skipStop_stops (search s0 (hrb.trans h0))) (hnu sb hrb)
    · exact search sa hra

/-- Restated as `C09.recover_terminates`. -/
theorem recover_terminates {T : Tables} {inp : Array Nat} {fuel : Nat} {s : PState}
    (hsim : ∀ la st, simulate T la fuel st ≠ .timeout) (hfuel : inp.size - s.pos + 3 ≤ fuel) :
    recover T inp fuel s ≠ .timeout :=
  recover_terminates' (fun la e _ => hsim la e.state) hfuel

theorem simulate_succ (T : Tables) (la : Int) (n : Nat) (st : Int) :
    match simNext T st with
    | some st' => simulate T la (n + 1) st = simulate T la n st'
    | none => simulate T la (n + 1) st = simulate T la 1 st ∧ simulate T la 1 st ≠ .timeout := by
  unfold simNext
  rw [simulate, simulate]
  cases find T.actions st tERROR with
  | oob => exact ⟨rfl, nofun⟩
  | miss => exact ⟨rfl, nofun⟩
  | hit action =>
    dsimp only
    by_cases hneg : action < 0
    · rw [if_pos hneg, if_pos hneg, if_pos hneg]
      cases geti T.rules (-action) with
      | none => exact ⟨rfl, nofun⟩
      | some rule =>
        dsimp only
        cases find T.gotos st rule with
        | oob => exact ⟨rfl, nofun⟩
        | miss => exact ⟨rfl, nofun⟩
        | hit st' => rfl
    · rw [if_neg hneg, if_neg hneg, if_neg hneg]
      refine ⟨rfl, ?_⟩
      split <;> nofun

/-- `P` keeps the simulation inside the states the ranking was checked on. -/
theorem simulate_rank {T : Tables} {la : Int} {P : Int → Prop} (rank : Int → Nat)
    (hr : ∀ st st', P st → simNext T st = some st' → rank st' < rank st ∧ P st') :
    ∀ (n : Nat) (st : Int), P st → rank st < n → simulate T la n st ≠ .timeout
  | 0, st, _, h => by omega
  | n + 1, st, hp, h => by
    have := simulate_succ T la n st
    cases hs : simNext T st with
    | none =>
      rw [hs] at this
      rw [this.1]
      exact this.2
    | some st' =>
      rw [hs] at this
      rw [this]
      exact simulate_rank rank hr n st' (hr st st' hp hs).2 (by have := (hr st st' hp hs).1; omega)

theorem find_oob_of_geti_none {tbl : Array Int} {y x : Int} (h : geti tbl y = none) :
    find tbl y x = .oob := by
  unfold find; rw [h]

theorem simNext_out_of_range {T : Tables} {st : Int} (h : st < 0 ∨ (T.actions.size : Int) ≤ st) :
    simNext T st = none := by
  have : geti T.actions st = none := by
    unfold geti
    split
    · rfl
    · rw [Array.getElem?_eq_none]; omega
  unfold simNext
  rw [find_oob_of_geti_none this]

theorem simRankOK_lt {T : Tables} {rank : Int → Nat} {n : Nat} (h : simRankOK T rank n = true)
    {k : Nat} (hk : k < n) {st' : Int} (hs : simNext T (k : Int) = some st') :
    rank st' < rank (k : Int) := by
  have := List.all_eq_true.mp h k (List.mem_range.mpr hk)
  rw [hs] at this
  exact of_decide_eq_true this

/-- Checking the indices below `T.actions.size` is enough: from any other `st`,
`_Find(_actions, st, ERROR)` is out of range and `simNext` has no edge (`simNext_out_of_range`). -/
theorem simRankOK_sound {T : Tables} {rank : Int → Nat}
    (h : simRankOK T rank T.actions.size = true) :
    ∀ st st', simNext T st = some st' → rank st' < rank st := by
  intro st st' hs
  by_cases hrange : st < 0 ∨ (T.actions.size : Int) ≤ st
  · rw [simNext_out_of_range hrange] at hs; cases hs
  · have hst : ((st.toNat : Nat) : Int) = st := by omega
    have := simRankOK_lt h (k := st.toNat) (by omega) (st' := st') (by rw [hst]; exact hs)
    rwa [hst] at this

/-- Restated as `C09.recover_terminates_of_rank`. -/
theorem recover_terminates_of_rank {T : Tables} {inp : Array Nat} {fuel : Nat} {s : PState}
    (rank : Int → Nat) (B : Nat) (hB : ∀ st, rank st ≤ B)
    (hOK : simRankOK T rank T.actions.size = true)
    (hfuel1 : B + 1 ≤ fuel) (hfuel2 : inp.size - s.pos + 3 ≤ fuel) :
    recover T inp fuel s ≠ .timeout :=
  recover_terminates
    (fun la st => simulate_rank (P := fun _ => True) rank
      (fun st st' _ h => ⟨simRankOK_sound hOK st st' h, trivial⟩) fuel st trivial
      (by have := hB st; omega)) hfuel2

theorem simulate_mono {T : Tables} {la : Int} : ∀ (n : Nat) {m : Nat} (st : Int), n ≤ m →
    simulate T la n st = .timeout ∨ simulate T la m st = simulate T la n st
  | 0, _, _, _ => .inl rfl
  | n + 1, m, st, hle => by
    obtain ⟨m', rfl⟩ : ∃ m', m = m' + 1 := ⟨m - 1, by omega⟩
    have h1 := simulate_succ T la n st
    have h2 := simulate_succ T la m' st
    cases hs : simNext T st with
    | none =>
      rw [hs] at h1 h2
      rw [h1.1, h2.1]
      exact .inr rfl
    | some st' =>
      rw [hs] at h1 h2
      rw [h1, h2]
      exact simulate_mono n st' (by omega)

theorem searchStack_mono {T : Tables} {la : Int} {n m : Nat} (hle : n ≤ m) :
    ∀ (st : List Entry), searchStack T la n st = .error "TIMEOUT" ∨
      searchStack T la m st = searchStack T la n st
  | [] => .inr rfl
  | e :: rest => by
    unfold searchStack
    rcases simulate_mono n e.state hle with h | h
    · rw [h]; exact .inl rfl
    · rw [h]
      cases simulate T la n e.state with
      | found => exact .inr rfl
      | notFound => exact searchStack_mono hle rest
      | oob => exact .inr rfl
      | timeout => exact .inl rfl

theorem readLoop_mono {T : Tables} {inp : Array Nat} {stop stop' : PState → Option Rec}
    (h : ∀ s, stop s = some .timeout ∨ stop' s = stop s) : ∀ (n : Nat) {m : Nat} (s : PState), n ≤ m →
    readLoop T inp stop n s = .timeout ∨ readLoop T inp stop' m s = readLoop T inp stop n s
  | 0, _, _, _ => .inl rfl
  | n + 1, m, s, hle => by
    obtain ⟨m', rfl⟩ : ∃ m', m = m' + 1 := ⟨m - 1, by omega⟩
    unfold readLoop
    rcases h s with hs | hs
    · rw [hs]; exact .inl rfl
    · rw [hs]
      cases stop s with
      | some r => exact .inr rfl
      | none =>
        cases readToken T inp s with
        | error w => exact .inr rfl
        | ok s1 => exact readLoop_mono h n s1 (by omega)

theorem skipStop_mono {k k' : PState → Rec} (h : ∀ s, k s = .timeout ∨ k' s = k s) (s : PState) :
    skipStop k s = some .timeout ∨ skipStop k' s = skipStop k s := by
  unfold skipStop
  split
  · exact .inr rfl
  · exact (h s).imp (congrArg some) (congrArg some)

theorem searchStop_mono {T : Tables} {e : Val} {fuel fuel' : Nat} (hf : fuel ≤ fuel') (s : PState) :
    searchStop T e fuel s = some .timeout ∨ searchStop T e fuel' s = searchStop T e fuel s := by
  unfold searchStop
  rcases searchStack_mono (T := T) (la := s.la) hf s.stack with h | h
  · rw [h]; exact .inl rfl
  · rw [h]; exact .inr rfl

theorem dropThen_mono {T : Tables} {inp : Array Nat} {fuel fuel' : Nat} {k k' : PState → Rec}
    (hf : fuel ≤ fuel') (h : ∀ s, k s = .timeout ∨ k' s = k s) (s : PState) :
    dropThen T inp fuel k s = .timeout ∨ dropThen T inp fuel' k' s = dropThen T inp fuel k s := by
  unfold dropThen
  split
  · split
    · exact .inr rfl
    · cases readToken T inp s with
      | error w => exact .inr rfl
      | ok s2 => exact readLoop_mono (skipStop_mono h) fuel s2 hf
  · exact h s

theorem recover_mono {T : Tables} {inp : Array Nat} {fuel fuel' : Nat} (s : PState)
    (hf : fuel ≤ fuel') :
    recover T inp fuel s = .timeout ∨ recover T inp fuel' s = recover T inp fuel s := by
  rw [recover_eq, recover_eq]
  cases errSymOf T s with
  | error w => exact .inr rfl
  | ok e =>
    exact readLoop_mono (skipStop_mono (dropThen_mono hf fun s1 =>
      readLoop_mono (searchStop_mono hf) fuel s1 hf)) fuel s hf

theorem step_mono {T : Tables} {inp : Array Nat} {wb : Bool} {fuel fuel' : Nat} {s : PState}
    (h : recover T inp fuel s ≠ .timeout) (hf : fuel ≤ fuel') :
    step T inp wb fuel' s = step T inp wb fuel s := by
  unfold step
  rw [(recover_mono s hf).resolve_left h]

theorem runLoop_mono_inv {T : Tables} {inp : Array Nat} {wb : Bool} {fuel fuel' : Nat}
    (Inv : PState → Prop)
    (hstep : ∀ s s', Inv s → step T inp wb fuel s = .cont s' → Inv s')
    (h : ∀ s, Inv s → recover T inp fuel s ≠ .timeout) (hf : fuel ≤ fuel') :
    ∀ (n : Nat) (s : PState), Inv s → runLoop T inp wb fuel' n s = runLoop T inp wb fuel n s
  | 0, _, _ => rfl
  | n + 1, s, hs => by
    unfold runLoop
    rw [step_mono (h s hs) hf]
    cases hst : step T inp wb fuel s with
    | cont s' => exact runLoop_mono_inv Inv hstep h hf n s' (hstep s s' hs hst)
    | done o s' => rfl

theorem runLoop_mono {T : Tables} {inp : Array Nat} {wb : Bool} {fuel fuel' : Nat}
    (h : ∀ s, recover T inp fuel s ≠ .timeout) (hf : fuel ≤ fuel') :
    ∀ (n : Nat) (s : PState), runLoop T inp wb fuel' n s = runLoop T inp wb fuel n s :=
  fun n s => runLoop_mono_inv (fun _ => True) (fun _ _ _ _ => trivial) (fun s _ => h s) hf n s trivial

end Lox.LR.Rt
