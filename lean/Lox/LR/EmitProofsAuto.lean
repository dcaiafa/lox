import Lox.LR.ConstructWf
import Lox.LR.CheckSound
/-! Shape facts about the automaton the model of `ConstructLALR` returns (`Cons.construct`; `Built`,
`built_of_construct`), for ALL grammars with `S' → start` as production 0 and `S'` on no right-hand
side: what the validator `Lox.LR.check` calls `Safe` (no edge into state 0, state 0 holds only dot-0
items, `S' → ·S` only in state 0, predecessors of dot>0 items, a goto for the rule of every dot-0
item) plus the lookahead of production-0 items. All of it follows from the loop invariant `Cons.Inv`
(soundness: every item is an LALR(1) item by definition; targets of transitions have the kernel of
`Goto`) and closedness. -/
namespace Lox.LR.Emit
open Lox.LR Lox.LR.Gen Lox.LR.Cons

section
variable {G : Grammar}

theorem lr1_p0 (hns : NoStart G) {γ : List Sym} {it : Item} (h : LR1Item G γ it) :
    it.p = 0 → it.a = 0 ∧ (it.d = 0 → γ = []) := by
  induction h with
  | start => intro _; exact ⟨rfl, fun _ => rfl⟩
  | goto _ _ _ ih =>
    intro hp
    exact ⟨(ih hp).1, fun hd => by simp at hd⟩
  | @closure γ p d a pr B q qr b _ hp hX hq hl _ _ =>
    intro hq0
    simp only at hq0
    subst hq0
    exfalso
    have := hns p pr qr hp hq
    rw [hl] at this
    exact this (List.mem_of_getElem? hX)

theorem lr1_dot0 {γ : List Sym} {q b : Nat} (h : LR1Item G γ ⟨q, 0, b⟩) (hq : q ≠ 0) :
    ∃ p d a pr qr, LR1Item G γ ⟨p, d, a⟩ ∧ G.prods[p]? = some pr ∧ G.prods[q]? = some qr ∧
      pr.rhs[d]? = some (.n qr.lhs) := by
  generalize hit : (⟨q, 0, b⟩ : Item) = it at h
  cases h with
  | start => cases hit; exact absurd rfl hq
  | goto _ _ _ => cases hit
  | @closure _ p d a pr B q' qr b' h0 hp hX hq' hl _ =>
    cases hit
    subst hl
    exact ⟨p, d, a, pr, qr, h0, hp, hq', hX⟩

theorem lr1_dotpos {γ : List Sym} {it : Item} (h : LR1Item G γ it) (hd : 0 < it.d) :
    ∃ γ' X, γ = γ' ++ [X] := by
  cases h with
  | start => simp at hd
  | @goto γ' _ _ _ _ X _ _ _ => exact ⟨γ', X, rfl⟩
  | closure _ _ _ _ _ _ => simp at hd

end

structure Built (G : Grammar) (nT : Nat) (st : CState) : Prop where
  inv : Inv G st
  wf : Wf G nT st
  closed : Closed G (skelOf st)

section
variable {G : Grammar} {nT : Nat} {ord : List Sym}

/-- The start item carries the lookahead 0 (EOF); with `nT = 0` `Closure` panics on it. -/
theorem nT_pos_of_initState {st0 : CState} {pr0 : Prod} {S : Nat}
    (hp0 : G.prods[0]? = some pr0) (hrhs : pr0.rhs = [.n S]) (h : initState G nT = some st0) :
    0 < nT := by
  unfold initState closureGo at h
  by_cases hn : nT = 0
  · subst hn
    have : ([(⟨0, 0, 0⟩ : Item)].any (itemPanics G 0)) = true := by
      simp [itemPanics, hp0, hrhs]
    simp [this] at h
  · omega

theorem built_of_construct (ht : TermsBelow G nT) (hord : OrdCovers G ord) {pr0 : Prod} {S : Nat}
    (hp0 : G.prods[0]? = some pr0) (hrhs : pr0.rhs = [.n S]) {st : CState}
    (h : construct G nT ord = some st) : Built G nT st := by
  obtain ⟨hb, hp⟩ := construct_between ht hord h
  exact ⟨hb.inv, (construct_invariant ht (Wf G nT)
    (fun _ hi => initState_wf ht ⟨pr0, hp0⟩ (nT_pos_of_initState hp0 hrhs hi) hi)
    (fun _ hw => ⟨hw.items, fun _ hk => nomatch hk⟩)
    (fun _ hw _ hs _ => hs.wf ht hw) h).2, closed_of_between hb hp⟩

end

section
variable {G : Grammar} {nT : Nat} {st : CState}

theorem Built.item_wf (hb : Built G nT st) {s : Nat} {I : List Item} (hs : st.states[s]? = some I)
    {it : Item} (hit : it ∈ I) : ∃ pr, G.prods[it.p]? = some pr ∧ it.d ≤ pr.rhs.length ∧ it.a < nT :=
  (hb.wf.items s I hs).2 it hit

theorem Built.lr1 (hb : Built G nT st) {s : Nat} {I : List Item} (hs : st.states[s]? = some I)
    {it : Item} (hit : it ∈ I) : ∃ γ, Path (skelOf st) 0 γ s ∧ LR1Item G γ it :=
  hb.inv.sound s I it hs hit

theorem Built.p0_la (hb : Built G nT st) (hns : NoStart G) {s : Nat} {I : List Item}
    (hs : st.states[s]? = some I) {it : Item} (hit : it ∈ I) (hp : it.p = 0) : it.a = 0 := by
  obtain ⟨γ, _, hl⟩ := hb.lr1 hs hit
  exact (lr1_p0 hns hl hp).1

theorem Built.startOnly (hb : Built G nT st) (hns : NoStart G) {s : Nat} {I : List Item}
    (hs : st.states[s]? = some I) {it : Item} (hit : it ∈ I) (hp : it.p = 0) (hd : it.d = 0) :
    s = 0 := by
  obtain ⟨γ, hpath, hl⟩ := hb.lr1 hs hit
  have := (lr1_p0 hns hl hp).2 hd
  subst this
  exact hpath.nil_inv

theorem kc_cases {I : List Item} {X : Sym} {p d : Nat} (h : KC G I X (p, d)) :
    (∃ it ∈ I, afterDot G it = some X ∧ it.p = p ∧ it.d + 1 = d) ∨
    (d = 0 ∧ ∃ (p' : Nat) (pr qr : Prod) (d' : Nat), G.prods[p']? = some pr ∧ G.prods[p]? = some qr ∧
      pr.rhs[d']? = some (.n qr.lhs)) := by
  obtain ⟨x, hx, _, he⟩ := h
  cases he
  cases hx with
  | base hm =>
    obtain ⟨it, hit, had, rfl⟩ := mem_advance.mp hm
    exact .inl ⟨it, hit, had, rfl, rfl⟩
  | @step it0 _ _ hr =>
    obtain ⟨pr, B, qr, hpr, hX, hq, rfl, hd0, _⟩ := hr
    exact .inr ⟨hd0, it0.p, pr, qr, it0.d, hpr, hq, hX⟩

theorem Built.noInto0 (hb : Built G nT st) (hns : NoStart G) (s : Nat) (X : Sym) :
    lookupSym X (st.trans[s]?.getD []) ≠ some 0 := by
  intro h
  obtain ⟨I, J, _, hJ, hk⟩ := hb.inv.tgt s X 0 h
  obtain ⟨I0, hI0, hmem⟩ := hb.inv.start
  rw [hI0] at hJ
  cases hJ
  rcases kc_cases ((hk (0, 0)).mpr ⟨⟨0, 0, 0⟩, hmem, rfl, rfl⟩) with
    ⟨_, _, _, _, h⟩ | ⟨_, p', pr, qr, d', hpr, hq, hX⟩
  · exact Nat.succ_ne_zero _ h
  · exact hns p' pr qr hpr hq (List.mem_of_getElem? hX)

theorem Built.s0 (hb : Built G nT st) (hns : NoStart G) {I : List Item}
    (hs : st.states[0]? = some I) {it : Item} (hit : it ∈ I) : it.d = 0 := by
  obtain ⟨γ, hpath, hl⟩ := hb.lr1 hs hit
  by_cases hd : it.d = 0
  · exact hd
  · exfalso
    obtain ⟨γ', X, rfl⟩ := lr1_dotpos hl (by omega)
    obtain ⟨s1, _, htr⟩ := hpath.snoc_inv
    rw [trans_skelOf] at htr
    exact hb.noInto0 hns s1 X htr

theorem Built.back (hb : Built G nT st) {s : Nat} {X : Sym} {t : Nat}
    (h : lookupSym X (st.trans[s]?.getD []) = some t) :
    ∃ I J, st.states[s]? = some I ∧ st.states[t]? = some J ∧
      ∀ it ∈ J, 0 < it.d → ∃ pr, G.prods[it.p]? = some pr ∧ pr.rhs[it.d - 1]? = some X ∧
        ∃ a', (⟨it.p, it.d - 1, a'⟩ : Item) ∈ I := by
  obtain ⟨I, J, hI, hJ, hk⟩ := hb.inv.tgt s X t h
  refine ⟨I, J, hI, hJ, ?_⟩
  intro it hit hd
  have hkj : KJ J (it.p, it.d) := ⟨it, hit, by simp [isKernel]; omega, rfl⟩
  obtain ⟨it0, hit0, had, hp, hd'⟩ :=
    (kc_cases ((hk _).mpr hkj)).resolve_right fun h => Nat.ne_of_gt hd h.1
  obtain ⟨pr, hpr, hX⟩ := afterDot_eq.mp had
  have e : it.d - 1 = it0.d := Nat.sub_eq_of_eq_add hd'.symm
  rw [e, ← hp]
  exact ⟨pr, hpr, hX, it0.a, hit0⟩

theorem Built.step (hb : Built G nT st) {s : Nat} {I : List Item} (hs : st.states[s]? = some I)
    {it : Item} (hit : it ∈ I) {pr : Prod} (hp : G.prods[it.p]? = some pr) {X : Sym}
    (hX : pr.rhs[it.d]? = some X) :
    ∃ t J, lookupSym X (st.trans[s]?.getD []) = some t ∧ st.states[t]? = some J ∧
      (⟨it.p, it.d + 1, it.a⟩ : Item) ∈ J := by
  obtain ⟨t, htr, hmem⟩ := hb.closed.step s it pr X (mem_items_skelOf.mpr ⟨I, hs, hit⟩) hp hX
  rw [trans_skelOf] at htr
  obtain ⟨J, hJ, hmem⟩ := mem_items_skelOf.mp hmem
  exact ⟨t, J, htr, hJ, hmem⟩

theorem Built.closure (hb : Built G nT st) {s : Nat} {I : List Item} (hs : st.states[s]? = some I)
    {it : Item} (hit : it ∈ I) {pr : Prod} (hp : G.prods[it.p]? = some pr) {B : Nat}
    (hX : pr.rhs[it.d]? = some (.n B)) {q : Nat} {qr : Prod} (hq : G.prods[q]? = some qr)
    (hl : qr.lhs = B) {b : Nat} (hf : First G (pr.rhs.drop (it.d + 1)) it.a b) :
    (⟨q, 0, b⟩ : Item) ∈ I := by
  have hm : it ∈ (skelOf st).items s := by rw [items_skelOf, hs]; exact hit
  have := hb.closed.closure s it pr B q qr b hm hp hX hq hl hf
  rw [items_skelOf, hs] at this
  exact this

/-- The rule of every dot-0 item (other than `S' → ·S`) stands after a dot in the same state, so
it has a goto. -/
theorem Built.gotoDef (hb : Built G nT st) {s : Nat} {I : List Item} (hs : st.states[s]? = some I)
    {it : Item} (hit : it ∈ I) (hd : it.d = 0) (hp : it.p ≠ 0) {qr : Prod}
    (hq : G.prods[it.p]? = some qr) :
    ∃ t, lookupSym (.n qr.lhs) (st.trans[s]?.getD []) = some t ∧
      ∃ (p : Nat) (pr : Prod) (d : Nat), G.prods[p]? = some pr ∧ pr.rhs[d]? = some (Sym.n qr.lhs) := by
  obtain ⟨γ, hpath, hl⟩ := hb.lr1 hs hit
  obtain ⟨q, d0, b⟩ := it
  simp only at hd hp hq
  subst hd
  obtain ⟨p, d, a, pr, qr', hpar, hpr, hq', hX⟩ := lr1_dot0 hl hp
  rw [hq] at hq'
  cases hq'
  -- the parent is an LALR(1) item of `s`, hence in the state
  have hmem : (⟨p, d, a⟩ : Item) ∈ (skelOf st).items s := LALRItem.mem hb.closed ⟨γ, hpath, hpar⟩
  rw [items_skelOf, hs] at hmem
  obtain ⟨t, _, htr, _, _⟩ := hb.step hs hmem hpr hX
  exact ⟨t, htr, p, pr, d, hpr, hX⟩

end

end Lox.LR.Emit
