import Lox.LR.Abstract
/-! The LR validator: an executable check on (grammar, emitted arrays, item-set certificate) whose
`ok` answer implies `Valid`, `Safe` and `FirstOK` for the automaton read off the arrays with
`Lox.LR.find` (= the generated `_Find`). Soundness theorem: `Lox.LR.check_sound` in
`Lox/LR/CheckSound.lean`. Core Lean only (linked into the driver). -/
namespace Lox.LR

/-! ### Rows of the emitted tables -/

/-- All `(key, value)` pairs the scan loop of `_Find` can see, in scan order. Mirrors
`findScan` (same fuel, same bounds); `none` if a read would be out of range. -/
def rowScan (tbl : Array Int) : Nat → Int → Int → Option (List (Int × Int))
  | 0, _, _ => some []
  | n + 1, i, stop =>
    if i < stop then
      match geti tbl i, geti tbl (i + 1) with
      | some k, some v => (rowScan tbl n (i + 2) stop).map ((k, v) :: ·)
      | _, _ => none
    else some []

/-- The row `_Find(table, y, ·)` scans. -/
def rowOf (tbl : Array Int) (y : Int) : Option (List (Int × Int)) :=
  match geti tbl y with
  | none => none
  | some i =>
    match geti tbl i with
    | none => none
    | some count => rowScan tbl (count.toNat + 1) (i + 1) (i + 1 + count)

/-- First-match lookup in a row. -/
def lookupI (x : Int) : List (Int × Int) → Option Int
  | [] => none
  | (k, v) :: r => if k = x then some v else lookupI x r

/-! ### The automaton read off the arrays -/

/-- Meaning of an `_actions` entry in `parse`: `accept`, `>= 0` shift, `< 0` reduce. -/
def decodeAct (v : Int) : Act :=
  if v = acceptCode then .accept else if 0 ≤ v then .shift v.toNat else .reduce (-v).toNat

/-- The automaton of the emitted tables: lookups are the generated `_Find` on `_actions` / `_goto`
(restricted to the states that exist), the items are the certificate. -/
def autoOf (T : Tables) (cert : Array (List Item)) : Auto where
  action s a :=
    if s < cert.size then
      match find T.actions (s : Int) (a : Int) with
      | .hit v => some (decodeAct v)
      | _ => none
    else none
  goto s B :=
    if s < cert.size then
      match find T.gotos (s : Int) (B : Int) with
      | .hit v => some v.toNat
      | _ => none
    else none
  items s := cert[s]?.getD []

/-! ### nullable / FIRST -/

structure FirstTab where
  nullable : Array Bool
  first : Array (List Nat)
  deriving Repr, Inhabited

def FirstTab.nullB (F : FirstTab) (B : Nat) : Bool := F.nullable[B]?.getD false
def FirstTab.firstNT (F : FirstTab) (B : Nat) : List Nat := F.first[B]?.getD []

def nullSeq (F : FirstTab) : List Sym → Bool
  | [] => true
  | .t _ :: _ => false
  | .n B :: r => F.nullB B && nullSeq F r

def firstSeq (F : FirstTab) : List Sym → List Nat
  | [] => []
  | .t x :: _ => [x]
  | .n B :: r => F.firstNT B ++ (if F.nullB B then firstSeq F r else [])

/-- `FIRST(α a)`. -/
def firstOf (F : FirstTab) (α : List Sym) (a : Nat) : List Nat :=
  firstSeq F α ++ (if nullSeq F α then [a] else [])

/-- The table is closed under the nullable / FIRST equations of every production. -/
def closedB (G : Grammar) (F : FirstTab) : Bool :=
  G.prods.toList.all fun pr =>
    (!nullSeq F pr.rhs || F.nullB pr.lhs) &&
    (firstSeq F pr.rhs).all fun x => decide (x ∈ F.firstNT pr.lhs)

/-- One round of the (untrusted) fixpoint iteration. -/
def firstRound (G : Grammar) (F : FirstTab) : FirstTab × Bool :=
  G.prods.foldl (init := (F, false)) fun (F, ch) pr =>
    let (F, ch) :=
      if nullSeq F pr.rhs && !F.nullB pr.lhs then
        ({ F with nullable := F.nullable.setIfInBounds pr.lhs true }, true)
      else (F, ch)
    let cur := F.firstNT pr.lhs
    let add := ((firstSeq F pr.rhs).filter fun x => !cur.contains x).eraseDups
    if add.isEmpty then (F, ch)
    else ({ F with first := F.first.modify pr.lhs (· ++ add) }, true)

def firstIter (G : Grammar) : Nat → FirstTab → FirstTab
  | 0, F => F
  | n + 1, F =>
    let (F', ch) := firstRound G F
    if ch then firstIter G n F' else F'

/-- nullable / FIRST by fixpoint iteration with fuel. Untrusted: `closedB` is checked afterwards. -/
def firstFix (G : Grammar) (nTerms nRules : Nat) : FirstTab :=
  firstIter G (nRules * (nTerms + 2) + 2)
    { nullable := Array.replicate nRules false, first := Array.replicate nRules [] }

/-! ### The conditions -/

def hasItem (items : List Item) (it : Item) : Bool := decide (it ∈ items)

/-- Some item of this production and dot (any lookahead). -/
def hasCore (items : List Item) (p d : Nat) : Bool := items.any fun j => j.p == p && j.d == d

/-- Index of the dot-0 items of a state: for production `q` the lookaheads `b` with
`(q, 0, b)` in the state. -/
def dot0Of (items : List Item) (nProds : Nat) : Array (List Nat) :=
  Array.ofFn (n := nProds) fun q =>
    (items.filter fun it => it.p == q.val && it.d == 0).map (·.a)

def itemsOf (cert : Array (List Item)) (s : Nat) : List Item := cert[s]?.getD []

/-- Production 0 is `S' → start`. -/
def prod0B (G : Grammar) : Bool :=
  match G.prods[0]? with
  | some pr => match pr.rhs with
    | [.n _] => true
    | _ => false
  | none => false

/-- `S'` does not occur on any right-hand side. -/
def noStartB (G : Grammar) : Bool :=
  match G.prods[0]? with
  | some pr0 => G.prods.toList.all fun pr => !pr.rhs.contains (.n pr0.lhs)
  | none => false

/-- Per item conditions of state `s` (completeness side + `gotoDef`). -/
def itemB (G : Grammar) (F : FirstTab) (T : Tables) (cert : Array (List Item)) (s : Nat)
    (d0 : Array (List Nat)) (it : Item) : Bool :=
  match G.prods[it.p]? with
  | none => false
  | some pr =>
    (match pr.rhs[it.d]? with
    | some (.t x) =>
      match find T.actions (s : Int) (x : Int) with
      | .hit v => v != acceptCode && decide (0 ≤ v) &&
          hasItem (itemsOf cert v.toNat) ⟨it.p, it.d + 1, it.a⟩
      | _ => false
    | some (.n B) =>
      (match find T.gotos (s : Int) (B : Int) with
      | .hit v => hasItem (itemsOf cert v.toNat) ⟨it.p, it.d + 1, it.a⟩
      | _ => false) &&
      (let fs := firstOf F (pr.rhs.drop (it.d + 1)) it.a
       (List.range G.prods.size).all fun q =>
        match G.prods[q]? with
        | some qr => qr.lhs != B || fs.all fun b => decide (b ∈ d0[q]?.getD [])
        | none => true)
    | none =>
      it.d == pr.rhs.length &&
      (if it.p = 0 then
        it.a == 0 && (match find T.actions (s : Int) 0 with
          | .hit v => v == acceptCode
          | _ => false)
      else
        match find T.actions (s : Int) (it.a : Int) with
        | .hit v => v == -(it.p : Int)
        | _ => false)) &&
    -- every dot-0 item's rule has a goto
    (it.d != 0 || it.p == 0 ||
      match find T.gotos (s : Int) (pr.lhs : Int) with
      | .hit _ => true
      | _ => false) &&
    -- `S' → · S` only in state 0; state 0 has only dot-0 items
    (!(it.p == 0 && it.d == 0) || s == 0) && (s != 0 || it.d == 0)

/-- Predecessor condition for an edge `s --X--> s'`. -/
def backB (G : Grammar) (cert : Array (List Item)) (s : Nat) (X : Sym) (s' : Nat) : Bool :=
  s' != 0 && decide (s' < cert.size) &&
  (itemsOf cert s').all fun it =>
    it.d == 0 ||
    match G.prods[it.p]? with
    | none => false
    | some pr => pr.rhs[it.d - 1]? == some X && hasCore (itemsOf cert s) it.p (it.d - 1)

/-- Conditions on one `_actions` row entry `(k, v)` of state `s`. -/
def actEntryB (G : Grammar) (nTerms : Nat) (cert : Array (List Item)) (s : Nat) (k v : Int) :
    Bool :=
  decide (0 ≤ k) && decide (k.toNat < nTerms) &&
  (if v = acceptCode then
    k == 0 && hasCore (itemsOf cert s) 0 1
  else if 0 ≤ v then
    k != 0 && backB G cert s (.t k.toNat) v.toNat
  else
    match G.prods[(-v).toNat]? with
    | none => false
    | some pr => hasCore (itemsOf cert s) (-v).toNat pr.rhs.length)

/-- Conditions on one `_goto` row entry `(k, v)` of state `s`. -/
def gotoEntryB (G : Grammar) (nRules : Nat) (cert : Array (List Item)) (s : Nat) (k v : Int) :
    Bool :=
  decide (0 ≤ k) && decide (k.toNat < nRules) && decide (0 ≤ v) &&
  backB G cert s (.n k.toNat) v.toNat

def nodupKeys : List (Int × Int) → Bool
  | [] => true
  | (k, _) :: r => r.all (fun e => e.1 != k) && nodupKeys r

/-- Everything checked for state `s`. -/
def stateB (G : Grammar) (nTerms nRules : Nat) (F : FirstTab) (T : Tables)
    (cert : Array (List Item)) (s : Nat) : Bool :=
  let items := itemsOf cert s
  let d0 := dot0Of items G.prods.size
  items.all (fun it => decide (it.a < nTerms) && itemB G F T cert s d0 it) &&
  (match rowOf T.actions (s : Int) with
  | none => false
  | some row => nodupKeys row && row.all fun e => actEntryB G nTerms cert s e.1 e.2) &&
  (match rowOf T.gotos (s : Int) with
  | none => false
  | some row => nodupKeys row && row.all fun e => gotoEntryB G nRules cert s e.1 e.2)

/-- `_rules[p] = lhs p`, `_termCounts[p] = |rhs p|`, symbols in range. -/
def prodsB (G : Grammar) (nTerms nRules : Nat) (T : Tables) : Bool :=
  T.rules.size == G.prods.size && T.termCounts.size == G.prods.size &&
  (List.range G.prods.size).all fun p =>
    match G.prods[p]? with
    | none => false
    | some pr =>
      T.rules[p]? == some (pr.lhs : Int) && T.termCounts[p]? == some (pr.rhs.length : Int) &&
      decide (pr.lhs < nRules) &&
      pr.rhs.all fun
        | .t x => decide (x < nTerms)
        | .n B => decide (B < nRules)

/-- The whole check as a Boolean. -/
def checkB (G : Grammar) (nTerms nRules : Nat) (T : Tables) (cert : Array (List Item)) : Bool :=
  let F := firstFix G nTerms nRules
  prod0B G && noStartB G && prodsB G nTerms nRules T && closedB G F &&
  hasItem (itemsOf cert 0) ⟨0, 0, 0⟩ &&
  (List.range cert.size).all fun s => stateB G nTerms nRules F T cert s

/-! ### The soundness half alone (`Safe`), for tables whose conflicts were resolved by precedence

For grammars with `@left/@right` the generator deletes actions, so the completeness conditions
(`Valid`) cannot hold; `Safe` still does, and gives: whatever is accepted is a sentence, with the
returned tree as a derivation tree. -/

def itemSafeB (G : Grammar) (T : Tables) (s : Nat) (it : Item) : Bool :=
  match G.prods[it.p]? with
  | none => false
  | some pr =>
    (it.d != 0 || it.p == 0 ||
      match find T.gotos (s : Int) (pr.lhs : Int) with
      | .hit _ => true
      | _ => false) &&
    (!(it.p == 0 && it.d == 0) || s == 0) && (s != 0 || it.d == 0)

def stateSafeB (G : Grammar) (nTerms nRules : Nat) (T : Tables) (cert : Array (List Item))
    (s : Nat) : Bool :=
  (itemsOf cert s).all (fun it => itemSafeB G T s it) &&
  (match rowOf T.actions (s : Int) with
  | none => false
  | some row => nodupKeys row && row.all fun e => actEntryB G nTerms cert s e.1 e.2) &&
  (match rowOf T.gotos (s : Int) with
  | none => false
  | some row => nodupKeys row && row.all fun e => gotoEntryB G nRules cert s e.1 e.2)

def checkSafeB (G : Grammar) (nTerms nRules : Nat) (T : Tables) (cert : Array (List Item)) :
    Bool :=
  prod0B G && prodsB G nTerms nRules T && decide (0 < cert.size) &&
  (List.range cert.size).all fun s => stateSafeB G nTerms nRules T cert s

/-- The soundness-only validator (sound by `Lox.LR.checkSafe_sound`). -/
def checkSafe (G : Grammar) (nTerms nRules : Nat) (T : Tables) (cert : Array (List Item)) :
    Except String Unit :=
  if checkSafeB G nTerms nRules T cert then .ok ()
  else
    .error (match (List.range cert.size).find? fun s => !stateSafeB G nTerms nRules T cert s with
      | some s => "safe: state " ++ toString s
      | none => "safe: grammar/_rules/_termCounts")

/-- No state has an action on the ERROR terminal (the grammar does not use `@error`), so the
generated `_recover` can never resume. -/
def NoErrorActions (T : Tables) (nStates : Nat) : Prop :=
  ∀ s, s < nStates → find T.actions (s : Int) tERROR = .miss

/-- Decision procedure for `NoErrorActions` (sound by `noErrorB_spec`). -/
def noErrorB (T : Tables) (nStates : Nat) : Bool :=
  (List.range nStates).all fun s => find T.actions (s : Int) tERROR == .miss

/-! ### Termination check -/

def keysOfRow (tbl : Array Int) (s : Nat) : List Nat :=
  ((rowOf tbl (s : Int)).getD []).map fun e => e.1.toNat

/-- Targets of the edges leaving state `q` (shift entries of `_actions`, all entries of `_goto`). -/
def targetsOf (T : Tables) (q : Nat) : List Nat :=
  (((rowOf T.actions (q : Int)).getD []).filterMap fun e =>
    if e.2 ≠ acceptCode ∧ 0 ≤ e.2 then some e.2.toNat else none) ++
  ((rowOf T.gotos (q : Int)).getD []).map fun e => e.2.toNat

def termFuel (G : Grammar) (cert : Array (List Item)) : Nat := cert.size + G.prods.size + 16

/-- Every local reduce-only run (from `[0]` and from `[s, q]` for every edge `q → s`, under every
lookahead that has an action in the top state) leaves its local stack within `termFuel` steps.
Together with `check` this bounds the number of consecutive reductions of the parser on EVERY
input (`Lox.LR.Abs.terminates`). -/
def termB (G : Grammar) (T : Tables) (cert : Array (List Item)) : Bool :=
  let A := autoOf T cert
  let F := termFuel G cert
  ((keysOfRow T.actions 0).all fun a => Abs.lrun G A a F [0]) &&
  (List.range cert.size).all fun q =>
    (targetsOf T q).all fun s =>
      (keysOfRow T.actions s).all fun a => Abs.lrun G A a F [s, q]

/-- Untrusted: name the first failing condition. -/
def diagnose (G : Grammar) (nTerms nRules : Nat) (T : Tables) (cert : Array (List Item)) :
    String :=
  let F := firstFix G nTerms nRules
  if !prod0B G then "production 0 is not S' -> start"
  else if !noStartB G then "S' occurs on a right-hand side"
  else if !prodsB G nTerms nRules T then "_rules/_termCounts/symbol ranges"
  else if !closedB G F then "FIRST table not closed"
  else if !hasItem (itemsOf cert 0) ⟨0, 0, 0⟩ then "start item missing in state 0"
  else
    match (List.range cert.size).find? fun s => !stateB G nTerms nRules F T cert s with
    | none => "unknown"
    | some s =>
      let items := itemsOf cert s
      let d0 := dot0Of items G.prods.size
      let st := "state " ++ toString s ++ ": "
      match items.find? fun it => !(decide (it.a < nTerms) && itemB G F T cert s d0 it) with
      | some it => st ++ "item " ++ toString it.p ++ " " ++ toString it.d ++ " " ++ toString it.a
      | none =>
        match rowOf T.actions (s : Int) with
        | none => st ++ "action row out of range"
        | some row =>
          if !nodupKeys row then st ++ "duplicate key in action row"
          else match row.find? fun e => !actEntryB G nTerms cert s e.1 e.2 with
          | some e => st ++ "action entry " ++ toString e.1 ++ " " ++ toString e.2
          | none =>
            match rowOf T.gotos (s : Int) with
            | none => st ++ "goto row out of range"
            | some row =>
              if !nodupKeys row then st ++ "duplicate key in goto row"
              else match row.find? fun e => !gotoEntryB G nRules cert s e.1 e.2 with
              | some e => st ++ "goto entry " ++ toString e.1 ++ " " ++ toString e.2
              | none => st ++ "unknown"

/-- The validator. -/
def check (G : Grammar) (nTerms nRules : Nat) (T : Tables) (cert : Array (List Item)) :
    Except String Unit :=
  if checkB G nTerms nRules T cert then .ok () else .error (diagnose G nTerms nRules T cert)

end Lox.LR
