import Lox.LR.Abstract
/-! Derivation forests (`Der`): composition, inversion by the shape of the sentential form, and how
`yieldList` and `postList` split over `++`. -/
namespace Lox.LR

theorem Der.append {G : Grammar} {α w ts γ wγ tγ} (h1 : Der G α w ts) (h2 : Der G γ wγ tγ) :
    Der G (α ++ γ) (w ++ wγ) (ts ++ tγ) := by
  induction h1 with
  | nil => simpa using h2
  | term _ ih => exact .term ih
  | nonterm hq h1 _ _ ih2 =>
    have := Der.nonterm hq h1 ih2
    simpa [List.append_assoc] using this

theorem Der.length_eq {G : Grammar} {α w ts} (h : Der G α w ts) : ts.length = α.length := by
  induction h with
  | nil => rfl
  | term _ ih => simp [ih]
  | nonterm _ _ _ _ ih2 => simp [ih2]

theorem Der.one_inv {G : Grammar} {X : Sym} {w ts} (h : Der G [X] w ts) : ∃ t, ts = [t] :=
  List.length_eq_one_iff.mp h.length_eq

theorem Der.single {G : Grammar} {q : Nat} {pr : Prod} {w ts} (hq : G.prods[q]? = some pr)
    (h : Der G pr.rhs w ts) : Der G [.n pr.lhs] w [.node q ts] := by
  have := Der.nonterm hq h Der.nil
  simpa using this

theorem Der.nil_inv {G : Grammar} {w ts} (h : Der G [] w ts) : w = [] ∧ ts = [] := by
  cases h; exact ⟨rfl, rfl⟩

theorem Der.cons_inv {G : Grammar} {X : Sym} {β : List Sym} {w : List Nat} {ts : List Tree}
    (h : Der G (X :: β) w ts) :
    ∃ t ts' w1 w2, ts = t :: ts' ∧ w = w1 ++ w2 ∧ Der G [X] w1 [t] ∧ Der G β w2 ts' := by
  cases h with
  | term h => exact ⟨_, _, [_], _, rfl, rfl, Der.term Der.nil, h⟩
  | nonterm hq h1 h2 => exact ⟨_, _, _, _, rfl, rfl, Der.single hq h1, h2⟩

theorem Der.yield_eq {G : Grammar} {α w ts} (h : Der G α w ts) : yieldList ts = w := by
  induction h with
  | nil => rfl
  | term _ ih => simp [yieldList, Tree.yield, ih]
  | nonterm _ _ _ ih1 ih2 => simp [yieldList, Tree.yield, ih1, ih2]

theorem Der.yield_one {G : Grammar} {X : Sym} {w : List Nat} {t : Tree} (h : Der G [X] w [t]) :
    t.yield = w := by
  simpa [yieldList] using h.yield_eq

theorem Der.of_mem {G : Grammar} {P : Nat} {rhs : List Sym} {w ts}
    (hm : (⟨P, rhs⟩ : Prod) ∈ G.prods.toList) (h : Der G rhs w ts) : ∃ t, Der G [.n P] w [t] := by
  obtain ⟨q, hq⟩ := List.getElem?_of_mem hm
  rw [Array.getElem?_toList] at hq
  exact ⟨_, Der.single (pr := ⟨P, rhs⟩) hq h⟩

theorem Der.nonterm_inv {G : Grammar} {B : Nat} {w : List Nat} {t : Tree}
    (h : Der G [.n B] w [t]) :
    ∃ q pr ts, t = .node q ts ∧ G.prods[q]? = some pr ∧ pr.lhs = B ∧ Der G pr.rhs w ts := by
  cases h with
  | nonterm hq h1 h2 =>
    obtain ⟨rfl, _⟩ := h2.nil_inv
    exact ⟨_, _, _, rfl, hq, rfl, by simpa using h1⟩

theorem postList_append (xs ys : List Tree) : postList (xs ++ ys) = postList xs ++ postList ys := by
  induction xs with
  | nil => simp [postList]
  | cons x xs ih => simp [postList, ih, List.append_assoc]

theorem yieldList_append (xs ys : List Tree) :
    yieldList (xs ++ ys) = yieldList xs ++ yieldList ys := by
  induction xs with
  | nil => simp [yieldList]
  | cons x xs ih => simp [yieldList, ih, List.append_assoc]

end Lox.LR
