import Lox.LR.Desugar
import Lox.Util.List
/-! What the helper list computed by `SGrammar.helpers` contains (`HInv`; under `SGrammar.WF` the key
of every term and its `dep`, each at the position that is its rule index) and which productions
the desugared grammar has (`mem_prodList`), each with its kind code (`prod_kind`). -/
namespace Lox.LR

def SGrammar.atomIdx (SG : SGrammar) : Atom → Nat
  | .tok a => a
  | .rule A => SG.tokens.length + A
  | .err => SG.tokens.length + SG.rules.length

theorem SGrammar.allNames_atomIdx (SG : SGrammar) {x : Atom} (hx : x.inRange SG = true) :
    SG.allNames[SG.atomIdx x]? = some (SG.atomName x) := by
  cases x with
  | tok a =>
    have hx : a < SG.tokens.length := of_decide_eq_true hx
    rw [SGrammar.allNames, SGrammar.atomIdx, SGrammar.atomName, List.getElem?_append_left hx,
      List.getElem?_eq_getElem hx]
    rfl
  | rule A =>
    have hx : A < SG.rules.length := of_decide_eq_true hx
    rw [SGrammar.allNames, SGrammar.atomIdx, SGrammar.atomName,
      List.getElem?_append_right (Nat.le_add_right _ _), Nat.add_sub_cancel_left,
      List.getElem?_append_left (by rw [List.length_map]; exact hx), List.getElem?_map,
      List.getElem?_eq_getElem hx]
    rfl
  | err =>
    rw [SGrammar.allNames, SGrammar.atomIdx, SGrammar.atomName,
      List.getElem?_append_right (Nat.le_add_right _ _), Nat.add_sub_cancel_left,
      List.getElem?_append_right (by rw [List.length_map]; exact Nat.le_refl _), List.length_map,
      Nat.sub_self]
    rfl

theorem SGrammar.atomName_inj (SG : SGrammar) (hn : SG.allNames.Nodup) {x y : Atom}
    (hx : x.inRange SG = true) (hy : y.inRange SG = true) (h : SG.atomName x = SG.atomName y) :
    x = y := by
  have h1 := SG.allNames_atomIdx hx
  have h2 := SG.allNames_atomIdx hy
  rw [h] at h1
  have e := Util.getElem?_inj_of_nodup hn h1 h2
  -- an in-range atom is recovered from its position
  have inv : ∀ z : Atom, z.inRange SG = true →
      (if SG.atomIdx z < SG.tokens.length then Atom.tok (SG.atomIdx z)
       else if SG.atomIdx z < SG.tokens.length + SG.rules.length then
        .rule (SG.atomIdx z - SG.tokens.length) else .err) = z := by
    intro z hz
    cases z with
    | tok a => exact if_pos (of_decide_eq_true hz)
    | rule A =>
      have h0 : ¬ SG.tokens.length + A < SG.tokens.length := Nat.not_lt.2 (Nat.le_add_right _ _)
      have h1 : SG.tokens.length + A < SG.tokens.length + SG.rules.length :=
        Nat.add_lt_add_left (of_decide_eq_true hz) _
      simp only [SGrammar.atomIdx, h0, h1, if_false, if_true, Nat.add_sub_cancel_left]
    | err =>
      have h0 : ¬ SG.tokens.length + SG.rules.length < SG.tokens.length :=
        Nat.not_lt.2 (Nat.le_add_right _ _)
      simp only [SGrammar.atomIdx, h0, Nat.lt_irrefl, if_false]
  rw [← inv x hx, ← inv y hy, e]

def HKey.ok (SG : SGrammar) (k : HKey) : Prop := k.x.inRange SG = true ∧ k.sep.inRange SG = true

theorem HKey.nm_inj {SG : SGrammar} (hn : SG.allNames.Nodup) {h k : HKey} (hh : h.ok SG)
    (hk : k.ok SG) (e : h.nm SG = k.nm SG) : h = k := by
  have e1 : h.kind = k.kind := congrArg Prod.fst e
  have e2 : SG.atomName h.x = SG.atomName k.x := congrArg (fun p => p.2.1) e
  have e3 : SG.atomName h.sep = SG.atomName k.sep := congrArg (fun p => p.2.2) e
  have f2 := SG.atomName_inj hn hh.1 hk.1 e2
  have f3 := SG.atomName_inj hn hh.2 hk.2 e3
  cases h; cases k
  simp_all

theorem SGrammar.dep_atoms {k d : HKey} (h : k.dep = some d) :
    d.x = k.x ∧ (d.sep = k.x ∨ d.sep = k.sep) := by
  obtain ⟨kind, x, sep⟩ := k
  cases kind <;> simp [HKey.dep] at h <;> subst h <;> simp

theorem HKey.dep_ok {SG : SGrammar} {k d : HKey} (hk : k.ok SG) (hd : k.dep = some d) : d.ok SG := by
  obtain ⟨e1, e2⟩ := SGrammar.dep_atoms hd
  exact ⟨e1 ▸ hk.1, e2.elim (· ▸ hk.1) (· ▸ hk.2)⟩

theorem lookupH_eq (SG : SGrammar) (k : HKey) (H : List HKey) :
    lookupH SG k H = H.findIdx? fun h => decide (h.nm SG = k.nm SG) := by
  induction H with
  | nil => rfl
  | cons h H ih => simp only [lookupH, List.findIdx?_cons, ih, decide_eq_true_eq]

theorem lookupH_isSome {SG : SGrammar} {k : HKey} {H : List HKey} :
    (lookupH SG k H).isSome = true ↔ ∃ h ∈ H, h.nm SG = k.nm SG := by
  simp only [lookupH_eq, List.findIdx?_isSome, List.any_eq_true, decide_eq_true_eq]

theorem lookupH_some {SG : SGrammar} {k : HKey} {H : List HKey} {i : Nat}
    (h : lookupH SG k H = some i) : ∃ h', H[i]? = some h' ∧ h'.nm SG = k.nm SG := by
  rw [lookupH_eq, List.findIdx?_eq_some_iff_getElem] at h
  obtain ⟨hi, e, -⟩ := h
  exact ⟨_, List.getElem?_eq_getElem hi, of_decide_eq_true e⟩

theorem lookupH_self {SG : SGrammar} {H : List HKey}
    (hp : H.Pairwise (fun a b => a.nm SG ≠ b.nm SG)) {i : Nat} {h : HKey} (hi : H[i]? = some h) :
    lookupH SG h H = some i := by
  obtain ⟨hlt, rfl⟩ := List.getElem?_eq_some_iff.1 hi
  rw [lookupH_eq, List.findIdx?_eq_some_iff_getElem]
  exact ⟨hlt, decide_eq_true rfl, fun j hj e =>
    List.pairwise_iff_getElem.1 hp j i (Nat.lt_trans hj hlt) hlt hj (of_decide_eq_true e)⟩

structure HInv (SG : SGrammar) (H : List HKey) : Prop where
  ok : ∀ h ∈ H, h.ok SG
  nodup : H.Pairwise (fun a b => a.nm SG ≠ b.nm SG)
  closed : ∀ h ∈ H, ∀ d, h.dep = some d → ∃ h' ∈ H, h'.nm SG = d.nm SG

theorem dep_dep {k d : HKey} (h : k.dep = some d) : d.dep = none := by
  cases k with | mk kind x sep =>
  cases kind <;> simp [HKey.dep] at h <;> subst h <;> simp [HKey.dep]

/-- One call of `generate` (`ParserTerm.normalize`) for one name. `visit` is this step for `k` and
then, if `k` was new and has a `dep`, for the `dep` (`visit_cases`). -/
def addH (SG : SGrammar) (H : List HKey) (k : HKey) : List HKey :=
  if (lookupH SG k H).isSome then H else H ++ [k]

theorem addH_sub {SG : SGrammar} {H : List HKey} {k h : HKey} (hm : h ∈ H) : h ∈ addH SG H k := by
  unfold addH
  split
  · exact hm
  · exact List.mem_append_left _ hm

theorem addH_has {SG : SGrammar} (H : List HKey) (k : HKey) :
    ∃ h ∈ addH SG H k, h.nm SG = k.nm SG := by
  unfold addH
  split
  · rename_i hs
    exact lookupH_isSome.1 hs
  · exact ⟨k, List.mem_append_right _ (List.mem_singleton_self k), rfl⟩

theorem mem_addH {SG : SGrammar} {H : List HKey} {k h : HKey} (hm : h ∈ addH SG H k) :
    h ∈ H ∨ h = k := by
  unfold addH at hm
  split at hm
  · exact .inl hm
  · exact (List.mem_append.1 hm).imp_right List.mem_singleton.1

theorem addH_ok {SG : SGrammar} {H : List HKey} {k : HKey} (hH : ∀ h ∈ H, h.ok SG) (hk : k.ok SG) :
    ∀ h ∈ addH SG H k, h.ok SG := fun h hm =>
  (mem_addH hm).elim (hH h) fun e => e ▸ hk

theorem addH_nodup {SG : SGrammar} {H : List HKey} (k : HKey)
    (hp : H.Pairwise (fun a b => a.nm SG ≠ b.nm SG)) :
    (addH SG H k).Pairwise (fun a b => a.nm SG ≠ b.nm SG) := by
  unfold addH
  split
  · exact hp
  · rename_i hs
    exact Util.pairwise_snoc hp fun b hb e => hs (lookupH_isSome.2 ⟨b, hb, e⟩)

theorem visit_cases (SG : SGrammar) (H : List HKey) (k : HKey) :
    (visit SG H k = H ∧ ∃ h ∈ H, h.nm SG = k.nm SG) ∨
    (k.dep = none ∧ visit SG H k = addH SG H k) ∨
    ∃ d, k.dep = some d ∧ visit SG H k = addH SG (addH SG H k) d := by
  unfold visit
  split
  · rename_i hs
    exact .inl ⟨rfl, lookupH_isSome.1 hs⟩
  · rename_i hs
    have e : addH SG H k = H ++ [k] := if_neg hs
    rw [e]
    cases hd : k.dep with
    | none => exact .inr (.inl ⟨rfl, rfl⟩)
    | some d => exact .inr (.inr ⟨d, rfl, rfl⟩)

theorem visit_sub {SG : SGrammar} {H : List HKey} {k h : HKey} (hm : h ∈ H) : h ∈ visit SG H k := by
  rcases visit_cases SG H k with ⟨e, -⟩ | ⟨-, e⟩ | ⟨d, -, e⟩ <;> rw [e]
  · exact hm
  · exact addH_sub hm
  · exact addH_sub (addH_sub hm)

theorem visit_has {SG : SGrammar} (H : List HKey) (k : HKey) :
    ∃ h ∈ visit SG H k, h.nm SG = k.nm SG := by
  rcases visit_cases SG H k with ⟨e, h⟩ | ⟨-, e⟩ | ⟨d, -, e⟩ <;> rw [e]
  · exact h
  · exact addH_has H k
  · obtain ⟨h, hm, e⟩ := addH_has H k
    exact ⟨h, addH_sub hm, e⟩

theorem visit_mem {SG : SGrammar} {H : List HKey} {k h : HKey} (hm : h ∈ visit SG H k) :
    h ∈ H ∨ h = k ∨ k.dep = some h := by
  rcases visit_cases SG H k with ⟨e, -⟩ | ⟨-, e⟩ | ⟨d, hd, e⟩ <;> rw [e] at hm
  · exact .inl hm
  · exact (mem_addH hm).imp_right .inl
  · rcases mem_addH hm with hm | rfl
    · exact (mem_addH hm).imp_right .inl
    · exact .inr (.inr hd)

theorem visit_inv {SG : SGrammar} {H : List HKey} {k : HKey} (hi : HInv SG H) (hk : k.ok SG) :
    HInv SG (visit SG H k) := by
  have old : ∀ {H' : List HKey}, (∀ h ∈ H, h ∈ H') → ∀ h ∈ H, ∀ d, h.dep = some d →
      ∃ h' ∈ H', h'.nm SG = d.nm SG := fun sub h hm d hd =>
    let ⟨h', hm', e⟩ := hi.closed h hm d hd
    ⟨h', sub h' hm', e⟩
  rcases visit_cases SG H k with ⟨e, -⟩ | ⟨hn, e⟩ | ⟨d, hd, e⟩ <;> rw [e]
  · exact hi
  · refine ⟨addH_ok hi.ok hk, addH_nodup k hi.nodup, fun h hm d' hd' => ?_⟩
    rcases mem_addH hm with hm | rfl
    · exact old (fun _ => addH_sub) h hm d' hd'
    · rw [hn] at hd'
      cases hd'
  · refine ⟨addH_ok (addH_ok hi.ok hk) (HKey.dep_ok hk hd), addH_nodup d (addH_nodup k hi.nodup),
      fun h hm d' hd' => ?_⟩
    rcases mem_addH hm with hm | rfl
    · rcases mem_addH hm with hm | rfl
      · exact old (fun _ hm => addH_sub (addH_sub hm)) h hm d' hd'
      · rw [hd] at hd'
        cases hd'
        exact addH_has _ d
    · rw [dep_dep hd] at hd'
      cases hd'

theorem SGrammar.key_atoms {t : STerm} {k : HKey} (hk : t.key = some k) :
    k.x ∈ t.atoms ∧ k.sep ∈ t.atoms := by
  cases t <;> simp only [STerm.key, Option.some.injEq, reduceCtorEq] at hk <;> subst hk <;>
    simp [STerm.atoms]

theorem STerm.key_ok {SG : SGrammar} {t : STerm} {k : HKey}
    (ht : t.atoms.all (Atom.inRange SG) = true) (hk : t.key = some k) : k.ok SG :=
  ⟨List.all_eq_true.1 ht _ (SGrammar.key_atoms hk).1, List.all_eq_true.1 ht _ (SGrammar.key_atoms hk).2⟩

theorem fold_visit {SG : SGrammar} {P : List HKey → Prop} (l : List STerm)
    (hstep : ∀ H t k, t ∈ l → t.key = some k → P H → P (visit SG H k)) (H : List HKey) (h0 : P H) :
    P (l.foldl (visitTerm SG) H) := by
  induction l generalizing H with
  | nil => exact h0
  | cons t l ih =>
    refine ih (fun H t' k ht' => hstep H t' k (List.mem_cons_of_mem _ ht')) _ ?_
    unfold visitTerm
    split
    · exact h0
    · exact hstep H t _ List.mem_cons_self ‹_› h0

theorem fold_inv {SG : SGrammar} (l : List STerm) (H : List HKey) (hi : HInv SG H)
    (hl : ∀ t ∈ l, t.atoms.all (Atom.inRange SG) = true) :
    HInv SG (l.foldl (visitTerm SG) H) :=
  fold_visit l (fun _ t _ ht hk hi => visit_inv hi (STerm.key_ok (hl t ht) hk)) H hi

theorem fold_sub {SG : SGrammar} (l : List STerm) (H : List HKey) {h : HKey} (hm : h ∈ H) :
    h ∈ l.foldl (visitTerm SG) H :=
  fold_visit (P := (h ∈ ·)) l (fun _ _ _ _ _ => visit_sub) H hm

theorem fold_mem {SG : SGrammar} (l : List STerm) (H : List HKey) {h : HKey}
    (hm : h ∈ l.foldl (visitTerm SG) H) :
    h ∈ H ∨ ∃ t ∈ l, ∃ k, t.key = some k ∧ (h = k ∨ k.dep = some h) :=
  fold_visit (P := fun H' => ∀ h ∈ H', h ∈ H ∨ ∃ t ∈ l, ∃ k, t.key = some k ∧
      (h = k ∨ k.dep = some h)) l
    (fun _ t k ht hk ih h hm => (visit_mem hm).elim (ih h) fun h2 => .inr ⟨t, ht, k, hk, h2⟩)
    H (fun _ => .inl) h hm

theorem fold_has {SG : SGrammar} (l : List STerm) (H : List HKey) {t : STerm} {k : HKey}
    (ht : t ∈ l) (hk : t.key = some k) : ∃ h ∈ l.foldl (visitTerm SG) H, h.nm SG = k.nm SG := by
  obtain ⟨l1, l2, rfl⟩ := List.append_of_mem ht
  rw [List.foldl_append, List.foldl_cons]
  obtain ⟨h, hm, e⟩ := visit_has (l1.foldl (visitTerm SG) H) k
  exact ⟨h, fold_sub l2 _ (by simpa only [visitTerm, hk] using hm), e⟩

structure SGrammar.WF (SG : SGrammar) : Prop where
  ne : SG.rules ≠ []
  inr : ∀ t ∈ SG.allTerms, t.atoms.all (Atom.inRange SG) = true
  names : SG.allNames.Nodup

theorem SGrammar.wf_iff (SG : SGrammar) : SG.wf = true ↔ SG.WF := by
  simp only [SGrammar.wf, Bool.and_eq_true, Bool.not_eq_true', List.isEmpty_eq_false_iff,
    List.all_eq_true, decide_eq_true_eq]
  constructor
  · rintro ⟨⟨h1, h2⟩, h3⟩
    exact ⟨h1, fun t ht => by simpa using h2 t ht, h3⟩
  · rintro ⟨h1, h2, h3⟩
    exact ⟨⟨h1, fun t ht => by simpa using h2 t ht⟩, h3⟩

namespace SGrammar
variable {SG : SGrammar}

theorem helpers_inv (hw : SG.WF) : HInv SG SG.helpers :=
  fold_inv _ _ ⟨by simp, by simp, by simp⟩ hw.inr

theorem key_mem (hw : SG.WF) {t : STerm} {k : HKey} (ht : t ∈ SG.allTerms) (hk : t.key = some k) :
    k ∈ SG.helpers := by
  obtain ⟨h, hm, e⟩ := fold_has (SG := SG) SG.allTerms [] ht hk
  have := HKey.nm_inj hw.names ((helpers_inv hw).ok h hm) (STerm.key_ok (hw.inr t ht) hk) e
  exact this ▸ hm

theorem dep_mem (hw : SG.WF) {h d : HKey} (hm : h ∈ SG.helpers) (hd : h.dep = some d) :
    d ∈ SG.helpers := by
  obtain ⟨h', hm', e⟩ := (helpers_inv hw).closed h hm d hd
  have := HKey.nm_inj hw.names ((helpers_inv hw).ok h' hm')
    (HKey.dep_ok ((helpers_inv hw).ok h hm) hd) e
  exact this ▸ hm'

theorem ruleIdx_of_get (hw : SG.WF) {i : Nat} {k : HKey} (hi : SG.helpers[i]? = some k) :
    SG.ruleIdx k = SG.nUser + 1 + i := by
  simp [ruleIdx, lookupH_self (helpers_inv hw).nodup hi]

theorem ruleIdx_of_mem (hw : SG.WF) {k : HKey} (hm : k ∈ SG.helpers) :
    ∃ i, SG.helpers[i]? = some k ∧ SG.ruleIdx k = SG.nUser + 1 + i := by
  obtain ⟨i, hi⟩ := List.getElem?_of_mem hm
  exact ⟨i, hi, ruleIdx_of_get hw hi⟩

/-- Membership in a list assembled segment by segment, the segment of the `j`-th entry computed
from its position `i + j`: the shape of `userProdsFrom` and `helperProdsFrom`. -/
theorem mem_segments {α β} {f : Nat → α → List β} {F : Nat → List α → List β}
    (hnil : ∀ i, F i [] = []) (hcons : ∀ i a as, F i (a :: as) = f i a ++ F (i + 1) as)
    {x : β} {i : Nat} {as : List α} :
    x ∈ F i as ↔ ∃ j a, as[j]? = some a ∧ x ∈ f (i + j) a := by
  induction as generalizing i with
  | nil => simp [hnil]
  | cons a as ih =>
    rw [hcons, List.mem_append, ih]
    constructor
    · rintro (h | ⟨j, a', hj, h⟩)
      · exact ⟨0, a, rfl, h⟩
      · exact ⟨j + 1, a', hj, by rwa [show i + (j + 1) = i + 1 + j by omega]⟩
    · rintro ⟨j, a', hj, h⟩
      cases j with
      | zero => cases hj; exact .inl h
      | succ j => exact .inr ⟨j, a', hj, by rwa [show i + 1 + j = i + (j + 1) by omega]⟩

theorem mem_userProdsFrom {pr : Prod} {i : Nat} {rs : List SRule} :
    pr ∈ SG.userProdsFrom i rs ↔
      ∃ j r p, rs[j]? = some r ∧ p ∈ r.prods ∧ pr = ⟨i + j + 1, p.terms.map SG.symOf⟩ := by
  simp only [mem_segments (F := SG.userProdsFrom) (fun _ => rfl) (fun _ _ _ => rfl), List.mem_map,
    eq_comm (a := pr), exists_and_left]

theorem mem_helperProdsFrom {pr : Prod} {i : Nat} {ks : List HKey} :
    pr ∈ SG.helperProdsFrom i ks ↔ ∃ j k, ks[j]? = some k ∧ pr ∈ SG.helperBody (i + j) k :=
  mem_segments (fun _ => rfl) (fun _ _ _ => rfl)

theorem mem_prodList {pr : Prod} : pr ∈ SG.prodList ↔
    pr = ⟨0, [.n 1]⟩ ∨
    (∃ A r p, SG.rules[A]? = some r ∧ p ∈ r.prods ∧ pr = ⟨A + 1, p.terms.map SG.symOf⟩) ∨
    (∃ i k, SG.helpers[i]? = some k ∧ pr ∈ SG.helperBody (SG.nUser + 1 + i) k) := by
  simp only [prodList, List.mem_cons, List.mem_append, userProds, helperProds, mem_userProdsFrom,
    mem_helperProdsFrom, Nat.zero_add]

theorem desugar_prods (SG : SGrammar) : (desugar SG).1.prods.toList = SG.prodList := by
  simp [desugar]

theorem term_mem_allTerms {A : Nat} {r : SRule} {p : SProd} {t : STerm}
    (hr : SG.rules[A]? = some r) (hp : p ∈ r.prods) (ht : t ∈ p.terms) : t ∈ SG.allTerms := by
  simp only [allTerms, List.mem_flatMap]
  exact ⟨r, List.mem_of_getElem? hr, p, hp, ht⟩

theorem _root_.Lox.LR.STerm.atom_or_key (t : STerm) : (∃ x, t = .atom x) ∨ ∃ k, t.key = some k := by
  cases t <;> simp [STerm.key]

theorem symOf_key {t : STerm} {k : HKey} (hk : t.key = some k) :
    SG.symOf t = .n (SG.ruleIdx k) := by
  cases t <;> simp only [STerm.key, Option.some.injEq, reduceCtorEq] at hk <;> subst hk <;> rfl

theorem helperBody_syms {self : Nat} {k : HKey} {pr : Prod} (hb : pr ∈ SG.helperBody self k) :
    pr.lhs = self ∧ ∀ X ∈ pr.rhs, X = .n self ∨ X = symOfAtom k.x ∨ X = symOfAtom k.sep ∨
      ∃ d, k.dep = some d ∧ X = .n (SG.ruleIdx d) := by
  obtain ⟨kind, x, sep⟩ := k
  cases kind <;> simp only [helperBody, List.mem_cons, List.not_mem_nil, or_false] at hb <;>
    rcases hb with rfl | rfl <;> simp [HKey.dep]

theorem helperBody_length (i : Nat) (k : HKey) :
    (SG.helperBody i k).length = (helperKinds k).length := by
  obtain ⟨kind, x, sep⟩ := k
  cases kind <;> rfl

theorem helperProds_length (i : Nat) (ks : List HKey) :
    (SG.helperProdsFrom i ks).length = (ks.flatMap helperKinds).length := by
  induction ks generalizing i with
  | nil => rfl
  | cons k ks ih =>
    rw [helperProdsFrom, List.flatMap_cons, List.length_append, List.length_append,
      helperBody_length, ih]

theorem mem_zip_helpers {x : Prod × Nat} {i : Nat} {ks : List HKey} :
    x ∈ (SG.helperProdsFrom i ks).zip (ks.flatMap helperKinds) ↔
      ∃ j k, ks[j]? = some k ∧ x ∈ (SG.helperBody (i + j) k).zip (helperKinds k) :=
  mem_segments (F := fun i ks => (SG.helperProdsFrom i ks).zip (ks.flatMap helperKinds))
    (fun _ => rfl) fun i k ks => by
      rw [helperProdsFrom, List.flatMap_cons, List.zip_append (helperBody_length i k)]

theorem prod_kind {q : Nat} {pr : Prod} (h : (desugar SG).1.prods[q]? = some pr) :
    ∃ c, (desugar SG).2.1[q]? = some c ∧ ((pr, c) = (⟨0, [.n 1]⟩, 11) ∨ (pr ∈ SG.userProds ∧ c = 0) ∨
      ∃ j k, SG.helpers[j]? = some k ∧
        (pr, c) ∈ (SG.helperBody (SG.nUser + 1 + j) k).zip (helperKinds k)) := by
  have hlen : SG.prodList.length = SG.kindList.length := by
    simp only [prodList, kindList, helperProds, List.length_cons, List.length_append,
      List.length_map, helperProds_length]
  have h : SG.prodList[q]? = some pr := by simpa [desugar] using h
  have hq : q < SG.kindList.length := hlen ▸ (List.getElem?_eq_some_iff.1 h).1
  obtain ⟨c, hc⟩ : ∃ c, SG.kindList[q]? = some c := ⟨_, List.getElem?_eq_getElem hq⟩
  refine ⟨c, by simpa [desugar] using hc, ?_⟩
  have hm : (pr, c) ∈ SG.prodList.zip SG.kindList :=
    List.mem_of_getElem? (List.getElem?_zip_eq_some.2 ⟨h, hc⟩)
  rw [prodList, kindList, List.zip_cons_cons, List.zip_append (by rw [List.length_map]),
    List.mem_cons, List.mem_append] at hm
  rcases hm with hm | hm | hm
  · exact .inl hm
  · obtain ⟨hp, hc⟩ := List.of_mem_zip hm
    obtain ⟨_, _, rfl⟩ := List.mem_map.1 hc
    exact .inr (.inl ⟨hp, rfl⟩)
  · exact .inr (.inr (mem_zip_helpers.1 hm))

end SGrammar

end Lox.LR
