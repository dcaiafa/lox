import Lox.LR.ConstructModel
import Lox.LR.SkelBasics
import Lox.LR.GenModelProofsClosure
import Lox.LR.GenModelProofsKey
/-! Helper lemmas for the model of the `ConstructLALR` worklist (`Lox/LR/ConstructModel.lean`):
the table operations (`findKey`, `modAt`, `setTrans`, `mergeInto`, `pendingSet.Add` in the order
`keyLt`) and what cores a closure has. -/
namespace Lox.LR.Cons
open Lox.LR Lox.LR.Gen

theorem findKey_eq (k : Key) (l : List Key) :
    findKey k l = l.findIdx? fun k' => decide (k' = k) := by
  induction l with
  | nil => rfl
  | cons k' l ih => simp only [findKey, List.findIdx?_cons, ih, decide_eq_true_eq]

theorem findKey_some {k : Key} {l : List Key} {i : Nat} (h : findKey k l = some i) :
    l[i]? = some k := by
  rw [findKey_eq, List.findIdx?_eq_some_iff_getElem] at h
  obtain ⟨hi, e, -⟩ := h
  rw [List.getElem?_eq_getElem hi, of_decide_eq_true e]

theorem findKey_none {k : Key} {l : List Key} (h : findKey k l = none) : k ∉ l := by
  rw [findKey_eq, List.findIdx?_eq_none_iff] at h
  exact fun hm => absurd rfl (of_decide_eq_false (h k hm))

theorem findKey_isSome_of_mem {k : Key} {l : List Key} (h : k ∈ l) : ∃ i, findKey k l = some i := by
  cases hf : findKey k l with
  | none => exact absurd h (findKey_none hf)
  | some i => exact ⟨i, rfl⟩

theorem length_modAt {α : Type} (l : List α) (i : Nat) (f : α → α) :
    (modAt l i f).length = l.length := by
  unfold modAt
  split <;> simp

theorem getElem?_modAt {α : Type} (l : List α) (i : Nat) (f : α → α) (j : Nat) :
    (modAt l i f)[j]? = if i = j then l[j]?.map f else l[j]? := by
  unfold modAt
  split
  · next x hi =>
    rw [List.getElem?_set]
    split
    · next e => rw [← e, hi, if_pos (List.getElem?_eq_some_iff.mp hi).1]; rfl
    · rfl
  · next hi =>
    split
    · next e => rw [← e, hi]; rfl
    · rfl

theorem mem_modAt {α : Type} {l : List α} {i : Nat} {f : α → α} {y : α} (h : y ∈ modAt l i f) :
    y ∈ l ∨ ∃ x ∈ l, y = f x := by
  unfold modAt at h
  cases hx : l[i]? with
  | none => simp only [hx] at h; exact .inl h
  | some x =>
    simp only [hx] at h
    rcases List.mem_or_eq_of_mem_set h with h | h
    · exact .inl h
    · exact .inr ⟨x, List.mem_of_getElem? hx, h⟩

theorem getElem?_concat_ne {α : Type} {l : List α} {a : α} {i : Nat} (h : i ≠ l.length) :
    (l ++ [a])[i]? = l[i]? := by
  rcases Nat.lt_or_gt_of_ne h with h | h
  · exact List.getElem?_append_left h
  · rw [List.getElem?_eq_none (Nat.le_of_lt h), List.getElem?_eq_none]
    rw [List.length_append]
    exact h

theorem lookupSym_setTrans (row : List (Sym × Nat)) (X : Sym) (j : Nat) (Y : Sym) :
    lookupSym Y (setTrans row X j) = if X = Y then some j else lookupSym Y row := by
  unfold setTrans
  by_cases e : X = Y
  · subst e; simp [lookupSym]
  · simp only [lookupSym, e, if_false]
    induction row with
    | nil => simp [lookupSym]
    | cons a r ih =>
      obtain ⟨Z, t⟩ := a
      simp only [List.filter_cons]
      by_cases hz : Z = X
      · subst hz
        simp [lookupSym, e, ih]
      · have : (Z != X) = true := by simpa using hz
        simp only [this, if_true, lookupSym]
        split
        · rfl
        · exact ih

theorem mergeInto_eq (old add : List Item) :
    mergeInto old add = (old ++ Util.fresh old add, !(Util.fresh old add).isEmpty) := by
  have : ∀ acc : List Item × Bool,
      add.foldl (fun acc x => if x ∈ acc.1 then acc else (acc.1 ++ [x], true)) acc =
        (acc.1 ++ Util.fresh acc.1 add, acc.2 || !(Util.fresh acc.1 add).isEmpty) := by
    induction add with
    | nil => intro acc; simp [Util.fresh]
    | cons a add ih =>
      intro acc
      rw [List.foldl_cons, Util.fresh]
      split
      · exact ih acc
      · rw [ih, Util.fresh_congr (s' := a :: acc.1) (by simp [or_comm])]
        simp
  exact this (old, false)

theorem mergeInto_spec (old add : List Item) :
    (∀ x, x ∈ (mergeInto old add).1 ↔ x ∈ old ∨ x ∈ add) ∧
    ((mergeInto old add).2 = false → (mergeInto old add).1 = old) ∧
    ((mergeInto old add).2 = true → old.length < (mergeInto old add).1.length) ∧
    (old.Nodup → (mergeInto old add).1.Nodup) ∧
    old.length ≤ (mergeInto old add).1.length := by
  rw [mergeInto_eq]
  refine ⟨fun _ => Util.mem_append_fresh, fun e => ?_, fun e => ?_,
    fun h => Util.nodup_append_fresh h add, by simp⟩
  · rw [Bool.not_eq_false', List.isEmpty_iff] at e
    rw [e, List.append_nil]
  · cases hf : Util.fresh old add with
    | nil => rw [hf] at e; cases e
    | cons a r => simp

theorem keyLt_cons {a b : Nat × Nat} {r r' : Key} :
    keyLt (a :: r) (b :: r') = true ↔ pairLt a b = true ∨ (a = b ∧ keyLt r r' = true) := by
  rw [keyLt, Bool.or_eq_true, Bool.and_eq_true, beq_iff_eq]

theorem keyLt_order : StrictOrder keyLt where
  irrefl a := by
    induction a with
    | nil => rfl
    | cons x r ih =>
      refine Bool.eq_false_iff.mpr fun h => ?_
      rcases keyLt_cons.mp h with h | ⟨_, h⟩
      · exact Bool.false_ne_true ((pairLt_order.irrefl x).symm.trans h)
      · exact Bool.false_ne_true (ih.symm.trans h)
  trans a := by
    induction a with
    | nil =>
      intro b c h1 h2
      match b, c, h1, h2 with
      | _ :: _, _ :: _, _, _ => rfl
    | cons x r ih =>
      intro b c h1 h2
      match b, c, h1, h2 with
      | y :: r', z :: r'', h1, h2 =>
        rw [keyLt_cons] at h1 h2 ⊢
        rcases h1 with h1 | ⟨rfl, h1⟩
        · exact .inl (h2.elim (pairLt_order.trans _ _ _ h1) fun h => h.1 ▸ h1)
        · exact h2.imp id fun h => ⟨h.1, ih _ _ h1 h.2⟩
  total a := by
    induction a with
    | nil => intro b h1 _; cases b with | nil => rfl | cons => cases h1
    | cons x r ih =>
      intro b h1 h2
      match b, h1, h2 with
      | y :: r', h1, h2 =>
        have n1 := fun h => Bool.false_ne_true (h1.symm.trans (keyLt_cons.mpr h))
        have n2 := fun h => Bool.false_ne_true (h2.symm.trans (keyLt_cons.mpr h))
        cases pairLt_order.total x y (Bool.eq_false_iff.mpr fun h => n1 (.inl h))
          (Bool.eq_false_iff.mpr fun h => n2 (.inl h))
        rw [ih r' (Bool.eq_false_iff.mpr fun h => n1 (.inr ⟨rfl, h⟩))
          (Bool.eq_false_iff.mpr fun h => n2 (.inr ⟨rfl, h⟩))]

/-! `pendingSet.Add(key)` when the target changed: both branches of `stepSym` have this shape (a
new state always counts as changed). -/

theorem mem_ite_sinsert {b : Bool} {k x : Key} {p : List Key} :
    x ∈ (if b = true then sinsert keyLt k p else p) ↔ (b = true ∧ x = k) ∨ x ∈ p := by
  cases b
  · exact ⟨.inr, fun h => h.resolve_left fun h => nomatch h.1⟩
  · exact (mem_sinsert keyLt_order).trans (or_congr ⟨fun h => ⟨rfl, h⟩, And.right⟩ .rfl)

theorem sorted_ite_sinsert {b : Bool} {k : Key} {p : List Key} (h : SSorted keyLt p) :
    SSorted keyLt (if b = true then sinsert keyLt k p else p) := by
  cases b
  · exact h
  · exact sorted_sinsert keyLt_order h

/-- A closure step does not depend on the lookahead of the parent as far as the CORE of the
child is concerned. -/
theorem closureRule_core {G : Grammar} {it new : Item}
    (h : ClosureRule G it new) (a' : Nat) :
    ∃ b', ClosureRule G ⟨it.p, it.d, a'⟩ ⟨new.p, 0, b'⟩ := by
  obtain ⟨pr, B, qr, hp, hX, hq, hl, _, hf⟩ := h
  rcases (sfirst_snoc_t _ _ _).mp hf with h1 | ⟨h1, _⟩
  · exact ⟨new.a, pr, B, qr, hp, hX, hq, hl, rfl, (sfirst_snoc_t _ _ _).mpr (.inl h1)⟩
  · exact ⟨a', pr, B, qr, hp, hX, hq, hl, rfl, (sfirst_snoc_t _ _ _).mpr (.inr ⟨h1, rfl⟩)⟩

/-- `J` has every core of `I`. -/
def CoresSub (I J : List Item) : Prop := ∀ x ∈ I, ∃ a, (⟨x.p, x.d, a⟩ : Item) ∈ J

theorem CoresSub.trans {I J K : List Item} (h1 : CoresSub I J) (h2 : CoresSub J K) :
    CoresSub I K := by
  intro x hx
  obtain ⟨a, ha⟩ := h1 x hx
  have := h2 ⟨x.p, x.d, a⟩ ha
  exact this

theorem CoresSub.of_subset {I J : List Item} (h : ∀ x ∈ I, x ∈ J) : CoresSub I J :=
  fun x hx => ⟨x.a, h x hx⟩

/-- The cores of a closure are determined by the cores of its argument. -/
theorem closureOf_cores {G : Grammar} {K : List Item}
    (P : Item → Prop) (hP : ∀ it new, P it → ClosureRule G it new → P new)
    (hK : ∀ x ∈ K, ∃ a, P ⟨x.p, x.d, a⟩) {x : Item} (hx : ClosureOf G K x) :
    ∃ a, P ⟨x.p, x.d, a⟩ := by
  refine hx.least hK fun it ⟨a', ha'⟩ new hr => ?_
  obtain ⟨b', hb'⟩ := closureRule_core hr a'
  obtain ⟨_, _, _, _, _, _, _, hd, _⟩ := hr
  exact hd ▸ ⟨b', hP _ _ ha' hb'⟩

theorem advance_cores {G : Grammar} {I J : List Item} (h : CoresSub I J) (X : Sym) :
    CoresSub (advance G I X) (advance G J X) := by
  intro x hx
  obtain ⟨it, hit, had, rfl⟩ := mem_advance.mp hx
  obtain ⟨a, ha⟩ := h it hit
  exact ⟨a, mem_advance.mpr ⟨⟨it.p, it.d, a⟩, ha, had, rfl⟩⟩

end Lox.LR.Cons
