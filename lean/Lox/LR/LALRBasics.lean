import Lox.LR.LALR
import Lox.LR.DerBasics
/-! Basic lemmas about the notions of `Lox/LR/LALR.lean`: `Derives`, `First`, `Path`, and the
auxiliary notions `FirstDer` (FIRST read off `Der`), `Justd` (an item of a certificate has a
derivation INSIDE the certificate: the ⊆ half of exactness), `ActionsBacked`/`GotosBacked` and `Closed`
(the ⊇ half on the item sets alone); `Cand` and `Conflict` as functions of the item family. -/
namespace Lox.LR

theorem Derives.trans {G : Grammar} {α β γ : List Sym} (h1 : Derives G α β) (h2 : Derives G β γ) :
    Derives G α γ := by
  induction h1 with
  | refl => exact h2
  | step hq _ ih => exact .step hq (ih h2)

theorem Derives.append_left {G : Grammar} {α β : List Sym} (γ : List Sym) (h : Derives G α β) :
    Derives G (γ ++ α) (γ ++ β) := by
  induction h with
  | refl => exact .refl _
  | @step α₁ α₂ β q qr hq _ ih =>
    have e : γ ++ (α₁ ++ Sym.n qr.lhs :: α₂) = (γ ++ α₁) ++ Sym.n qr.lhs :: α₂ := by
      simp [List.append_assoc]
    rw [e]
    refine .step hq ?_
    simpa [List.append_assoc] using ih

theorem Derives.append_right {G : Grammar} {α β : List Sym} (γ : List Sym) (h : Derives G α β) :
    Derives G (α ++ γ) (β ++ γ) := by
  induction h with
  | refl => exact .refl _
  | @step α₁ α₂ β q qr hq _ ih =>
    have e : (α₁ ++ Sym.n qr.lhs :: α₂) ++ γ = α₁ ++ Sym.n qr.lhs :: (α₂ ++ γ) := by
      simp [List.append_assoc]
    rw [e]
    refine .step hq ?_
    simpa [List.append_assoc] using ih

theorem Derives.append {G : Grammar} {α α' β β' : List Sym} (h1 : Derives G α α')
    (h2 : Derives G β β') : Derives G (α ++ β) (α' ++ β') :=
  (h1.append_right β).trans (h2.append_left α')

theorem Derives.prod {G : Grammar} {q : Nat} {qr : Prod} (hq : G.prods[q]? = some qr) :
    Derives G [.n qr.lhs] qr.rhs := by
  have := Derives.step (α₁ := []) (α₂ := []) hq (Derives.refl _)
  simpa using this

theorem Der.derives {G : Grammar} {α : List Sym} {w : List Nat} {ts : List Tree}
    (h : Der G α w ts) : Derives G α (w.map Sym.t) := by
  induction h with
  | nil => exact .refl _
  | @term a α w ts _ ih =>
    have := ih.append_left [Sym.t a]
    simpa using this
  | @nonterm q pr α w1 w2 ts1 ts2 hq _ _ ih1 ih2 =>
    have := ((Derives.prod hq).append_right α).trans (ih1.append ih2)
    simpa using this

theorem Der.append_inv {G : Grammar} : ∀ (α : List Sym) {β : List Sym} {w : List Nat}
    {ts : List Tree}, Der G (α ++ β) w ts →
    ∃ w1 w2 t1 t2, w = w1 ++ w2 ∧ Der G α w1 t1 ∧ Der G β w2 t2
  | [], β, w, ts, h => ⟨[], w, [], ts, rfl, .nil, h⟩
  | X :: α, β, w, ts, h => by
    generalize hαβ : X :: α ++ β = αβ at h
    cases h with
    | nil => cases hαβ
    | @term a α' w' ts' h' =>
      cases hαβ
      obtain ⟨w1, w2, t1, t2, rfl, h1, h2⟩ := Der.append_inv α h'
      exact ⟨a :: w1, w2, _, t2, rfl, .term h1, h2⟩
    | @nonterm q pr α' u1 u2 ts1 ts2 hq h1 h2 =>
      cases hαβ
      obtain ⟨w1, w2, t1, t2, rfl, h3, h4⟩ := Der.append_inv α h2
      exact ⟨u1 ++ w1, w2, _, t2, by simp, .nonterm hq h1 h3, h4⟩

theorem Derives.der {G : Grammar} {α β : List Sym} (h : Derives G α β) :
    ∀ {w : List Nat} {ts : List Tree}, Der G β w ts → ∃ ts', Der G α w ts' := by
  induction h with
  | refl => exact fun hd => ⟨_, hd⟩
  | @step α₁ α₂ β q qr hq _ ih =>
    intro w ts hd
    obtain ⟨ts1, h1⟩ := ih hd
    rw [List.append_assoc] at h1
    obtain ⟨w1, w23, t1, t23, rfl, ha, h23⟩ := Der.append_inv α₁ h1
    obtain ⟨w2, w3, t2, t3, rfl, hb, hc⟩ := Der.append_inv qr.rhs h23
    exact ⟨_, Der.append ha (Der.nonterm hq hb hc)⟩

/-- FIRST read off `Der`, i.e. off token strings; `First` of `LALR` is over sentential forms. -/
def FirstDer (G : Grammar) (α : List Sym) (a b : Nat) : Prop :=
  (∃ w ts, Der G α (b :: w) ts) ∨ ((∃ ts, Der G α [] ts) ∧ b = a)

theorem First.of_der {G : Grammar} {α : List Sym} {w : List Nat} {ts : List Tree} (a : Nat)
    (h : Der G α w ts) : First G α a (w.headD a) := by
  have hd := h.derives
  cases w with
  | nil => exact .inr ⟨by simpa using hd, rfl⟩
  | cons x xs => exact .inl ⟨xs.map Sym.t, by simpa using hd⟩

theorem First.of_firstDer {G : Grammar} {α : List Sym} {a b : Nat} (h : FirstDer G α a b) :
    First G α a b := by
  rcases h with ⟨w, ts, hd⟩ | ⟨⟨ts, hd⟩, rfl⟩
  · exact First.of_der a hd
  · exact First.of_der b hd

def AllProductive (G : Grammar) (α : List Sym) : Prop := ∀ B, Sym.n B ∈ α → ∃ w ts, Der G [.n B] w ts

theorem AllProductive.der {G : Grammar} : ∀ {α : List Sym}, AllProductive G α → ∃ w ts, Der G α w ts
  | [], _ => ⟨[], [], .nil⟩
  | .t x :: rest, h => by
    obtain ⟨w, ts, hd⟩ := AllProductive.der (α := rest) (fun B hB => h B (List.mem_cons_of_mem _ hB))
    exact ⟨_, _, .term hd⟩
  | .n C :: rest, h => by
    obtain ⟨w1, ts1, h1⟩ := h C List.mem_cons_self
    obtain ⟨w2, ts2, h2⟩ :=
      AllProductive.der (α := rest) (fun B hB => h B (List.mem_cons_of_mem _ hB))
    have := Der.append h1 h2
    exact ⟨_, _, by simpa using this⟩

theorem Derives.allProductive {G : Grammar}
    (hprod : ∀ (q : Nat) (qr : Prod), G.prods[q]? = some qr → AllProductive G qr.rhs)
    {α β : List Sym} (h : Derives G α β) : AllProductive G α → AllProductive G β := by
  induction h with
  | refl => exact id
  | @step α₁ α₂ β q qr hq _ ih =>
    intro hα
    apply ih
    intro B hB
    simp only [List.mem_append] at hB
    rcases hB with (hB | hB) | hB
    · exact hα B (by simp [hB])
    · exact hprod q qr hq B hB
    · exact hα B (by simp [hB])

theorem Derives.der_first {G : Grammar}
    (hprod : ∀ (q : Nat) (qr : Prod), G.prods[q]? = some qr → AllProductive G qr.rhs)
    {α δ : List Sym} {b : Nat} (hα : AllProductive G α) (hd : Derives G α (.t b :: δ)) :
    ∃ w ts, Der G α (b :: w) ts := by
  have hδ : AllProductive G δ := fun B hB =>
    hd.allProductive hprod hα B (List.mem_cons_of_mem _ hB)
  obtain ⟨w, ts, hw⟩ := hδ.der
  obtain ⟨ts', h'⟩ := hd.der (.term hw)
  exact ⟨w, ts', h'⟩

/-- `hα` holds of every suffix of a right-hand side of a productive grammar. -/
theorem first_iff_firstDer {G : Grammar} (hprod : Productive G) {α : List Sym}
    (hα : AllProductive G α) (a b : Nat) : First G α a b ↔ FirstDer G α a b :=
  ⟨fun h => h.imp (fun ⟨_, hd⟩ => hd.der_first (fun q qr hq => (hprod q qr hq).2) hα)
    fun ⟨hd, e⟩ => ⟨hd.der .nil, e⟩, First.of_firstDer⟩

theorem Path.snoc_inv {A : Auto} {s : Nat} {γ : List Sym} {X : Sym} {s2 : Nat}
    (h : Path A s (γ ++ [X]) s2) : ∃ s1, Path A s γ s1 ∧ trans A s1 X = some s2 := by
  generalize hγ : γ ++ [X] = γ2 at h
  cases h with
  | nil => simp at hγ
  | @snoc t' t'' γ' X' hp' htr' =>
    obtain ⟨e1, e2⟩ := List.append_inj' hγ rfl
    cases e2
    subst e1
    exact ⟨t', hp', htr'⟩

theorem Path.nil_inv {A : Auto} {s s2 : Nat} (h : Path A s [] s2) : s2 = s := by
  generalize hγ : ([] : List Sym) = γ at h
  cases h with
  | nil => rfl
  | snoc _ _ => simp at hγ

theorem Path.det {A : Auto} {s : Nat} {γ : List Sym} {s1 : Nat} (h1 : Path A s γ s1) :
    ∀ {s2 : Nat}, Path A s γ s2 → s1 = s2 := by
  induction h1 with
  | nil => exact fun h2 => h2.nil_inv.symm
  | snoc _ htr ih =>
    intro s2 h2
    obtain ⟨t, hp', htr'⟩ := h2.snoc_inv
    cases ih hp'
    exact Option.some.inj (htr.symm.trans htr')

/-- `Justd G A s it`: the item `it` of state `s` is obtained from the start item of state 0 by goto
steps along the edges of `A` and closure steps, all intermediate items being items of `A`. -/
inductive Justd (G : Grammar) (A : Auto) : Nat → Item → Prop where
  | start : (⟨0, 0, eof⟩ : Item) ∈ A.items 0 → Justd G A 0 ⟨0, 0, eof⟩
  | goto {s' s p d a : Nat} {pr : Prod} {X : Sym} : Justd G A s' ⟨p, d, a⟩ →
      G.prods[p]? = some pr → pr.rhs[d]? = some X → trans A s' X = some s →
      (⟨p, d + 1, a⟩ : Item) ∈ A.items s → Justd G A s ⟨p, d + 1, a⟩
  | closure {s p d a : Nat} {pr : Prod} {B q : Nat} {qr : Prod} {b : Nat} :
      Justd G A s ⟨p, d, a⟩ → G.prods[p]? = some pr → pr.rhs[d]? = some (.n B) →
      G.prods[q]? = some qr → qr.lhs = B → First G (pr.rhs.drop (d + 1)) a b →
      (⟨q, 0, b⟩ : Item) ∈ A.items s → Justd G A s ⟨q, 0, b⟩

theorem Justd.mem {G : Grammar} {A : Auto} {s : Nat} {it : Item} (h : Justd G A s it) :
    it ∈ A.items s := by
  cases h <;> assumption

theorem Justd.lalr {G : Grammar} {A : Auto} {s : Nat} {it : Item} (h : Justd G A s it) :
    LALRItem G A s it := by
  induction h with
  | start _ => exact ⟨[], .nil 0, .start⟩
  | goto _ hp hX htr _ ih =>
    obtain ⟨γ, hpath, hit⟩ := ih
    exact ⟨_, .snoc hpath htr, .goto hit hp hX⟩
  | closure _ hp hX hq hl hf _ ih =>
    obtain ⟨γ, hpath, hit⟩ := ih
    exact ⟨γ, hpath, .closure hit hp hX hq hl hf⟩

theorem LR1Item.lr0 {G : Grammar} {γ : List Sym} {it : Item} (h : LR1Item G γ it) :
    LR0Item G γ it.p it.d := by
  induction h with
  | start => exact .start
  | goto _ hp hX ih => exact .goto ih hp hX
  | closure _ hp hX hq hl _ ih => exact .closure ih hp hX hq hl

def EdgesBacked (G : Grammar) (A : Auto) : Prop :=
  ∀ s X s', trans A s X = some s' →
    ∃ it ∈ A.items s, ∃ pr, G.prods[it.p]? = some pr ∧ pr.rhs[it.d]? = some X

def ActionsBacked (G : Grammar) (A : Auto) : Prop :=
  ∀ s a act, A.action s a = some act → Cand G A (fun s it => it ∈ A.items s) s a act

def GotosBacked (G : Grammar) (A : Auto) : Prop :=
  ∀ s B s', A.goto s B = some s' →
    ∃ it ∈ A.items s, ∃ pr, G.prods[it.p]? = some pr ∧ pr.rhs[it.d]? = some (.n B)

theorem edges_of_backed {G : Grammar} {A : Auto} (ha : ActionsBacked G A) (hg : GotosBacked G A) :
    EdgesBacked G A := by
  intro s X s' htr
  cases X with
  | n B => exact hg s B s' htr
  | t x =>
    simp only [trans] at htr
    cases hact : A.action s x with
    | none => simp [hact] at htr
    | some act =>
      cases act with
      | reduce p => simp [hact] at htr
      | accept => simp [hact] at htr
      | shift s'' =>
        have hc := ha s x _ hact
        cases hc with
        | shift hmem hp hX _ => exact ⟨_, hmem, _, hp, hX⟩

/-- The ⊇ half on the item sets alone (nothing about the action table); `closure` is w.r.t. the
semantic `First`. -/
structure Closed (G : Grammar) (A : Auto) : Prop where
  start : (⟨0, 0, eof⟩ : Item) ∈ A.items 0
  step : ∀ s it pr X, it ∈ A.items s → G.prods[it.p]? = some pr → pr.rhs[it.d]? = some X →
    ∃ s', trans A s X = some s' ∧ (⟨it.p, it.d + 1, it.a⟩ : Item) ∈ A.items s'
  closure : ∀ s it pr B q qr b, it ∈ A.items s → G.prods[it.p]? = some pr →
    pr.rhs[it.d]? = some (.n B) → G.prods[q]? = some qr → qr.lhs = B →
    First G (pr.rhs.drop (it.d + 1)) it.a b → (⟨q, 0, b⟩ : Item) ∈ A.items s

/-- With `Justd.lalr`: in a closed automaton the justified items of a state are its LALR(1) items. -/
theorem LR1Item.justd {G : Grammar} {A : Auto} (hc : Closed G A) {γ : List Sym} {it : Item}
    (h : LR1Item G γ it) : ∃ s, Path A 0 γ s ∧ Justd G A s it := by
  induction h with
  | start => exact ⟨0, .nil 0, .start hc.start⟩
  | goto _ hp hX ih =>
    obtain ⟨s, hpath, hj⟩ := ih
    obtain ⟨s', htr, hmem⟩ := hc.step s _ _ _ hj.mem hp hX
    exact ⟨s', .snoc hpath htr, .goto hj hp hX htr hmem⟩
  | closure _ hp hX hq hl hf ih =>
    obtain ⟨s, hpath, hj⟩ := ih
    exact ⟨s, hpath, .closure hj hp hX hq hl hf (hc.closure s _ _ _ _ _ _ hj.mem hp hX hq hl hf)⟩

theorem LR1Item.in_state {G : Grammar} {A : Auto} (hc : Closed G A) {γ : List Sym} {it : Item}
    (h : LR1Item G γ it) : ∃ s, Path A 0 γ s ∧ it ∈ A.items s :=
  (h.justd hc).imp fun _ hs => ⟨hs.1, hs.2.mem⟩

theorem justd_of_closed {G : Grammar} {A : Auto} (hc : Closed G A) {γ : List Sym} {it : Item}
    (h : LR1Item G γ it) {s : Nat} (hp : Path A 0 γ s) : Justd G A s it := by
  obtain ⟨s', hp', hj⟩ := h.justd hc
  exact hp.det hp' ▸ hj

theorem LALRItem.mem {G : Grammar} {A : Auto} (hc : Closed G A) {s : Nat} {it : Item}
    (h : LALRItem G A s it) : it ∈ A.items s := by
  obtain ⟨γ, hp, hl⟩ := h
  exact (justd_of_closed hc hl hp).mem

theorem Closed.mem_iff_lalr {G : Grammar} {A : Auto} (hc : Closed G A)
    (hj : ∀ s it, it ∈ A.items s → Justd G A s it) (s : Nat) (it : Item) :
    it ∈ A.items s ↔ LALRItem G A s it :=
  ⟨fun h => (hj s it h).lalr, LALRItem.mem hc⟩

theorem Closed.trans_iff_lalr {G : Grammar} {A : Auto} (hc : Closed G A)
    (hj : ∀ s it, it ∈ A.items s → Justd G A s it) (he : EdgesBacked G A) (s : Nat) (X : Sym) :
    (∃ s', trans A s X = some s') ↔
      ∃ it pr, LALRItem G A s it ∧ G.prods[it.p]? = some pr ∧ pr.rhs[it.d]? = some X := by
  constructor
  · rintro ⟨s', h⟩
    obtain ⟨it, hmem, pr, hp, hX⟩ := he s X s' h
    exact ⟨it, pr, (hj s it hmem).lalr, hp, hX⟩
  · rintro ⟨it, pr, hit, hp, hX⟩
    exact (hc.step s it pr X (LALRItem.mem hc hit) hp hX).imp fun _ h => h.1

theorem Cand.mono_at {G : Grammar} {A : Auto} {I J : Nat → Item → Prop} {s a : Nat}
    (hIJ : ∀ it, I s it → J s it) {act : Act} (h : Cand G A I s a act) : Cand G A J s a act := by
  cases h with
  | shift hmem hp hX htr => exact .shift (hIJ _ hmem) hp hX htr
  | reduce hmem hp hp0 => exact .reduce (hIJ _ hmem) hp hp0
  | accept hmem ha => exact .accept (hIJ _ hmem) ha

theorem Cand.congr {G : Grammar} {A : Auto} {I J : Nat → Item → Prop} {s a : Nat}
    (h : ∀ it, I s it ↔ J s it) {act : Act} : Cand G A I s a act ↔ Cand G A J s a act :=
  ⟨Cand.mono_at fun it => (h it).mp, Cand.mono_at fun it => (h it).mpr⟩

theorem Conflict.congr {G : Grammar} {A : Auto} {I J : Nat → Item → Prop} {s a : Nat}
    (h : ∀ it, I s it ↔ J s it) : Conflict G A I s a ↔ Conflict G A J s a := by
  simp only [Conflict, Cand.congr h]

theorem Cand.exists_item {G : Grammar} {A : Auto} {I : Nat → Item → Prop} {s a : Nat} {act : Act}
    (h : Cand G A I s a act) : ∃ it, I s it := by
  cases h with
  | shift hmem _ _ _ => exact ⟨_, hmem⟩
  | reduce hmem _ _ => exact ⟨_, hmem⟩
  | accept hmem _ => exact ⟨_, hmem⟩

theorem Conflict.has_item {G : Grammar} {A : Auto} {I : Nat → Item → Prop} {s a : Nat}
    (h : Conflict G A I s a) : ∃ it, I s it :=
  let ⟨_, _, hx, _, _⟩ := h
  hx.exists_item

end Lox.LR
