import Lox.LR.Complete
/-! Soundness of the abstract LR machine under `Safe` (helper lemmas for C01/C03). -/
namespace Lox.LR
namespace Abs

/-- Stack invariant: entries (top first) follow automaton edges from state 0 and each entry's
value derives its symbol; `syms` (top first) and `w` (consumed input) are ghosts. -/
inductive StackInv (G : Grammar) (A : Auto) : List Entry → List Sym → List Nat → Prop where
  | base (v0 : Tree) : StackInv G A [⟨0, v0⟩] [] []
  | push {e st syms w X s' u v} : StackInv G A (e :: st) syms w → trans A e.state X = some s' →
      Der G [X] u [v] → StackInv G A (⟨s', v⟩ :: e :: st) (X :: syms) (w ++ u)

theorem StackInv.ne_nil {G A st syms w} (h : StackInv G A st syms w) : st ≠ [] := by
  cases h <;> simp

theorem StackInv.len {G A st syms w} (h : StackInv G A st syms w) :
    st.length = syms.length + 1 := by
  induction h with
  | base => rfl
  | push _ _ _ ih => simp [ih]

/-- The consumed word is a function of the stack: every entry's word is the yield of its tree. -/
theorem StackInv.word_unique {G A st syms syms' w w'} (h : StackInv G A st syms w)
    (h' : StackInv G A st syms' w') : w = w' := by
  induction h generalizing syms' w' with
  | base v0 => cases h'; rfl
  | push _ _ hd ih =>
    cases h' with
    | push h1 _ hd' => rw [ih h1, ← hd.yield_one, ← hd'.yield_one]

/-- State 0 occurs only at the bottom of the stack (no edge leads into it). -/
theorem StackInv.bottom_of_zero {G A} (hs : Safe G A) {e st syms w}
    (h : StackInv G A (e :: st) syms w) (h0 : e.state = 0) : st = [] ∧ syms = [] ∧ w = [] := by
  cases h with
  | base v0 => exact ⟨rfl, rfl, rfl⟩
  | push hinv htr _ =>
    simp at h0
    rw [h0] at htr
    exact absurd htr (hs.noIn _ _)

/-- Backward walk: an item with dot `d` in the top state means the top `d` stack symbols are the
first `d` symbols of its production, and the dot-0 item sits `d` entries down. -/
theorem walk {G : Grammar} {A : Auto} (hs : Safe G A) :
    ∀ (d : Nat) {st syms w} (_ : StackInv G A st syms w) (p a : Nat) (pr : Prod),
      (⟨p, d, a⟩ : Item) ∈ A.items (topState st) → G.prods[p]? = some pr →
      d ≤ syms.length ∧ (syms.take d).reverse = pr.rhs.take d ∧
        ∃ a', (⟨p, 0, a'⟩ : Item) ∈ A.items (topState (st.drop d)) := by
  intro d
  induction d with
  | zero =>
    intro st syms w _ p a pr hit _
    exact ⟨Nat.zero_le _, by simp, a, by simpa using hit⟩
  | succ d ih =>
    intro st syms w hinv p a pr hit hp
    cases hinv with
    | base v0 =>
      have := hs.s0 _ (by simpa [topState] using hit)
      simp at this
    | @push e st' syms' w' X s' u v hinv' htr hder =>
      have hit' : (⟨p, d + 1, a⟩ : Item) ∈ A.items s' := by simpa [topState] using hit
      obtain ⟨pr', hp', hX, a', hprev⟩ := hs.back _ _ _ _ htr hit' (by simp)
      simp at hX hprev hp'
      have hpr : pr' = pr := by rw [hp] at hp'; exact (Option.some.inj hp').symm
      subst hpr
      obtain ⟨hle, htake, a'', h0⟩ := ih hinv' p a' pr' (by simpa [topState] using hprev) hp
      refine ⟨by simp; omega, ?_, a'', by simpa using h0⟩
      rw [List.take_succ_cons, List.reverse_cons, htake]
      rw [List.take_add_one, hX]; simp

theorem split {G : Grammar} {A : Auto} :
    ∀ (k : Nat) {st syms w} (_ : StackInv G A st syms w), k ≤ syms.length →
      ∃ w1 w2, w = w1 ++ w2 ∧ StackInv G A (st.drop k) (syms.drop k) w1 ∧
        Der G (syms.take k).reverse w2 ((st.take k).map (·.val)).reverse := by
  intro k
  induction k with
  | zero =>
    intro st syms w h _
    exact ⟨w, [], by simp, by simpa using h, by simpa using Der.nil⟩
  | succ k ih =>
    intro st syms w h hk
    cases h with
    | base v0 => simp at hk
    | @push e st' syms' w' X s' u v hinv' htr hder =>
      obtain ⟨w1, w2, hw, hinv'', hd⟩ := ih hinv' (by simpa using hk)
      refine ⟨w1, w2 ++ u, by simp [hw], by simpa using hinv'', ?_⟩
      have := Der.append hd hder
      simpa using this

theorem StackInv.push_top {G A st syms w X s' u v} (h : StackInv G A st syms w)
    (htr : trans A (topState st) X = some s') (hd : Der G [X] u [v]) :
    StackInv G A (⟨s', v⟩ :: st) (X :: syms) (w ++ u) := by
  cases h with
  | base v0 => exact .push (.base v0) htr hd
  | push h' htr' hd' => exact .push (.push h' htr' hd') htr hd

/-- What a reduce action finds on a reachable stack: the completed item of `Safe.red` leads back
(`walk`) to its dot-0 item in the state uncovered by popping the right-hand side, so the top
accessing symbols spell the right-hand side, the stack is deep enough, and `Safe.gotoDef` gives the
uncovered state its goto entry. -/
theorem reduce_ready {G : Grammar} {A : Auto} (hs : Safe G A) {st : List Entry} {syms w}
    (hinv : StackInv G A st syms w) {a p : Nat}
    (hact : A.action (topState st) a = some (.reduce p)) :
    ∃ pr e' rest, G.prods[p]? = some pr ∧ pr.rhs.length ≤ syms.length ∧
      (syms.take pr.rhs.length).reverse = pr.rhs ∧ st.drop pr.rhs.length = e' :: rest ∧
      (p ≠ 0 → ∃ s', A.goto e'.state pr.lhs = some s') := by
  obtain ⟨pr, a', hp, hitem⟩ := hs.red _ _ _ hact
  obtain ⟨hle, htake, a'', h0⟩ := walk hs pr.rhs.length hinv p a' pr hitem hp
  rw [List.take_length] at htake
  have hlen := hinv.len
  cases hd : st.drop pr.rhs.length with
  | nil =>
    have := congrArg List.length hd
    rw [List.length_drop, List.length_nil] at this
    omega
  | cons e' rest =>
    rw [hd] at h0
    exact ⟨pr, e', rest, hp, hle, htake, hd, fun hp0 =>
      hs.gotoDef e'.state ⟨p, 0, a''⟩ pr (by simpa using h0) rfl hp0 hp⟩

theorem step_inv {G : Grammar} {A : Auto} (hs : Safe G A) {c c' : Config}
    (h : step G A c = .cont c') {syms w} (hinv : StackInv G A c.stack syms w) :
    ∃ syms' u, StackInv G A c'.stack syms' (w ++ u) ∧ c.input = u ++ c'.input := by
  obtain ⟨_, ⟨s', hact, rfl⟩ | ⟨p, pr, e', rest, s', hact, hp, hd, hgo, rfl⟩⟩ := step_cont_inv h
  · cases hin : c.input with
    | nil => rw [hin] at hact; exact absurd hact (hs.noShiftEof _ s')
    | cons a r =>
      rw [hin, la_cons] at hact
      have htr : trans A (topState c.stack) (.t a) = some s' := by simp only [trans, hact]
      exact ⟨_, [a], hinv.push_top htr (.term .nil), by simp⟩
  · obtain ⟨pr', -, -, hp', hle, htake, -, -⟩ := reduce_ready hs hinv hact
    obtain rfl : pr' = pr := Option.some.inj (hp'.symm.trans hp)
    obtain ⟨w1, w2, rfl, hinv', hder⟩ := split pr'.rhs.length hinv hle
    rw [htake] at hder
    rw [hd] at hinv'
    exact ⟨_, [], by simpa using hinv'.push (X := .n pr'.lhs) hgo (Der.single hp hder),
      by simp⟩

/-- `Safe.acc` puts `S' → S ·` into the top state; `walk` one step back reaches `S' → · S`, which
`Safe.startOnly` allows in state 0 only, and state 0 is the bottom (`StackInv.bottom_of_zero`). -/
theorem acc_inv {G : Grammar} {A : Auto} (hs : Safe G A) {c : Config} {t}
    (h : step G A c = .acc t) {syms w} (hinv : StackInv G A c.stack syms w) :
    Der G [.n (startSym G)] w [t] ∧ la c.input = eof ∧ ∃ e b, c.stack = [e, b] ∧ e.val = t := by
  obtain ⟨e, st, hst, hact, rfl⟩ := step_acc_inv h
  obtain ⟨hla, a', hitem⟩ := hs.acc _ _ hact
  obtain ⟨S', hp0⟩ := hs.prod0
  rw [hst] at hinv
  obtain ⟨hle, htake, a'', h0⟩ := walk hs 1 hinv 0 a' _ hitem hp0
  cases hinv with
  | base v0 => simp at hle
  | @push e1 st1 syms1 w1 X s' u v hinv' htr hder =>
    obtain ⟨rfl, rfl, rfl⟩ := hinv'.bottom_of_zero hs (hs.startOnly _ _ h0)
    obtain rfl : X = .n (startSym G) := by simpa using htake
    exact ⟨by simpa using hder, hla, _, e1, hst, rfl⟩

theorem reaches_inv {G : Grammar} {A : Auto} (hs : Safe G A) {c c' : Config}
    (h : Reaches G A c c') : ∀ {syms w}, StackInv G A c.stack syms w →
    ∃ syms' u, StackInv G A c'.stack syms' (w ++ u) ∧ c.input = u ++ c'.input := by
  induction h with
  | refl c => intro syms w hinv; exact ⟨syms, [], by simpa using hinv, by simp⟩
  | step hst _ ih =>
    intro syms w hinv
    obtain ⟨syms1, u1, hinv1, hin1⟩ := step_inv hs hst hinv
    obtain ⟨syms2, u2, hinv2, hin2⟩ := ih hinv1
    exact ⟨syms2, u1 ++ u2, by simpa [List.append_assoc] using hinv2,
      by rw [hin1, hin2, List.append_assoc]⟩

theorem reaches_of_run {G A} : ∀ (n : Nat) (c : Config) {r}, run G A n c = r → r ≠ .timeout →
    ∃ c', Reaches G A c c' ∧ run G A 1 c' = r := by
  intro n
  induction n with
  | zero => intro c r h hr; exact absurd h.symm hr
  | succ n ih =>
    intro c r h hr
    cases hs : step G A c with
    | cont c1 =>
      obtain ⟨c', hr', h1⟩ := ih c1 (by simpa only [run, hs] using h) hr
      exact ⟨c', .step hs hr', h1⟩
    | acc t => exact ⟨c, .refl _, by simpa only [run, hs] using h⟩
    | fail => exact ⟨c, .refl _, by simpa only [run, hs] using h⟩

theorem reaches_of_run_acc {G A} (n : Nat) (c : Config) {t lg} (h : run G A n c = .acc t lg) :
    ∃ c', Reaches G A c c' ∧ step G A c' = .acc t ∧ c'.log = lg := by
  obtain ⟨c', hr, h1⟩ := reaches_of_run n c h (by simp)
  refine ⟨c', hr, ?_⟩
  simp only [run] at h1
  split at h1 <;> simp_all

theorem reaches_of_run_fail {G A} : ∀ (n : Nat) (c : Config), run G A n c = .fail →
    ∃ c', Reaches G A c c' ∧ step G A c' = .fail := by
  intro n c h
  obtain ⟨c', hr, h1⟩ := reaches_of_run n c h (by simp)
  refine ⟨c', hr, ?_⟩
  simp only [run] at h1
  split at h1 <;> simp_all

theorem sound_run {G : Grammar} {A : Auto} (hs : Safe G A) {w : List Nat} (hw : eof ∉ w)
    {n t lg} (h : run G A n (init w) = .acc t lg) : Der G [.n (startSym G)] w [t] := by
  obtain ⟨c', hr, hst, _⟩ := reaches_of_run_acc n _ h
  obtain ⟨syms', u, hinv, hin⟩ := reaches_inv hs hr (StackInv.base (G := G) (A := A) (.leaf 0))
  obtain ⟨hder, hla, _⟩ := acc_inv hs hst hinv
  have hin' : w = u ++ c'.input := by simpa [init] using hin
  have hrem : c'.input = [] := by
    cases hc : c'.input with
    | nil => rfl
    | cons x xs =>
      rw [hc] at hla hin'
      have : x = eof := by simpa [la] using hla
      subst this
      exact absurd (by rw [hin']; simp) hw
  rw [hrem] at hin'
  simpa [hin'] using hder

end Abs
end Lox.LR
