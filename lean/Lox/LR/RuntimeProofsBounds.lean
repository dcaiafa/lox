import Lox.LR.RuntimeProofs
/-! For `C16.bounds_inv` and `C16.on_bounds_calls`: the `_Bounds` of every stack entry are the first
and last token of its span, and `_onBounds` is called right after the action exactly for reductions
with a non-empty span. -/
namespace Lox.LR.Rt

theorem trim_decomp {α : Type} (p : α → Bool) (l : List α) :
    ∃ pre post, l = pre ++ ((l.dropWhile p).reverse.dropWhile p).reverse ++ post ∧
      (∀ x ∈ pre, p x = true) ∧ (∀ x ∈ post, p x = true) ∧
      (∀ x, (((l.dropWhile p).reverse.dropWhile p).reverse).head? = some x → p x = false) ∧
      (∀ x, (((l.dropWhile p).reverse.dropWhile p).reverse).getLast? = some x → p x = false) := by
  have h1 : (l.dropWhile p) =
      ((l.dropWhile p).reverse.dropWhile p).reverse ++ ((l.dropWhile p).reverse.takeWhile p).reverse := by
    rw [← List.reverse_append, List.takeWhile_append_dropWhile, List.reverse_reverse]
  refine ⟨l.takeWhile p, ((l.dropWhile p).reverse.takeWhile p).reverse, ?_, ?_, ?_, ?_, ?_⟩
  · rw [List.append_assoc, ← h1, List.takeWhile_append_dropWhile]
  · exact List.all_eq_true.mp List.all_takeWhile
  · intro x hx; exact List.all_eq_true.mp List.all_takeWhile x (List.mem_reverse.mp hx)
  · intro x hx
    have h2 := List.head?_dropWhile_not p l
    rw [h1, List.head?_append, hx] at h2
    exact h2
  · intro x hx
    rw [List.getLast?_reverse] at hx
    have h2 := List.head?_dropWhile_not p (l.dropWhile p).reverse
    rw [hx] at h2
    exact h2

theorem yieldIdxs_eq_flatMap : ∀ (kids : List Val), yieldIdxs kids = kids.flatMap yieldIdx
  | [] => rfl
  | v :: vs => by simp only [yieldIdxs, List.flatMap_cons, yieldIdxs_eq_flatMap vs]

theorem yieldIdxs_append (a b : List Val) : yieldIdxs (a ++ b) = yieldIdxs a ++ yieldIdxs b := by
  simp only [yieldIdxs_eq_flatMap, List.flatMap_append]

theorem yieldIdx_node (p : Nat) (kids : List Val) :
    yieldIdx (.node p kids) = kids.flatMap yieldIdx := by
  rw [yieldIdx, yieldIdxs_eq_flatMap]

theorem ysOf_append (a b : List Entry) : ysOf (a ++ b) = ysOf a ++ ysOf b := by
  simp only [ysOf, List.map_append, yieldIdxs_append]

theorem ysOf_cons (e : Entry) (es : List Entry) : ysOf (e :: es) = yieldIdx e.sym ++ ysOf es := rfl

theorem ysOf_all_empty : ∀ {es : List Entry}, (∀ e ∈ es, EntryOK e) →
    (∀ e ∈ es, e.bounds.empty = true) → ysOf es = []
  | [], _, _ => rfl
  | e :: es, h, hp => by
    rw [ysOf_cons, ysOf_all_empty (fun x hx => h x (List.mem_cons_of_mem _ hx))
      (fun x hx => hp x (List.mem_cons_of_mem _ hx)), List.append_nil]
    exact (h e List.mem_cons_self).1.mp (hp e List.mem_cons_self)

theorem BOK_leaf (i : Nat) : BOK { b := i, e := i } [i] :=
  ⟨⟨fun h => (by cases h), fun h => (by cases h)⟩, fun _ => ⟨rfl, rfl⟩⟩

theorem combineBounds_BOK (es : List Entry) (h : ∀ e ∈ es, EntryOK e) :
    BOK (combineBounds (es.map (·.bounds))) (ysOf es) := by
  obtain ⟨pre, post, hd, hpre, hpost, hhead, hlast⟩ :=
    trim_decomp (fun e : Entry => e.bounds.empty) es
  generalize hmid : ((es.dropWhile (fun e : Entry => e.bounds.empty)).reverse.dropWhile
    (fun e : Entry => e.bounds.empty)).reverse = mid at hd hhead hlast
  have hcb : combineBounds (es.map (·.bounds)) =
      match (mid.map (·.bounds)).head?, (mid.map (·.bounds)).getLast? with
      | some f, some l => { b := f.b, e := l.e, empty := false }
      | _, _ => { empty := true } := by
    unfold combineBounds
    simp only [List.dropWhile_map, ← List.map_reverse]
    rw [← hmid]
    rfl
  have hmem : ∀ e ∈ mid, EntryOK e := fun e he =>
    h e (hd ▸ List.mem_append_left _ (List.mem_append_right _ he))
  have hys : ysOf es = ysOf mid := by
    rw [hd, ysOf_append, ysOf_append,
      ysOf_all_empty (fun e he => h e (hd ▸ List.mem_append_left _ (List.mem_append_left _ he))) hpre,
      ysOf_all_empty (fun e he => h e (hd ▸ List.mem_append_right _ he)) hpost,
      List.nil_append, List.append_nil]
  rw [hcb, hys, List.head?_map, List.getLast?_map]
  cases hm : mid with
  | nil => exact ⟨⟨fun _ => rfl, fun _ => rfl⟩, fun hc => (by cases hc)⟩
  | cons f tl =>
    have hf : f.bounds.empty = false := hhead f (by rw [hm]; rfl)
    have hfo : EntryOK f := hmem f (by rw [hm]; exact List.mem_cons_self)
    have hne : f :: tl ≠ [] := List.cons_ne_nil _ _
    have hl : (f :: tl).getLast? = some ((f :: tl).getLast hne) := List.getLast?_eq_some_getLast hne
    generalize (f :: tl).getLast hne = l at hl
    have hlm : l ∈ mid := by rw [hm]; exact List.mem_of_getLast? hl
    have hle : l.bounds.empty = false := hlast l (by rw [hm]; exact hl)
    have hlo : EntryOK l := hmem l hlm
    rw [hl]
    simp only [List.head?_cons, Option.map_some]
    have hfy := hfo.2 hf
    have hly := hlo.2 hle
    have hfne : yieldIdx f.sym ≠ [] := fun hc => by
      have := hfo.1.mpr hc; rw [hf] at this; cases this
    obtain ⟨ini, hini⟩ := List.getLast?_eq_some_iff.mp hl
    refine ⟨⟨fun hc => (by cases hc), fun hc => ?_⟩, fun _ => ⟨?_, ?_⟩⟩
    · rw [ysOf_cons] at hc
      exact absurd (List.append_eq_nil_iff.mp hc).1 hfne
    · rw [ysOf_cons, List.head?_append, hfy.1]; rfl
    · rw [hini, ysOf_append, ysOf_cons, List.getLast?_append]
      simp only [ysOf, List.map_nil, yieldIdxs, List.append_nil, hly.2]
      rfl

theorem StackOK_cons {e : Entry} {rest : List Entry} (hne : rest ≠ []) (he : EntryOK e)
    (hr : StackOK rest) : StackOK (e :: rest) := by
  intro x hx
  rw [List.dropLast_cons_of_ne_nil hne] at hx
  rcases List.mem_cons.mp hx with rfl | hx
  · exact he
  · exact hr x hx

theorem StackOK_suffix {st st' : List Entry} (h : st' <:+ st) (hs : StackOK st) : StackOK st' := by
  obtain ⟨pre, rfl⟩ := h
  by_cases hne : st' = []
  · subst hne; intro x hx; cases hx
  · intro x hx
    apply hs
    rw [List.dropLast_append_of_ne_nil hne]
    exact List.mem_append_right _ hx

theorem StackOK_nil : StackOK [] := fun _ h => by cases h

/-- Entries popped by a reduction that leaves the stack non-empty are all above the bottom. -/
theorem popped_EntryOK {st : List Entry} {n : Nat} (hs : StackOK st) (hd : st.drop n ≠ []) :
    ∀ e ∈ (st.take n).reverse, EntryOK e := by
  intro e he
  apply hs
  have hlen : n < st.length := by
    have := List.length_pos_iff.mpr hd
    rw [List.length_drop] at this
    omega
  rw [List.dropLast_eq_take]
  have : st.take n = (st.take (st.length - 1)).take n := by
    rw [List.take_take]; congr 1; omega
  rw [List.mem_reverse, this] at he
  exact List.mem_of_mem_take he

theorem ne_nil_of_topState {st : List Entry} {t : Int} (h : topState st = some t) : st ≠ [] := by
  intro hc; subst hc; cases h

theorem yieldIdx_of_symTokIdx {v : Val} {i : Nat} (h : symTokIdx v = some i) : yieldIdx v = [i] := by
  cases v <;> simp_all [symTokIdx, yieldIdx]

theorem LogWF.append {a b : List Event} (ha : LogWF a) (hb : LogWF b) : LogWF (a ++ b) := by
  induction ha with
  | nil => exact hb
  | actE h _ ih => exact .actE h ih
  | actB h1 h2 _ ih => exact .actB h1 h2 ih

/-- The invariant behind `C16.bounds_inv` and `C16.on_bounds_calls`. -/
def BInv (s : PState) : Prop := StackOK s.stack ∧ LogWF s.log.reverse

theorem BInv_of_frame {s s' : PState} (h : Frame s s') (hs : BInv s) : BInv s' := by
  unfold BInv
  rw [h.stack, h.log]; exact hs

theorem shiftState_BInv {s : PState} {a : Int} {ti : Nat} {top : Int}
    (htop : topState s.stack = some top) (hti : symTokIdx s.lasym = some ti) (hs : BInv s) :
    BInv (shiftState s a ti) := by
  refine ⟨StackOK_cons (ne_nil_of_topState htop) ?_ hs.1, hs.2⟩
  show BOK _ (yieldIdx s.lasym)
  rw [yieldIdx_of_symTokIdx hti]
  exact BOK_leaf ti

theorem reduceState_BInv {s : PState} {prod : Int} {n : Nat} {ns : Int} {top' : Int}
    (htop' : topState (s.stack.drop n) = some top') (hs : BInv s) :
    BInv (reduceState s true prod n ns) := by
  have hne := ne_nil_of_topState htop'
  have hpop := popped_EntryOK hs.1 hne
  have hb := combineBounds_BOK _ hpop
  have hy : yieldIdx (.node prod.toNat ((s.stack.take n).reverse.map (·.sym))) =
      ysOf (s.stack.take n).reverse := rfl
  refine ⟨StackOK_cons hne ?_ (StackOK_suffix (List.drop_suffix _ _) hs.1), ?_⟩
  · exact hb
  · show LogWF (List.reverse (if true = true ∧ ¬ _ then _ else _))
    cases hemp : (combineBounds ((s.stack.take n).reverse.map (·.bounds))).empty with
    | true =>
      rw [if_neg (fun h => h.2 rfl), List.reverse_cons]
      exact hs.2.append (.actE (hy ▸ hb.1.mp hemp) .nil)
    | false =>
      rw [if_pos ⟨rfl, Bool.false_ne_true⟩, List.reverse_cons, List.reverse_cons, List.append_assoc]
      have := hb.2 hemp
      exact hs.2.append (.actB (hy ▸ this.1) (hy ▸ this.2) .nil)

theorem BInv.moves (T : Tables) (inp : Array Nat) : Moves T inp true BInv where
  read hs h := BInv_of_frame (readToken_frame h) hs
  shift _ hs htop hti := shiftState_BInv htop hti hs
  reduce _ _ hs htop' := reduceState_BInv htop' hs
  inject hs hsuf := ⟨StackOK_suffix hsuf hs.1, hs.2⟩
  clear hs := ⟨StackOK_nil, hs.2⟩

theorem initState_BInv : BInv initState := ⟨fun _ hx => (by cases hx), .nil⟩

theorem parseReach_BInv {T : Tables} {inp : Array Nat} {fuel : Nat} {s : PState}
    (h : ParseReach T inp true fuel s) : BInv s :=
  (BInv.moves T inp).reach initState_BInv h

theorem parse_BInv (T : Tables) (inp : Array Nat) (fuel : Nat) : BInv (parse T inp true fuel).2 :=
  (BInv.moves T inp).parse initState_BInv fuel

theorem LogWF.head_not_bounds {l : List Event} (h : LogWF l) :
    ∀ ev, l.head? = some ev → ev.isBounds = false := by
  intro ev hev
  cases h with
  | nil => cases hev
  | actE => cases hev; rfl
  | actB => cases hev; rfl

theorem LogWF.act_follow {L : List Event} (h : LogWF L) :
    ∀ (pre post : List Event) (p : Nat) (kids : List Val), L = pre ++ .act p kids :: post →
      (yieldIdx (.node p kids) ≠ [] → ∃ b e post', post = .bounds p (.node p kids) b e :: post' ∧
          (yieldIdx (.node p kids)).head? = some b ∧ (yieldIdx (.node p kids)).getLast? = some e) ∧
      (yieldIdx (.node p kids) = [] → ∀ ev, post.head? = some ev → ev.isBounds = false) := by
  induction h with
  | nil => intro pre post p kids hL; cases pre <;> cases hL
  | @actE p0 k0 rest hy hrest ih =>
    intro pre post p kids hL
    cases pre with
    | nil =>
      simp only [List.nil_append, List.cons.injEq, Event.act.injEq] at hL
      obtain ⟨⟨rfl, rfl⟩, rfl⟩ := hL
      exact ⟨fun hne => absurd hy hne, fun _ => hrest.head_not_bounds⟩
    | cons x pre' =>
      simp only [List.cons_append, List.cons.injEq] at hL
      exact ih pre' post p kids hL.2
  | @actB p0 k0 b0 e0 rest h1 h2 hrest ih =>
    intro pre post p kids hL
    cases pre with
    | nil =>
      simp only [List.nil_append, List.cons.injEq, Event.act.injEq] at hL
      obtain ⟨⟨rfl, rfl⟩, rfl⟩ := hL
      refine ⟨fun _ => ⟨b0, e0, rest, rfl, h1, h2⟩, fun hc => ?_⟩
      rw [hc] at h1; cases h1
    | cons x pre' =>
      cases pre' with
      | nil =>
        simp only [List.cons_append, List.nil_append, List.cons.injEq] at hL
        cases hL.2.1
      | cons y pre'' =>
        simp only [List.cons_append, List.cons.injEq] at hL
        exact ih pre'' post p kids hL.2.2

theorem LogWF.bounds_pred {L : List Event} (h : LogWF L) :
    ∀ (pre post : List Event) (p : Nat) (v : Val) (b e : Nat), L = pre ++ .bounds p v b e :: post →
      ∃ pre' kids, pre = pre' ++ [.act p kids] ∧ v = .node p kids ∧
        (yieldIdx v).head? = some b ∧ (yieldIdx v).getLast? = some e := by
  induction h with
  | nil => intro pre post p v b e hL; cases pre <;> cases hL
  | @actE p0 k0 rest hy hrest ih =>
    intro pre post p v b e hL
    cases pre with
    | nil => simp only [List.nil_append, List.cons.injEq] at hL; cases hL.1
    | cons x pre' =>
      simp only [List.cons_append, List.cons.injEq] at hL
      obtain ⟨pre'', kids, rfl, hv⟩ := ih pre' post p v b e hL.2
      exact ⟨x :: pre'', kids, rfl, hv⟩
  | @actB p0 k0 b0 e0 rest h1 h2 hrest ih =>
    intro pre post p v b e hL
    cases pre with
    | nil => simp only [List.nil_append, List.cons.injEq] at hL; cases hL.1
    | cons x pre' =>
      cases pre' with
      | nil =>
        simp only [List.cons_append, List.nil_append, List.cons.injEq, Event.bounds.injEq] at hL
        obtain ⟨rfl, ⟨rfl, rfl, rfl, rfl⟩, rfl⟩ := hL
        exact ⟨[], k0, rfl, rfl, h1, h2⟩
      | cons y pre'' =>
        simp only [List.cons_append, List.cons.injEq] at hL
        obtain ⟨pre3, kids, rfl, hv⟩ := ih pre'' post p v b e hL.2.2
        exact ⟨x :: y :: pre3, kids, rfl, hv⟩

end Lox.LR.Rt
