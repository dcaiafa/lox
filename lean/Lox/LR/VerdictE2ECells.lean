import Lox.LR.VerdictE2E
/-! `conflictFreeB` (the model's "every cell `createActions` builds holds exactly one action", the
hypothesis of `Lox.Props.C01.generator_valid`) on the table of the generator model is equivalent to
"no cell of the LALR(1) automaton by definition has two different candidate actions"
(`conflictFreeB_iff`), for all well-formed grammars. -/
namespace Lox.LR.Emit
open Lox.LR Lox.LR.Gen Lox.LR.Cons
open Lox.Dec (Action ProdInfo)

theorem want_ne_panic {G : Grammar} {nT : Nat} {tr : Nat → Option Nat} {it : Item} {pr : Prod}
    (hp : G.prods[it.p]? = some pr) (hd : it.d ≤ pr.rhs.length) (hla : it.a < nT)
    (htr : ∀ x, pr.rhs[it.d]? = some (.t x) → tr x ≠ none) : want G nT tr it ≠ .panic := by
  unfold want
  simp only [hp]
  split
  · split
    · next h => exact absurd hla (Nat.not_lt.mpr h)
    · split <;> exact nofun
  · next hne =>
    cases hX : pr.rhs[it.d]? with
    | none => exact absurd (Nat.le_antisymm hd (List.getElem?_eq_none_iff.mp hX)) hne
    | some X =>
      cases X with
      | n B => exact nofun
      | t x =>
        cases hx : tr x with
        | none => exact absurd hx (htr x hX)
        | some s =>
          simp only [hx]
          exact nofun

section
variable {G : Grammar} {nT nR : Nat} {tr : TransTab} {cert : Array (List Item)}

theorem panics_false_of_skelOK (h : SkelOK G nT nR tr cert) (s : Nat) :
    panics G nT (trTerm tr s) (itemsOf cert s) = false := by
  rw [panics, List.any_eq_false]
  intro it hit
  obtain ⟨pr, hp, hok⟩ := h.items s it hit
  have : want G nT (trTerm tr s) it ≠ .panic := by
    refine want_ne_panic hp hok.dot hok.la fun x hX => ?_
    obtain ⟨s', hl, _⟩ := hok.step _ hX
    simp [trTerm, hl]
  simpa using this

end

section
variable {G : Grammar} {nT nR : Nat} {ord : List Sym} {st : CState}

theorem conflictFreeB_iff (hw : GrammarWf G nT nR) (hO : OrdOK nT nR ord)
    (hst : construct G nT ord = some st) :
    conflictFreeB G nT st = true ↔
      ∀ s a, ¬ Conflict G (skelOf st) (LALRItem G (skelOf st)) s a := by
  have ok := conflictOK_of_construct hw hO hst
  rw [conflictFreeB_iff_cells]
  constructor
  · intro h s a hc
    have hlen := (ok.cellOf s a).conflict_iff.mpr hc
    obtain ⟨it, hit⟩ := hc.has_item
    have hs : s < st.states.length := size_cert st ▸ mem_itemsOf ((ok.items_exact s it).mpr hit)
    rw [itemsOf_cert] at hlen
    rw [(h s hs).2 a (cellAt_ne_nil_iff.mp fun e => by rw [e] at hlen; exact absurd hlen (by decide))]
      at hlen
    exact absurd hlen (by decide)
  · intro h s _
    have hp := panics_false_of_skelOK ok.skel s
    have hc := fun a => ok.cellOf s a
    simp only [itemsOf_cert] at hp hc
    refine ⟨hp, fun a ha => ?_⟩
    have h1 := mt (hc a).conflict_iff.mp (h s a)
    have h0 := List.length_pos_iff.mpr (cellAt_ne_nil_iff.mpr ha)
    omega

end

end Lox.LR.Emit
