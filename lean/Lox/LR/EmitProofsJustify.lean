import Lox.LR.VerdictE2E
import Lox.LR.JustifySound
/-! The ⊆ half for the tables of the generator model: on a conflict-free run (`Emit.Run`) every
edge `ConstructLALR` recorded (`skelOf st`) is an edge of the automaton read off the emitted arrays
(`autoOf T st.cert`: `_Find` on `_actions` / `_goto`) – `Run.trans_of_skel` –, and every `_goto`
entry is a recorded edge (`Run.skel_of_goto`). Hence everything the per-artefact validator
`justify` (`Lox/LR/Justify.lean`) establishes (`JustifyOK`: every item of the certificate has a
derivation inside the certificate = the lookaheads are exact; every table entry is called for by an
item; distinct kernels) holds for all conflict-free grammars without running it: `Run.justifyOK`.
Used by `Lox/Props/C09_e2e.lean` (correct-prefix property). -/
namespace Lox.LR.Emit
open Lox.LR Lox.LR.Gen Lox.LR.Cons Lox.LR.FixFirst
open Lox.Dec (Action ProdInfo)
open Lox.Table

section
variable {G : Grammar} {nT nR : Nat} {ord : List Sym} {st : CState} {T : Tables}

theorem Run.trans_of_skel (hr : Run G nT nR ord st T) (hsk : SkelOK G nT nR st.transTab st.cert)
    {s t : Nat} {X : Sym} (h : lookupSym X (st.trans[s]?.getD []) = some t) :
    trans (autoOf T st.cert) s X = some t := by
  obtain ⟨it, hit, pr, hp, hX⟩ := (hsk.edges s X t (by rw [rowOfT_transTab]; exact h)).called
  obtain ⟨I, hs, hitI⟩ := states_of_mem hit
  have hlt : s < st.states.length := (List.getElem?_eq_some_iff.mp hs).1
  have hlt' : s < st.cert.size := by rw [size_cert]; exact hlt
  obtain ⟨_, J, _, hJ, _⟩ := hr.built.back h
  have htlt : t < st.states.length := (List.getElem?_eq_some_iff.mp hJ).1
  cases X with
  | t x =>
    obtain ⟨t', htr, hf⟩ := hr.find_cand hs (c := .shift) ⟨it, hitI, afterDot_eq.mpr ⟨pr, hp, hX⟩⟩
    cases htr.symm.trans h
    have hdec : decodeAct (t : Int) = .shift t :=
      decodeAct_shift.mpr ⟨hr.lt_accept htlt, by omega, by simp⟩
    simp only [trans, autoOf, hlt', if_true, hf, hdec]
  | n B =>
    have hf := hr.find_goto hlt (hr.rule_lt hp hX) h
    simp only [trans, autoOf, hlt', if_true, hf, Int.toNat_natCast]

theorem Run.skel_of_goto (hr : Run G nT nR ord st T) {s t B : Nat}
    (h : (autoOf T st.cert).goto s B = some t) : lookupSym (.n B) (st.trans[s]?.getD []) = some t := by
  obtain ⟨hs', v, hf, rfl⟩ := goto_eq (T := T) (cert := st.cert) h
  rw [hr.emitted.find_gotos (size_cert st ▸ hs'), lookResult_hit] at hf
  obtain ⟨t, hl, rfl⟩ := Option.map_eq_some_iff.mp (Option.ite_none_right_eq_some.mp hf).2
  exact hl

/-- Every item is an LALR(1) item along the recorded transitions, these are transitions of the
emitted arrays, and the arrays are closed (they pass `check`): `justd_of_closed`. An `_actions`
entry is the one action of a cell of `createActions`, which is a candidate along the recorded
transitions (`SkelOK.cellOf`). -/
theorem Run.justifyOK (hr : Run G nT nR ord st T) (hok : ConflictOK G nT nR st.transTab st.cert) :
    JustifyOK G T st.cert := by
  have hsub : TransSub (skelOf st) (autoOf T st.cert) := fun s X t h =>
    hr.trans_of_skel hok.skel (trans_skelOf st s X ▸ h)
  refine ⟨fun s it hit => ?_, ?_, fun s B s' hg => ?_, hok.kernels⟩
  · obtain ⟨γ, hp, hl⟩ := (hok.items_exact s it).mp hit
    exact justd_of_closed (closed_of_checkOK (checkB_spec hr.checkB)) hl (Path.mono hsub hp)
  rotate_left
  · exact hok.skel.edgesBacked s (.n B) s' ((trans_skelOf st s _).trans (hr.skel_of_goto hg))
  intro s a act hact
  obtain ⟨hs', v, hf, rfl⟩ := action_eq hact
  rw [hr.emitted.find_actions (size_cert st ▸ hs'), lookResult_hit, resolveCell_noPrec] at hf
  obtain ⟨x, hx, rfl⟩ := Option.map_eq_some_iff.mp (Option.ite_none_right_eq_some.mp hf).2
  have hc : Cand G (skelOf st) (fun s it => it ∈ itemsOf st.cert s) s a (actOf x) :=
    ((hok.skel.cellOf s a).cand _).mp
      (List.mem_map.mpr ⟨x, itemsOf_cert st s ▸ List.mem_of_mem_head? hx, rfl⟩)
  suffices decodeAct (actCode x) = actOf x from this ▸ hc.mono_trans hsub
  cases x with
  | accept => exact decodeAct_accept.mpr rfl
  | reduce p =>
    cases hc with
    | reduce _ _ hp0 =>
      exact decodeAct_reduce.mpr ⟨by unfold acceptCode; simp only [actCode]; omega,
        by simp only [actCode]; omega, by simp [actCode]⟩
  | shift t ps =>
    cases hc with
    | shift _ _ _ htr =>
      obtain ⟨_, J, _, hJ, _⟩ := hr.built.back ((trans_skelOf st s _).symm.trans htr)
      exact decodeAct_shift.mpr ⟨hr.lt_accept (List.getElem?_eq_some_iff.mp hJ).1,
        by simp only [actCode]; omega, by simp [actCode]⟩

theorem justifyOK_of_generate {cert : Array (List Item)} (hw : GrammarWf G nT nR)
    (hO : OrdOK nT nR ord) (hgen : generate G nT ord = some (T, cert))
    (hfree : conflictFree G nT ord = true) (hsmall : cert.size ≤ 2147483647) :
    JustifyOK G T cert := by
  obtain ⟨st, hst, rfl, hr⟩ := run_of_generate hw hO hgen hfree hsmall
  exact hr.justifyOK (conflictOK_of_construct hw hO hst)

end

end Lox.LR.Emit
