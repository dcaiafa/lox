import Lox.LR.CheckSound
import Lox.LR.ValTree
import Lox.LR.RuntimeProofsCover
import Lox.LR.RuntimeProofsErrors
import Lox.LR.RuntimeProofsRecover
import Lox.LR.Sound
/-! Soundness of the CONCRETE `parse` for runs WITH error recovery, on validated tables
(`SafeOK` = what `checkSafe`/`check` establish): the LR stack invariant (`CInv`: the stack states
follow automaton edges from state 0 and every entry's value derives its symbol) is preserved by
shift, reduce and by `_recover` (which only cuts the stack back to a suffix and makes ERROR, an
ordinary terminal of `G`, the lookahead). Consequence: when `parse` accepts, the consumed symbols
(leaves of the result, `Error`s read as terminal 1) derive from the start symbol. Also here: what
`SafeOK` says of the states on the stack (`InR`: they exist, so the table reads at them are in range
and `_readToken()` succeeds), and the whole invariant `SInv`, from which the bound on the successful
recoveries follows for every validated table (`parseG_bound_safe`). -/
namespace Lox.LR.Rt
open Lox.LR.Abs (StackInv)

def leafNat (v : Val) : Nat := (leafTy v).toNat

def wordOf (v : Val) : List Nat := (leaves v).map leafNat

/-- `Abs.StackInv` on the concrete stack: stack and `syms` (the accessing symbols of its states)
top first. -/
inductive CInv (G : Grammar) (A : Auto) : List Entry → List Sym → Prop where
  | base {e : Entry} : e.state = 0 → e.sym = .nil → CInv G A [e] []
  | push {e : Entry} {st : List Entry} {syms : List Sym} {X : Sym} {s' : Int} {v : Val} {b : Bounds} :
      CInv G A (e :: st) syms → 0 ≤ s' → trans A e.state.toNat X = some s'.toNat →
      Der G [X] (wordOf v) [v.toTree] →
      CInv G A ({ state := s', sym := v, bounds := b } :: e :: st) (X :: syms)

def absStack (st : List Entry) : List Abs.Entry := st.map fun e => ⟨e.state.toNat, e.sym.toTree⟩

section
variable {G : Grammar} {A : Auto}

/-- The abstract stack invariant, with the consumed word made explicit: the leaves of the stack
values, bottom to top (`Error`s read as the terminal ERROR = 1). -/
theorem CInv.stackInv_leaves {st : List Entry} {syms : List Sym} (h : CInv G A st syms) :
    StackInv G A (absStack st) syms ((stackLeaves st).map leafNat) := by
  induction h with
  | @base e h0 h1 =>
    have : absStack [e] = [⟨0, e.sym.toTree⟩] := by simp [absStack, h0]
    rw [this]
    have : (stackLeaves [e]).map leafNat = [] := by
      simp [stackLeaves, leavesL, h1, leaves]
    rw [this]
    exact .base _
  | @push e st syms X s' v b _ _ htr hder ih =>
    have e1 : (stackLeaves ({ state := s', sym := v, bounds := b } :: e :: st)).map leafNat =
        (stackLeaves (e :: st)).map leafNat ++ wordOf v := by
      rw [stackLeaves_cons]; simp [wordOf]
    rw [e1]
    exact .push ih htr hder

theorem CInv.toStackInv {st : List Entry} {syms : List Sym} (h : CInv G A st syms) :
    ∃ w, StackInv G A (absStack st) syms w :=
  ⟨_, h.stackInv_leaves⟩

theorem CInv.ne_nil {st : List Entry} {syms : List Sym} (h : CInv G A st syms) : st ≠ [] :=
  fun h0 => h.stackInv_leaves.ne_nil (congrArg absStack h0)

theorem CInv.len {st : List Entry} {syms : List Sym} (h : CInv G A st syms) :
    st.length = syms.length + 1 := by
  simpa only [absStack, List.length_map] using h.stackInv_leaves.len

theorem CInv.nonneg {st : List Entry} {syms : List Sym} (h : CInv G A st syms) :
    ∀ e ∈ st, 0 ≤ e.state := by
  induction h with
  | @base e h0 _ => intro x hx; rw [List.mem_singleton.mp hx, h0]; exact Int.le_refl 0
  | push _ h0 _ _ ih =>
    intro x hx
    rcases List.mem_cons.mp hx with rfl | hx
    · exact h0
    · exact ih x hx

/-- The bottom entry is `parse`'s initial `_item{}`. -/
theorem CInv.bottom {st : List Entry} {syms : List Sym} (h : CInv G A st syms) :
    ∃ e, st.getLast? = some e ∧ e.state = 0 ∧ e.sym = .nil := by
  induction h with
  | @base e h0 h1 => exact ⟨e, rfl, h0, h1⟩
  | push _ _ _ _ ih =>
    obtain ⟨e, he, h0, h1⟩ := ih
    exact ⟨e, by rw [List.getLast?_cons_cons]; exact he, h0, h1⟩

theorem CInv.split : ∀ (k : Nat) {st : List Entry} {syms : List Sym}, CInv G A st syms →
    k ≤ syms.length →
    CInv G A (st.drop k) (syms.drop k) ∧
    Der G (syms.take k).reverse ((leavesL ((st.take k).reverse.map (·.sym))).map leafNat)
      (((st.take k).reverse.map (·.sym)).map Val.toTree)
  | 0, st, syms, h, _ => ⟨by simpa using h, by simpa [leavesL] using Der.nil⟩
  | k + 1, st, syms, h, hk => by
    cases h with
    | base => simp at hk
    | @push e st' syms' X s' v b hinv h0 htr hder =>
      obtain ⟨hi, hd⟩ := CInv.split k hinv (by simpa using hk)
      refine ⟨by simpa using hi, ?_⟩
      have := Der.append hd hder
      simp only [List.take_succ_cons, List.reverse_cons, List.map_append, List.map_cons,
        List.map_nil, leavesL_append, leavesL, List.append_nil]
      simpa [wordOf] using this

theorem CInv.suffix {st st' : List Entry} {syms : List Sym} (h : CInv G A st syms)
    (hs : st' <:+ st) (hne : st' ≠ []) : ∃ syms', CInv G A st' syms' := by
  obtain ⟨pre, rfl⟩ := hs
  have hlen := h.len
  have hk : pre.length ≤ syms.length := by
    have : 0 < st'.length := List.length_pos_iff.mpr hne
    simp only [List.length_append] at hlen
    omega
  have := (CInv.split pre.length h hk).1
  rw [List.drop_left] at this
  exact ⟨_, this⟩

end

section
variable {G : Grammar} {nTerms nRules : Nat} {T : Tables} {cert : Array (List Item)}

theorem stackInv_states_lt (h : SafeOK G nTerms nRules T cert) {st : List Abs.Entry} {syms w}
    (hinv : StackInv G (autoOf T cert) st syms w) : ∀ e ∈ st, e.state < cert.size := by
  induction hinv with
  | base v0 =>
    intro e he
    simp at he; subst he
    exact h.nonempty
  | push _ htr _ ih =>
    intro e he
    simp only [List.mem_cons] at he
    rcases he with he | he
    · subst he; exact (backB_iff.mp (trans_backB h htr).2.1).2.1
    · exact ih e (by simpa using he)

theorem CInv.states_lt (hc : SafeOK G nTerms nRules T cert) {st : List Entry}
    {syms : List Sym} (h : CInv G (autoOf T cert) st syms) :
    ∀ e ∈ st, 0 ≤ e.state ∧ e.state.toNat < cert.size := by
  obtain ⟨w, hw⟩ := h.toStackInv
  intro e he
  refine ⟨h.nonneg e he, ?_⟩
  exact stackInv_states_lt hc hw ⟨e.state.toNat, e.sym.toTree⟩
    (List.mem_map.mpr ⟨e, he, rfl⟩)

def InR (cert : Array (List Item)) (st : Int) : Prop := 0 ≤ st ∧ st.toNat < cert.size

theorem InR.cast {st : Int} (h : InR cert st) : ((st.toNat : Nat) : Int) = st := by
  have := h.1; omega

theorem find_actions_inR (hc : SafeOK G nTerms nRules T cert) {st : Int} (h : InR cert st) (a : Int) :
    (∃ v, find T.actions st a = .hit v) ∨ find T.actions st a = .miss := by
  have := find_actions_cases hc h.2 a
  rwa [h.cast] at this

theorem find_gotos_inR (hc : SafeOK G nTerms nRules T cert) {st : Int} (h : InR cert st) (a : Int) :
    (∃ v, find T.gotos st a = .hit v) ∨ find T.gotos st a = .miss := by
  obtain ⟨row, hrow, _, _⟩ := (hc.states _ h.2).grow
  rw [h.cast] at hrow
  exact find_hit_or_miss hrow a

theorem rowKeys_inR (hc : SafeOK G nTerms nRules T cert) {st : Int} (h : InR cert st) :
    ∃ ks, rowKeys T.actions st = some ks := by
  obtain ⟨row, hrow, _, _⟩ := (hc.states _ h.2).arow
  rw [h.cast] at hrow
  exact ⟨_, rowKeys_of_rowOf hrow⟩

theorem act_entry (hc : SafeOK G nTerms nRules T cert) {st k v : Int} (h : InR cert st)
    (hf : find T.actions st k = .hit v) : ActEntryOK G nTerms cert st.toNat k v := by
  obtain ⟨row, hrow, _, hall⟩ := (hc.states _ h.2).arow
  rw [← h.cast] at hf
  exact actEntryB_iff.mp (hall _ (find_hit_mem hrow hf))

theorem goto_entry (hc : SafeOK G nTerms nRules T cert) {st k v : Int} (h : InR cert st)
    (hf : find T.gotos st k = .hit v) : InR cert v := by
  obtain ⟨row, hrow, _, hall⟩ := (hc.states _ h.2).grow
  rw [← h.cast] at hf
  obtain ⟨-, -, h0, hb⟩ := gotoEntryB_iff.mp (hall _ (find_hit_mem hrow hf))
  exact ⟨h0, (backB_iff.mp hb).2.1⟩

/- `NoShiftEOF` and `AcceptOnlyEOF` quantify over every index of the `_actions` array, also indices
that are not states, so `SafeOK` does not give them: here they are for the states. -/
theorem noShiftEOF_inR (hc : SafeOK G nTerms nRules T cert) {st v : Int} (h : InR cert st)
    (hf : find T.actions st tEOF = .hit v) : v = acceptCode ∨ v < 0 := by
  have ok := act_entry hc h hf
  by_cases ha : v = acceptCode
  · exact .inl ha
  · by_cases hv : 0 ≤ v
    · exact absurd rfl (ok.shift ha hv).1
    · exact .inr (by omega)

theorem acceptOnlyEOF_inR (hc : SafeOK G nTerms nRules T cert) {st la : Int} (h : InR cert st)
    (hf : find T.actions st la = .hit acceptCode) : la = tEOF :=
  ((act_entry hc h hf).acc rfl).1

theorem inR_zero (hc : SafeOK G nTerms nRules T cert) : InR cert 0 := ⟨Int.le_refl 0, hc.nonempty⟩

/-- `0 ≤ acceptCode`, so `hv` does not exclude it; `hk` does (accept sits under the EOF key only). -/
theorem shift_entry (hc : SafeOK G nTerms nRules T cert) {st k v : Int} (h : InR cert st)
    (hf : find T.actions st k = .hit v) (hv : 0 ≤ v) (hk : k ≠ 0) : v ≠ acceptCode ∧ InR cert v := by
  have ok := act_entry hc h hf
  have hna : v ≠ acceptCode := fun ha => hk (ok.acc ha).1
  exact ⟨hna, hv, (backB_iff.mp (ok.shift hna hv).2).2.1⟩

theorem reduce_entry (hc : SafeOK G nTerms nRules T cert) {st k v : Int} (h : InR cert st)
    (hf : find T.actions st k = .hit v) (hv : v < 0) :
    ∃ pr, G.prods[(-v).toNat]? = some pr ∧ geti T.rules (-v) = some (pr.lhs : Int) ∧
      geti T.termCounts (-v) = some (pr.rhs.length : Int) := by
  have ok := act_entry hc h hf
  have hna : v ≠ acceptCode := by unfold acceptCode; omega
  obtain ⟨pr, hpr, -⟩ := ok.red hna hv
  obtain ⟨h1, h2⟩ := prodsB_spec hc.prods hpr
  have hcast : -v = (((-v).toNat : Nat) : Int) := by omega
  refine ⟨pr, hpr, ?_, ?_⟩
  · rw [hcast, geti_natCast]; exact h1
  · rw [hcast, geti_natCast]; exact h2

theorem makeError_ok (hc : SafeOK G nTerms nRules T cert) {s : PState} {i ty : Nat} {top : Int}
    (hl : s.lasym = .tok i ty) (htop : topState s.stack = some top) (hin : InR cert top) :
    ∃ v, makeError T s = .ok v := by
  obtain ⟨ks, hks⟩ := rowKeys_inR hc hin
  exact ⟨.err i ty ks, by simp [makeError, hl, htop, hks]⟩

theorem readToken_ok (hc : SafeOK G nTerms nRules T cert) {inp : Array Nat} {s : PState} {top : Int}
    (htop : topState s.stack = some top) (hin : InR cert top) :
    ∃ s', readToken T inp s = .ok s' := by
  rw [readToken_eq]
  split
  · exact ⟨_, rfl⟩
  · split
    · obtain ⟨hfst, -, -⟩ := lexRead_fst inp s.pos
      obtain ⟨v, hv⟩ := makeError_ok hc (s := afterLex inp s) hfst htop hin
      rw [hv]; exact ⟨_, rfl⟩
    · exact ⟨_, rfl⟩

theorem readToken_init_ok (hc : SafeOK G nTerms nRules T cert) (inp : Array Nat) :
    ∃ s1, readToken T inp initState = .ok s1 :=
  readToken_ok hc (s := initState) (top := 0) rfl (inR_zero hc)

/-- What of `CInv` the no-panic proof of `_recover` uses. -/
def StackR (cert : Array (List Item)) (st : List Entry) : Prop :=
  (∃ top, topState st = some top) ∧ ∀ e ∈ st, InR cert e.state

theorem StackR.top {st : List Entry} (h : StackR cert st) :
    ∃ top, topState st = some top ∧ InR cert top := by
  obtain ⟨⟨top, htop⟩, hall⟩ := h
  refine ⟨top, htop, ?_⟩
  cases st with
  | nil => cases htop
  | cons e r =>
    have : top = e.state := by simpa [topState] using htop.symm
    rw [this]; exact hall e List.mem_cons_self

theorem toTree_of_leaf {v : Val} (h : v.isLeaf = true) : v.toTree = .leaf (leafNat v) := by
  obtain ⟨i, ty, rfl⟩ | ⟨i, ty, ex, rfl⟩ := leaf_cases h
  · simp [Val.toTree, leafNat, leafTy]
  · simp [Val.toTree, leafNat, leafTy, tERROR]

/-- In the shape `errsIn_mono` takes: from `ErrsInv (lexErrAt inp)` to `ErrsInv (fun _ => false)`. -/
theorem lexErrAt_false {inp : Array Nat} (hinp : ∀ i : Nat, inp[i]? ≠ some 1) (i : Nat)
    (hi : lexErrAt inp i = true) : (fun _ : Nat => false) i = true :=
  absurd (beq_iff_eq.mp hi) (hinp i)

theorem action_at_top (hc : SafeOK G nTerms nRules T cert) {inp : Array Nat} {s : PState}
    {syms : List Sym} (hci : CInv G (autoOf T cert) s.stack syms) (hp : PInv inp s)
    {top : Int} (htop : topState s.stack = some top) :
    ∃ e st, s.stack = e :: st ∧ top = e.state ∧ e.state.toNat < cert.size ∧
      (autoOf T cert).action (Abs.topState (absStack s.stack)) (leafNat s.lasym) =
        match find T.actions top s.la with
        | .hit v => some (decodeAct v)
        | _ => none := by
  cases hst : s.stack with
  | nil => rw [hst] at htop; cases htop
  | cons e st =>
    rw [hst] at htop hci
    have htop' : top = e.state := by simpa [topState] using htop.symm
    have hlt := (hci.states_lt hc e List.mem_cons_self).2
    have h0 := hci.nonneg e List.mem_cons_self
    have hla : ((leafNat s.lasym : Nat) : Int) = s.la := by
      rw [hp.laty]; unfold leafNat
      have := leafTy_nonneg hp.laok.1
      omega
    have he : ((e.state.toNat : Nat) : Int) = e.state := by omega
    refine ⟨e, st, rfl, htop', hlt, ?_⟩
    show (autoOf T cert).action e.state.toNat _ = _
    simp only [autoOf, hlt, if_true, he, hla, htop']
    cases find T.actions e.state s.la <;> rfl

theorem action_of_top (hc : SafeOK G nTerms nRules T cert) {inp : Array Nat} {s : PState}
    {syms : List Sym} (hci : CInv G (autoOf T cert) s.stack syms) (hp : PInv inp s)
    {top v : Int} (htop : topState s.stack = some top) (hf : find T.actions top s.la = .hit v) :
    ∃ e st, s.stack = e :: st ∧ top = e.state ∧ e.state.toNat < cert.size ∧
      (autoOf T cert).action (Abs.topState (absStack s.stack)) (leafNat s.lasym) =
        some (decodeAct v) := by
  simpa only [hf] using action_at_top hc hci hp htop

theorem CInv.shift (hc : SafeOK G nTerms nRules T cert) {inp : Array Nat} {s : PState}
    {syms : List Sym} (hci : CInv G (autoOf T cert) s.stack syms) (hp : PInv inp s)
    {top a : Int} (htop : topState s.stack = some top) (hf : find T.actions top s.la = .hit a)
    (hacc : a ≠ acceptCode) (hsh : a ≥ 0) (ti : Nat) :
    CInv G (autoOf T cert) (shiftState s a ti).stack (.t (leafNat s.lasym) :: syms) := by
  obtain ⟨e, st, hst, -, hlt, hact⟩ := action_of_top hc hci hp htop hf
  rw [decodeAct_shift.mpr ⟨hacc, hsh, rfl⟩, hst] at hact
  have htr : trans (autoOf T cert) e.state.toNat (.t (leafNat s.lasym)) = some a.toNat := by
    simp only [trans]; rw [show (autoOf T cert).action e.state.toNat _ = _ from hact]
  have hder : Der G [.t (leafNat s.lasym)] (wordOf s.lasym) [s.lasym.toTree] := by
    rw [toTree_of_leaf hp.laok.1, wordOf, leaves_of_isLeaf hp.laok.1]
    exact .term .nil
  show CInv G _ ({ state := a, sym := s.lasym, bounds := _ } :: s.stack) _
  rw [hst] at hci ⊢
  exact .push hci hsh htr hder

/-- `Abs.reduce_ready` on the image of the stack, read back in the terms of the tables. -/
theorem CInv.reduce_spec (hc : SafeOK G nTerms nRules T cert) {inp : Array Nat} {s : PState}
    {syms : List Sym} (hci : CInv G (autoOf T cert) s.stack syms) (hp : PInv inp s)
    {top action : Int} (htop : topState s.stack = some top)
    (hf : find T.actions top s.la = .hit action) (hacc : action ≠ acceptCode) (hneg : action < 0) :
    ∃ pr ec rc ns, G.prods[(-action).toNat]? = some pr ∧
      geti T.termCounts (-action) = some (pr.rhs.length : Int) ∧
      geti T.rules (-action) = some (pr.lhs : Int) ∧
      pr.rhs.length ≤ syms.length ∧ (syms.take pr.rhs.length).reverse = pr.rhs ∧
      s.stack.drop pr.rhs.length = ec :: rc ∧ 0 ≤ ec.state ∧
      find T.gotos ec.state pr.lhs = .hit ns ∧ 0 ≤ ns ∧
      (autoOf T cert).goto ec.state.toNat pr.lhs = some ns.toNat := by
  obtain ⟨e, st, hst, -, hlt, hact⟩ := action_of_top hc hci hp htop hf
  rw [decodeAct_reduce.mpr ⟨hacc, hneg, rfl⟩] at hact
  obtain ⟨pr, e', rest, hpr, hle, htake, hdropA, hgo⟩ :=
    Abs.reduce_ready (safe_of_safeOK hc) hci.stackInv_leaves hact
  obtain ⟨hrule, hcount⟩ := prodsB_spec hc.prods hpr
  have hpi : -action = (((-action).toNat : Nat) : Int) := by omega
  rw [absStack, ← List.map_drop] at hdropA
  cases hdrop : s.stack.drop pr.rhs.length with
  | nil => rw [hdrop] at hdropA; cases hdropA
  | cons ec rc =>
    rw [hdrop] at hdropA
    obtain rfl : (⟨ec.state.toNat, ec.sym.toTree⟩ : Abs.Entry) = e' := (List.cons.inj hdropA).1
    have h0e := hci.nonneg ec (List.mem_of_mem_drop (hdrop ▸ List.mem_cons_self))
    obtain ⟨s'', hgoto⟩ := hgo fun h0 => autoOf_no_reduce0 _ _ (h0 ▸ hact)
    obtain ⟨hlt', v, hfv, hv⟩ := goto_eq hgoto
    rw [show ((ec.state.toNat : Nat) : Int) = ec.state by omega] at hfv
    have hv0 : 0 ≤ v := (goto_entry hc ⟨h0e, hlt'⟩ hfv).1
    exact ⟨pr, ec, rc, v, hpr, by rw [hpi, geti_natCast]; exact hcount,
      by rw [hpi, geti_natCast]; exact hrule, hle, htake, hdrop, h0e, hfv, hv0, hv ▸ hgoto⟩

/-- The `.miss` alternative of `Step.reduce` (`nextState, _ := _Find(_goto, topState, rule)` ignores
`ok` and pushes state 0) does not occur. -/
theorem CInv.reduce (hc : SafeOK G nTerms nRules T cert) {inp : Array Nat} {s : PState}
    {syms : List Sym} (hci : CInv G (autoOf T cert) s.stack syms) (hp : PInv inp s)
    {top action tc rule top' ns : Int} (htop : topState s.stack = some top)
    (hf : find T.actions top s.la = .hit action) (hacc : action ≠ acceptCode) (hneg : action < 0)
    (htc : geti T.termCounts (-action) = some tc) (hru : geti T.rules (-action) = some rule)
    (htop' : topState (s.stack.drop tc.toNat) = some top')
    (hgo : find T.gotos top' rule = .hit ns ∨ (find T.gotos top' rule = .miss ∧ ns = 0))
    (wb : Bool) :
    (∃ syms', CInv G (autoOf T cert) (reduceState s wb (-action) tc.toNat ns).stack syms') ∧
    find T.gotos top' rule = .hit ns ∧ tc.toNat < s.stack.length := by
  obtain ⟨pr, ec, rc, v, hpr, htc', hru', hle, htake, hdrop, -, hfv, hv0, hgoto⟩ :=
    hci.reduce_spec hc hp htop hf hacc hneg
  obtain rfl : (pr.rhs.length : Int) = tc := Option.some.inj (htc'.symm.trans htc)
  obtain rfl : (pr.lhs : Int) = rule := Option.some.inj (hru'.symm.trans hru)
  rw [Int.toNat_natCast] at htop' ⊢
  obtain ⟨hi, hd⟩ := CInv.split pr.rhs.length hci hle
  rw [htake] at hd
  rw [hdrop] at htop' hi
  obtain rfl : ec.state = top' := by simpa [topState] using htop'
  obtain rfl : ns = v := by
    rcases hgo with h1 | ⟨h1, -⟩
    · rw [hfv] at h1; cases h1; rfl
    · rw [hfv] at h1; cases h1
  have hlen := hci.len
  refine ⟨⟨.n pr.lhs :: syms.drop pr.rhs.length, ?_⟩, hfv, by omega⟩
  show CInv G _ ({ state := ns, sym := .node (-action).toNat _, bounds := _ } ::
    s.stack.drop pr.rhs.length) _
  rw [hdrop]
  refine .push hi hv0 (by simp [trans, hgoto]) ?_
  simpa [wordOf, leaves, Val.toTree, toTreeList_eq_map] using Der.single hpr hd

/-- An `Error` lookahead with nothing queued wraps a lexer ERROR token, and so does a queued
lookahead: the `Error`s `_makeError()` makes up are lookaheads only while the offending token is
queued behind them. Under it the terminal the parser sees in the lookahead (`leafNat`) is the type of
the token at its index. -/
def LexErr (s : PState) : Prop :=
  (s.qla = -1 → ∀ i ty ex, s.lasym = .err i ty ex → ty = 1) ∧
  (s.qla ≠ -1 → ∀ i ty ex, s.qlasym = .err i ty ex → ty = 1)

theorem readToken_LexErr {inp : Array Nat} {s s' : PState} (hx : LexErr s)
    (h : readToken T inp s = .ok s') : LexErr s' := by
  rcases readToken_eq_ok h with ⟨hq, rfl⟩ | ⟨hq, -, rfl⟩ | ⟨hq, -, -, ks, rfl⟩
  · exact ⟨fun _ => hx.2 hq, fun hc => absurd rfl hc⟩
  · refine ⟨fun _ i ty ex he => ?_, fun hc => absurd hq hc⟩
    have hl : (lexRead inp s.pos).1 = .err i ty ex := he
    rw [(lexRead_fst inp s.pos).1] at hl
    cases hl
  · refine ⟨fun _ i ty ex he => ?_, fun hc => absurd hq hc⟩
    cases he
    rfl

/-- `_recover()` queues the lookahead it stopped at, which came from the lexer with nothing queued
(`_recover` first reads past every ERROR, and an injected `Error` is only pending under ERROR). -/
theorem step_LexErr {inp : Array Nat} {wb : Bool} {fuel : Nat} {s s' : PState}
    (hs : PInv inp s) (hx : LexErr s) (h : step T inp wb fuel s = .cont s') : LexErr s' := by
  cases step_cont h with
  | recover _ _ hr =>
    obtain ⟨e, s0, s1, st, -, h0, hl0, h1, -, rfl, -⟩ := recover_ok hr
    obtain ⟨hp0, -, -⟩ := h0.PInv hs
    have hq0 : s0.qla = -1 := Decidable.byContradiction fun hq => hl0 (hp0.qty hq).2.1
    obtain ⟨hp1, -, hq1⟩ := h1.PInv hp0
    have hx1 : LexErr s1 := (h0.trans h1).inv (fun _ _ => readToken_LexErr) hx
    have hla1 : s1.la ≠ -1 := by
      rw [hp1.laty]
      exact leafTy_ne_neg_one hp1.laok.1
    exact ⟨fun hc => absurd hc hla1, fun _ => hx1.1 (hq1 hq0)⟩
  | shift _ _ _ _ _ hr => exact readToken_LexErr (s := shiftState s _ _) hx hr
  | reduce => exact hx

/-- The invariant of `parse` on validated tables (`init_SInv`, `step_SInv`): coverage of the input, the
LR stack invariant on the concrete stack, and that an `Error` in the lookahead is a lexer ERROR token.
The hypothesis of the simulation in `RuntimeSoundAbs.lean`. -/
structure SInv (G : Grammar) (A : Auto) (inp : Array Nat) (s : PState) : Prop where
  cov : Cov inp s
  cinv : ∃ syms, CInv G A s.stack syms
  lex : LexErr s

theorem init_SInv {inp : Array Nat} {s1 : PState} (h : readToken T inp initState = .ok s1) :
    SInv G (autoOf T cert) inp s1 := by
  have hx0 : LexErr initState := ⟨fun _ _ _ _ he => Val.noConfusion he, fun hc => absurd rfl hc⟩
  refine ⟨init_Cov h, ⟨[], ?_⟩, readToken_LexErr hx0 h⟩
  rw [(readToken_frame h).stack]
  exact .base rfl rfl

theorem SInv.stackR (hc : SafeOK G nTerms nRules T cert) {inp : Array Nat} {s : PState}
    (hs : SInv G (autoOf T cert) inp s) : StackR cert s.stack := by
  obtain ⟨-, ⟨syms, hci⟩, -⟩ := hs
  refine ⟨?_, fun e he => hci.states_lt hc e he⟩
  cases hst : s.stack with
  | nil => exact absurd hst hci.ne_nil
  | cons e r => exact ⟨e.state, rfl⟩

/-- EOF sits under no shift entry of a state (`ActEntryOK.shift`): what `Cov` and `potential` need
of the tables, at the state on top. -/
theorem SInv.noShiftEOFAt (hc : SafeOK G nTerms nRules T cert) {inp : Array Nat} {s : PState}
    (hs : SInv G (autoOf T cert) inp s) : NoShiftEOFAt T s := by
  intro top a htop hf hacc hsh
  obtain ⟨top', htop', hin⟩ := (hs.stackR hc).top
  cases htop.symm.trans htop'
  exact ((act_entry hc hin hf).shift hacc hsh).1

theorem step_SInv (hc : SafeOK G nTerms nRules T cert) {inp : Array Nat} {wb : Bool} {fuel : Nat}
    {s s' : PState} (hs : SInv G (autoOf T cert) inp s) (h : step T inp wb fuel s = .cont s') :
    SInv G (autoOf T cert) inp s' := by
  refine ⟨step_Cov (hs.noShiftEOFAt hc) hs.cov h, ?_, step_LexErr hs.cov.pinv hs.lex h⟩
  obtain ⟨hcov, ⟨syms, hci⟩, -⟩ := hs
  cases step_cont h with
  | recover _ _ hr =>
    obtain ⟨e, s0, s1, st, -, h0, -, h1, hst, rfl, -⟩ := recover_ok hr
    obtain ⟨hsuf, e', rest, hst', -⟩ := searchStack_ok hst
    rw [(h0.trans h1).frame.stack] at hsuf
    exact hci.suffix (st' := st) hsuf (by rw [hst']; exact List.cons_ne_nil _ _)
  | @shift top action ti _ htop hf hacc hsh _ hr =>
    rw [(readToken_frame hr).stack]
    exact ⟨_, hci.shift hc hcov.pinv htop hf hacc hsh ti⟩
  | @reduce top action tc rule top' ns htop hf hacc hneg htc hru _ _ htop' hgo =>
    exact (hci.reduce hc hcov.pinv htop hf hacc hneg htc hru htop' hgo wb).1

theorem parseReach_SInv (hc : SafeOK G nTerms nRules T cert) {inp : Array Nat} {wb : Bool}
    {fuel : Nat} {s : PState} (h : ParseReach T inp wb fuel s) : SInv G (autoOf T cert) inp s := by
  obtain ⟨s1, h1, hr⟩ := h
  exact hr.inv (fun _ _ hp hs => step_SInv hc hp hs) (init_SInv h1)

/-- C09 `recoveries_bounded` on validated tables: `_recover()` returns `true` at most
`2 * |input| + 1` times along any run of `parse`, whatever the fuel. -/
theorem parseG_bound_safe (hc : SafeOK G nTerms nRules T cert) (inp : Array Nat) (wb : Bool)
    (fuel : Nat) : (parseG T inp wb fuel).2.2 ≤ 2 * inp.size + 1 :=
  parseG_bound_of (P := SInv G (autoOf T cert) inp) (fun _ h => init_SInv h)
    fun _ _ hs h => ⟨step_SInv hc hs h, step_potential (hs.noShiftEOFAt hc) h⟩

/-- `Abs.acc_inv` on the image of the stack, with the lookahead alone as the abstract input. -/
theorem CInv.accept (hc : SafeOK G nTerms nRules T cert) {inp : Array Nat} {s : PState}
    {syms : List Sym} (hci : CInv G (autoOf T cert) s.stack syms) (hp : PInv inp s)
    {top : Int} (htop : topState s.stack = some top)
    (hf : find T.actions top s.la = .hit acceptCode) :
    s.la = tEOF ∧ ∃ st0 v b bot, s.stack = [{ state := st0, sym := v, bounds := b }, bot] ∧
      bot.sym = .nil ∧ Der G [.n (startSym G)] (wordOf v) [v.toTree] := by
  obtain ⟨e, st, hst, -, -, hact⟩ := action_of_top hc hci hp htop hf
  rw [decodeAct_accept.mpr rfl] at hact
  have hstep := Abs.step_accept (G := G) (c := ⟨absStack s.stack, [leafNat s.lasym], []⟩)
    (hst ▸ List.cons_ne_nil _ _) hact
  obtain ⟨hder, hla, e', b', hstack, -⟩ :=
    Abs.acc_inv (safe_of_safeOK hc) hstep hci.stackInv_leaves
  have hlaE : s.la = tEOF := by
    have h0 := leafTy_nonneg hp.laok.1
    have : (leafTy s.lasym).toNat = 0 := hla
    rw [hp.laty]; show leafTy s.lasym = 0; omega
  obtain ⟨x, bot, hxb, -, -⟩ := Util.map_eq_pair hstack
  obtain ⟨eb, heb, -, hnil⟩ := hci.bottom
  obtain rfl : bot = eb := by simpa [hxb] using heb
  refine ⟨hlaE, x.state, x.sym, x.bounds, bot, hxb, hnil, ?_⟩
  simpa [hxb, stackLeaves, leavesL, hnil, leaves, wordOf, absStack] using hder

/-- C09 `accepted_edit_is_sentence` (`Props/C09`): when `parse` returns true, the symbols it consumed
(leaves of the value `v` on top, an `Error` read as the terminal 1 = `@error`) form a sentence with `v`
as derivation tree; `Cov` says they are the input tokens in order with stretches replaced by `Error`s. -/
theorem accepted_sentence (hc : SafeOK G nTerms nRules T cert) {inp : Array Nat} {wb : Bool}
    {fuel : Nat} (h : (parse T inp wb fuel).1 = .accept) :
    (parse T inp wb fuel).2.la = tEOF ∧
    ∃ st0 v b bot, (parse T inp wb fuel).2.stack = [{ state := st0, sym := v, bounds := b }, bot] ∧
      bot.sym = .nil ∧ stackLeaves (parse T inp wb fuel).2.stack = leaves v ∧
      Der G [.n (startSym G)] (wordOf v) [v.toTree] ∧ Cov inp (parse T inp wb fuel).2 := by
  obtain ⟨hreach, top, htop, hf⟩ := parse_accept_state h
  obtain ⟨hcov, ⟨syms, hci⟩, -⟩ := parseReach_SInv hc hreach
  obtain ⟨hla, st0, v, b, bot, hst, hnil, hder⟩ := hci.accept hc hcov.pinv htop hf
  refine ⟨hla, st0, v, b, bot, hst, hnil, ?_, hder, hcov⟩
  rw [hst, stackLeaves_cons, stackLeaves_cons, hnil]
  rfl

theorem accept_stack_no_err (hc : SafeOK G nTerms nRules T cert) {inp : Array Nat} {wb : Bool}
    {fuel : Nat} (h : (parse T inp wb fuel).1 = .accept) :
    ∀ e ∈ (parse T inp wb fuel).2.stack, e.sym.isErr = false := by
  obtain ⟨-, st0, v, b, bot, hst, hnil, -, hder, -⟩ := accepted_sentence hc h
  rw [hst]
  intro e he
  simp only [List.mem_cons, List.not_mem_nil, or_false] at he
  rcases he with rfl | rfl
  · obtain ⟨q, -, kids, rfl, -⟩ := hder.val_inv
    rfl
  · rw [hnil]; rfl

/-- C09 `error_delivered`: of the three places `parseG_ErrTrack` leaves for the injected `Error`, the
accepting state (EOF lookahead, stack `[⟨_, node⟩, bottom]`) excludes the lookahead and the stack. -/
theorem error_delivered (hc : SafeOK G nTerms nRules T cert) {inp : Array Nat} {wb : Bool}
    {fuel : Nat} (hacc : (parseG T inp wb fuel).1 = .accept)
    (hrec : 0 < (parseG T inp wb fuel).2.2) : Delivered (parseG T inp wb fuel).2.1.log := by
  have hacc' : (parse T inp wb fuel).1 = .accept := by rw [← parseG_fst]; exact hacc
  refine parseG_delivered_of hacc hrec ?_ ?_ <;> rw [parseG_snd]
  · rw [(accepted_sentence hc hacc').1]; decide
  · exact accept_stack_no_err hc hacc'

end

end Lox.LR.Rt
