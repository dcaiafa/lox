import Lox.Drv.Common
import Lox.LR.RuntimeDefs
/-! Driver op for the recovery checker (core Lean only; dispatched from `Main.lean`).

`lr.recovery_ok <nStates> | _rules | _termCounts | _actions | _goto`
  answer: `ok` if `Lox.LR.Rt.recoveryOKB T nStates` holds – the reduce simulation inside
  `_recover` (`state, ok = _Find(_goto, state, rule)` WITHOUT popping; a missing goto entry ends
  it) cannot loop from any of the `nStates` states: the canonical ranking `simChain` strictly
  decreases along every edge `simNext` – else `fail simulate-cycle state <k>` with the first state
  `k` whose edge does not decrease the ranking.
  Sound by `Lox.LR.Rt.parse_terminates_checked` (`Lox/LR/RuntimeSoundTerm.lean`): together with
  `check`/`checkSafe` and `termB` it gives termination of `parse` on every input. -/
namespace Lox.LR.Rt
open Lox.Drv

def parseArrI (s : String) : Option (Array Int) := (parseInts s).map List.toArray

/-- First state whose `simNext` edge does not decrease the canonical ranking. -/
def firstSimCycle (T : Tables) (nStates : Nat) : Option Nat :=
  (List.range nStates).find? fun k =>
    match simNext T (k : Int) with
    | some st' => !decide (simChain T (nStates + 1) st' < simChain T (nStates + 1) (k : Int))
    | none => false

def handleRecovery (op payload : String) : Option String :=
  match op with
  | "lr.recovery_ok" => do
    match payload.splitOn "|" with
    | [hd, rules, tcs, acts, gotos] =>
      let n ← match ← parseNats hd with
        | [n] => some n
        | _ => none
      let T : Tables := { rules := ← parseArrI rules, termCounts := ← parseArrI tcs,
                          actions := ← parseArrI acts, gotos := ← parseArrI gotos }
      if recoveryOKB T n then some "ok"
      else
        match firstSimCycle T n with
        | some k => some ("fail simulate-cycle state " ++ toString k)
        | none => some "fail simulate-cycle"
    | _ => none
  | _ => none

end Lox.LR.Rt
