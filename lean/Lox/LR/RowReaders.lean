import Lox.LR.Check
/-! The readers of an emitted table agree: on a row that the validator's reader `rowOf` accepts, `_Find` (`find`) is
first-match lookup in it and `rowKeys` lists its keys. -/
namespace Lox.LR

def lookRow (row : List (Int × Int)) (x : Int) : Look :=
  match lookupI x row with
  | some v => .hit v
  | none => .miss

theorem rowScan_succ_inv {tbl : Array Int} {n : Nat} {i stop : Int} {row : List (Int × Int)}
    (h : rowScan tbl (n + 1) i stop = some row) :
    (¬ i < stop ∧ row = []) ∨
      (i < stop ∧ ∃ k v r, geti tbl i = some k ∧ geti tbl (i + 1) = some v ∧
        rowScan tbl n (i + 2) stop = some r ∧ row = (k, v) :: r) := by
  simp only [rowScan] at h
  split at h
  · next hlt =>
    split at h
    · next k v hk hv =>
      obtain ⟨r, hr, rfl⟩ := Option.map_eq_some_iff.mp h
      exact .inr ⟨hlt, k, v, r, hk, hv, hr, rfl⟩
    · cases h
  · next hlt => cases h; exact .inl ⟨hlt, rfl⟩

theorem rowOf_inv {tbl : Array Int} {y : Int} {row} (h : rowOf tbl y = some row) :
    ∃ i count, geti tbl y = some i ∧ geti tbl i = some count ∧
      rowScan tbl (count.toNat + 1) (i + 1) (i + 1 + count) = some row := by
  simp only [rowOf] at h
  split at h
  · cases h
  · next i hy =>
    split at h
    · cases h
    · next count hc => exact ⟨i, count, hy, hc, h⟩

theorem findScan_eq (tbl : Array Int) (x : Int) :
    ∀ (n : Nat) (i stop : Int) (row : List (Int × Int)), rowScan tbl n i stop = some row →
      findScan tbl x n i stop = lookRow row x := by
  intro n
  induction n with
  | zero => intro i stop row h; cases h; rfl
  | succ n ih =>
    intro i stop row h
    rcases rowScan_succ_inv h with ⟨hlt, rfl⟩ | ⟨hlt, k, v, r, hk, hv, hr, rfl⟩
    · simp [findScan, hlt, lookRow, lookupI]
    · by_cases hkx : k = x <;> simp [findScan, hlt, hk, hv, hkx, lookRow, lookupI, ih _ _ _ hr]

theorem find_eq {tbl : Array Int} {y : Int} {row} (h : rowOf tbl y = some row) (x : Int) :
    find tbl y x = lookRow row x := by
  obtain ⟨i, count, hy, hc, hr⟩ := rowOf_inv h
  simp only [find, hy, hc]
  exact findScan_eq tbl x _ _ _ row hr

theorem find_hit_or_miss {tbl : Array Int} {y : Int} {row} (h : rowOf tbl y = some row) (x : Int) :
    (∃ v, find tbl y x = .hit v) ∨ find tbl y x = .miss := by
  rw [find_eq h, lookRow]
  cases lookupI x row with
  | none => exact .inr rfl
  | some v => exact .inl ⟨v, rfl⟩

theorem lookupI_mem {x v : Int} : ∀ {row : List (Int × Int)}, lookupI x row = some v →
    (x, v) ∈ row := by
  intro row
  induction row with
  | nil => simp [lookupI]
  | cons e r ih =>
    obtain ⟨k, w⟩ := e
    simp only [lookupI]
    by_cases hk : k = x
    · simp [hk]; intro h; exact Or.inl h.symm
    · simp [hk]; intro h; exact Or.inr (ih h)

theorem find_hit_mem {tbl : Array Int} {y : Int} {row} (h : rowOf tbl y = some row) {x v : Int}
    (hf : find tbl y x = .hit v) : (x, v) ∈ row := by
  rw [find_eq h] at hf
  simp only [lookRow] at hf
  cases hl : lookupI x row with
  | none => simp [hl] at hf
  | some v' =>
    simp [hl] at hf
    subst hf
    exact lookupI_mem hl

theorem rowKeysScan_of_rowScan (tbl : Array Int) :
    ∀ (n : Nat) (i stop : Int) (row : List (Int × Int)), rowScan tbl n i stop = some row →
      rowKeysScan tbl n i stop = some (row.map (·.1)) := by
  intro n
  induction n with
  | zero => intro i stop row h; cases h; rfl
  | succ n ih =>
    intro i stop row h
    rcases rowScan_succ_inv h with ⟨hlt, rfl⟩ | ⟨hlt, k, v, r, hk, hv, hr, rfl⟩
    · simp [rowKeysScan, hlt]
    · simp [rowKeysScan, hlt, hk, ih _ _ _ hr]

theorem rowKeys_of_rowOf {tbl : Array Int} {y : Int} {row} (h : rowOf tbl y = some row) :
    rowKeys tbl y = some (row.map (·.1)) := by
  obtain ⟨i, count, hy, hc, hr⟩ := rowOf_inv h
  simp only [rowKeys, hy, hc]
  exact rowKeysScan_of_rowScan tbl _ _ _ row hr

theorem geti_natCast (tbl : Array Int) (p : Nat) : geti tbl (p : Int) = tbl[p]? := by
  have : ¬ ((p : Int) < 0) := Int.not_lt.mpr (Int.natCast_nonneg p)
  simp [geti, this]

theorem geti_toArray (a : List Int) (n : Nat) : geti a.toArray (n : Int) = a[n]? := by
  rw [geti_natCast, List.getElem?_toArray]

theorem geti_neg (a : Array Int) (i : Int) (h : i < 0) : geti a i = none := by
  unfold geti
  simp [h]

end Lox.LR
