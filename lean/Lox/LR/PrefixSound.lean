import Lox.LR.LALRExact
import Lox.LR.RuntimeSoundFirst
/-! The correct-prefix property (C09): on tables that pass `check` and `justify`, for a productive
grammar, whatever the LR machine has consumed is a prefix of a sentence. Grammar level
(`LR0Item.extends`), abstract machine (`Abs.consumed_viable`), concrete `parse`
(`Rt.consumed_viable`, `Rt.first_error_token_of_justified`, on `Rt.PlainReach.consumed`). Theorems:
`Lox/Props/C09_prefix.lean`. -/
namespace Lox.LR

theorem LR0Item.prod_exists {G : Grammar} (h0 : ∃ S', G.prods[0]? = some ⟨S', [.n (startSym G)]⟩)
    {γ : List Sym} {p d : Nat} (h : LR0Item G γ p d) : ∃ pr, G.prods[p]? = some pr := by
  cases h with
  | start => obtain ⟨S', h⟩ := h0; exact ⟨_, h⟩
  | goto _ hp _ => exact ⟨_, hp⟩
  | closure _ _ _ hq _ => exact ⟨_, hq⟩

/-- `extends`, loaded for the induction on `LR0Item`: the rest of `rhs p` behind the dot comes with a
word `x` it derives. In the `closure` case `Productive` supplies the word behind the dot of the outer
item. -/
theorem LR0Item.completable {G : Grammar} (hprod : Productive G)
    (h0 : ∃ S', G.prods[0]? = some ⟨S', [.n (startSym G)]⟩) {γ : List Sym} {p d : Nat}
    (h : LR0Item G γ p d) : ∀ pr, G.prods[p]? = some pr → ∀ u tsu x tsx, Der G γ u tsu →
      Der G (pr.rhs.drop d) x tsx → ∃ v t, Der G [.n (startSym G)] (u ++ x ++ v) [t] := by
  induction h with
  | start =>
    intro pr hp u tsu x tsx hu hx
    obtain ⟨S', h⟩ := h0
    rw [h] at hp
    cases hp
    cases hu
    obtain ⟨t, rfl⟩ := Der.one_inv (X := .n (startSym G)) hx
    exact ⟨[], t, by simpa using hx⟩
  | @goto γ p d pr' X _ hp' hX ih =>
    intro pr hp u tsu x tsx hu hx
    rw [hp'] at hp
    cases hp
    obtain ⟨u1, u2, t1, t2, rfl, h1, h2⟩ := Der.append_inv γ hu
    have hdrop : pr'.rhs.drop d = X :: pr'.rhs.drop (d + 1) := by
      rw [List.drop_eq_getElem?_toList_append, hX]; rfl
    have hx' : Der G (pr'.rhs.drop d) (u2 ++ x) (t2 ++ tsx) := by
      rw [hdrop]
      have := Der.append h2 hx
      simpa using this
    obtain ⟨v, t, hd⟩ := ih pr' hp' u1 t1 _ _ h1 hx'
    exact ⟨v, t, by simpa [List.append_assoc] using hd⟩
  | @closure γ p d pr' B q qr _ hp' hX hq hl ih =>
    intro pr hp u tsu x tsx hu hx
    rw [hq] at hp
    cases hp
    simp only [List.drop_zero] at hx
    have hB : Der G [.n qr.lhs] x [.node q tsx] := Der.single hq hx
    obtain ⟨y, tsy, hy⟩ := hprod.der_drop hp' (d + 1)
    have hdrop : pr'.rhs.drop d = .n qr.lhs :: pr'.rhs.drop (d + 1) := by
      rw [List.drop_eq_getElem?_toList_append, hX, hl]; rfl
    have hx' : Der G (pr'.rhs.drop d) (x ++ y) ([.node q tsx] ++ tsy) := by
      rw [hdrop]
      have := Der.append hB hy
      simpa using this
    obtain ⟨v, t, hd⟩ := ih pr' hp' u tsu _ _ hu hx'
    exact ⟨y ++ v, t, by simpa [List.append_assoc] using hd⟩

/-- A viable prefix (`γ` with a valid LR(0) item) of a productive grammar extends to a sentence. -/
theorem LR0Item.extends {G : Grammar} (hprod : Productive G)
    (h0 : ∃ S', G.prods[0]? = some ⟨S', [.n (startSym G)]⟩) {γ : List Sym} {p d : Nat}
    (h : LR0Item G γ p d) {u : List Nat} {tsu : List Tree} (hu : Der G γ u tsu) :
    ∃ v t, Der G [.n (startSym G)] (u ++ v) [t] := by
  obtain ⟨pr, hp⟩ := h.prod_exists h0
  obtain ⟨x, tsx, hx⟩ := hprod.der_drop hp d
  obtain ⟨v, t, hd⟩ := h.completable hprod h0 pr hp u tsu x tsx hu hx
  exact ⟨x ++ v, t, by simpa [List.append_assoc] using hd⟩

namespace Abs

theorem StackInv.path {G : Grammar} {A : Auto} {st : List Entry} {syms : List Sym} {w : List Nat}
    (h : StackInv G A st syms w) : Path A 0 syms.reverse (topState st) := by
  induction h with
  | base v0 => exact .nil 0
  | @push e st syms w X s' u v _ htr _ ih =>
    have : Path A 0 (syms.reverse ++ [X]) s' := .snoc (by simpa using ih) htr
    simpa using this

theorem StackInv.der {G : Grammar} {A : Auto} {st : List Entry} {syms : List Sym} {w : List Nat}
    (h : StackInv G A st syms w) : ∃ ts, Der G syms.reverse w ts := by
  induction h with
  | base v0 => exact ⟨[], .nil⟩
  | push _ _ hder ih =>
    obtain ⟨ts, hd⟩ := ih
    exact ⟨_, by simpa using Der.append hd hder⟩

/-- The accessing symbols spell a path from state 0 (`StackInv.path`), the top state holds an item
(`Path.items_nonempty`), and its core is valid for that path (`core_valid`): `LR0Item.extends`. -/
theorem consumed_viable {G : Grammar} {A : Auto} (hc : Closed G A) (hs : Safe G A)
    (hj : ∀ s it, it ∈ A.items s → Justd G A s it) (he : EdgesBacked G A) (hprod : Productive G)
    {st : List Entry} {syms : List Sym} {u : List Nat} (h : StackInv G A st syms u) :
    ∃ v t, Der G [.n (startSym G)] (u ++ v) [t] := by
  obtain ⟨it, hit⟩ := h.path.items_nonempty hc he
  have hlr0 := core_valid hs hj h.path it hit
  obtain ⟨ts, hd⟩ := h.der
  exact hlr0.extends hprod hs.prod0 hd

theorem correct_prefix {G : Grammar} {A : Auto} (hc : Closed G A) (hs : Safe G A)
    (hj : ∀ s it, it ∈ A.items s → Justd G A s it) (he : EdgesBacked G A) (hprod : Productive G)
    {w : List Nat} {c : Config} (h : Reaches G A (init w) c) :
    ∃ u, w = u ++ c.input ∧ ∃ v t, Der G [.n (startSym G)] (u ++ v) [t] := by
  obtain ⟨syms, u, hinv, hin⟩ := reaches_inv hs h (StackInv.base (G := G) (A := A) (.leaf 0))
  exact ⟨u, by simpa [init] using hin, consumed_viable hc hs hj he hprod (by simpa using hinv)⟩

end Abs

namespace Rt
open Lox.LR.Abs (StackInv)

section
variable {G : Grammar} {nTerms nRules : Nat} {T : Tables} {cert : Array (List Item)}

/-- C09 `consumed_symbols_viable`: the consumed symbols extend to a sentence in every state `parse`
can be in at the top of its loop, also after recoveries (ERROR is then an ordinary terminal of `G`). -/
theorem consumed_viable (hck : CheckOK G nTerms nRules T cert) (hjo : JustifyOK G T cert)
    (hprod : Productive G) {inp : Array Nat} {wb : Bool} {fuel : Nat} {s : PState}
    (h : ParseReach T inp wb fuel s) :
    ∃ v t, Der G [.n (startSym G)] ((stackLeaves s.stack).map leafNat ++ v) [t] := by
  obtain ⟨-, ⟨syms, hci⟩, -⟩ := parseReach_SInv hck.toSafeOK h
  exact Abs.consumed_viable (closed_of_checkOK hck) (safe_of_checkOK hck) hjo.justd hjo.edges hprod
    hci.stackInv_leaves

/-- `JustifyOK`, `Productive` rather than `justify … = .ok ()`, `productiveB`: `Lox/Props/C09_e2e.lean`
has them without running a validator. -/
theorem abs_correct_prefix_of_justified (hc : check G nTerms nRules T cert = .ok ())
    (hjo : JustifyOK G T cert) (hprod : Productive G) {w : List Nat} {c : Abs.Config}
    (h : Abs.Reaches G (autoOf T cert) (Abs.init w) c) :
    ∃ u, w = u ++ c.input ∧ ∃ v t, Der G [.n (startSym G)] (u ++ v) [t] :=
  have hck := check_spec hc
  Abs.correct_prefix (closed_of_checkOK hck) (safe_of_checkOK hck) hjo.justd hjo.edges hprod h

theorem abs_error_detection_of_justified (hc : check G nTerms nRules T cert = .ok ())
    (hjo : JustifyOK G T cert) (hprod : Productive G) {w : List Nat} {c : Abs.Config}
    (h : Abs.Reaches G (autoOf T cert) (Abs.init w) c)
    (hfail : Abs.step G (autoOf T cert) c = .fail) :
    ∃ u, w = u ++ c.input ∧ (∃ v t, Der G [.n (startSym G)] (u ++ v) [t]) ∧
      ∀ w' t, Der G [.n (startSym G)] w' [t] → ¬ (u ++ [Abs.la c.input]) <+: (w' ++ [eof]) := by
  obtain ⟨u, hu, hvia⟩ := abs_correct_prefix_of_justified hc hjo hprod h
  obtain ⟨u', hu', hneg⟩ :=
    Abs.error_not_prefix (check_sound hc).1 (check_sound hc).2.2 (check_sound hc).2.1 h hfail
  obtain rfl : u' = u := List.append_cancel_right (hu'.symm.trans hu)
  exact ⟨u', hu, hvia, hneg⟩

/-- `Lox.Props.C09.first_error_token`, with the hypotheses in the form of
`abs_correct_prefix_of_justified`. -/
theorem first_error_token_of_justified (hc : check G nTerms nRules T cert = .ok ())
    (hjo : JustifyOK G T cert) (hprod : Productive G)
    {inp : Array Nat} {wb : Bool} {fuel : Nat} {s1 s s' : PState}
    (hinp1 : ∀ i : Nat, inp[i]? ≠ some 1)
    (h1 : readToken T inp initState = .ok s1) (hreach : PlainReach T inp wb fuel s1 s)
    (hrec : isRecoverStep T s = true) (hstep : step T inp wb fuel s = .cont s') :
    (∃ i ty ex, s'.lasym = .err i ty ex ∧ s'.la = tERROR ∧ s.lasym = .tok i ty ∧
      lidx s.lasym = i ∧ (stackLeaves s.stack).map leafNat = inp.toList.take i) ∧
    (∃ v t, Der G [.n (startSym G)] (inp.toList.take (lidx s.lasym) ++ v) [t]) ∧
    (∀ (w : List Nat) (t : Tree), Der G [.n (startSym G)] w [t] →
      ¬ ∀ i, i ≤ lidx s.lasym → inp[i]? = w.toArray[i]?) := by
  have hck := check_spec hc
  obtain ⟨⟨i, ty, ex, hsym, hla, -, hcase⟩, herr⟩ := first_error_runtime h1 hreach hrec hstep
  have hcons := (hreach.consumed hck.toSafeOK h1).2.2.2
  have hvia : ∃ v t, Der G [.n (startSym G)] (inp.toList.take (lidx s.lasym) ++ v) [t] := by
    rw [← hcons]
    exact consumed_viable hck hjo hprod ⟨s1, h1, hreach.reach⟩
  -- the lookahead of `s` is a `Token`: there is no lexer ERROR in the input
  have hl : s.lasym = .tok i ty := by
    rcases hcase with h | h
    · have := herr.1
      rw [h] at this
      cases lexErrAt_false hinp1 i this
    · exact h
  have hlidx : lidx s.lasym = i := by rw [hl]; rfl
  refine ⟨⟨i, ty, ex, hsym, hla, hl, hlidx, by rw [← hlidx]; exact hcons⟩, hvia, fun w t hd => ?_⟩
  exact first_error_not_prefix (check_sound hc).1 (check_sound hc).2.2 hck.toSafeOK h1 hreach hrec hd

end
end Rt
end Lox.LR
