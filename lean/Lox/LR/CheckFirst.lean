import Lox.LR.Check
import Lox.LR.FirstTheory
/-! The validator's own nullable / FIRST table (`FirstTab`, `firstFix`, `closedB` of `Check`) as an
instance of `FirstTheory`. `check` treats `firstFix` as untrusted and re-checks `closedB`, from which
`first_complete` gives all it relies on; `firstFix_sound` and `firstFix_closed` show that the
generator's tables always pass that part of `check`. The fuel `nRules·(nTerms+2)+2` suffices because
every round that reports a change adds a nullable flag or a terminal to a FIRST list, and there are
at most `nRules·(nTerms+1)` of those. -/
namespace Lox.LR

def viewF (F : FirstTab) : Gen.FView := ⟨fun B x => x ∈ F.firstNT B, fun B => F.nullB B = true⟩

theorem nullSeq_view (F : FirstTab) : ∀ α : List Sym, nullSeq F α = true ↔ (viewF F).NulSeq α
  | [] => ⟨fun _ => trivial, fun _ => rfl⟩
  | .t _ :: _ => ⟨fun h => (nomatch h), False.elim⟩
  | .n B :: r => by rw [nullSeq, Bool.and_eq_true, nullSeq_view F r]; rfl

theorem mem_firstSeq_view (F : FirstTab) : ∀ (α : List Sym) (x : Nat),
    x ∈ firstSeq F α ↔ (viewF F).FstSeq α x
  | [], _ => ⟨fun h => (nomatch h), False.elim⟩
  | .t _ :: _, _ => List.mem_singleton
  | .n B :: r, x => by
    rw [firstSeq, List.mem_append, Gen.FView.FstSeq, ← mem_firstSeq_view F r]
    refine or_congr .rfl ?_
    by_cases hB : F.nullB B = true
    · rw [if_pos hB]; exact (and_iff_right hB).symm
    · rw [if_neg hB]; exact ⟨fun h => (nomatch h), fun h => absurd h.1 hB⟩

theorem mem_firstOf {F : FirstTab} {α : List Sym} {a b : Nat} :
    b ∈ firstOf F α a ↔ (viewF F).FstSeq α b ∨ ((viewF F).NulSeq α ∧ b = a) := by
  rw [firstOf, List.mem_append, mem_firstSeq_view, ← nullSeq_view]
  refine or_congr .rfl ?_
  by_cases h : nullSeq F α = true
  · rw [if_pos h, List.mem_singleton]; exact (and_iff_right h).symm
  · rw [if_neg h]; exact ⟨fun h => (nomatch h), fun h' => absurd h'.1 h⟩

theorem closedB_iff {G : Grammar} {F : FirstTab} : closedB G F = true ↔ (viewF F).Holds G := by
  simp only [closedB, List.all_eq_true, Bool.and_eq_true, Bool.or_eq_true, Bool.not_eq_true',
    decide_eq_true_eq, Gen.FView.Holds, ← mem_firstSeq_view, ← nullSeq_view]
  refine forall₂_congr fun pr _ => ?_
  rw [and_comm]
  refine and_congr .rfl ?_
  cases nullSeq F pr.rhs <;> simp [viewF]

theorem first_complete {G : Grammar} {F : FirstTab} (hc : closedB G F = true) {α : List Sym}
    {a b : Nat} (h : First G α a b) : b ∈ firstOf F α a :=
  have hh := (closedB_iff.mp hc).complete α
  mem_firstOf.mpr ((Gen.first_iff.mp h).imp (hh.1 b) (.imp_left hh.2))

theorem closed_firstOK {G : Grammar} {F : FirstTab} (hc : closedB G F = true) :
    FirstOK G (firstOf F) :=
  ⟨fun a hd => first_complete hc (First.of_der a hd)⟩

end Lox.LR

namespace Lox.LR.FixFirst
open Lox.LR Lox.LR.Gen

/-- `nullStep`, then `firstStep`: the two halves of the body of the fold in `firstRound`
(`firstRound_eq`). -/
def nullStep (F : FirstTab) (pr : Prod) : FirstTab × Bool :=
  if nullSeq F pr.rhs && !F.nullB pr.lhs then
    ({ F with nullable := F.nullable.setIfInBounds pr.lhs true }, true)
  else (F, false)

def addOf (F : FirstTab) (pr : Prod) : List Nat :=
  ((firstSeq F pr.rhs).filter fun x => !(F.firstNT pr.lhs).contains x).eraseDups

def firstStep (F : FirstTab) (pr : Prod) : FirstTab × Bool :=
  if (addOf F pr).isEmpty then (F, false)
  else ({ F with first := F.first.modify pr.lhs (· ++ addOf F pr) }, true)

def stepF (Fc : FirstTab × Bool) (pr : Prod) : FirstTab × Bool :=
  ((firstStep (nullStep Fc.1 pr).1 pr).1,
    Fc.2 || (nullStep Fc.1 pr).2 || (firstStep (nullStep Fc.1 pr).1 pr).2)

theorem firstRound_eq (G : Grammar) (F : FirstTab) :
    firstRound G F = G.prods.toList.foldl stepF (F, false) := by
  unfold firstRound
  rw [Array.foldl_toList]
  congr 1
  funext Fc pr
  obtain ⟨F, ch⟩ := Fc
  simp only [stepF, nullStep, firstStep, addOf]
  by_cases h1 : (nullSeq F pr.rhs && !F.nullB pr.lhs) = true
  · simp only [h1, if_true]
    split <;> simp only [Bool.or_true, Bool.or_false]
  · simp only [h1, Bool.false_eq_true, if_false]
    split <;> simp only [Bool.or_true, Bool.or_false]

theorem nullB_set (F : FirstTab) (i B : Nat) :
    FirstTab.nullB { F with nullable := F.nullable.setIfInBounds i true } B =
      if i = B ∧ i < F.nullable.size then true else F.nullB B := by
  simp only [FirstTab.nullB, Array.getElem?_setIfInBounds]
  by_cases h : i = B
  · subst h
    by_cases h2 : i < F.nullable.size
    · simp [h2]
    · simp [h2]
  · simp [h]

theorem firstNT_set (F : FirstTab) (v : Array Bool) (B : Nat) :
    FirstTab.firstNT { F with nullable := v } B = F.firstNT B := rfl

theorem nullB_modify (F : FirstTab) (v : Array (List Nat)) (B : Nat) :
    FirstTab.nullB { F with first := v } B = F.nullB B := rfl

theorem firstNT_modify (F : FirstTab) (i : Nat) (add : List Nat) (B : Nat) :
    FirstTab.firstNT { F with first := F.first.modify i (· ++ add) } B =
      if i = B ∧ i < F.first.size then F.firstNT B ++ add else F.firstNT B := by
  simp only [FirstTab.firstNT, Array.getElem?_modify]
  by_cases h : i = B
  · subst h
    by_cases h2 : i < F.first.size
    · simp [h2]
    · simp [h2]
  · simp [h]

theorem firstIter_eq (G : Grammar) : ∀ (n : Nat) (F : FirstTab),
    firstIter G n F = (fixIter (firstRound G) n F).1
  | 0, _ => rfl
  | n + 1, F => by
    rw [firstIter, fixIter]
    rcases firstRound G F with ⟨F', _ | _⟩
    · rfl
    · exact firstIter_eq G n F'

theorem view_init (nR : Nat) :
    viewF { nullable := Array.replicate nR false, first := Array.replicate nR [] } =
      ⟨fun _ _ => False, fun _ => False⟩ := by
  simp only [viewF, FirstTab.firstNT, FirstTab.nullB, Array.getElem?_replicate]
  congr 1
  · funext B x; split <;> simp
  · funext B; split <;> simp

section
variable {G : Grammar}

def SoundF (G : Grammar) (F : FirstTab) : Prop := (viewF F).Sound G

theorem nullStep_sound {F : FirstTab} (hF : SoundF G F) {q : Nat} {pr : Prod}
    (hq : G.prods[q]? = some pr) : SoundF G (nullStep F pr).1 := by
  unfold nullStep
  split
  · next h =>
    refine hF.add hq (fun B x hx => .inl hx) fun B hB => ?_
    simp only [viewF, nullB_set] at hB
    split at hB
    · next hc => exact .inr ⟨hc.1.symm, (nullSeq_view F _).mp (Bool.and_eq_true _ _ ▸ h).1⟩
    · exact .inl hB
  · exact hF

theorem mem_addOf {F : FirstTab} {pr : Prod} {x : Nat} :
    x ∈ addOf F pr ↔ x ∈ firstSeq F pr.rhs ∧ x ∉ F.firstNT pr.lhs := by
  unfold addOf
  rw [List.mem_eraseDups, List.mem_filter]
  simp

theorem firstStep_sound {F : FirstTab} (hF : SoundF G F) {q : Nat} {pr : Prod}
    (hq : G.prods[q]? = some pr) : SoundF G (firstStep F pr).1 := by
  unfold firstStep
  split
  · exact hF
  · refine hF.add hq (fun B x hx => ?_) fun B hB => .inl hB
    simp only [viewF, firstNT_modify] at hx
    split at hx
    · next hc =>
      exact (List.mem_append.mp hx).imp_right fun h =>
        ⟨hc.1.symm, (mem_firstSeq_view F _ x).mp (mem_addOf.mp h).1⟩
    · exact .inl hx

theorem firstRound_sound {F : FirstTab} (hF : SoundF G F) : SoundF G (firstRound G F).1 := by
  rw [firstRound_eq]
  exact List.foldlRecOn (motive := fun (Fc : FirstTab × Bool) => SoundF G Fc.1) _ _ hF fun Fc h pr hpr =>
    let ⟨_, hq⟩ := Util.mem_toList_iff_getElem?.mp hpr
    firstStep_sound (nullStep_sound h hq) hq

theorem firstFix_soundF (G : Grammar) (nTerms nRules : Nat) : SoundF G (firstFix G nTerms nRules) := by
  rw [firstFix, firstIter_eq]
  refine fixIter_induction (SoundF G) (fun _ => firstRound_sound) _ ?_
  rw [SoundF, view_init]
  exact fun B => ⟨fun _ => False.elim, False.elim⟩

theorem firstFix_sound (G : Grammar) (nTerms nRules : Nat) {α : List Sym} {a b : Nat}
    (h : b ∈ firstOf (firstFix G nTerms nRules) α a) : First G α a b :=
  have hs := (firstFix_soundF G nTerms nRules).seq α
  first_iff.mpr ((mem_firstOf.mp h).imp (hs.1 b) (.imp_left hs.2))

end

def esz (F : FirstTab) (B : Nat) : Nat := (F.firstNT B).length + (F.nullB B).toNat

def mu (nR : Nat) (F : FirstTab) : Nat := Util.msum (esz F) nR

structure WfF (nT nR : Nat) (F : FirstTab) : Prop where
  szN : F.nullable.size = nR
  szF : F.first.size = nR
  nodup : ∀ B, (F.firstNT B).Nodup
  below : ∀ B, ∀ x ∈ F.firstNT B, x < nT

theorem nodup_eraseDups : ∀ (n : Nat) (l : List Nat), l.length ≤ n → l.eraseDups.Nodup
  | 0, l, h => by
    have : l = [] := List.eq_nil_of_length_eq_zero (by omega)
    subst this; simp
  | n + 1, [], _ => by simp
  | n + 1, a :: l, h => by
    rw [List.eraseDups_cons, List.nodup_cons]
    constructor
    · intro hm
      rw [List.mem_eraseDups, List.mem_filter] at hm
      simp at hm
    · apply nodup_eraseDups n
      have := List.length_filter_le (fun b => !b == a) l
      simp only [List.length_cons] at h
      omega

theorem esz_le {nT nR : Nat} {F : FirstTab} (hw : WfF nT nR F) (B : Nat) : esz F B ≤ nT + 1 := by
  unfold esz
  have := Util.length_le_of_nodup_lt (hw.nodup B) (hw.below B)
  have := Bool.toNat_le (F.nullB B)
  omega
/-- What `prodsB` demands of the grammar. -/
def SymsInRange (G : Grammar) (nT nR : Nat) : Prop :=
  ∀ pr ∈ G.prods.toList, pr.lhs < nR ∧ ∀ s ∈ pr.rhs, match s with
    | .t x => x < nT
    | .n B => B < nR

section
variable {nT nR : Nat}

theorem nullStep_grows {F : FirstTab} (hw : WfF nT nR F) {pr : Prod} (hl : pr.lhs < nR) (c : Bool) :
    Grows (WfF nT nR) (mu nR) (fun F => (viewF F).NulSeq pr.rhs → (viewF F).nul pr.lhs) (F, c)
      ((nullStep F pr).1, c || (nullStep F pr).2) := by
  unfold nullStep
  split
  · next h =>
    simp only [Bool.and_eq_true, Bool.not_eq_true'] at h
    refine .step ⟨by simp [hw.szN], hw.szF, hw.nodup, hw.below⟩ (fun B => ?_) hl (fun _ => ?_) nofun
    · simp only [esz, nullB_set, firstNT_set]
      split
      · exact Nat.add_le_add_left (Bool.toNat_le _) _
      · exact Nat.le_refl _
    · simp only [esz, nullB_set, firstNT_set, h.2, hw.szN, hl]
      simp
  · next h =>
    refine .step hw (fun _ => Nat.le_refl _) hl nofun fun _ => ⟨rfl, fun hn => ?_⟩
    simp only [Bool.and_eq_true, Bool.not_eq_true', not_and, Bool.not_eq_false] at h
    exact h ((nullSeq_view F _).mpr hn)

theorem firstStep_grows {F : FirstTab} (hw : WfF nT nR F) {pr : Prod} (hl : pr.lhs < nR)
    (hr : ∀ a, Sym.t a ∈ pr.rhs → a < nT) (c : Bool) :
    Grows (WfF nT nR) (mu nR) (fun F => ∀ x, (viewF F).FstSeq pr.rhs x → (viewF F).fst pr.lhs x) (F, c)
      ((firstStep F pr).1, c || (firstStep F pr).2) := by
  unfold firstStep
  split
  · next h =>
    refine .step hw (fun _ => Nat.le_refl _) hl nofun fun _ => ⟨rfl, fun x hx => ?_⟩
    show x ∈ F.firstNT pr.lhs
    apply Decidable.by_contra
    intro hm
    have : x ∈ addOf F pr := mem_addOf.mpr ⟨(mem_firstSeq_view F _ x).mpr hx, hm⟩
    rw [List.isEmpty_iff.mp h] at this
    cases this
  · next h =>
    have hne : addOf F pr ≠ [] := fun e => h (e ▸ rfl)
    refine .step ⟨hw.szN, by simp [hw.szF], fun B => ?_, fun B x hx => ?_⟩ (fun B => ?_) hl
      (fun _ => ?_) nofun
    · rw [firstNT_modify]
      split
      · next hc =>
        refine List.nodup_append.mpr ⟨hw.nodup B, nodup_eraseDups _ _ (Nat.le_refl _), ?_⟩
        rintro x hx y hy rfl
        exact (mem_addOf.mp hy).2 (hc.1 ▸ hx)
      · exact hw.nodup B
    · rw [firstNT_modify] at hx
      split at hx
      · rcases List.mem_append.mp hx with h1 | h1
        · exact hw.below B x h1
        · exact FView.fstSeq_below (V := viewF F) hw.below hr x
            ((mem_firstSeq_view F _ x).mp (mem_addOf.mp h1).1)
      · exact hw.below B x hx
    · simp only [esz, firstNT_modify, nullB_modify]
      split
      · rw [List.length_append]
        exact Nat.add_le_add_right (Nat.le_add_right _ _) _
      · exact Nat.le_refl _
    · simp only [esz, firstNT_modify, nullB_modify, hw.szF, hl, and_self, if_true,
        List.length_append]
      exact Nat.add_lt_add_right (Nat.lt_add_of_pos_right (List.length_pos_iff.mpr hne)) _

theorem firstRound_grows {G : Grammar} (hG : SymsInRange G nT nR) {F : FirstTab}
    (hw : WfF nT nR F) :
    Grows (WfF nT nR) (mu nR) (fun F => closedB G F = true) (F, false) (firstRound G F) := by
  rw [firstRound_eq]
  refine (Grows.foldl (P := fun (pr : Prod) F =>
      ((viewF F).NulSeq pr.rhs → (viewF F).nul pr.lhs) ∧
        ∀ x, (viewF F).FstSeq pr.rhs x → (viewF F).fst pr.lhs x) G.prods.toList (F, false) hw
    fun pr hpr a ha => ?_).mono fun F h => closedB_iff.mpr fun pr hpr => (h pr hpr).symm
  have h1 := nullStep_grows ha (hG pr hpr).1 a.2
  exact h1.trans (firstStep_grows h1.inv (hG pr hpr).1 (fun a ha => (hG pr hpr).2 (.t a) ha) _)

theorem firstFix_closed {G : Grammar} (hG : SymsInRange G nT nR) :
    closedB G (firstFix G nT nR) = true := by
  rw [firstFix, firstIter_eq]
  refine (fixIter_spec (fun _ => firstRound_grows hG) (fun F hF => Util.msum_bound fun B _ => esz_le hF B)
    _ _ ⟨by simp, by simp, fun B => ?_, fun B x hx => ?_⟩ ?_).2.2.1
  · simp only [FirstTab.firstNT, Array.getElem?_replicate]
    split <;> simp
  · simp only [FirstTab.firstNT, Array.getElem?_replicate] at hx
    split at hx <;> simp at hx
  · have e : nR * (nT + 2) = nR * (nT + 1) + nR := by
      rw [show nT + 2 = (nT + 1) + 1 from rfl, Nat.mul_succ]
    omega

end

end Lox.LR.FixFirst
