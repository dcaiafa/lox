import Lox.LR.RuntimeProofs
/-! C16-1: erasing `_Bounds`/`_onBounds` commutes with the whole runtime ("its presence changes
nothing else about the parse"). -/
namespace Lox.LR.Rt

theorem topState_map_eraseB (st : List Entry) : topState (st.map Entry.eraseB) = topState st := by
  cases st <;> rfl

theorem makeError_eraseB (T : Tables) (s : PState) : makeError T (eraseB s) = makeError T s := by
  unfold makeError
  simp only [eraseB, topState_map_eraseB]

theorem afterLex_eraseB (inp : Array Nat) (s : PState) :
    afterLex inp (eraseB s) = eraseB (afterLex inp s) := rfl

theorem readToken_eraseB (T : Tables) (inp : Array Nat) (s : PState) :
    readToken T inp (eraseB s) = (readToken T inp s).map eraseB := by
  rw [readToken_eq, readToken_eq]
  show (if s.qla ≠ -1 then _ else if (lexRead inp s.pos).2 = tERROR then _ else _) = _
  split
  · rfl
  · split
    · rw [afterLex_eraseB, makeError_eraseB]
      cases makeError T (afterLex inp s) <;> rfl
    · rfl

theorem searchStack_eraseB (T : Tables) (la : Int) (fuel : Nat) : ∀ (st : List Entry),
    searchStack T la fuel (st.map Entry.eraseB) =
      (searchStack T la fuel st).map (Option.map (List.map Entry.eraseB))
  | [] => rfl
  | e :: rest => by
    simp only [List.map_cons, searchStack]
    have he : e.eraseB.state = e.state := rfl
    rw [he]
    cases simulate T la fuel e.state with
    | found => rfl
    | notFound => exact searchStack_eraseB T la fuel rest
    | oob => rfl
    | timeout => rfl

theorem errSymOf_eraseB (T : Tables) (s : PState) : errSymOf T (eraseB s) = errSymOf T s := by
  unfold errSymOf
  rw [makeError_eraseB]
  rfl

theorem readLoop_eraseB {T : Tables} {inp : Array Nat} {stop stop' : PState → Option Rec}
    (h : ∀ s, stop' (eraseB s) = (stop s).map (Rec.mapS eraseB)) : ∀ (n : Nat) (s : PState),
    readLoop T inp stop' n (eraseB s) = (readLoop T inp stop n s).mapS eraseB
  | 0, _ => rfl
  | n + 1, s => by
    unfold readLoop
    rw [h, readToken_eraseB]
    cases stop s with
    | some r => rfl
    | none =>
      cases readToken T inp s with
      | error w => rfl
      | ok s1 => exact readLoop_eraseB h n s1

theorem skipStop_eraseB {k k' : PState → Rec} (h : ∀ s, k' (eraseB s) = (k s).mapS eraseB)
    (s : PState) : skipStop k' (eraseB s) = (skipStop k s).map (Rec.mapS eraseB) := by
  unfold skipStop
  show (if s.la = tERROR then _ else _) = _
  split
  · rfl
  · exact congrArg some (h s)

theorem searchStop_eraseB (T : Tables) (e : Val) (fuel : Nat) (s : PState) :
    searchStop T e fuel (eraseB s) = (searchStop T e fuel s).map (Rec.mapS eraseB) := by
  unfold searchStop
  show (match searchStack T s.la fuel (s.stack.map Entry.eraseB) with
    | .error "TIMEOUT" => _ | .error w => _ | .ok (some st) => _ | .ok none => _) = _
  rw [searchStack_eraseB]
  cases searchStack T s.la fuel s.stack with
  | error w => simp only [Except.map]; split <;> simp_all [Rec.mapS]
  | ok o =>
    cases o with
    | some st => rfl
    | none =>
      show (if s.la = tEOF then _ else _) = Option.map _ (if s.la = tEOF then _ else _)
      split <;> rfl

theorem dropThen_eraseB {T : Tables} {inp : Array Nat} {fuel : Nat} {k k' : PState → Rec}
    (h : ∀ s, k' (eraseB s) = (k s).mapS eraseB) (s : PState) :
    dropThen T inp fuel k' (eraseB s) = (dropThen T inp fuel k s).mapS eraseB := by
  unfold dropThen
  show (if s.recovering = true then if s.la = tEOF then _ else _ else _) = _
  rw [readToken_eraseB, h]
  split
  · split
    · rfl
    · cases readToken T inp s with
      | error w => rfl
      | ok s2 => exact readLoop_eraseB (skipStop_eraseB h) fuel s2
  · rfl

theorem recover_eraseB (T : Tables) (inp : Array Nat) (fuel : Nat) (s : PState) :
    recover T inp fuel (eraseB s) = (recover T inp fuel s).mapS eraseB := by
  rw [recover_eq, recover_eq, errSymOf_eraseB]
  cases errSymOf T s with
  | error w => rfl
  | ok e =>
    exact readLoop_eraseB (skipStop_eraseB (dropThen_eraseB
      (readLoop_eraseB (searchStop_eraseB T e fuel) fuel))) fuel s

theorem eraseB_idem (s : PState) : eraseB (eraseB s) = eraseB s := by
  simp only [eraseB, List.map_map, List.filter_filter, Bool.and_self]
  rfl

theorem shiftTail_congr (T : Tables) (inp : Array Nat) {sL sR : PState}
    (h : eraseB sL = eraseB sR) :
    StepR.mapS eraseB (match readToken T inp sL with
      | .error w => .done (.panic w) sL
      | .ok s2 => .cont s2) =
    StepR.mapS eraseB (match readToken T inp sR with
      | .error w => .done (.panic w) sR
      | .ok s2 => .cont s2) := by
  have hR : (readToken T inp sL).map eraseB = (readToken T inp sR).map eraseB := by
    rw [← readToken_eraseB, ← readToken_eraseB, h]
  cases hL : readToken T inp sL <;> cases hR' : readToken T inp sR <;>
    simp_all [Except.map, StepR.mapS]

theorem kids_map_eraseB (n : Nat) (st : List Entry) :
    List.map (fun x => x.sym) (List.take n (List.map Entry.eraseB st)).reverse =
      List.map (fun x => x.sym) (List.take n st).reverse := by
  rw [← List.map_take, ← List.map_reverse, List.map_map]
  rfl

theorem shiftState_eraseB (s : PState) (a : Int) (t t' : Nat) :
    eraseB (shiftState (eraseB s) a t) = eraseB (shiftState s a t') := by
  simp only [eraseB, shiftState, List.map_cons, List.map_map, List.filter_filter, Bool.and_self]
  rfl

theorem reduceState_eraseB (s : PState) (wb wb' : Bool) (prod : Int) (n : Nat) (ns : Int) :
    eraseB (reduceState (eraseB s) wb prod n ns) = eraseB (reduceState s wb' prod n ns) := by
  have hl : ∀ (c : Prop) [Decidable c] (p : Nat) (k : List Val) (w : Val) (x y : Nat)
      (l : List Event), List.filter (fun ev => !ev.isBounds)
        (if c then Event.bounds p w x y :: Event.act p k :: l else Event.act p k :: l) =
      Event.act p k :: List.filter (fun ev => !ev.isBounds) l := by
    intro c _ p k w x y l
    split <;> simp [List.filter, Event.isBounds]
  simp only [eraseB, reduceState, hl, kids_map_eraseB, List.map_cons, List.map_map, List.map_drop,
    List.filter_filter, Bool.and_self]
  rfl

/-- `hs` rules out the only asymmetry: the `latok` type assertions of the shift branch, which
exist only under `emit_bounds`, panic unless `_lasym` is a `Token` or an `Error`. -/
theorem step_eraseB (T : Tables) (inp : Array Nat) (wb wb' : Bool) (fuel : Nat) (s : PState)
    (hs : s.lasym.isLeaf = true) :
    (step T inp wb fuel (eraseB s)).mapS eraseB = (step T inp wb' fuel s).mapS eraseB := by
  have stop : ∀ o, (StepR.done o (eraseB s)).mapS eraseB = (StepR.done o s).mapS eraseB :=
    fun o => congrArg (StepR.done o) (eraseB_idem s)
  unfold step
  rw [show (eraseB s).stack = s.stack.map Entry.eraseB from rfl, show (eraseB s).la = s.la from rfl,
    show (eraseB s).lasym = s.lasym from rfl, topState_map_eraseB]
  cases htop : topState s.stack with
  | none => exact stop _
  | some top =>
    dsimp only
    cases hf : find T.actions top s.la with
    | oob => exact stop _
    | miss =>
      dsimp only
      rw [recover_eraseB]
      cases recover T inp fuel s with
      | ok s' => exact congrArg StepR.cont (eraseB_idem s')
      | fail s' => exact congrArg (StepR.done _) (eraseB_idem s')
      | panic w => exact stop _
      | timeout => exact stop _
    | hit action =>
      dsimp only
      by_cases hacc : action = acceptCode
      · rw [if_pos hacc, if_pos hacc]; exact stop _
      · rw [if_neg hacc, if_neg hacc]
        by_cases hsh : action ≥ 0
        · rw [if_pos hsh, if_pos hsh]
          have hti : ∀ b : Bool, ∃ t, (if b = true then symTokIdx s.lasym else some 0) = some t := by
            intro b
            cases b
            · exact ⟨0, rfl⟩
            · exact symTokIdx_isSome hs
          obtain ⟨t1, ht1⟩ := hti wb
          obtain ⟨t2, ht2⟩ := hti wb'
          rw [ht1, ht2]
          exact shiftTail_congr T inp (shiftState_eraseB s action t1 t2)
        · rw [if_neg hsh, if_neg hsh]
          cases geti T.termCounts (-action) with
          | none => exact stop _
          | some tc =>
            cases geti T.rules (-action) with
            | none => exact stop _
            | some rule =>
              dsimp only
              rw [List.length_map]
              by_cases hp : tc < 0 ∨ s.stack.length < tc.toNat
              · rw [if_pos hp, if_pos hp]; exact stop _
              · have htd : topState ((s.stack.map Entry.eraseB).drop tc.toNat) =
                    topState (s.stack.drop tc.toNat) := by
                  rw [← List.map_drop, topState_map_eraseB]
                rw [if_neg hp, if_neg hp, htd]
                cases topState (s.stack.drop tc.toNat) with
                | none => exact stop _
                | some top' =>
                  dsimp only
                  cases find T.gotos top' rule with
                  | oob => exact stop _
                  | miss =>
                    exact congrArg StepR.cont (reduceState_eraseB s wb wb' (-action) tc.toNat 0)
                  | hit ns =>
                    exact congrArg StepR.cont (reduceState_eraseB s wb wb' (-action) tc.toNat ns)

theorem step_congr_eraseB (T : Tables) (inp : Array Nat) (wb wb' : Bool) (fuel : Nat)
    {s1 s2 : PState} (h : eraseB s1 = eraseB s2) (hs : s1.lasym.isLeaf = true) :
    (step T inp wb fuel s1).mapS eraseB = (step T inp wb' fuel s2).mapS eraseB := by
  have hs2 : s2.lasym.isLeaf = true := by
    have hl : (eraseB s1).lasym = (eraseB s2).lasym := congrArg _ h
    change s1.lasym = s2.lasym at hl
    rw [← hl]; exact hs
  rw [← step_eraseB T inp wb wb fuel s1 hs, ← step_eraseB T inp wb wb' fuel s2 hs2, h]

theorem isRecoverStep_congr_eraseB {T : Tables} {s1 s2 : PState} (h : eraseB s1 = eraseB s2) :
    isRecoverStep T s1 = isRecoverStep T s2 := by
  have h1 : (eraseB s1).stack = (eraseB s2).stack := congrArg _ h
  have h2 : (eraseB s1).la = (eraseB s2).la := congrArg _ h
  change s1.stack.map Entry.eraseB = s2.stack.map Entry.eraseB at h1
  change s1.la = s2.la at h2
  have h3 : topState s1.stack = topState s2.stack := by
    rw [← topState_map_eraseB s1.stack, ← topState_map_eraseB s2.stack, h1]
  unfold isRecoverStep
  rw [h3, h2]

theorem runLoopG_eraseB (T : Tables) (inp : Array Nat) (wb wb' : Bool) (fuel : Nat) :
    ∀ (n : Nat) {s1 s2 : PState}, eraseB s1 = eraseB s2 → LaOK s1 →
      (runLoopG T inp wb fuel n s1).1 = (runLoopG T inp wb' fuel n s2).1 ∧
      eraseB (runLoopG T inp wb fuel n s1).2.1 = eraseB (runLoopG T inp wb' fuel n s2).2.1 ∧
      (runLoopG T inp wb fuel n s1).2.2 = (runLoopG T inp wb' fuel n s2).2.2
  | 0, _, _, h, _ => ⟨rfl, h, rfl⟩
  | n + 1, s1, s2, h, hs => by
    have hc := step_congr_eraseB T inp wb wb' fuel h hs.1
    unfold runLoopG
    cases h1 : step T inp wb fuel s1 with
    | cont a =>
      cases h2 : step T inp wb' fuel s2 with
      | cont b =>
        rw [h1, h2] at hc
        simp only [StepR.mapS, StepR.cont.injEq] at hc
        obtain ⟨e1, e2, e3⟩ := runLoopG_eraseB T inp wb wb' fuel n hc (step_LaOK hs h1)
        refine ⟨e1, e2, ?_⟩
        show (runLoopG T inp wb fuel n a).2.2 + _ = (runLoopG T inp wb' fuel n b).2.2 + _
        rw [e3, isRecoverStep_congr_eraseB (T := T) h]
      | done o b => rw [h1, h2] at hc; cases hc
    | done o a =>
      cases h2 : step T inp wb' fuel s2 with
      | cont b => rw [h1, h2] at hc; cases hc
      | done o' b =>
        rw [h1, h2] at hc
        simp only [StepR.mapS, StepR.done.injEq] at hc
        exact ⟨hc.1, hc.2, rfl⟩

theorem parseG_eraseB (T : Tables) (inp : Array Nat) (fuel : Nat) :
    (parseG T inp true fuel).1 = (parseG T inp false fuel).1 ∧
    eraseB (parseG T inp true fuel).2.1 = eraseB (parseG T inp false fuel).2.1 ∧
    (parseG T inp true fuel).2.2 = (parseG T inp false fuel).2.2 := by
  unfold parseG
  cases h : readToken T inp initState with
  | error w => exact ⟨rfl, rfl, rfl⟩
  | ok s1 => exact runLoopG_eraseB T inp true false fuel fuel rfl (init_LaOK h)

theorem parse_eraseB (T : Tables) (inp : Array Nat) (fuel : Nat) :
    (parse T inp true fuel).1 = (parse T inp false fuel).1 ∧
    eraseB (parse T inp true fuel).2 = eraseB (parse T inp false fuel).2 := by
  rw [← parseG_erase, ← parseG_erase]
  exact ⟨(parseG_eraseB T inp fuel).1, (parseG_eraseB T inp fuel).2.1⟩

theorem NoBoundsEv.moves (T : Tables) (inp : Array Nat) : Moves T inp false NoBoundsEv where
  read hs h := by
    unfold NoBoundsEv
    rw [(readToken_frame h).log]; exact hs
  shift _ hs _ _ := hs
  reduce _ _ hs _ := by
    intro ev hev
    simp only [reduceState, Bool.false_eq_true, false_and, if_false, List.mem_cons] at hev
    rcases hev with rfl | hev
    · rfl
    · exact hs ev hev
  inject hs _ := hs
  clear hs := hs

theorem parse_NoBoundsEv (T : Tables) (inp : Array Nat) (fuel : Nat) :
    NoBoundsEv (parse T inp false fuel).2 :=
  (NoBoundsEv.moves T inp).parse nofun fuel

theorem actEvents_eq_self {l : List Event} (h : ∀ ev ∈ l, ev.isBounds = false) : actEvents l = l := by
  unfold actEvents
  rw [List.filter_eq_self]
  intro ev hev
  rw [h ev hev]; rfl

end Lox.LR.Rt
