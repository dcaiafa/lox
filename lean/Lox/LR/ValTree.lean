import Lox.LR.DerBasics
import Lox.LR.Refine
/-! Derivations whose trees are the images of runtime values (`Val.toTree`), inverted on the values:
the node on top (`Der.val_inv`) and its children one by one (`Der.vals_cons`). -/
namespace Lox.LR

theorem toTree_node_inv {v : Val} {q : Nat} {ts : List Tree} (h : v.toTree = .node q ts) :
    ∃ kids, v = .node q kids ∧ kids.map Val.toTree = ts := by
  cases v with
  | node p kids =>
    simp only [Val.toTree, Tree.node.injEq] at h
    exact ⟨kids, by rw [h.1], by rw [← toTreeList_eq_map]; exact h.2⟩
  | nil => simp [Val.toTree] at h
  | tok => simp [Val.toTree] at h
  | err => simp [Val.toTree] at h

theorem Der.val_inv {G : Grammar} {B : Nat} {w : List Nat} {v : Val}
    (h : Der G [.n B] w [v.toTree]) :
    ∃ q pr kids, v = .node q kids ∧ G.prods[q]? = some pr ∧ pr.lhs = B ∧
      Der G pr.rhs w (kids.map Val.toTree) := by
  obtain ⟨q, pr, ts, ht, hq, hl, hd⟩ := h.nonterm_inv
  obtain ⟨kids, rfl, rfl⟩ := toTree_node_inv ht
  exact ⟨q, pr, kids, rfl, hq, hl, hd⟩

theorem Der.vals_nil {G : Grammar} {w : List Nat} {kids : List Val}
    (h : Der G [] w (kids.map Val.toTree)) : kids = [] ∧ w = [] :=
  ⟨List.map_eq_nil_iff.1 h.nil_inv.2, h.nil_inv.1⟩

theorem Der.vals1 {G : Grammar} {X : Sym} {w : List Nat} {kids : List Val}
    (h : Der G [X] w (kids.map Val.toTree)) : ∃ e, kids = [e] ∧ Der G [X] w [e.toTree] := by
  have hl := h.length_eq
  match kids, hl with
  | [e], _ => exact ⟨e, rfl, h⟩

theorem Der.vals_cons {G : Grammar} {X : Sym} {β : List Sym} {w : List Nat} {kids : List Val}
    (h : Der G (X :: β) w (kids.map Val.toTree)) :
    ∃ a rest w1 w2, kids = a :: rest ∧ w = w1 ++ w2 ∧ Der G [X] w1 [a.toTree] ∧
      Der G β w2 (rest.map Val.toTree) := by
  obtain ⟨t, ts', w1, w2, e, rfl, h1, h2⟩ := h.cons_inv
  obtain ⟨a, rest, rfl, rfl, rfl⟩ := List.map_eq_cons_iff.1 e
  exact ⟨a, rest, w1, w2, rfl, rfl, h1, h2⟩

end Lox.LR
