import Lox.LR.ConflictCheck
import Lox.LR.LALRBasics
import Lox.Util.List
/-! The skeleton automaton `skelAuto` read off its definition. -/
namespace Lox.LR

theorem lookupSym_mem {X : Sym} {s : Nat} : ∀ {row : List (Sym × Nat)},
    lookupSym X row = some s → (X, s) ∈ row
  | [], h => by simp [lookupSym] at h
  | (Y, t) :: r, h => by
    simp only [lookupSym] at h
    split at h
    · next e => cases h; subst e; simp
    · exact List.mem_cons_of_mem _ (lookupSym_mem h)

theorem lookupSym_of_mem {X : Sym} {t : Nat} : ∀ {row : List (Sym × Nat)},
    (row.map (·.1)).Nodup → (X, t) ∈ row → lookupSym X row = some t
  | [], _, h => by cases h
  | (Y, u) :: r, hn, h => by
    simp only [List.map_cons, List.nodup_cons] at hn
    simp only [lookupSym]
    rcases List.mem_cons.mp h with e | h
    · cases e; simp
    · have hne : Y ≠ X := by
        rintro rfl
        exact hn.1 (List.mem_map.mpr ⟨(Y, t), h, rfl⟩)
      rw [if_neg hne]
      exact lookupSym_of_mem hn.2 h

theorem trans_skel (tr : TransTab) (cert : Array (List Item)) (s : Nat) (X : Sym) :
    trans (skelAuto tr cert) s X = lookupSym X (rowOfT tr s) := by
  cases X with
  | t a =>
    simp only [trans, skelAuto]
    cases lookupSym (.t a) (rowOfT tr s) <;> rfl
  | n B => rfl

theorem mem_rowOfT {tr : TransTab} {s : Nat} {e : Sym × Nat} (h : e ∈ rowOfT tr s) :
    s < tr.size :=
  Util.lt_size_of_mem_getD h

@[simp] theorem items_skel (tr : TransTab) (cert : Array (List Item)) (s : Nat) :
    (skelAuto tr cert).items s = itemsOf cert s := rfl

end Lox.LR
