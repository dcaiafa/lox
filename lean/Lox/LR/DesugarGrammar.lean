import Lox.LR.DesugarProofs
import Lox.LR.UnusedTerminals
import Lox.LR.EmitProofsCheck
/-! The grammar `desugar SG` of a well-formed sugar grammar as input of the generator model: which
symbols stand on its right-hand sides (`rhs_sym`), hence that it satisfies what the model demands
(`prod0B`, `noStartB`, `symsInRangeB`, `noEofB`; assembled into `Lox.Props.C01.desugar_wf`) and
that it does not use the ERROR terminal when `SG` does not use `@error` (`errorFree_unused`; with
`emitted_unused_miss` this is `NoErrorActions` for every sugar grammar without `@error`); and that
its productions of kind 0 are exactly the productions the user wrote (`user_prod_of_kind`).

Specification level (read this): `SGrammar.errorFree` ("the sugar grammar does not use `@error`"). -/
namespace Lox.LR

open Lox.LR.Emit

namespace SGrammar

def errorFree (SG : SGrammar) : Bool :=
  SG.allTerms.all fun t => t.atoms.all fun x => x != .err

variable {SG : SGrammar}

/-- What may stand on a right-hand side: `1 ≤` excludes EOF (terminal 0) and `S'` (rule 0). -/
def SymOK (SG : SGrammar) : Sym → Prop
  | .t a => 1 ≤ a ∧ a < SG.nTerms
  | .n B => 1 ≤ B ∧ B < SG.nRules

theorem symOfAtom_ok {x : Atom} (hx : x.inRange SG = true) : SG.SymOK (symOfAtom x) := by
  cases x with
  | tok a =>
    simp only [Atom.inRange, decide_eq_true_eq] at hx
    simp only [symOfAtom, SymOK, nTerms]
    omega
  | rule A =>
    simp only [Atom.inRange, decide_eq_true_eq] at hx
    simp only [symOfAtom, SymOK, nRules, nUser]
    omega
  | err =>
    simp only [symOfAtom, SymOK, nTerms]
    omega

theorem ruleIdx_ok (hw : SG.WF) {k : HKey} (hm : k ∈ SG.helpers) :
    SG.SymOK (.n (SG.ruleIdx k)) := by
  obtain ⟨i, hi, e⟩ := ruleIdx_of_mem hw hm
  have : i < SG.helpers.length := (List.getElem?_eq_some_iff.1 hi).1
  simp only [SymOK, e, nRules]
  omega

theorem helper_atoms {h : HKey} (hm : h ∈ SG.helpers) :
    ∃ t ∈ SG.allTerms, h.x ∈ t.atoms ∧ h.sep ∈ t.atoms := by
  rcases fold_mem SG.allTerms [] hm with h0 | ⟨t, ht, k, hk, hh⟩
  · simp at h0
  · obtain ⟨h1, h2⟩ := key_atoms hk
    refine ⟨t, ht, ?_⟩
    rcases hh with rfl | hd
    · exact ⟨h1, h2⟩
    · obtain ⟨e1, e2⟩ := dep_atoms hd
      rw [e1]
      rcases e2 with e2 | e2 <;> rw [e2] <;> simp [h1, h2]

theorem symOfAtom_ne_err {x : Atom} (hx : x ≠ .err) : symOfAtom x ≠ .t 1 := by
  cases x with
  | tok a => simp [symOfAtom]
  | rule A => simp [symOfAtom]
  | err => exact absurd rfl hx

theorem rhs_sym (hw : SG.WF) {pr : Prod} (hm : pr ∈ SG.prodList) {X : Sym} (hX : X ∈ pr.rhs) :
    X = .n 1 ∨ (∃ t ∈ SG.allTerms, ∃ x ∈ t.atoms, X = symOfAtom x) ∨
      ∃ k ∈ SG.helpers, X = .n (SG.ruleIdx k) := by
  rcases mem_prodList.1 hm with rfl | ⟨A, r, p, hr, hp, rfl⟩ | ⟨i, k, hi, hb⟩
  · exact .inl (List.mem_singleton.1 hX)
  · obtain ⟨t, ht, rfl⟩ := List.mem_map.1 hX
    have htm := term_mem_allTerms hr hp ht
    rcases t.atom_or_key with ⟨x, rfl⟩ | ⟨k, hk⟩
    · exact .inr (.inl ⟨_, htm, x, List.mem_singleton_self x, rfl⟩)
    · exact .inr (.inr ⟨k, key_mem hw htm hk, symOf_key hk⟩)
  · have hk : k ∈ SG.helpers := List.mem_of_getElem? hi
    obtain ⟨t, ht, hx, hs⟩ := helper_atoms hk
    rcases (helperBody_syms hb).2 X hX with rfl | rfl | rfl | ⟨d, hd, rfl⟩
    · exact .inr (.inr ⟨k, hk, by rw [ruleIdx_of_get hw hi]⟩)
    · exact .inr (.inl ⟨t, ht, _, hx, rfl⟩)
    · exact .inr (.inl ⟨t, ht, _, hs, rfl⟩)
    · exact .inr (.inr ⟨d, dep_mem hw hk hd, rfl⟩)

theorem rhs_ok (hw : SG.WF) {pr : Prod} (hm : pr ∈ SG.prodList) {X : Sym} (hX : X ∈ pr.rhs) :
    SG.SymOK X := by
  rcases rhs_sym hw hm hX with rfl | ⟨t, ht, x, hx, rfl⟩ | ⟨k, hk, rfl⟩
  · have := List.length_pos_iff.2 hw.ne
    simp only [SymOK, nRules, nUser]
    omega
  · exact symOfAtom_ok (List.all_eq_true.1 (hw.inr t ht) x hx)
  · exact ruleIdx_ok hw hk

theorem lhs_lt {pr : Prod} (hm : pr ∈ SG.prodList) : pr.lhs < SG.nRules := by
  rcases mem_prodList.1 hm with rfl | ⟨A, r, p, hr, hp, rfl⟩ | ⟨i, k, hi, hb⟩
  · simp only [nRules]
    omega
  · have hA : A < SG.rules.length := (List.getElem?_eq_some_iff.1 hr).1
    simp only [nRules, nUser]
    omega
  · have : i < SG.helpers.length := (List.getElem?_eq_some_iff.1 hi).1
    rw [(helperBody_syms hb).1]
    simp only [nRules]
    omega

theorem desugar_prod0 (SG : SGrammar) : (desugar SG).1.prods[0]? = some ⟨0, [.n 1]⟩ := by
  simp [desugar, prodList]

theorem desugar_prod0B (SG : SGrammar) : prod0B (desugar SG).1 = true := by
  simp [prod0B, desugar_prod0]

theorem desugar_noStartB (hw : SG.WF) : noStartB (desugar SG).1 = true := by
  simp only [noStartB, desugar_prod0, List.all_eq_true, Bool.not_eq_true', List.contains_eq_mem,
    decide_eq_false_iff_not, desugar_prods]
  intro pr hm h0
  have := rhs_ok hw hm h0
  simp [SymOK] at this

theorem desugar_noEofB (hw : SG.WF) : noEofB (desugar SG).1 = true := by
  simp only [noEofB, List.all_eq_true, Bool.not_eq_true', List.contains_eq_mem,
    decide_eq_false_iff_not, desugar_prods]
  intro pr hm h0
  have := rhs_ok hw hm h0
  simp [SymOK] at this

theorem desugar_symsInRangeB (hw : SG.WF) :
    symsInRangeB (desugar SG).1 SG.nTerms SG.nRules = true := by
  simp only [symsInRangeB, List.all_eq_true, Bool.and_eq_true, decide_eq_true_eq, desugar_prods]
  intro pr hm
  refine ⟨lhs_lt hm, fun X hX => ?_⟩
  have := rhs_ok hw hm hX
  cases X with
  | t a => simpa using this.2
  | n B => simpa using this.2

theorem errorFree_unused (hw : SG.WF) (he : SG.errorFree = true) :
    ¬ TermUsed (desugar SG).1 1 := by
  rintro ⟨q, qr, hq, hm⟩
  have hqm : qr ∈ SG.prodList := desugar_prods SG ▸ Util.mem_toList_iff_getElem?.mpr ⟨q, hq⟩
  simp only [errorFree, List.all_eq_true, bne_iff_ne, ne_eq] at he
  rcases rhs_sym hw hqm hm with e | ⟨t, ht, x, hx, e⟩ | ⟨k, _, e⟩
  · cases e
  · exact symOfAtom_ne_err (he t ht x hx) e.symm
  · cases e

theorem helperKinds_ne_zero {k : HKey} {c : Nat} (h : c ∈ helperKinds k) : c ≠ 0 := by
  obtain ⟨kind, x, sep⟩ := k
  cases kind <;> simp [helperKinds] at h <;> omega

theorem user_prod_of_kind {q : Nat} {pr : Prod} (hq : (desugar SG).1.prods[q]? = some pr)
    (hk : kindOf SG q = 0) :
    ∃ A r sp, SG.rules[A]? = some r ∧ sp ∈ r.prods ∧ pr = ⟨A + 1, sp.terms.map SG.symOf⟩ := by
  obtain ⟨c, hc, hm⟩ := prod_kind hq
  have hc0 : c = 0 := by simpa [kindOf, hc] using hk
  subst hc0
  rcases hm with h | ⟨hp, -⟩ | ⟨j, k', hj, h⟩
  · cases h
  · simp only [userProds, mem_userProdsFrom] at hp
    obtain ⟨j, r, p', hr, hp', rfl⟩ := hp
    exact ⟨j, r, p', hr, hp', by simp⟩
  · exact absurd rfl (helperKinds_ne_zero (List.of_mem_zip h).2)

theorem kind_of_user_prod {q : Nat} {pr : Prod} (hq : (desugar SG).1.prods[q]? = some pr)
    (h1 : 1 ≤ q) (h2 : q ≤ SG.userProds.length) : kindOf SG q = 0 := by
  have : (desugar SG).2.1[q]? = some 0 := by
    simp only [desugar, kindList, List.getElem?_toArray]
    cases q with
    | zero => omega
    | succ q =>
      rw [List.getElem?_cons_succ, List.getElem?_append_left (by simp; omega)]
      simp [List.getElem?_map, List.getElem?_eq_getElem (show q < SG.userProds.length by omega)]
  simp [kindOf, this]

theorem symOf_atom (x : Atom) : SG.symOf (.atom x) = symOfAtom x := rfl

end SGrammar
end Lox.LR
