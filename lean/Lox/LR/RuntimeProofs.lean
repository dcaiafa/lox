import Lox.LR.RuntimeDefs
/-! The runtime model by cases: a successful `_readToken`, `_recover()` as a composition of one
loop (`readLoop`, `recover_eq`) and what each of its outcomes means (`recover_spec`), one iteration
of `parse` as the relation `Step`, the loop as `Reach`, a whole run as `parseG_spec`. An invariant of
`parse` is proved by showing it for the five moves of `Moves`, one of runs without a successful
recovery for the four of `PMoves`. -/
namespace Lox.LR.Rt

theorem readToken_eq (T : Tables) (inp : Array Nat) (s : PState) : readToken T inp s =
    if s.qla ≠ -1 then .ok { s with la := s.qla, lasym := s.qlasym, qla := -1, qlasym := .nil }
    else if (lexRead inp s.pos).2 = tERROR then
      match makeError T (afterLex inp s) with
      | .error w => .error w
      | .ok e => .ok { afterLex inp s with lasym := e }
    else .ok (afterLex inp s) := by
  unfold readToken afterLex
  generalize lexRead inp s.pos = r
  obtain ⟨sym, ty⟩ := r
  dsimp only
  by_cases hq : s.qla ≠ -1
  · rw [if_pos hq, if_pos hq]
  · rw [if_neg hq, if_neg hq]
    by_cases ht : ty = tERROR
    · rw [if_pos ht, if_pos ht]
      simp only [bind, Except.bind]
      split <;> simp_all
    · rw [if_neg ht, if_neg ht]

theorem makeError_eq_ok {T : Tables} {s : PState} {v : Val} (h : makeError T s = .ok v) :
    ∃ i ty st ks, s.lasym = .tok i ty ∧ topState s.stack = some st ∧
      rowKeys T.actions st = some ks ∧ v = .err i ty ks := by
  unfold makeError at h
  split at h
  · rename_i i ty hl
    split at h
    · cases h
    · rename_i st hst
      split at h
      · cases h
      · rename_i ks hks
        cases h; exact ⟨i, ty, st, ks, hl, hst, hks, rfl⟩
  · cases h

theorem lexRead_error {inp : Array Nat} {pos : Nat} (h : (lexRead inp pos).2 = tERROR) :
    (lexRead inp pos).1 = .tok pos 1 ∧ inp[pos]? = some 1 := by
  unfold lexRead at h ⊢
  cases hi : inp[pos]? with
  | none => simp only [hi] at h; cases h
  | some ty =>
    simp only [hi] at h ⊢
    have : ty = 1 := by
      have : (ty : Int) = 1 := h
      omega
    subst this
    exact ⟨rfl, rfl⟩

theorem readToken_eq_ok {T : Tables} {inp : Array Nat} {s s' : PState} (h : readToken T inp s = .ok s') :
    (s.qla ≠ -1 ∧ s' = { s with la := s.qla, lasym := s.qlasym, qla := -1, qlasym := .nil }) ∨
    (s.qla = -1 ∧ (lexRead inp s.pos).2 ≠ tERROR ∧ s' = afterLex inp s) ∨
    (s.qla = -1 ∧ (lexRead inp s.pos).2 = tERROR ∧ inp[s.pos]? = some 1 ∧
      ∃ ks, s' = { afterLex inp s with lasym := .err s.pos 1 ks }) := by
  rw [readToken_eq] at h
  split at h
  · cases h; exact .inl ⟨‹_›, rfl⟩
  · have hq : s.qla = -1 := Decidable.not_not.mp ‹_›
    split at h
    · rename_i hE
      split at h
      · cases h
      · rename_i e he
        cases h
        obtain ⟨i, ty, -, ks, hl, -, -, rfl⟩ := makeError_eq_ok he
        obtain ⟨hl1, hl2⟩ := lexRead_error hE
        cases hl1.symm.trans hl
        exact .inr (.inr ⟨hq, hE, hl2, ks, rfl⟩)
    · cases h; exact .inr (.inl ⟨hq, ‹_›, rfl⟩)

theorem Frame.trans {a b c : PState} (h1 : Frame a b) (h2 : Frame b c) : Frame a c :=
  ⟨h2.stack.trans h1.stack, h2.log.trans h1.log, h2.recovering.trans h1.recovering⟩

theorem readToken_frame {T : Tables} {inp : Array Nat} {s s' : PState}
    (h : readToken T inp s = .ok s') : Frame s s' := by
  rcases readToken_eq_ok h with ⟨-, rfl⟩ | ⟨-, -, rfl⟩ | ⟨-, -, -, ks, rfl⟩ <;> exact ⟨rfl, rfl, rfl⟩

theorem leaf_cases {v : Val} (h : v.isLeaf = true) :
    (∃ i ty, v = .tok i ty) ∨ ∃ i ty ex, v = .err i ty ex := by
  cases v with
  | nil => cases h
  | node => cases h
  | tok i ty => exact .inl ⟨i, ty, rfl⟩
  | err i ty ex => exact .inr ⟨i, ty, ex, rfl⟩

theorem symTokIdx_isSome {v : Val} (h : v.isLeaf = true) : ∃ i, symTokIdx v = some i := by
  obtain ⟨i, ty, rfl⟩ | ⟨i, ty, ex, rfl⟩ := leaf_cases h <;> exact ⟨i, rfl⟩

theorem tok_of_leaf {v : Val} (hl : v.isLeaf = true) (he : v.isErr = false) :
    ∃ i ty, v = .tok i ty := by
  obtain h | ⟨i, ty, ex, rfl⟩ := leaf_cases hl
  · exact h
  · cases he

theorem leafTy_nonneg {v : Val} (h : v.isLeaf = true) : 0 ≤ leafTy v := by
  obtain ⟨i, ty, rfl⟩ | ⟨i, ty, ex, rfl⟩ := leaf_cases h
  · exact Int.natCast_nonneg ty
  · exact Int.zero_le_ofNat 1

theorem lexRead_isLeaf (inp : Array Nat) (pos : Nat) : (lexRead inp pos).1.isLeaf = true := by
  unfold lexRead; split <;> rfl

theorem lexRead_eof {inp : Array Nat} {pos : Nat} (h : ¬ pos < inp.size) :
    (lexRead inp pos).2 = tEOF := by
  unfold lexRead
  rw [Array.getElem?_eq_none (by omega)]
  rfl

theorem readToken_LaOK {T : Tables} {inp : Array Nat} {s s' : PState}
    (hq : s.qla ≠ -1 → s.qlasym.isLeaf = true) (h : readToken T inp s = .ok s') : LaOK s' := by
  rcases readToken_eq_ok h with ⟨hq', rfl⟩ | ⟨hq', -, rfl⟩ | ⟨hq', -, -, ks, rfl⟩
  · exact ⟨hq hq', fun hc => absurd rfl hc⟩
  · exact ⟨lexRead_isLeaf inp s.pos, fun hc => absurd hq' hc⟩
  · exact ⟨rfl, fun hc => absurd hq' hc⟩

theorem init_LaOK {T : Tables} {inp : Array Nat} {s1 : PState}
    (h : readToken T inp initState = .ok s1) : LaOK s1 :=
  readToken_LaOK (fun hc => absurd rfl hc) h

theorem readToken_qla {T : Tables} {inp : Array Nat} {s s' : PState}
    (h : readToken T inp s = .ok s') : s'.qla = -1 := by
  rcases readToken_eq_ok h with ⟨-, rfl⟩ | ⟨hq, -, rfl⟩ | ⟨hq, -, -, ks, rfl⟩
  · rfl
  · exact hq
  · exact hq

theorem Reads.trans {T : Tables} {inp : Array Nat} {a b c : PState}
    (h1 : Reads T inp a b) (h2 : Reads T inp b c) : Reads T inp a c := by
  induction h1 with
  | refl => exact h2
  | step h _ ih => exact .step h (ih h2)

theorem Reads.single {T : Tables} {inp : Array Nat} {a b : PState}
    (h : readToken T inp a = .ok b) : Reads T inp a b := .step h (.refl b)

theorem Reads.inv {T : Tables} {inp : Array Nat} {P : PState → Prop}
    (hstep : ∀ s s', P s → readToken T inp s = .ok s' → P s') {a b : PState}
    (h : Reads T inp a b) (ha : P a) : P b := by
  induction h with
  | refl => exact ha
  | step h _ ih => exact ih (hstep _ _ ha h)

theorem Reads.frame {T : Tables} {inp : Array Nat} {a b : PState} (h : Reads T inp a b) :
    Frame a b :=
  h.inv (fun _ _ hf hr => hf.trans (readToken_frame hr)) ⟨rfl, rfl, rfl⟩

theorem Reads.LaOK {T : Tables} {inp : Array Nat} {a b : PState} (h : Reads T inp a b)
    (ha : LaOK a) : LaOK b :=
  h.inv (fun _ _ hs hr => readToken_LaOK hs.2 hr) ha

theorem errSymOf_spec {T : Tables} {s : PState} {v : Val} (h : errSymOf T s = .ok v) :
    ∃ i ty ex, v = .err i ty ex ∧
      (s.lasym = .err i ty ex ∨
       (s.lasym = .tok i ty ∧ ∃ st, topState s.stack = some st ∧ rowKeys T.actions st = some ex)) := by
  unfold errSymOf at h
  split at h
  · rename_i i ty ex hl
    cases h; exact ⟨i, ty, ex, rfl, .inl hl⟩
  · obtain ⟨i, ty, st, ks, hl, hst, hks, rfl⟩ := makeError_eq_ok h
    exact ⟨i, ty, ks, rfl, .inr ⟨hl, st, hst, hks⟩⟩

theorem simulate_found {T : Tables} {la : Int} :
    ∀ (n : Nat) {st : Int}, simulate T la n st = .found → ∃ v, find T.actions st tERROR = .hit v
  | 0, _, h => by simp [simulate] at h
  | n + 1, st, h => by
    unfold simulate at h
    split at h
    · cases h
    · cases h
    · rename_i v hv; exact ⟨v, hv⟩

theorem searchStack_ok {T : Tables} {la : Int} {fuel : Nat} :
    ∀ {st st' : List Entry}, searchStack T la fuel st = .ok (some st') →
      st' <:+ st ∧ ∃ e rest, st' = e :: rest ∧ simulate T la fuel e.state = .found
  | [], _, h => by simp [searchStack] at h
  | e :: rest, st', h => by
    unfold searchStack at h
    split at h
    · rename_i hf
      cases h
      exact ⟨List.suffix_refl _, e, rest, rfl, hf⟩
    · have := searchStack_ok h
      exact ⟨this.1.trans (List.suffix_cons e rest), this.2⟩
    · cases h
    · cases h

/-- Each loop of `_recover`: `for { if r, done := stop(p); done { return r }; p._readToken() }`. -/
def readLoop (T : Tables) (inp : Array Nat) (stop : PState → Option Rec) : Nat → PState → Rec
  | 0, _ => .timeout
  | n + 1, s =>
    match stop s with
    | some r => r
    | none =>
      match readToken T inp s with
      | .error w => .panic w
      | .ok s' => readLoop T inp stop n s'

/-- `for p._la == ERROR { p._readToken() }`, then `k`. -/
def skipStop (k : PState → Rec) (s : PState) : Option Rec :=
  if s.la = tERROR then none else some (k s)

/-- One round of the outer `for` of `_recover`. -/
def searchStop (T : Tables) (errSym : Val) (fuel : Nat) (s : PState) : Option Rec :=
  match searchStack T s.la fuel s.stack with
  | .error "TIMEOUT" => some .timeout
  | .error w => some (.panic w)
  | .ok (some st) => some (.ok (injectErr s st errSym))
  | .ok none => if s.la = tEOF then some (.fail { s with stack := [] }) else none

/-- The `if p._recovering` block, then `k`. -/
def dropThen (T : Tables) (inp : Array Nat) (fuel : Nat) (k : PState → Rec) (s : PState) : Rec :=
  if s.recovering then
    if s.la = tEOF then .fail s
    else match readToken T inp s with
      | .error w => .panic w
      | .ok s2 => readLoop T inp (skipStop k) fuel s2
  else k s

theorem skipErrors_readLoop {T : Tables} {inp : Array Nat} (k : PState → Rec) : ∀ (n : Nat) (s : PState),
    (match skipErrors T inp n s with
      | .error w => .panic w
      | .ok none => .timeout
      | .ok (some s) => k s) = readLoop T inp (skipStop k) n s
  | 0, _ => rfl
  | n + 1, s => by
    unfold skipErrors readLoop skipStop
    by_cases hla : s.la = tERROR
    · rw [if_pos hla, if_pos hla]
      cases readToken T inp s with
      | error w => rfl
      | ok s1 => exact skipErrors_readLoop k n s1
    · rw [if_neg hla, if_neg hla]

theorem recoverLoop_readLoop {T : Tables} {inp : Array Nat} {e : Val} {fuel : Nat} :
    ∀ (n : Nat) (s : PState),
      recoverLoop T inp e fuel n s = readLoop T inp (searchStop T e fuel) n s
  | 0, _ => rfl
  | n + 1, s => by
    unfold recoverLoop readLoop searchStop
    generalize searchStack T s.la fuel s.stack = r
    split
    · rfl
    · -- an error other than "TIMEOUT": the match of `searchStop` takes its second arm too
      split <;> simp_all
    · rfl
    · dsimp only
      by_cases hE : s.la = tEOF
      · rw [if_pos hE, if_pos hE]
      · rw [if_neg hE, if_neg hE]
        cases readToken T inp s with
        | error w => rfl
        | ok s1 => exact recoverLoop_readLoop n s1

/-- `_recover()` as a composition: `errSym`, skip ERROR tokens, the `if p._recovering` block, the
stack search. -/
theorem recover_eq (T : Tables) (inp : Array Nat) (fuel : Nat) (s : PState) :
    recover T inp fuel s =
      match errSymOf T s with
      | .error w => .panic w
      | .ok e => readLoop T inp
          (skipStop (dropThen T inp fuel (readLoop T inp (searchStop T e fuel) fuel))) fuel s := by
  show (match errSymOf T s with
    | .error w => Rec.panic w
    | .ok e => recoverBody T inp fuel s e) = _
  cases errSymOf T s with
  | error w => rfl
  | ok e =>
    dsimp only
    rw [← skipErrors_readLoop]
    unfold recoverBody
    cases skipErrors T inp fuel s with
    | error w => rfl
    | ok o =>
      cases o with
      | none => rfl
      | some s1 =>
        dsimp only [dropThen]
        cases s1.recovering with
        | false => exact recoverLoop_readLoop fuel s1
        | true =>
          rw [if_pos rfl, if_pos rfl]
          by_cases hE : s1.la = tEOF
          · rw [if_pos hE, if_pos hE]
          · rw [if_neg hE, if_neg hE]
            cases readToken T inp s1 with
            | error w => rfl
            | ok s2 =>
              dsimp only
              rw [← skipErrors_readLoop]
              cases skipErrors T inp fuel s2 with
              | error w => rfl
              | ok o =>
                cases o with
                | none => rfl
                | some s3 => exact recoverLoop_readLoop fuel s3

section Recover
variable {T : Tables} {inp : Array Nat}

theorem readLoop_post {stop : PState → Option Rec} {P : Rec → Prop} (ht : P .timeout) :
    ∀ (n : Nat) (s : PState),
      (∀ s1 w, Reads T inp s s1 → readToken T inp s1 = .error w → P (.panic w)) →
      (∀ s1 r, Reads T inp s s1 → stop s1 = some r → P r) → P (readLoop T inp stop n s)
  | 0, _, _, _ => ht
  | n + 1, s, hp, hs => by
    unfold readLoop
    cases h : stop s with
    | some r => exact hs s r (.refl s) h
    | none =>
      cases hr : readToken T inp s with
      | error w => exact hp s w (.refl s) hr
      | ok s1 =>
        exact readLoop_post ht n s1 (fun s2 w h2 => hp s2 w (.step hr h2))
          fun s2 r h2 => hs s2 r (.step hr h2)

theorem skipStop_some {k : PState → Rec} {s : PState} {x : Rec} (h : skipStop k s = some x) :
    s.la ≠ tERROR ∧ k s = x := by
  unfold skipStop at h
  split at h
  · cases h
  · exact ⟨‹_›, Option.some.inj h⟩

def RecoverSpec (T : Tables) (inp : Array Nat) (fuel : Nat) (s : PState) : Rec → Prop
  | .ok s' => ∃ errSym s0 s1 st, errSymOf T s = .ok errSym ∧ Reads T inp s s0 ∧ s0.la ≠ tERROR ∧
      Reads T inp s0 s1 ∧ searchStack T s1.la fuel s1.stack = .ok (some st) ∧
      s' = injectErr s1 st errSym ∧
      (s.recovering = true → ∃ sa sb, Reads T inp s sa ∧ sa.la ≠ tERROR ∧ sa.la ≠ tEOF ∧
        readToken T inp sa = .ok sb ∧ Reads T inp sb s0)
  | .fail s' => ∃ s1, Reads T inp s s1 ∧ s1.la = tEOF ∧ (s' = s1 ∨ s' = { s1 with stack := [] })
  | .panic w => errSymOf T s = .error w ∨ ∃ s1, Reads T inp s s1 ∧
      (readToken T inp s1 = .error w ∨
        (searchStack T s1.la fuel s1.stack = .error w ∧ w ≠ "TIMEOUT"))
  | .timeout => True

theorem recover_spec (T : Tables) (inp : Array Nat) (fuel : Nat) (s : PState) :
    RecoverSpec T inp fuel s (recover T inp fuel s) := by
  rw [recover_eq]
  cases he : errSymOf T s with
  | error w => exact .inl he
  | ok e =>
    have search : ∀ s0, Reads T inp s s0 → s0.la ≠ tERROR →
        (s.recovering = true → ∃ sa sb, Reads T inp s sa ∧ sa.la ≠ tERROR ∧ sa.la ≠ tEOF ∧
          readToken T inp sa = .ok sb ∧ Reads T inp sb s0) →
        RecoverSpec T inp fuel s (readLoop T inp (searchStop T e fuel) fuel s0) :=
      fun s0 h0 hl0 hrec => readLoop_post trivial fuel s0
        (fun s1 w h1 hw => .inr ⟨s1, h0.trans h1, .inl hw⟩) fun s1 r h1 hs => by
          unfold searchStop at hs
          split at hs
          · cases hs; trivial
          · cases hs; exact .inr ⟨s1, h0.trans h1, .inr ⟨‹_›, ‹_›⟩⟩
          · cases hs; exact ⟨e, s0, s1, _, he, h0, hl0, h1, ‹_›, rfl, hrec⟩
          · split at hs
            · cases hs; exact ⟨s1, h0.trans h1, ‹_›, .inr rfl⟩
            · cases hs
    refine readLoop_post trivial fuel s (fun s1 w h1 hw => .inr ⟨s1, h1, .inl hw⟩)
      fun sa r hra hs => ?_
    obtain ⟨hla, rfl⟩ := skipStop_some hs
    unfold dropThen
    cases hrec : sa.recovering with
    | false =>
      refine search sa hra hla fun hr => ?_
      rw [← hra.frame.recovering, hrec] at hr
      cases hr
    | true =>
      rw [if_pos rfl]
      by_cases hE : sa.la = tEOF
      · rw [if_pos hE]; exact ⟨sa, hra, hE, .inl rfl⟩
      · rw [if_neg hE]
        cases h2 : readToken T inp sa with
        | error w => exact .inr ⟨sa, hra, .inl h2⟩
        | ok sb =>
          refine readLoop_post trivial fuel sb
            (fun s1 w h1 hw => .inr ⟨s1, hra.trans (.step h2 h1), .inl hw⟩) fun s0 r hr0 hs => ?_
          obtain ⟨hl0, rfl⟩ := skipStop_some hs
          exact search s0 (hra.trans (.step h2 hr0)) hl0 fun _ => ⟨sa, sb, hra, hla, hE, h2, hr0⟩

/-- The outer `for` is entered in `s0` and succeeds in `s1`; `sa`, `sb` are the states before and
after the `_readToken()` of the `if p._recovering` block, which drops the offending token. -/
theorem recover_ok {fuel : Nat} {s s' : PState} (h : recover T inp fuel s = .ok s') :
    ∃ errSym s0 s1 st, errSymOf T s = .ok errSym ∧ Reads T inp s s0 ∧ s0.la ≠ tERROR ∧
      Reads T inp s0 s1 ∧ searchStack T s1.la fuel s1.stack = .ok (some st) ∧
      s' = injectErr s1 st errSym ∧
      (s.recovering = true → ∃ sa sb, Reads T inp s sa ∧ sa.la ≠ tERROR ∧ sa.la ≠ tEOF ∧
        readToken T inp sa = .ok sb ∧ Reads T inp sb s0) := by
  have := recover_spec T inp fuel s
  rwa [h] at this

/-- The two values of `s'` are the two `return false` of `_recover`: under `p._recovering` with
the stack untouched, and after the stack search has popped everything. -/
theorem recover_fail {fuel : Nat} {s s' : PState} (h : recover T inp fuel s = .fail s') :
    ∃ s1, Reads T inp s s1 ∧ s1.la = tEOF ∧ (s' = s1 ∨ s' = { s1 with stack := [] }) := by
  have := recover_spec T inp fuel s
  rwa [h] at this

theorem recover_panic {fuel : Nat} {s : PState} {w : String} (h : recover T inp fuel s = .panic w) :
    errSymOf T s = .error w ∨ ∃ s1, Reads T inp s s1 ∧
      (readToken T inp s1 = .error w ∨
        (searchStack T s1.la fuel s1.stack = .error w ∧ w ≠ "TIMEOUT")) := by
  have := recover_spec T inp fuel s
  rwa [h] at this

end Recover

def StepSpec (T : Tables) (inp : Array Nat) (wb : Bool) (fuel : Nat) (s : PState) : StepR → Prop
  | .cont s' => Step T inp wb fuel s s'
  | .done o s' =>
    (o = .accept ∧ s' = s ∧ ∃ top, topState s.stack = some top ∧
        find T.actions top s.la = .hit acceptCode) ∨
    (o = .reject ∧ ∃ top, topState s.stack = some top ∧ find T.actions top s.la = .miss ∧
        recover T inp fuel s = .fail s') ∨
    (o = .timeout ∧ s' = s ∧ ∃ top, topState s.stack = some top ∧
        find T.actions top s.la = .miss ∧ recover T inp fuel s = .timeout) ∨
    (∃ w, o = .panic w ∧ (s' = s ∨ ∃ top a ti, topState s.stack = some top ∧
        (if wb = true then symTokIdx s.lasym else some 0) = some ti ∧ s' = shiftState s a ti))

theorem step_spec (T : Tables) (inp : Array Nat) (wb : Bool) (fuel : Nat) (s : PState) :
    StepSpec T inp wb fuel s (step T inp wb fuel s) := by
  have panic : ∀ w, StepSpec T inp wb fuel s (.done (.panic w) s) :=
    fun w => .inr (.inr (.inr ⟨w, rfl, .inl rfl⟩))
  unfold step
  cases htop : topState s.stack with
  | none => exact panic _
  | some top =>
    dsimp only
    cases hf : find T.actions top s.la with
    | oob => exact panic _
    | miss =>
      dsimp only
      cases hr : recover T inp fuel s with
      | ok s' => exact .recover htop hf hr
      | fail s' => exact .inr (.inl ⟨rfl, top, htop, hf, hr⟩)
      | panic w => exact panic _
      | timeout => exact .inr (.inr (.inl ⟨rfl, rfl, top, htop, hf, hr⟩))
    | hit action =>
      dsimp only
      by_cases hacc : action = acceptCode
      · rw [if_pos hacc]
        exact .inl ⟨rfl, rfl, top, htop, hacc ▸ hf⟩
      · rw [if_neg hacc]
        by_cases hsh : action ≥ 0
        · rw [if_pos hsh]
          cases hti : (if wb = true then symTokIdx s.lasym else some 0) with
          | none => exact panic _
          | some ti =>
            dsimp only
            cases hr : readToken T inp (shiftState s action ti) with
            | error w =>
              rw [shiftState] at hr; rw [hr]
              exact .inr (.inr (.inr ⟨_, rfl, .inr ⟨top, action, ti, htop, hti, rfl⟩⟩))
            | ok s' =>
              have hr' := hr
              rw [shiftState] at hr; rw [hr]
              exact .shift htop hf hacc hsh hti hr'
        · rw [if_neg hsh]
          cases htc : geti T.termCounts (-action) with
          | none => exact panic _
          | some tc =>
            cases hru : geti T.rules (-action) with
            | none => exact panic _
            | some rule =>
              dsimp only
              by_cases hp : tc < 0 ∨ s.stack.length < tc.toNat
              · rw [if_pos hp]; exact panic _
              · rw [if_neg hp]
                cases htop' : topState (s.stack.drop tc.toNat) with
                | none => exact panic _
                | some top' =>
                  dsimp only
                  have hred := fun ns => Step.reduce (inp := inp) (wb := wb) (fuel := fuel)
                    (ns := ns) htop hf hacc (by omega) htc hru (by omega) (by omega) htop'
                  cases hg : find T.gotos top' rule with
                  | oob => exact panic _
                  | miss => exact hred 0 (.inr ⟨hg, rfl⟩)
                  | hit ns => exact hred ns (.inl hg)

theorem step_cont {T : Tables} {inp : Array Nat} {wb : Bool} {fuel : Nat} {s s' : PState}
    (h : step T inp wb fuel s = .cont s') : Step T inp wb fuel s s' := by
  have := step_spec T inp wb fuel s
  rwa [h] at this

theorem step_done {T : Tables} {inp : Array Nat} {wb : Bool} {fuel : Nat} {s s' : PState}
    {o : Outcome} (h : step T inp wb fuel s = .done o s') :
    (o = .accept ∧ s' = s ∧ ∃ top, topState s.stack = some top ∧
        find T.actions top s.la = .hit acceptCode) ∨
    (o = .reject ∧ ∃ top, topState s.stack = some top ∧ find T.actions top s.la = .miss ∧
        recover T inp fuel s = .fail s') ∨
    (o = .timeout ∧ s' = s ∧ ∃ top, topState s.stack = some top ∧
        find T.actions top s.la = .miss ∧ recover T inp fuel s = .timeout) ∨
    (∃ w, o = .panic w ∧ (s' = s ∨ ∃ top a ti, topState s.stack = some top ∧
        (if wb = true then symTokIdx s.lasym else some 0) = some ti ∧ s' = shiftState s a ti)) := by
  have := step_spec T inp wb fuel s
  rwa [h] at this

theorem Step.step_eq {T : Tables} {inp : Array Nat} {wb : Bool} {fuel : Nat} {s s' : PState}
    (h : Step T inp wb fuel s s') : step T inp wb fuel s = .cont s' := by
  cases h with
  | recover htop hf hr => simp only [step, htop, hf, hr]
  | shift htop hf hacc hsh hti hr =>
    rw [shiftState] at hr
    simp only [step, htop, hf, hacc, if_false, hsh, if_true, hti, hr]
  | @reduce top action tc rule top' ns htop hf hacc hneg htc hru h0 hl htop' hgo =>
    have h1 : ¬ action ≥ 0 := Int.not_le.mpr hneg
    have h2 : ¬ (tc < 0 ∨ s.stack.length < tc.toNat) :=
      not_or.mpr ⟨Int.not_lt.mpr h0, Nat.not_lt.mpr hl⟩
    rcases hgo with hg | ⟨hg, rfl⟩ <;>
      simp only [step, htop, hf, hacc, h1, if_false, htc, hru, h2, htop', hg, reduceState]

theorem step_accept {T : Tables} {inp : Array Nat} {wb : Bool} {fuel : Nat} {s : PState} {top : Int}
    (htop : topState s.stack = some top) (hf : find T.actions top s.la = .hit acceptCode) :
    step T inp wb fuel s = .done .accept s := by
  simp [step, htop, hf]

theorem step_miss {T : Tables} {inp : Array Nat} {wb : Bool} {fuel : Nat} {s : PState} {top : Int}
    (htop : topState s.stack = some top) (hf : find T.actions top s.la = .miss) :
    (∀ s', recover T inp fuel s = .ok s' → step T inp wb fuel s = .cont s') ∧
    (∀ s', recover T inp fuel s = .fail s' → step T inp wb fuel s = .done .reject s') ∧
    (∀ w, recover T inp fuel s = .panic w → step T inp wb fuel s = .done (.panic w) s) ∧
    (recover T inp fuel s = .timeout → step T inp wb fuel s = .done .timeout s) := by
  refine ⟨?_, ?_, ?_, ?_⟩ <;> intros <;> simp [step, *]

/-- The iteration from `s` does not shift EOF (the premises are those of `Step.shift`): `NoShiftEOF` at
the state on top, all that `Cov` and `potential` need of the tables. -/
def NoShiftEOFAt (T : Tables) (s : PState) : Prop :=
  ∀ top a, topState s.stack = some top → find T.actions top s.la = .hit a → a ≠ acceptCode →
    a ≥ 0 → s.la ≠ tEOF

theorem NoShiftEOF.at {T : Tables} (hT : NoShiftEOF T) (s : PState) : NoShiftEOFAt T s := by
  intro top a _ hf hacc hsh hE
  rw [hE] at hf
  rcases hT _ _ hf with h1 | h1
  · exact hacc h1
  · omega

/-- A property of parser states preserved by the moves of a run in which no `_recover()` returns
`true`: `_readToken`, the push of the shift branch, the reduce branch, and the emptied stack of a
failed `_recover()`. -/
structure PMoves (T : Tables) (inp : Array Nat) (wb : Bool) (P : PState → Prop) : Prop where
  read : ∀ {s s'}, P s → readToken T inp s = .ok s' → P s'
  shift : ∀ {s top ti} (a : Int), P s → topState s.stack = some top →
    (if wb then symTokIdx s.lasym else some 0) = some ti → P (shiftState s a ti)
  reduce : ∀ {s top' n} (prod ns : Int), P s →
    topState (s.stack.drop n) = some top' → P (reduceState s wb prod n ns)
  clear : ∀ {s}, P s → P { s with stack := [] }

/-- A property preserved by each of the five moves `parse` is made of: those of `PMoves` and the
return of a successful `_recover()` (stack cut back to a suffix, an `Error` injected, the
lookahead queued). -/
structure Moves (T : Tables) (inp : Array Nat) (wb : Bool) (P : PState → Prop) : Prop
    extends PMoves T inp wb P where
  inject : ∀ {s st i ty ex}, P s → st <:+ s.stack → P (injectErr s st (.err i ty ex))

theorem isRecoverStep_miss {T : Tables} {s : PState} {top : Int}
    (htop : topState s.stack = some top) (hf : find T.actions top s.la = .miss) :
    isRecoverStep T s = true := by
  simp [isRecoverStep, htop, hf]

theorem isRecoverStep_hit {T : Tables} {s : PState} {top a : Int}
    (htop : topState s.stack = some top) (hf : find T.actions top s.la = .hit a) :
    isRecoverStep T s = false := by
  simp [isRecoverStep, htop, hf]

theorem isRecoverStep_true {T : Tables} {s : PState} (h : isRecoverStep T s = true) :
    ∃ top, topState s.stack = some top ∧ find T.actions top s.la = .miss := by
  unfold isRecoverStep at h
  split at h
  · rename_i top htop
    refine ⟨top, htop, ?_⟩
    split at h
    · assumption
    · cases h
  · cases h

theorem PMoves.plain {T : Tables} {inp : Array Nat} {wb : Bool} {P : PState → Prop}
    (m : PMoves T inp wb P) {fuel : Nat} {s s' : PState} (hs : P s)
    (hp : isRecoverStep T s = false) (h : step T inp wb fuel s = .cont s') : P s' := by
  cases step_cont h with
  | recover htop hf _ => rw [isRecoverStep_miss htop hf] at hp; cases hp
  | shift htop _ _ _ hti hr => exact m.read (m.shift _ hs htop hti) hr
  | reduce _ _ _ _ _ _ _ _ htop' _ => exact m.reduce _ _ hs htop'

theorem PMoves.done {T : Tables} {inp : Array Nat} {wb : Bool} {P : PState → Prop}
    (m : PMoves T inp wb P) {fuel : Nat} {s s' : PState} {o : Outcome} (hs : P s)
    (h : step T inp wb fuel s = .done o s') : P s' := by
  rcases step_done h with ⟨-, rfl, -⟩ | ⟨-, top, -, -, hr⟩ | ⟨-, rfl, -⟩ |
    ⟨w, -, rfl | ⟨top, a, ti, htop, hti, rfl⟩⟩
  · exact hs
  · obtain ⟨s1, h1, -, rfl | rfl⟩ := recover_fail hr
    · exact h1.inv (fun _ _ => m.read) hs
    · exact m.clear (h1.inv (fun _ _ => m.read) hs)
  · exact hs
  · exact hs
  · exact m.shift _ hs htop hti

theorem Moves.cont {T : Tables} {inp : Array Nat} {wb : Bool} {P : PState → Prop}
    (m : Moves T inp wb P) {fuel : Nat} {s s' : PState} (hs : P s)
    (h : step T inp wb fuel s = .cont s') : P s' := by
  cases step_cont h with
  | recover _ _ hr =>
    obtain ⟨e, s0, s1, st, he, h0, -, h1, hst, rfl, -⟩ := recover_ok hr
    obtain ⟨i, ty, ex, rfl, -⟩ := errSymOf_spec he
    exact m.inject ((h0.trans h1).inv (fun _ _ => m.read) hs) (searchStack_ok hst).1
  | shift htop _ _ _ hti hr => exact m.read (m.shift _ hs htop hti) hr
  | reduce _ _ _ _ _ _ _ _ htop' _ => exact m.reduce _ _ hs htop'

theorem LaOK.moves (T : Tables) (inp : Array Nat) (wb : Bool) : Moves T inp wb LaOK where
  read hs h := readToken_LaOK hs.2 h
  shift _ hs _ _ := hs
  reduce _ _ hs _ := hs
  inject hs _ := ⟨rfl, fun _ => hs.1⟩
  clear hs := hs

theorem step_LaOK {T : Tables} {inp : Array Nat} {wb : Bool} {fuel : Nat} {s s' : PState}
    (hs : LaOK s) (h : step T inp wb fuel s = .cont s') : LaOK s' :=
  (LaOK.moves T inp wb).cont hs h

theorem parse_eq (T : Tables) (inp : Array Nat) (wb : Bool) (fuel : Nat) :
    parse T inp wb fuel =
      match readToken T inp initState with
      | .error w => (.panic w, initState)
      | .ok s1 => runLoop T inp wb fuel fuel s1 := rfl

theorem Reach.trans {T : Tables} {inp : Array Nat} {wb : Bool} {fuel : Nat} {a b c : PState}
    (h1 : Reach T inp wb fuel a b) (h2 : Reach T inp wb fuel b c) : Reach T inp wb fuel a c := by
  induction h1 with
  | refl => exact h2
  | step h _ ih => exact .step h (ih h2)

theorem Reach.inv {T : Tables} {inp : Array Nat} {wb : Bool} {fuel : Nat} {P : PState → Prop}
    (hstep : ∀ s s', P s → Lox.LR.step T inp wb fuel s = .cont s' → P s') {a b : PState}
    (h : Reach T inp wb fuel a b) (ha : P a) : P b := by
  induction h with
  | refl => exact ha
  | step h _ ih => exact ih (hstep _ _ ha h)

theorem PlainReach.reach {T : Tables} {inp : Array Nat} {wb : Bool} {fuel : Nat} {a b : PState}
    (h : PlainReach T inp wb fuel a b) : Reach T inp wb fuel a b := by
  induction h with
  | refl => exact .refl _
  | step _ h _ ih => exact .step h ih

theorem PlainReach.inv {T : Tables} {inp : Array Nat} {wb : Bool} {fuel : Nat} {P : PState → Prop}
    (hstep : ∀ s s', P s → isRecoverStep T s = false → Lox.LR.step T inp wb fuel s = .cont s' → P s')
    {a b : PState} (h : PlainReach T inp wb fuel a b) (ha : P a) : P b := by
  induction h with
  | refl => exact ha
  | step hp h _ ih => exact ih (hstep _ _ ha hp h)

theorem PlainReach.qla {T : Tables} {inp : Array Nat} {wb : Bool} {fuel : Nat} {a b : PState}
    (h : PlainReach T inp wb fuel a b) (ha : a.qla = -1) : b.qla = -1 :=
  h.inv (P := fun s => s.qla = -1) (fun _ _ => PMoves.plain
    ⟨fun _ hr => readToken_qla hr, fun _ hs _ _ => hs, fun _ _ hs _ => hs, id⟩) ha

theorem runLoopG_erase (T : Tables) (inp : Array Nat) (wb : Bool) (fuel : Nat) :
    ∀ (n : Nat) (s : PState), ((runLoopG T inp wb fuel n s).1, (runLoopG T inp wb fuel n s).2.1) =
      runLoop T inp wb fuel n s
  | 0, _ => rfl
  | n + 1, s => by
    unfold runLoopG runLoop
    cases h : step T inp wb fuel s with
    | cont s' => exact runLoopG_erase T inp wb fuel n s'
    | done o s' => rfl

theorem parseG_erase (T : Tables) (inp : Array Nat) (wb : Bool) (fuel : Nat) :
    ((parseG T inp wb fuel).1, (parseG T inp wb fuel).2.1) = parse T inp wb fuel := by
  rw [parse_eq]
  unfold parseG
  cases h : readToken T inp initState with
  | error w => rfl
  | ok s1 => exact runLoopG_erase T inp wb fuel fuel s1

theorem parseG_fst (T : Tables) (inp : Array Nat) (wb : Bool) (fuel : Nat) :
    (parseG T inp wb fuel).1 = (parse T inp wb fuel).1 := congrArg Prod.fst (parseG_erase T inp wb fuel)

theorem parseG_snd (T : Tables) (inp : Array Nat) (wb : Bool) (fuel : Nat) :
    (parseG T inp wb fuel).2.1 = (parse T inp wb fuel).2 := congrArg Prod.snd (parseG_erase T inp wb fuel)

section Run
variable {T : Tables} {inp : Array Nat} {wb : Bool} {fuel : Nat}

/-- Zero or more continuing iterations of the loop of `parse`, `k` of which call `_recover()`
(which returned `true`, since the loop went on): the ghost counter of `runLoopG`. Without the count
it is `Reach` (`ReachN.reach`), with count 0 `PlainReach` (`ReachN.plain`). -/
inductive ReachN (T : Tables) (inp : Array Nat) (wb : Bool) (fuel : Nat) :
    Nat → PState → PState → Prop where
  | refl (s) : ReachN T inp wb fuel 0 s s
  | step {s s1 s2 k} : step T inp wb fuel s = .cont s1 → ReachN T inp wb fuel k s1 s2 →
      ReachN T inp wb fuel (k + (if isRecoverStep T s then 1 else 0)) s s2

/-- How a run ends: out of fuel in `sl`, or with the verdict of the iteration from `sl`. -/
def Ends (T : Tables) (inp : Array Nat) (wb : Bool) (fuel : Nat) (sl : PState) (o : Outcome)
    (sf : PState) : Prop :=
  (o = .timeout ∧ sf = sl) ∨ step T inp wb fuel sl = .done o sf

theorem runLoopG_spec : ∀ (n : Nat) (s : PState), ∃ sl,
    ReachN T inp wb fuel (runLoopG T inp wb fuel n s).2.2 s sl ∧
    Ends T inp wb fuel sl (runLoopG T inp wb fuel n s).1 (runLoopG T inp wb fuel n s).2.1
  | 0, s => ⟨s, .refl s, .inl ⟨rfl, rfl⟩⟩
  | n + 1, s => by
    unfold runLoopG
    cases h : step T inp wb fuel s with
    | cont s' =>
      obtain ⟨sl, hr, hsl⟩ := runLoopG_spec n s'
      exact ⟨sl, .step h hr, hsl⟩
    | done o s' => exact ⟨s, .refl s, .inr h⟩

/-- Every statement about a whole run of `parseG` (and, by `parseG_erase`, of `parse`) is read
off this one: the first `_readToken` panics, or the loop runs from its result to a state `sl`,
with as many recoveries as the ghost counter says, and ends there. -/
theorem parseG_spec (T : Tables) (inp : Array Nat) (wb : Bool) (fuel : Nat) :
    (∃ w, readToken T inp initState = .error w ∧ parseG T inp wb fuel = (.panic w, initState, 0)) ∨
    ∃ s1 sl, readToken T inp initState = .ok s1 ∧
      ReachN T inp wb fuel (parseG T inp wb fuel).2.2 s1 sl ∧
      Ends T inp wb fuel sl (parseG T inp wb fuel).1 (parseG T inp wb fuel).2.1 := by
  unfold parseG
  cases h : readToken T inp initState with
  | error w => exact .inl ⟨w, rfl, rfl⟩
  | ok s1 =>
    obtain ⟨sl, hr, hsl⟩ := runLoopG_spec (T := T) (inp := inp) (wb := wb) (fuel := fuel) fuel s1
    exact .inr ⟨s1, sl, rfl, hr, hsl⟩

theorem ReachN.reach {k : Nat} {a b : PState} (h : ReachN T inp wb fuel k a b) :
    Reach T inp wb fuel a b := by
  induction h with
  | refl => exact .refl _
  | step h _ ih => exact .step h ih

theorem ReachN.plain {k : Nat} {a b : PState} (h : ReachN T inp wb fuel k a b) (hk : k = 0) :
    PlainReach T inp wb fuel a b := by
  induction h with
  | refl => exact .refl _
  | @step s s1 s2 k h _ ih =>
    cases hr : isRecoverStep T s with
    | true => rw [hr] at hk; cases hk
    | false => exact .step hr h (ih (by rw [hr] at hk; exact hk))

theorem ReachN.recover_state {k : Nat} {a b : PState} (h : ReachN T inp wb fuel k a b)
    (hk : 0 < k) : ∃ s' s'', Reach T inp wb fuel a s' ∧ isRecoverStep T s' = true ∧
      Lox.LR.step T inp wb fuel s' = .cont s'' := by
  induction h with
  | refl => exact absurd hk (Nat.lt_irrefl 0)
  | @step s s1 s2 k h _ ih =>
    cases hr : isRecoverStep T s with
    | true => exact ⟨s, s1, .refl s, hr, h⟩
    | false =>
      rw [hr] at hk
      obtain ⟨s', s'', h1, h2⟩ := ih hk
      exact ⟨s', s'', .step h h1, h2⟩

theorem parse_spec (T : Tables) (inp : Array Nat) (wb : Bool) (fuel : Nat) :
    (∃ w, readToken T inp initState = .error w ∧ parse T inp wb fuel = (.panic w, initState)) ∨
    ∃ s1 sl, readToken T inp initState = .ok s1 ∧ Reach T inp wb fuel s1 sl ∧
      Ends T inp wb fuel sl (parse T inp wb fuel).1 (parse T inp wb fuel).2 := by
  rw [← parseG_erase]
  rcases parseG_spec T inp wb fuel with ⟨w, h1, h⟩ | ⟨s1, sl, h1, hr, he⟩
  · exact .inl ⟨w, h1, by rw [h]⟩
  · exact .inr ⟨s1, sl, h1, hr.reach, he⟩

theorem PMoves.parseG_zero {P : PState → Prop} (m : PMoves T inp wb P) (hi : P initState)
    (h0 : (parseG T inp wb fuel).2.2 = 0) : P (parseG T inp wb fuel).2.1 := by
  rcases parseG_spec T inp wb fuel with ⟨w, -, h⟩ | ⟨s1, sl, h1, hr, he⟩
  · rw [h]; exact hi
  · have hl : P sl := (hr.plain h0).inv (fun _ _ => m.plain) (m.read hi h1)
    rcases he with ⟨-, h2⟩ | h2
    · rw [h2]; exact hl
    · exact m.done hl h2

theorem parseG_clean_of (hall : ∀ s, ParseReach T inp wb fuel s → isRecoverStep T s = false) :
    (parseG T inp wb fuel).2.2 = 0 ∧ (parseG T inp wb fuel).1 ≠ .reject := by
  rcases parseG_spec T inp wb fuel with ⟨w, -, h⟩ | ⟨s1, sl, h1, hr, he⟩
  · rw [h]; exact ⟨rfl, nofun⟩
  · constructor
    · refine Nat.eq_zero_of_not_pos fun hk => ?_
      obtain ⟨s', -, h2, h3, -⟩ := hr.recover_state hk
      rw [hall s' ⟨s1, h1, h2⟩] at h3
      cases h3
    · intro hrej
      rcases he with ⟨ho, -⟩ | hd
      · rw [hrej] at ho; cases ho
      · rcases step_done hd with ⟨ho, -⟩ | ⟨-, top, htop, hf, -⟩ | ⟨ho, -⟩ | ⟨w, ho, -⟩
        · rw [hrej] at ho; cases ho
        · have := isRecoverStep_miss (T := T) htop hf
          rw [hall sl ⟨s1, h1, hr.reach⟩] at this
          cases this
        · rw [hrej] at ho; cases ho
        · rw [hrej] at ho; cases ho

end Run

theorem Moves.reach {T : Tables} {inp : Array Nat} {wb : Bool} {P : PState → Prop}
    (m : Moves T inp wb P) (h0 : P initState) {fuel : Nat} {s : PState}
    (h : ParseReach T inp wb fuel s) : P s := by
  obtain ⟨s1, h1, hr⟩ := h
  exact hr.inv (fun _ _ => m.cont) (m.read h0 h1)

theorem Moves.parse {T : Tables} {inp : Array Nat} {wb : Bool} {P : PState → Prop}
    (m : Moves T inp wb P) (h0 : P initState) (fuel : Nat) : P (parse T inp wb fuel).2 := by
  rcases parse_spec T inp wb fuel with ⟨w, -, h⟩ | ⟨s1, sl, h1, hr, he⟩
  · rw [h]; exact h0
  · have hl : P sl := hr.inv (fun _ _ => m.cont) (m.read h0 h1)
    rcases he with ⟨-, h2⟩ | h2
    · exact h2 ▸ hl
    · exact m.done hl h2

theorem parseG_accept {T : Tables} {inp : Array Nat} {wb : Bool} {fuel : Nat}
    (h : (parseG T inp wb fuel).1 = .accept) :
    ∃ s1, readToken T inp initState = .ok s1 ∧
      ReachN T inp wb fuel (parseG T inp wb fuel).2.2 s1 (parseG T inp wb fuel).2.1 ∧
      ∃ top, topState (parseG T inp wb fuel).2.1.stack = some top ∧
        find T.actions top (parseG T inp wb fuel).2.1.la = .hit acceptCode := by
  rcases parseG_spec T inp wb fuel with ⟨w, -, h'⟩ | ⟨s1, sl, h1, hr, he⟩
  · rw [h'] at h; cases h
  · rcases he with ⟨ho, -⟩ | hd
    · rw [h] at ho; cases ho
    · rcases step_done hd with ⟨-, hs, hacc⟩ | ⟨ho, -⟩ | ⟨ho, -⟩ | ⟨w, ho, -⟩
      · rw [hs]; exact ⟨s1, h1, hr, hacc⟩
      all_goals rw [h] at ho; cases ho

theorem parse_accept_state {T : Tables} {inp : Array Nat} {wb : Bool} {fuel : Nat}
    (h : (parse T inp wb fuel).1 = .accept) :
    ParseReach T inp wb fuel (parse T inp wb fuel).2 ∧
    ∃ top, topState (parse T inp wb fuel).2.stack = some top ∧
      find T.actions top (parse T inp wb fuel).2.la = .hit acceptCode := by
  rw [← parseG_erase] at h ⊢
  obtain ⟨s1, h1, hr, hacc⟩ := parseG_accept h
  exact ⟨⟨s1, h1, hr.reach⟩, hacc⟩

end Lox.LR.Rt
