import Lox.LR.EmitModel
import Lox.LR.TableRows
/-! For every grammar, what `_Find` (`Lox.LR.find`) and the row reader of the validator
(`Lox.LR.rowOf`) see in the emitted `_actions` / `_goto` arrays is the row the model built for that
state (`stateActionRow`, `stateGotoRow`): the `AddRow`/`Array` invariant of `Lox/Table/Proofs.lean`
composed with the definition of `emitParserP`. -/
namespace Lox.LR.Emit
open Lox.LR Lox.LR.Gen Lox.LR.Cons
open Lox.Dec (ProdInfo)
open Lox.Table

/-- Everything the later proofs need to know about the four arrays `emitParserP` returns. -/
structure Emitted (info : Nat → ProdInfo) (G : Grammar) (nT : Nat) (ord : List Sym) (st : CState)
    (T : Tables) : Prop where
  rules : T.rules = rulesArr G
  termCounts : T.termCounts = termCountsArr G
  arow : ∀ i, i < st.states.length → ∃ row, stateActionRow info G nT ord st i = some row ∧
    rowOf T.actions (i : Int) = some row ∧
    ∀ x, find T.actions (i : Int) x = lookResult (firstMatch row x)
  grow : ∀ i, i < st.states.length →
    rowOf T.gotos (i : Int) = some (stateGotoRow ord st i) ∧
    ∀ x, find T.gotos (i : Int) x = lookResult (firstMatch (stateGotoRow ord st i) x)

theorem emitted_of_emitParserP {info : Nat → ProdInfo} {G : Grammar} {nT : Nat} {ord : List Sym}
    {st : CState} {T : Tables} (h : emitParserP info G nT ord st = some T) :
    Emitted info G nT ord st T := by
  unfold emitParserP at h
  split at h
  · cases h
  · next arows har =>
    split at h
    · next a g hba hbg =>
      cases h
      refine ⟨rfl, rfl, ?_, ?_⟩
      · intro i hi
        obtain ⟨y, hm, hy⟩ := Util.mapM_some_of_mem har (List.mem_range.mpr hi)
        obtain ⟨row, hrow, rfl⟩ := Option.map_eq_some_iff.mp hy
        exact ⟨row, hrow, (build_hasRow hba hm).rowOf, (build_hasRow hba hm).find⟩
      · intro i hi
        have hm : (i, flattenPairs (stateGotoRow ord st i)) ∈ gotoRows ord st := by
          unfold gotoRows
          exact List.mem_map.mpr ⟨i, List.mem_range.mpr hi, rfl⟩
        exact ⟨(build_hasRow hbg hm).rowOf, (build_hasRow hbg hm).find⟩
    · cases h

theorem generateP_eq_some {info : Nat → ProdInfo} {G : Grammar} {nT : Nat} {ord : List Sym}
    {T : Tables} {cert : Array (List Item)} :
    generateP info G nT ord = some (T, cert) ↔
      ∃ st, construct G nT ord = some st ∧ emitParserP info G nT ord st = some T ∧
        st.cert = cert := by
  unfold generateP
  cases construct G nT ord with
  | none => simp
  | some st => cases hT : emitParserP info G nT ord st <;> simp [hT]

theorem conflictFree_eq_true {G : Grammar} {nT : Nat} {ord : List Sym} :
    conflictFree G nT ord = true ↔
      ∃ st, construct G nT ord = some st ∧ conflictFreeB G nT st = true := by
  unfold conflictFree
  cases construct G nT ord <;> simp

end Lox.LR.Emit
