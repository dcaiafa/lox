import Lox.LR.RuntimeProofs
/-! Where the `Error` values of a run are, for any tables: in a run without a successful recovery
the only `Error` values wrap lexer ERROR tokens (`ErrsInv.pmoves`); after a successful recovery the
injected `Error` is tracked until it is delivered to an action. Behind
`C09.no_silent_accept_partial`, `C09.no_error_values`, `C09.error_tracked`,
`C09.error_delivered_partial`, `C09.qla_real`. -/
namespace Lox.LR.Rt

theorem errsInL_iff {P : Nat → Bool} : ∀ {l : List Val},
    errsInL P l = true ↔ ∀ v ∈ l, errsIn P v = true
  | [] => by simp [errsInL]
  | v :: vs => by
    simp only [errsInL, Bool.and_eq_true, List.forall_mem_cons, errsInL_iff (l := vs)]

theorem errsInL_forall {P : Nat → Bool} : ∀ {l : List Val},
    errsInL P l = true → ∀ v ∈ l, errsIn P v = true :=
  errsInL_iff.mp

mutual
theorem errsIn_mono {P Q : Nat → Bool} (hPQ : ∀ i, P i = true → Q i = true) :
    ∀ (v : Val), errsIn P v = true → errsIn Q v = true
  | .nil, _ => rfl
  | .tok _ _, _ => rfl
  | .err i _ _, h => hPQ i h
  | .node _ kids, h => by
    simp only [errsIn] at h ⊢
    exact errsInL_mono hPQ kids h
theorem errsInL_mono {P Q : Nat → Bool} (hPQ : ∀ i, P i = true → Q i = true) :
    ∀ (l : List Val), errsInL P l = true → errsInL Q l = true
  | [], _ => rfl
  | v :: vs, h => by
    simp only [errsInL, Bool.and_eq_true] at h ⊢
    exact ⟨errsIn_mono hPQ v h.1, errsInL_mono hPQ vs h.2⟩
end

theorem readToken_ErrsInv {T : Tables} {inp : Array Nat} {s s' : PState}
    (hs : ErrsInv (lexErrAt inp) s) (h : readToken T inp s = .ok s') :
    ErrsInv (lexErrAt inp) s' := by
  obtain ⟨h1, h2, h3, h4⟩ := hs
  rcases readToken_eq_ok h with ⟨hq, rfl⟩ | ⟨hq, -, rfl⟩ | ⟨hq, -, hi, ks, rfl⟩
  · exact ⟨h2 hq, fun hc => absurd rfl hc, h3, h4⟩
  · refine ⟨?_, fun hc => absurd hq hc, h3, h4⟩
    show errsIn _ (lexRead inp s.pos).1 = true
    unfold lexRead; split <;> rfl
  · refine ⟨?_, fun hc => absurd hq hc, h3, h4⟩
    show lexErrAt inp s.pos = true
    simp [lexErrAt, hi]

theorem shiftState_ErrsInv {P : Nat → Bool} {s : PState} (hs : ErrsInv P s) (a : Int) (ti : Nat) :
    ErrsInv P (shiftState s a ti) := by
  obtain ⟨h1, h2, h3, h4⟩ := hs
  refine ⟨h1, h2, ?_, h4⟩
  intro e he
  rcases List.mem_cons.mp he with rfl | he
  · exact h1
  · exact h3 e he

theorem reduceState_ErrsInv {P : Nat → Bool} {s : PState} (hs : ErrsInv P s) (wb : Bool) (prod : Int)
    (n : Nat) (ns : Int) : ErrsInv P (reduceState s wb prod n ns) := by
  obtain ⟨h1, h2, h3, h4⟩ := hs
  have hk : errsInL P ((s.stack.take n).reverse.map (·.sym)) = true := by
    apply errsInL_iff.mpr
    intro v hv
    obtain ⟨e, he, rfl⟩ := List.mem_map.mp hv
    exact h3 e (List.mem_of_mem_take (List.mem_reverse.mp he))
  refine ⟨h1, h2, ?_, ?_⟩
  · intro e he
    rcases List.mem_cons.mp he with rfl | he
    · exact hk
    · exact h3 e (List.mem_of_mem_drop he)
  · intro ev hev
    simp only [reduceState] at hev
    split at hev
    · rcases List.mem_cons.mp hev with rfl | hev
      · exact hk
      · rcases List.mem_cons.mp hev with rfl | hev
        · exact hk
        · exact h4 ev hev
    · rcases List.mem_cons.mp hev with rfl | hev
      · exact hk
      · exact h4 ev hev

theorem ErrsInv.pmoves (T : Tables) (inp : Array Nat) (wb : Bool) :
    PMoves T inp wb (ErrsInv (lexErrAt inp)) where
  read := readToken_ErrsInv
  shift a hs _ _ := shiftState_ErrsInv hs a _
  reduce prod ns hs _ := reduceState_ErrsInv hs wb prod _ ns
  clear hs := ⟨hs.1, hs.2.1, fun e he => (by cases he), hs.2.2.2⟩

theorem initState_ErrsInv (P : Nat → Bool) : ErrsInv P initState := by
  refine ⟨rfl, fun hc => absurd rfl hc, ?_, ?_⟩
  · intro e he
    rcases List.mem_cons.mp he with rfl | he
    · rfl
    · cases he
  · intro ev hev; cases hev

/-- The runtime part of C09 `no_silent_accept`, restated as `C09.no_silent_accept_partial`. -/
theorem parseG_zero_ErrsInv {T : Tables} {inp : Array Nat} {wb : Bool} {fuel : Nat}
    (h0 : (parseG T inp wb fuel).2.2 = 0) : ErrsInv (lexErrAt inp) (parseG T inp wb fuel).2.1 :=
  (ErrsInv.pmoves T inp wb).parseG_zero (initState_ErrsInv _) h0

theorem recover_Pending {T : Tables} {inp : Array Nat} {fuel : Nat} {s s' : PState}
    (h : recover T inp fuel s = .ok s') : Pending s' := by
  obtain ⟨errSym, _, _, _, he, -, -, -, -, rfl, -⟩ := recover_ok h
  obtain ⟨i, ty, ex, rfl, -⟩ := errSymOf_spec he
  exact ⟨rfl, rfl⟩

theorem reduceState_log_mem {s : PState} {wb : Bool} {prod : Int} {n : Nat} {ns : Int} :
    (∀ ev ∈ s.log, ev ∈ (reduceState s wb prod n ns).log) ∧
    Event.act prod.toNat ((s.stack.take n).reverse.map (·.sym)) ∈ (reduceState s wb prod n ns).log := by
  simp only [reduceState]
  split
  · exact ⟨fun ev hev => List.mem_cons_of_mem _ (List.mem_cons_of_mem _ hev),
      List.mem_cons_of_mem _ List.mem_cons_self⟩
  · exact ⟨fun ev hev => List.mem_cons_of_mem _ hev, List.mem_cons_self⟩

/-- An `Error` leaves the lookahead only by being shifted and the stack only as an argument of an
action call; a later `_recover()` that pops it injects a fresh one. -/
theorem step_ErrTrack {T : Tables} {inp : Array Nat} {wb : Bool} {fuel : Nat} {s s' : PState}
    (hs : ErrTrack s ∨ isRecoverStep T s = true) (h : step T inp wb fuel s = .cont s') :
    ErrTrack s' := by
  cases step_cont h with
  | recover _ _ hr => exact .inl (recover_Pending hr)
  | @shift top action ti _ htop hf _ _ _ hr =>
    have hfr := readToken_frame hr
    rcases hs with hs | hs
    · rcases hs with ⟨-, hsym⟩ | ⟨e, he, hsym⟩ | hd
      · refine .inr (.inl ⟨{ state := action, sym := s.lasym, bounds := { b := ti, e := ti } },
          ?_, hsym⟩)
        rw [hfr.stack]; exact List.mem_cons_self
      · refine .inr (.inl ⟨e, ?_, hsym⟩)
        rw [hfr.stack]; exact List.mem_cons_of_mem _ he
      · refine .inr (.inr ?_)
        rw [hfr.log]; exact hd
    · rw [isRecoverStep_hit htop hf] at hs; cases hs
  | @reduce top action tc rule top' ns htop hf =>
    rcases hs with hs | hs
    · rcases hs with hp | ⟨e, he, hsym⟩ | hd
      · exact .inl hp
      · rw [← List.take_append_drop tc.toNat s.stack] at he
        rcases List.mem_append.mp he with he | he
        · refine .inr (.inr ⟨_, _, reduceState_log_mem.2, e.sym, ?_, hsym⟩)
          exact List.mem_map.mpr ⟨e, List.mem_reverse.mpr he, rfl⟩
        · exact .inr (.inl ⟨e, List.mem_cons_of_mem _ he, hsym⟩)
      · obtain ⟨p, kids, hm, hk⟩ := hd
        exact .inr (.inr ⟨p, kids, reduceState_log_mem.1 _ hm, hk⟩)
    · rw [isRecoverStep_hit htop hf] at hs; cases hs

theorem ReachN.errTrack {T : Tables} {inp : Array Nat} {wb : Bool} {fuel : Nat} {k : Nat}
    {a b : PState} (h : ReachN T inp wb fuel k a b) (ha : ErrTrack a ∨ 0 < k) : ErrTrack b := by
  induction h with
  | refl => exact ha.resolve_right (Nat.lt_irrefl 0)
  | @step s s1 s2 k h _ ih =>
    cases hr : isRecoverStep T s with
    | true => exact ih (.inl (step_ErrTrack (.inr hr) h))
    | false =>
      rw [hr] at ha
      exact ih (ha.imp (fun ha => step_ErrTrack (.inl ha) h) id)

/-- Restated as `C09.error_tracked`. -/
theorem parseG_ErrTrack {T : Tables} {inp : Array Nat} {wb : Bool} {fuel : Nat}
    (hacc : (parseG T inp wb fuel).1 = .accept) (hrec : 0 < (parseG T inp wb fuel).2.2) :
    ErrTrack (parseG T inp wb fuel).2.1 :=
  let ⟨_, _, hr, _⟩ := parseG_accept hacc
  hr.errTrack (.inr hrec)

/-- Of the three places `parseG_ErrTrack` leaves for the injected `Error`, an accepting state whose
lookahead is not ERROR and whose stack holds no `Error` leaves the log. -/
theorem parseG_delivered_of {T : Tables} {inp : Array Nat} {wb : Bool} {fuel : Nat}
    (hacc : (parseG T inp wb fuel).1 = .accept) (hrec : 0 < (parseG T inp wb fuel).2.2)
    (hla : (parseG T inp wb fuel).2.1.la ≠ tERROR)
    (hstk : ∀ e ∈ (parseG T inp wb fuel).2.1.stack, e.sym.isErr = false) :
    Delivered (parseG T inp wb fuel).2.1.log := by
  rcases parseG_ErrTrack hacc hrec with ⟨h, -⟩ | ⟨e, he, hsym⟩ | hd
  · exact absurd h hla
  · rw [hstk e he] at hsym; cases hsym
  · exact hd

/-- The runtime part of C09 `error_delivered`, restated as `C09.error_delivered_partial`: `hT` makes
the accepting lookahead EOF. `hstk` is about the run, not the tables; on validated tables the
accepting stack is `[S-node, bottom]` and `error_delivered` (`RuntimeSound`) has no such
hypothesis. -/
theorem parseG_error_delivered {T : Tables} {inp : Array Nat} {wb : Bool} {fuel : Nat}
    (hacc : (parseG T inp wb fuel).1 = .accept) (hrec : 0 < (parseG T inp wb fuel).2.2)
    (hT : AcceptOnlyEOF T)
    (hstk : ∀ e ∈ (parseG T inp wb fuel).2.1.stack, e.sym.isErr = false) :
    Delivered (parseG T inp wb fuel).2.1.log := by
  obtain ⟨-, -, -, top, -, hf⟩ := parseG_accept hacc
  exact parseG_delivered_of hacc hrec (by rw [hT _ _ hf]; decide) hstk

mutual
theorem leaves_no_err : ∀ (v : Val), errsIn (fun _ => false) v = true →
    ∀ x ∈ leaves v, x.isErr = false
  | .nil, _, x, hx => by cases hx
  | .tok _ _, _, x, hx => by rw [leaves, List.mem_singleton] at hx; rw [hx]; rfl
  | .err _ _ _, h, _, _ => by simp [errsIn] at h
  | .node _ kids, h, x, hx => by
    rw [errsIn] at h; rw [leaves] at hx
    exact leavesL_no_err kids h x hx
theorem leavesL_no_err : ∀ (l : List Val), errsInL (fun _ => false) l = true →
    ∀ x ∈ leavesL l, x.isErr = false
  | [], _, x, hx => by cases hx
  | v :: vs, h, x, hx => by
    simp only [errsInL, Bool.and_eq_true] at h
    rw [leavesL] at hx
    rcases List.mem_append.mp hx with hx | hx
    · exact leaves_no_err v h.1 x hx
    · exact leavesL_no_err vs h.2 x hx
end

theorem readToken_noErr {T : Tables} {inp : Array Nat} {s s1 : PState}
    (hinp : ∀ i : Nat, inp[i]? ≠ some 1) (h : readToken T inp s = .ok s1) (hq : s.qla ≠ tERROR) :
    s1.la ≠ tERROR ∧ s1.qla ≠ tERROR := by
  rcases readToken_eq_ok h with ⟨-, rfl⟩ | ⟨-, hE, rfl⟩ | ⟨-, -, hi, -⟩
  · exact ⟨hq, show (-1 : Int) ≠ tERROR by decide⟩
  · exact ⟨hE, hq⟩
  · exact absurd hi (hinp _)

theorem Reads.noErr {T : Tables} {inp : Array Nat} {a b : PState} (hinp : ∀ i : Nat, inp[i]? ≠ some 1)
    (h : Reads T inp a b) (hl : a.la ≠ tERROR) (hq : a.qla ≠ tERROR) :
    b.la ≠ tERROR ∧ b.qla ≠ tERROR :=
  h.inv (fun _ _ hs hr => readToken_noErr hinp hr hs.2) ⟨hl, hq⟩

theorem Reads.qla_noErr {T : Tables} {inp : Array Nat} {a b : PState}
    (h : Reads T inp a b) (hq : a.qla ≠ tERROR) : b.qla ≠ tERROR :=
  h.inv (P := fun s => s.qla ≠ tERROR) (fun _ _ _ hr => readToken_qla hr ▸ by decide) hq

theorem recover_qla_real {T : Tables} {inp : Array Nat} {fuel : Nat} {s s' : PState}
    (hinp : ∀ i : Nat, inp[i]? ≠ some 1) (hq : s.qla ≠ tERROR) (h : recover T inp fuel s = .ok s') :
    s'.qla ≠ tERROR := by
  obtain ⟨errSym, s0, s1, st, -, h0, hl0, h1, -, rfl, -⟩ := recover_ok h
  exact (h1.noErr hinp hl0 (h0.qla_noErr hq)).1

end Lox.LR.Rt
