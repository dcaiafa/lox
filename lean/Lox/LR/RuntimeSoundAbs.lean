import Lox.LR.RuntimeSound
/-! The simulation. `absC inp s` is the configuration of the abstract LR machine that a state `s` of
the generated parser stands for: its stack, the token array from the lookahead on as input (behind the
injected `Error` while the lookahead proper is queued), its `_act` calls as log. On validated tables
an iteration of `parse` that shifts or reduces is a step of `Abs.step` from the image to the image
(`step_absC`), so a stretch of the run without `_recover()` is a run of the abstract machine
(`PlainReach.abs`, `runLoop_absC`) that starts, for `parse`, in `Abs.init` (`init_absC`): what the
abstract machine accepts, `parse` accepts with the same log and tree (`parse_accept`). -/
namespace Lox.LR.Rt
open Lox.LR.Abs (StackInv)

/-- What the lexer side still holds for the parser: the token array from the lookahead on (EOF is
its end), behind the injected `Error` while the lookahead proper is queued. -/
def absIn (inp : Array Nat) (s : PState) : List Nat :=
  if s.qla ≠ -1 then leafNat s.lasym :: inp.toList.drop (lidx s.qlasym)
  else inp.toList.drop (lidx s.lasym)

def absC (inp : Array Nat) (s : PState) : Abs.Config :=
  ⟨absStack s.stack, absIn inp s, (actsOf s.log).reverse⟩

theorem la_drop (inp : Array Nat) (j : Nat) : Abs.la (inp.toList.drop j) = inp[j]?.getD 0 := by
  unfold Abs.la
  rw [List.headD_eq_head?_getD, List.head?_drop, Array.getElem?_toList]
  rfl

/-- `he`: an `Error` that `_makeError()` made up carries the type of the offending token, not 1. -/
theorem leafNat_tokOK {inp : Array Nat} {v : Val} (hl : v.isLeaf = true) (ht : TokOK inp v)
    (he : ∀ i ty ex, v = .err i ty ex → ty = 1) : inp[lidx v]?.getD 0 = leafNat v := by
  obtain ⟨i, ty, rfl⟩ | ⟨i, ty, ex, rfl⟩ := leaf_cases hl
  · rcases ht with h | ⟨rfl, rfl⟩
    · show inp[i]?.getD 0 = _
      rw [h]
      exact (Int.toNat_natCast ty).symm
    · show inp[inp.size]?.getD 0 = _
      rw [Array.getElem?_eq_none (Nat.le_refl _)]
      rfl
  · obtain rfl := he i ty ex rfl
    rcases ht with h | ⟨-, h⟩
    · show inp[i]?.getD 0 = _
      rw [h]
      rfl
    · cases h

theorem la_absIn {inp : Array Nat} {s : PState} (hp : PInv inp s) (hx : LexErr s) :
    Abs.la (absIn inp s) = leafNat s.lasym := by
  unfold absIn
  split
  · rfl
  · rename_i hq
    rw [la_drop]
    exact leafNat_tokOK hp.laok.1 hp.tokLa (hx.1 (Decidable.not_not.mp hq))

/-- `_readToken()` takes the head off: the queued lookahead comes back from behind the `Error`, or
the lexer delivers the next token (EOF again after EOF, where nothing is left to take). -/
theorem readToken_absIn {T : Tables} {inp : Array Nat} {s s' : PState} (hp : PInv inp s)
    (h : readToken T inp s = .ok s') : absIn inp s' = (absIn inp s).tail := by
  obtain ⟨-, hq', hcase⟩ := readToken_PInv hp h
  unfold absIn
  rw [if_neg (not_not_intro hq')]
  rcases hcase with ⟨hq, hl⟩ | ⟨hq, hadv⟩
  · rw [if_pos hq, hl]
    rfl
  · rw [if_neg (not_not_intro hq), List.tail_drop]
    rcases hadv with h1 | ⟨h1, h2⟩
    · rw [h1]
    · rw [h2, h1, List.drop_of_length_le (by simp), List.drop_of_length_le (by simp)]

theorem actsOf_reduced_log (wb : Bool) (lg : List Event) (p : Nat) (kids : List Val) (res : Val)
    (b : Bounds) :
    actsOf (if wb ∧ ¬ b.empty then Event.bounds p res b.b b.e :: Event.act p kids :: lg
            else Event.act p kids :: lg) = (p, kids.map Val.toTree) :: actsOf lg := by
  split
  · rfl
  · rfl

theorem absStack_kids (st : List Entry) (k : Nat) :
    toTreeList ((st.take k).reverse.map (·.sym)) = (((absStack st).take k).map (·.val)).reverse := by
  simp [absStack, toTreeList_eq_map, List.map_take, List.map_reverse, Function.comp_def]

section
variable {G : Grammar} {nTerms nRules : Nat} {T : Tables} {cert : Array (List Item)}

/-- **The simulation, stated once.** One iteration of `parse` from a state satisfying `SInv`, against
one step of the abstract machine from the image of the state, in three cases: `parse` finds no action
(and calls `_recover`) and the abstract machine fails; `parse` shifts or reduces and the abstract
machine continues to the image of the next state; both accept (the tree is the value on top). The
second case says that a shift or a reduction does not panic: the `_lasym` type assertion holds,
`_readToken()` succeeds in the new state, the stack is deep enough for the reduction and the goto
entry exists. -/
theorem step_absC (hc : SafeOK G nTerms nRules T cert) {inp : Array Nat} {s : PState}
    (hs : SInv G (autoOf T cert) inp s) (wb : Bool) (fuel : Nat) :
    (isRecoverStep T s = true ∧ Abs.step G (autoOf T cert) (absC inp s) = .fail) ∨
    (isRecoverStep T s = false ∧ ∃ s', step T inp wb fuel s = .cont s' ∧
      Abs.step G (autoOf T cert) (absC inp s) = .cont (absC inp s')) ∨
    (isRecoverStep T s = false ∧ step T inp wb fuel s = .done .accept s ∧
      ∃ t, Abs.step G (autoOf T cert) (absC inp s) = .acc t ∧
        s.stack.head?.map (fun e => e.sym.toTree) = some t) := by
  obtain ⟨top, htop, hin⟩ := (hs.stackR hc).top
  obtain ⟨hcov, ⟨syms, hci⟩, hx⟩ := hs
  obtain ⟨e, st, hst, -, -, hact⟩ := action_at_top hc hci hcov.pinv htop
  rw [← la_absIn hcov.pinv hx] at hact
  have hne : (absC inp s).stack ≠ [] := by
    show absStack s.stack ≠ []
    rw [hst]
    exact List.cons_ne_nil _ _
  rcases find_actions_inR hc hin s.la with ⟨action, hf⟩ | hf
  · simp only [hf] at hact
    by_cases hacc : action = acceptCode
    · rw [decodeAct_accept.mpr hacc] at hact
      refine .inr (.inr ⟨isRecoverStep_hit htop hf, step_accept htop (hacc ▸ hf), _,
        Abs.step_accept hne hact, ?_⟩)
      simp only [absC, absStack, hst, List.map_cons, List.head_cons, List.head?_cons,
        Option.map_some]
    · by_cases hsh : action ≥ 0
      · rw [decodeAct_shift.mpr ⟨hacc, hsh, rfl⟩] at hact
        obtain ⟨ti, hti⟩ : ∃ ti, (if wb = true then symTokIdx s.lasym else some 0) = some ti := by
          cases wb
          · exact ⟨0, rfl⟩
          · exact symTokIdx_isSome hcov.pinv.laok.1
        have hci' := hci.shift hc hcov.pinv htop hf hacc hsh ti
        obtain ⟨s2, h2⟩ := readToken_ok hc (inp := inp) (s := shiftState s action ti)
          (top := action) rfl (hci'.states_lt hc _ List.mem_cons_self)
        have hfr := readToken_frame h2
        refine .inr (.inl ⟨isRecoverStep_hit htop hf, s2,
          (Step.shift htop hf hacc hsh hti h2).step_eq, ?_⟩)
        rw [Abs.step_shift hne hact]
        have h3 : absIn inp s2 = (absIn inp s).tail :=
          readToken_absIn (s := shiftState s action ti) (hcov.pinv.congr rfl rfl rfl rfl rfl) h2
        unfold absC
        rw [hfr.stack, hfr.log, h3, la_absIn hcov.pinv hx]
        congr 1
        simp [shiftState, absStack, toTree_of_leaf hcov.pinv.laok.1]
      · have hneg := Int.not_le.mp hsh
        rw [decodeAct_reduce.mpr ⟨hacc, hneg, rfl⟩] at hact
        obtain ⟨pr, ec, rc, v, hpr, htc, hru, hle, -, hd, -, hfv, -, hgoto⟩ :=
          hci.reduce_spec hc hcov.pinv htop hf hacc hneg
        have hlen := hci.len
        have hdropA : (absC inp s).stack.drop pr.rhs.length =
            ⟨ec.state.toNat, ec.sym.toTree⟩ :: absStack rc := by
          show (absStack s.stack).drop _ = _
          rw [absStack, ← List.map_drop, hd]
          rfl
        refine .inr (.inl ⟨isRecoverStep_hit htop hf, _, (Step.reduce htop hf hacc hneg htc hru
          (Int.natCast_nonneg _) (by rw [Int.toNat_natCast]; omega)
          (by rw [Int.toNat_natCast, hd]; rfl) (.inl hfv)).step_eq, ?_⟩)
        rw [Abs.step_reduce hact hpr hdropA hgoto]
        congr 1
        unfold absC
        simp only [reduceState, Int.toNat_natCast]
        rw [actsOf_reduced_log, List.reverse_cons, ← toTreeList_eq_map, absStack_kids]
        simp only [absStack, List.map_cons, hd, Val.toTree]
        rw [absStack_kids]
        rfl
  · simp only [hf] at hact
    exact .inl ⟨isRecoverStep_miss htop hf, Abs.step_of_none hact⟩

theorem init_absC {inp : Array Nat} {s1 : PState} (h1 : readToken T inp initState = .ok s1) :
    absC inp s1 = Abs.init inp.toList := by
  obtain ⟨-, hq, hi⟩ := readToken_lex (s := initState) rfl (Nat.zero_le _) h1
  have hfr := readToken_frame h1
  unfold absC absIn
  rw [hfr.stack, hfr.log, if_neg (not_not_intro hq), hi]
  rfl

theorem PlainReach.abs (hc : SafeOK G nTerms nRules T cert) {inp : Array Nat} {wb : Bool}
    {fuel : Nat} {a b : PState} (h : PlainReach T inp wb fuel a b)
    (ha : SInv G (autoOf T cert) inp a) :
    Abs.Reaches G (autoOf T cert) (absC inp a) (absC inp b) ∧ SInv G (autoOf T cert) inp b := by
  induction h with
  | refl => exact ⟨.refl _, ha⟩
  | @step s s1 s2 hp hst _ ih =>
    rcases step_absC hc ha wb fuel with ⟨hr, -⟩ | ⟨-, s', hs', hd⟩ | ⟨-, hacc, -⟩
    · cases hp.symm.trans hr
    · cases hst.symm.trans hs'
      obtain ⟨i1, i2⟩ := ih (step_SInv hc ha hst)
      exact ⟨.step hd i1, i2⟩
    · cases hst.symm.trans hacc

/-- If the abstract run from the image of `s` finishes within `n` steps, `parse` does the same `k < n`
shifts and reductions and then finds no action resp. accepts (same log, the abstract tree on top). -/
theorem runLoop_absC (hc : SafeOK G nTerms nRules T cert) {inp : Array Nat} (wb : Bool) (fuel : Nat) :
    ∀ (n : Nat) {s : PState}, SInv G (autoOf T cert) inp s →
      Abs.run G (autoOf T cert) n (absC inp s) ≠ .timeout →
      ∃ sf k, k < n ∧ PlainReach T inp wb fuel s sf ∧
        (∀ m, runLoop T inp wb fuel (k + m) s = runLoop T inp wb fuel m sf) ∧
        ((isRecoverStep T sf = true ∧ Abs.run G (autoOf T cert) n (absC inp s) = .fail) ∨
         (step T inp wb fuel sf = .done .accept sf ∧
           ∃ t, Abs.run G (autoOf T cert) n (absC inp s) = .acc t (actsOf sf.log).reverse ∧
             sf.stack.head?.map (fun e => e.sym.toTree) = some t))
  | 0, _, _, h => absurd rfl h
  | n + 1, s, hs, h => by
    unfold Abs.run at h ⊢
    rcases step_absC hc hs wb fuel with ⟨hr, hd⟩ | ⟨hr, s', hs', hd⟩ | ⟨-, hacc, t, hd, ht⟩
    · rw [hd]
      exact ⟨s, 0, Nat.succ_pos _, .refl s, fun m => by rw [Nat.zero_add], .inl ⟨hr, rfl⟩⟩
    · rw [hd] at h ⊢
      obtain ⟨sf, k, hk, hp, hm, hend⟩ := runLoop_absC hc wb fuel n (step_SInv hc hs hs') h
      refine ⟨sf, k + 1, Nat.succ_lt_succ hk, .step hr hs' hp, fun m => ?_, hend⟩
      rw [Nat.add_right_comm, runLoop, hs']
      exact hm m
    · rw [hd]
      exact ⟨s, 0, Nat.succ_pos _, .refl s, fun m => by rw [Nat.zero_add], .inr ⟨hacc, t, rfl, ht⟩⟩

theorem parse_accept (hc : SafeOK G nTerms nRules T cert) {w : List Nat} (wb : Bool) {n : Nat} {t lg}
    (h : Abs.run G (autoOf T cert) n (Abs.init w) = .acc t lg) {fuel : Nat} (hfuel : n ≤ fuel) :
    (parse T w.toArray wb fuel).1 = .accept ∧
      (actsOf (parse T w.toArray wb fuel).2.log).reverse = lg ∧
      (parse T w.toArray wb fuel).2.stack.head?.map (fun e => e.sym.toTree) = some t := by
  obtain ⟨s1, h1⟩ := readToken_init_ok hc w.toArray
  have hi := init_absC h1
  obtain ⟨sf, k, hk, -, hm, ⟨-, hf⟩ | ⟨hstep, t', hrun, htree⟩⟩ :=
    runLoop_absC hc wb fuel n (init_SInv (G := G) (cert := cert) h1) (by rw [hi, h]; nofun)
  · rw [hi, h] at hf
    cases hf
  · rw [hi, h] at hrun
    cases hrun
    obtain ⟨m, rfl⟩ : ∃ m, fuel = k + (m + 1) := ⟨fuel - k - 1, by omega⟩
    rw [parse_eq, h1]
    dsimp only
    rw [hm, runLoop, hstep]
    exact ⟨rfl, rfl, htree⟩

end

end Lox.LR.Rt
