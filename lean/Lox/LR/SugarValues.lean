import Lox.LR.DesugarProofs
import Lox.LR.ValTree
/-! The value trees of the helper rules of `desugar SG` have the documented shapes (`helper_shape`),
by inversion of `Der` on value trees, one rule at a time (`NodeOf`, `helper_node`). With `docValue`
this is the vocabulary of `Lox.Props.C03.sugar_values`, which says what the synthesised actions
(`interp`, Sugar.lean) compute on such trees.

Specification level (read these): `RepChain`, `ListChain`, `Shape`, `docValue`. -/
namespace Lox.LR

def kindAt (kinds : Array Nat) (p : Nat) : Kind := Kind.ofCode (kinds[p]?.getD 0)

theorem interpList_eq_map (kinds : Array Nat) (rules : Array Int) (vs : List Val) :
    interpList kinds rules vs = vs.map (interp kinds rules) := by
  induction vs with
  | nil => rfl
  | cons v vs ih => simp [interpList, ih]

theorem interp_node (kinds : Array Nat) (rules : Array Int) (p : Nat) (kids : List Val) :
    interp kinds rules (.node p kids) =
      combine (kindAt kinds p) (rules[p]?.getD (-1)) (kids.map (interp kinds rules)) := by
  rw [interp, interpList_eq_map, kindAt]

theorem interp_tok (kinds : Array Nat) (rules : Array Int) (i ty : Nat) :
    interp kinds rules (.tok i ty) = .tok i ty := by
  rw [interp]

/-- `v` is a left-recursive repetition tree (`x+ = x+ x | x`, kinds `k1` for the one-element
production and `km` for the recursive one) over the element values `es`, in input order. -/
inductive RepChain (kinds : Array Nat) (k1 km : Kind) : Val → List Val → Prop where
  | one {p e} : kindAt kinds p = k1 → RepChain kinds k1 km (.node p [e]) [e]
  | more {p l e es} : kindAt kinds p = km → RepChain kinds k1 km l es →
      RepChain kinds k1 km (.node p [l, e]) (es ++ [e])

/-- `v` is a `@list` tree (`L = L s x | x`) with first element `e0` and then the
(separator, element) pairs `ps`, in input order. -/
inductive ListChain (kinds : Array Nat) : Val → Val → List (Val × Val) → Prop where
  | one {p e} : kindAt kinds p = .listOne → ListChain kinds (.node p [e]) e []
  | more {p l s e e0 ps} : kindAt kinds p = .listMore → ListChain kinds l e0 ps →
      ListChain kinds (.node p [l, s, e]) e0 (ps ++ [(s, e)])

/-- `v` is a value tree of a helper rule of kind `hk` whose elements are `es` (left to right);
separators of `@list` are not elements. -/
inductive Shape (kinds : Array Nat) : HK → Val → List Val → Prop where
  | optSome {p e} : kindAt kinds p = .optSome → Shape kinds .opt (.node p [e]) [e]
  | optNone {p} : kindAt kinds p = .optNone → Shape kinds .opt (.node p []) []
  | starSome {p l es} : kindAt kinds p = .starSome → RepChain kinds .plusOne .plusMore l es →
      Shape kinds .star (.node p [l]) es
  | starNone {p} : kindAt kinds p = .starNone → Shape kinds .star (.node p []) []
  | starFSome {p l es} : kindAt kinds p = .starSome → RepChain kinds .plusFOne .plusFMore l es →
      Shape kinds .starF (.node p [l]) es
  | starFNone {p} : kindAt kinds p = .starNone → Shape kinds .starF (.node p []) []
  | plus {v es} : RepChain kinds .plusOne .plusMore v es → Shape kinds .plus v es
  | plusF {v es} : RepChain kinds .plusFOne .plusFMore v es → Shape kinds .plusF v es
  | list {v e0 ps} : ListChain kinds v e0 ps → Shape kinds .list v (e0 :: ps.map (·.2))
  | listOptSome {p l e0 ps} : kindAt kinds p = .optSome → ListChain kinds l e0 ps →
      Shape kinds .listOpt (.node p [l]) (e0 :: ps.map (·.2))
  | listOptNone {p} : kindAt kinds p = .optNoneList → Shape kinds .listOpt (.node p []) []

/-- The documented value of a sugar term given the values of its elements in input order:
`x?` → the element's value, or the zero value; `x*`, `x+`, `@list`, `@list?` → the list of all element
values (empty for none; separators are not part of it); `x*!` (and its helper `x+!`) → the elements
whose `Discard()` is false. -/
def docValue : HK → List SVal → SVal
  | .opt, xs => xs.head?.getD .zero
  | .star, xs | .plus, xs | .list, xs | .listOpt, xs => .list xs
  | .starF, xs | .plusF, xs => .list (xs.filter fun x => !x.discard)

theorem combine_plusFOne (p : Int) (x : SVal) :
    combine .plusFOne p [x] = .list (if x.discard then [] else [x]) := rfl

theorem combine_plusFMore (p : Int) (l x : SVal) :
    combine .plusFMore p [l, x] = .list (if x.discard then l.elems else l.elems ++ [x]) := rfl

theorem combine_listMore (p : Int) (l s x : SVal) :
    combine .listMore p [l, s, x] = .list (l.elems ++ [x]) := rfl

theorem Val.kids_induction {P : Val → Prop}
    (h : ∀ v, (∀ q kids u, v = .node q kids → u ∈ kids → P u) → P v) (v : Val) : P v :=
  (measure (sizeOf : Val → Nat)).wf.induction v fun v ih => h v fun q kids u e hu => ih u (by
    subst e
    have := List.sizeOf_lt_of_mem hu
    show sizeOf u < sizeOf (Val.node q kids)
    simp only [Val.node.sizeOf_spec]
    omega)

section
variable {G : Grammar} {kinds : Array Nat} {P : Nat}

/-- The value trees at rule `P` are nodes of the productions `rows`, of the kind listed with each:
`P` has no other production. -/
def NodeOf (G : Grammar) (kinds : Array Nat) (P : Nat) (rows : List (Prod × Nat)) : Prop :=
  ∀ (v : Val) (w : List Nat), Der G [.n P] w [v.toTree] → ∃ q kids pr c, v = .node q kids ∧
    kindAt kinds q = Kind.ofCode c ∧ (pr, c) ∈ rows ∧ Der G pr.rhs w (kids.map Val.toTree)

/-- `P → Y (kind cs) | ε (kind cn)`: the forms `x?`, `x*`, `x*!`, `@list(..)?`. -/
theorem opt_tree {Y : Sym} {cs cn : Nat} (hn : NodeOf G kinds P [(⟨P, [Y]⟩, cs), (⟨P, []⟩, cn)])
    {v : Val} {w : List Nat} (hd : Der G [.n P] w [v.toTree]) :
    (∃ q l, v = .node q [l] ∧ kindAt kinds q = Kind.ofCode cs ∧ Der G [Y] w [l.toTree]) ∨
    (∃ q, v = .node q [] ∧ kindAt kinds q = Kind.ofCode cn ∧ w = []) := by
  obtain ⟨q, kids, pr, c, rfl, hc, hm, hd⟩ := hn _ _ hd
  simp only [List.mem_cons, List.not_mem_nil, or_false] at hm
  rcases hm with ⟨rfl, rfl⟩ | ⟨rfl, rfl⟩
  · obtain ⟨l, rfl, h1⟩ := Der.vals1 hd
    exact .inl ⟨q, l, rfl, hc, h1⟩
  · obtain ⟨rfl, rfl⟩ := Der.vals_nil hd
    exact .inr ⟨q, rfl, hc, rfl⟩

/-- `P → P X (kind cm) | X (kind c1)`: `x+`, `x+!`. -/
theorem rep_tree {X : Sym} {cm c1 : Nat}
    (hn : NodeOf G kinds P [(⟨P, [.n P, X]⟩, cm), (⟨P, [X]⟩, c1)]) :
    ∀ (v : Val) (w : List Nat), Der G [.n P] w [v.toTree] →
      ∃ es, RepChain kinds (Kind.ofCode c1) (Kind.ofCode cm) v es ∧
        (∀ e ∈ es, ∃ w', Der G [X] w' [e.toTree]) ∧
        w = (es.map fun e => e.toTree.yield).flatten := by
  refine Val.kids_induction fun v ih w hd => ?_
  obtain ⟨q, kids, pr, c, rfl, hc, hm, hd⟩ := hn _ _ hd
  simp only [List.mem_cons, List.not_mem_nil, or_false] at hm
  rcases hm with ⟨rfl, rfl⟩ | ⟨rfl, rfl⟩
  · obtain ⟨l, _, w1, w2, rfl, rfl, h1, hd⟩ := hd.vals_cons
    obtain ⟨e, rfl, h2⟩ := Der.vals1 hd
    obtain ⟨es, hch, hel, rfl⟩ := ih q _ l rfl List.mem_cons_self w1 h1
    refine ⟨es ++ [e], .more hc hch, fun e' he' => ?_, by simp [h2.yield_one]⟩
    rcases List.mem_append.1 he' with he' | he'
    · exact hel e' he'
    · exact ⟨w2, List.mem_singleton.1 he' ▸ h2⟩
  · obtain ⟨e, rfl, h1⟩ := Der.vals1 hd
    exact ⟨[e], .one hc, fun e' he' => ⟨w, List.mem_singleton.1 he' ▸ h1⟩,
      by simp [h1.yield_one]⟩

/-- `P → P S X (kind 6) | X (kind 5)`: `@list`. -/
theorem list_tree {X S : Sym} (hn : NodeOf G kinds P [(⟨P, [.n P, S, X]⟩, 6), (⟨P, [X]⟩, 5)]) :
    ∀ (v : Val) (w : List Nat), Der G [.n P] w [v.toTree] →
      ∃ e0 ps, ListChain kinds v e0 ps ∧
        (∀ e ∈ e0 :: ps.map (·.2), ∃ w', Der G [X] w' [e.toTree]) ∧
        (∀ s ∈ ps.map (·.1), ∃ w', Der G [S] w' [s.toTree]) ∧
        w = e0.toTree.yield ++ (ps.map fun p => p.1.toTree.yield ++ p.2.toTree.yield).flatten := by
  refine Val.kids_induction fun v ih w hd => ?_
  obtain ⟨q, kids, pr, c, rfl, hc, hm, hd⟩ := hn _ _ hd
  simp only [List.mem_cons, List.not_mem_nil, or_false] at hm
  rcases hm with ⟨rfl, rfl⟩ | ⟨rfl, rfl⟩
  · obtain ⟨l, _, w1, _, rfl, rfl, h1, hd⟩ := hd.vals_cons
    obtain ⟨s, _, w2, w3, rfl, rfl, h2, hd⟩ := hd.vals_cons
    obtain ⟨e, rfl, h3⟩ := Der.vals1 hd
    obtain ⟨e0, ps, hch, hel, hse, rfl⟩ := ih q _ l rfl List.mem_cons_self w1 h1
    refine ⟨e0, ps ++ [(s, e)], .more hc hch, fun e' he' => ?_, fun s' hs' => ?_,
      by simp [h2.yield_one, h3.yield_one]⟩
    · simp only [List.map_append, List.map_cons, List.map_nil, List.mem_cons, List.mem_append,
        List.not_mem_nil, or_false] at he'
      rcases he' with rfl | he' | rfl
      · exact hel e' List.mem_cons_self
      · exact hel e' (List.mem_cons_of_mem _ he')
      · exact ⟨w3, h3⟩
    · simp only [List.map_append, List.map_cons, List.map_nil, List.mem_append, List.mem_cons,
        List.not_mem_nil, or_false] at hs'
      rcases hs' with hs' | rfl
      · exact hse s' hs'
      · exact ⟨w2, h2⟩
  · obtain ⟨e, rfl, h1⟩ := Der.vals1 hd
    exact ⟨e, [], .one hc, fun e' he' => ⟨w, List.mem_singleton.1 he' ▸ h1⟩, by simp,
      by simp [h1.yield_one]⟩

end

namespace SGrammar
variable {SG : SGrammar}

/-- No other production has the left-hand side of the `i`-th helper rule. -/
theorem helper_node {i : Nat} {k : HKey} (hi : SG.helpers[i]? = some k) :
    NodeOf (desugar SG).1 (desugar SG).2.1 (SG.nUser + 1 + i)
      ((SG.helperBody (SG.nUser + 1 + i) k).zip (helperKinds k)) := by
  intro v w hd
  obtain ⟨q, pr, kids, rfl, hq, hl, hd⟩ := Der.val_inv hd
  obtain ⟨c, hc, hm⟩ := prod_kind hq
  refine ⟨q, kids, pr, c, rfl, by simp [kindAt, hc], ?_, hd⟩
  rcases hm with h | ⟨hp, -⟩ | ⟨j, k', hj, h⟩
  · cases h
    simp at hl
    omega
  · simp only [userProds, mem_userProdsFrom] at hp
    obtain ⟨j, r, p', hr, _, rfl⟩ := hp
    have : j < SG.rules.length := (List.getElem?_eq_some_iff.1 hr).1
    simp [nUser] at hl
    omega
  · have := (helperBody_syms (List.of_mem_zip h).1).1
    have e : j = i := by omega
    subst e
    rw [hi] at hj
    cases hj
    exact h

/-- For `@list`/`@list?` the input also holds the separators' yields, which `Shape` does not record
(`list_tree` has them): hence the two exclusions in the last conjunct. -/
theorem helper_shape (hw : SG.WF) {i : Nat} {k : HKey} (hi : SG.helpers[i]? = some k)
    {v : Val} {w : List Nat} (hd : Der (desugar SG).1 [.n (SG.nUser + 1 + i)] w [v.toTree]) :
    ∃ es, Shape (desugar SG).2.1 k.kind v es ∧
      (∀ e ∈ es, ∃ w', Der (desugar SG).1 [symOfAtom k.x] w' [e.toTree]) ∧
      (k.kind ≠ .list → k.kind ≠ .listOpt → w = (es.map fun e => e.toTree.yield).flatten) := by
  have hm : k ∈ SG.helpers := List.mem_of_getElem? hi
  have dep : ∀ d, k.dep = some d → ∃ j, SG.helpers[j]? = some d ∧
      SG.ruleIdx d = SG.nUser + 1 + j := fun d h => ruleIdx_of_mem hw (dep_mem hw hm h)
  have hn := helper_node hi
  obtain ⟨kind, x, sep⟩ := k
  cases kind
  · rcases opt_tree hn hd with ⟨q, l, rfl, hc, h1⟩ | ⟨q, rfl, hc, rfl⟩
    · exact ⟨[l], .optSome hc, fun e he => List.mem_singleton.1 he ▸ ⟨w, h1⟩,
        fun _ _ => ((List.append_nil _).trans h1.yield_one).symm⟩
    · exact ⟨[], .optNone hc, fun _ he => absurd he List.not_mem_nil, fun _ _ => rfl⟩
  · rcases opt_tree hn hd with ⟨q, l, rfl, hc, h1⟩ | ⟨q, rfl, hc, rfl⟩
    · obtain ⟨j, hj, ej⟩ := dep ⟨.plus, x, x⟩ rfl
      rw [ej] at h1
      obtain ⟨es, hch, hel, hw'⟩ := rep_tree (helper_node hj) l w h1
      exact ⟨es, .starSome hc hch, hel, fun _ _ => hw'⟩
    · exact ⟨[], .starNone hc, fun _ he => absurd he List.not_mem_nil, fun _ _ => rfl⟩
  · rcases opt_tree hn hd with ⟨q, l, rfl, hc, h1⟩ | ⟨q, rfl, hc, rfl⟩
    · obtain ⟨j, hj, ej⟩ := dep ⟨.plusF, x, x⟩ rfl
      rw [ej] at h1
      obtain ⟨es, hch, hel, hw'⟩ := rep_tree (helper_node hj) l w h1
      exact ⟨es, .starFSome hc hch, hel, fun _ _ => hw'⟩
    · exact ⟨[], .starFNone hc, fun _ he => absurd he List.not_mem_nil, fun _ _ => rfl⟩
  · obtain ⟨es, hch, hel, hw'⟩ := rep_tree hn v w hd
    exact ⟨es, .plus hch, hel, fun _ _ => hw'⟩
  · obtain ⟨es, hch, hel, hw'⟩ := rep_tree hn v w hd
    exact ⟨es, .plusF hch, hel, fun _ _ => hw'⟩
  · obtain ⟨e0, ps, hch, hel, _, _⟩ := list_tree hn v w hd
    exact ⟨_, .list hch, hel, fun h => absurd rfl h⟩
  · rcases opt_tree hn hd with ⟨q, l, rfl, hc, h1⟩ | ⟨q, rfl, hc, rfl⟩
    · obtain ⟨j, hj, ej⟩ := dep ⟨.list, x, sep⟩ rfl
      rw [ej] at h1
      obtain ⟨e0, ps, hch, hel, _, _⟩ := list_tree (helper_node hj) l w h1
      exact ⟨_, .listOptSome hc hch, hel, fun _ h => absurd rfl h⟩
    · exact ⟨[], .listOptNone hc, fun _ he => absurd he List.not_mem_nil, fun _ _ => rfl⟩

end SGrammar

end Lox.LR
