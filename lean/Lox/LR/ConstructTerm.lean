import Lox.LR.ConstructWf
import Lox.Util.PowerSet
/-! Termination of the model of `ConstructLALR`: no step panics on well-formed tables (`Wf`), the
measure `mu` (number of (state, item) pairs + number of states) increases in every round that
leaves `pendingSet` non-empty, and it is bounded by `2 ^ numCores * (numCores * nT + 1)` (distinct
sorted kernels; duplicate-free item lists over a finite universe). Hence the loop returns
when `mu st` plus the fuel exceeds the bound by 2 (`loop_isSome`), as `constructFuel` does. -/
namespace Lox.LR.Cons
open Lox.LR Lox.LR.Gen

section
variable {G : Grammar} {nT : Nat}

theorem itemPanics_of_wf {x : Item} (hx : WfItem G nT x) : itemPanics G nT x = false := by
  obtain ⟨pr, hp, hd, ha⟩ := hx
  simp only [itemPanics, hp]
  split
  · rfl
  · rw [List.getElem?_eq_getElem (by omega)]
    split
    · cases ‹some _ = none›
    · rfl
    · exact decide_eq_false (by omega)

theorem closureGo_isSome (ht : TermsBelow G nT) {I : List Item} (hI : ∀ x ∈ I, WfItem G nT x) :
    ∃ T, closureGo G nT I = some T :=
  (closure_isSome ht fun it hit => (hI it hit).choose_spec.2.2).imp fun _ h =>
    closureGo_eq_some.mpr ⟨fun x hx => itemPanics_of_wf (hI x hx), h⟩

theorem gotoGo_isSome (ht : TermsBelow G nT) {I : List Item} (hI : ∀ x ∈ I, WfItem G nT x)
    (X : Sym) : ∃ T, gotoGo G nT I X = some T := by
  obtain ⟨T, h⟩ := closureGo_isSome ht (wf_advance hI X)
  refine ⟨T, gotoGo_eq_some.mpr ⟨fun x hx => ?_, closureGo_eq_some.mp h⟩⟩
  obtain ⟨pr, hp, hd, _⟩ := hI x hx
  simp only [gotoItemPanics, hp, decide_eq_false_iff_not]
  omega

theorem stepSym_isSome (ht : TermsBelow G nT) {st : CState} {i : Nat} {I : List Item}
    (hw : Wf G nT st) (hI : st.states[i]? = some I) (X : Sym) :
    ∃ st', stepSym G nT i st X = some st' := by
  obtain ⟨T, hT⟩ := gotoGo_isSome ht (hw.items i I hI).2 X
  unfold stepSym
  simp only [hI, hT]
  cases findKey (lr0Key T) st.keys <;> exact ⟨_, rfl⟩

end

/-- All cores `(p, d)`, `d ≤ |rhs p|`, of the grammar. -/
def allCores (G : Grammar) : List (Nat × Nat) :=
  G.prods.toList.zipIdx.flatMap fun e => (List.range (e.1.rhs.length + 1)).map fun d => (e.2, d)

theorem length_allCores (G : Grammar) : (allCores G).length = numCores G := by
  simp only [allCores, numCores, List.length_flatMap, List.length_map, List.length_range]
  conv => rhs; rw [← List.zipIdx_map_fst 0 G.prods.toList, List.map_map]
  rfl

theorem mem_allCores {G : Grammar} {pd : Nat × Nat} :
    pd ∈ allCores G ↔ ∃ pr, G.prods[pd.1]? = some pr ∧ pd.2 ≤ pr.rhs.length := by
  simp only [allCores, List.mem_flatMap, List.mem_map, List.mem_range, Prod.exists,
    List.mem_zipIdx_iff_getElem?, Array.getElem?_toList, Nat.lt_succ_iff]
  constructor
  · rintro ⟨pr, p, hp, d, hd, rfl⟩
    exact ⟨pr, hp, hd⟩
  · rintro ⟨pr, hp, hd⟩
    exact ⟨pr, pd.1, hp, pd.2, hd, rfl⟩

def allItems (G : Grammar) (nT : Nat) : List Item :=
  (allCores G).flatMap fun pd => (List.range nT).map fun a => ⟨pd.1, pd.2, a⟩

theorem length_allItems (G : Grammar) (nT : Nat) : (allItems G nT).length = numCores G * nT := by
  simp only [allItems, List.length_flatMap, List.length_map, List.length_range, List.map_const',
    List.sum_replicate_nat, length_allCores]

theorem mem_allItems {G : Grammar} {nT : Nat} {x : Item} : x ∈ allItems G nT ↔ WfItem G nT x := by
  simp only [allItems, WfItem, List.mem_flatMap, List.mem_map, List.mem_range, mem_allCores]
  constructor
  · rintro ⟨pd, ⟨pr, hp, hd⟩, a, ha, rfl⟩
    exact ⟨pr, hp, hd, ha⟩
  · rintro ⟨pr, hp, hd, ha⟩
    exact ⟨(x.p, x.d), ⟨pr, hp, hd⟩, x.a, ha, rfl⟩

section
variable {G : Grammar} {nT : Nat} {st : CState}

theorem Wf.state_le (hw : Wf G nT st) {i : Nat} {I : List Item} (h : st.states[i]? = some I) :
    I.length ≤ numCores G * nT := by
  obtain ⟨hn, hwf⟩ := hw.items i I h
  have := List.Nodup.length_le_of_subset hn (l₂ := allItems G nT)
    (fun x hx => mem_allItems.mpr (hwf x hx))
  rwa [length_allItems] at this

/-- Distinct states have distinct keys, and a key is a sorted list of cores: it is determined by
the cores it contains. -/
theorem states_le (hinv : Inv G st) (hw : Wf G nT st) : st.states.length ≤ 2 ^ numCores G := by
  rw [← hinv.lenK, ← length_allCores]
  refine Util.length_le_two_pow _ _ hinv.keysNodup fun k hk k' hk' hagree => ?_
  obtain ⟨n, hn⟩ := List.mem_iff_getElem?.mp hk
  obtain ⟨n', hn'⟩ := List.mem_iff_getElem?.mp hk'
  obtain ⟨I, hI, rfl⟩ := hinv.state_of_key hn
  obtain ⟨I', hI', rfl⟩ := hinv.state_of_key hn'
  have hcore : ∀ {m : Nat} {J : List Item}, st.states[m]? = some J → ∀ pd ∈ lr0Key J,
      pd ∈ allCores G := by
    intro m J hJ pd hpd
    obtain ⟨it, hit, _, rfl⟩ := mem_lr0Key.mp hpd
    obtain ⟨pr, hp, hd, _⟩ := (hw.items m J hJ).2 it hit
    exact mem_allCores.mpr ⟨pr, hp, hd⟩
  refine sorted_ext pairLt_order (sorted_lr0Key I) (sorted_lr0Key I') fun pd => ?_
  exact ⟨fun h => (hagree pd (hcore hI pd h)).mp h, fun h => (hagree pd (hcore hI' pd h)).mpr h⟩

theorem mu_le (hinv : Inv G st) (hw : Wf G nT st) :
    mu st ≤ 2 ^ numCores G * (numCores G * nT + 1) := by
  have h1 := Util.sum_map_le (fun I : List Item => I.length + 1) (numCores G * nT + 1) st.states (by
    intro I hI
    obtain ⟨n, hn⟩ := List.mem_iff_getElem?.mp hI
    have := hw.state_le hn
    omega)
  have h2 := states_le hinv hw
  calc mu st ≤ st.states.length * (numCores G * nT + 1) := h1
    _ ≤ 2 ^ numCores G * (numCores G * nT + 1) := Nat.mul_le_mul_right _ h2

end

section
variable {G : Grammar} {nT : Nat} {ord : List Sym}

structure TInv (G : Grammar) (nT : Nat) (st : CState) : Prop where
  inv : Inv G st
  wf : Wf G nT st

/-- The invariant of a round w.r.t. the measure `m0` and the keys `K0` at its start (a key is
never removed, so the keys of the round can be looked up when their turn comes). -/
structure RInv (G : Grammar) (nT : Nat) (m0 : Nat) (K0 : List Key) (st : CState) : Prop where
  t : TInv G nT st
  le : m0 ≤ mu st
  lt : st.pending = [] ∨ m0 < mu st
  keys : ∀ k ∈ K0, k ∈ st.keys

theorem RInv.stepSym (ht : TermsBelow G nT) {m0 : Nat} {K0 : List Key} {st : CState} {i : Nat}
    {I : List Item} (hr : RInv G nT m0 K0 st) (hI : st.states[i]? = some I) (X : Sym) :
    ∃ st', stepSym G nT i st X = some st' ∧ RInv G nT m0 K0 st' ∧
      ∃ I', st'.states[i]? = some I' := by
  obtain ⟨st', hst'⟩ := stepSym_isSome ht hr.t.wf hI X
  obtain ⟨I1, T, j, hs⟩ := stepSym_spec ht hr.t.inv hst'
  obtain ⟨I', hI', _⟩ := hs.grows hI
  refine ⟨st', hst', ⟨⟨hs.inv hr.t.inv, hs.wf ht hr.t.wf⟩, Nat.le_trans hr.le hs.muStep.1, ?_,
    fun k hk => hs.keysMem (hr.keys k hk)⟩, I', hI'⟩
  rcases hs.muStep.2 with he | hlt
  · rcases hr.lt with h | h
    · exact .inl (he ▸ h)
    · exact .inr (Nat.lt_of_lt_of_le h hs.muStep.1)
  · exact .inr (Nat.lt_of_le_of_lt hr.le hlt)

theorem RInv.procKey (ht : TermsBelow G nT) {m0 : Nat} {K0 : List Key} {st : CState} {k : Key}
    (hr : RInv G nT m0 K0 st) (hk : k ∈ st.keys) :
    ∃ st', procKey G nT ord st k = some st' ∧ RInv G nT m0 K0 st' := by
  obtain ⟨i, hi⟩ := findKey_isSome_of_mem hk
  obtain ⟨I, hI, _⟩ := hr.t.inv.state_of_key (findKey_some hi)
  unfold Cons.procKey
  simp only [hi, hI]
  obtain ⟨st', h, hp, _⟩ := Util.foldlM_isSome (Cons.stepSym G nT i)
    (fun s => RInv G nT m0 K0 s ∧ ∃ I', s.states[i]? = some I') (nextOrd G ord I)
    (fun s X _ ⟨hs, I', hI'⟩ => hs.stepSym ht hI' X) st ⟨hr, I, hI⟩
  exact ⟨st', h, hp⟩

theorem RInv.procRound (ht : TermsBelow G nT) {st : CState} (ht0 : TInv G nT st) :
    ∃ st', procRound G nT ord st = some st' ∧ TInv G nT st' ∧
      (st'.pending = [] ∨ mu st < mu st') := by
  have hstart : RInv G nT (mu st) st.keys { st with pending := [] } :=
    ⟨⟨ht0.inv.clearPending, ⟨ht0.wf.items, fun _ h => nomatch h⟩⟩, Nat.le_refl _, .inl rfl,
      fun _ h => h⟩
  obtain ⟨s', h1, h2⟩ := Util.foldlM_isSome (Cons.procKey G nT ord) (RInv G nT (mu st) st.keys) st.pending
    (fun s k hk hs => hs.procKey ht (hs.keys k (ht0.wf.pend k hk))) _ hstart
  exact ⟨s', h1, h2.t, h2.lt⟩

theorem loop_isSome (ht : TermsBelow G nT) :
    ∀ (n : Nat) (st : CState), TInv G nT st →
      2 ^ numCores G * (numCores G * nT + 1) + 2 ≤ mu st + n →
      ∃ st', loop G nT ord n st = some st'
  | 0, st, ht0, hn => by
    have := mu_le ht0.inv ht0.wf
    omega
  | n + 1, st, ht0, hn => by
    simp only [Cons.loop]
    split
    · exact ⟨st, rfl⟩
    · obtain ⟨st1, h1, ht1, hlt⟩ := RInv.procRound (ord := ord) ht ht0
      simp only [h1]
      rcases hlt with he | hlt
      · -- nothing is pending: the next iteration returns
        have := mu_le ht0.inv ht0.wf
        cases n with
        | zero => omega
        | succ m =>
          refine ⟨st1, ?_⟩
          simp [Cons.loop, he]
      · exact loop_isSome ht n st1 ht1 (by omega)

end

end Lox.LR.Cons
