import Lox.LR.CheckSound
import Lox.LR.Complete
/-! Why termination needs its own check: tables that pass `check` (so `Valid`, `Safe`, `FirstOK`
hold and accept ⟺ sentence) but on which the machine reduces forever on a non-sentence.

Grammar: `S' → S`, `S → a`, `Y → ε` (terminals EOF=0 ERROR=1 a=2 b=3; rules S'=0 S=1 Y=2).
State 0 carries the unjustified item `[Y → ·, b]`, state 3 = `{[Y → ·, b]}` with `goto(3, Y) = 3`.
On input `b` the machine pushes `Y` forever. The real generator never emits such tables; the
validator cannot know that, hence `termB`. -/
namespace Lox.LR.TermCounter

def G : Grammar := ⟨#[⟨0, [.n 1]⟩, ⟨1, [.t 2]⟩, ⟨2, []⟩]⟩

def T : Tables :=
  { rules := #[0, 1, 2], termCounts := #[1, 1, 0],
    actions := #[4, 9, 12, 15, 4, 2, 1, 3, -2, 2, 0, -1, 2, 0, 2147483647, 2, 3, -2],
    gotos := #[4, 9, 9, 10, 4, 1, 2, 2, 3, 0, 2, 2, 3] }

def cert : Array (List Item) :=
  #[[⟨0,0,0⟩, ⟨1,0,0⟩, ⟨2,0,3⟩], [⟨1,1,0⟩], [⟨0,1,0⟩], [⟨2,0,3⟩]]

theorem check_ok : check G 4 3 T cert = .ok () := check_ok_iff.mpr (by decide +kernel)

theorem termB_false : termB G T cert = false := by decide +kernel

theorem loops : ∀ (n : Nat) (e : Abs.Entry) (st : List Abs.Entry) (lg : List (Nat × List Tree)),
    e.state = 0 ∨ e.state = 3 → Abs.run G (autoOf T cert) n ⟨e :: st, [3], lg⟩ = .timeout := by
  intro n
  induction n with
  | zero => intros; rfl
  | succ n ih =>
    intro e st lg he
    have hact : (autoOf T cert).action e.state 3 = some (.reduce 2) := by
      rcases he with h | h <;> rw [h] <;> decide
    have hgo : (autoOf T cert).goto e.state 2 = some 3 := by
      rcases he with h | h <;> rw [h] <;> decide
    have hstep := Abs.step_reduce (G := G) (c := ⟨e :: st, [3], lg⟩) (pr := ⟨2, []⟩) (e' := e)
      (rest := st) hact rfl rfl hgo
    simp only [Abs.run, hstep]
    exact ih _ _ _ (Or.inr rfl)

theorem check_does_not_imply_termination :
    check G 4 3 T cert = .ok () ∧ ∀ n, Abs.run G (autoOf T cert) n (Abs.init [3]) = .timeout :=
  ⟨check_ok, fun n => loops n _ _ _ (Or.inl rfl)⟩

end Lox.LR.TermCounter
