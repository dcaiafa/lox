import Lox.LR.TermSound
import Lox.LR.RuntimeExample
import Lox.LR.RuntimeProofsCheck
/-! Grammar and item-set certificates for the tables of `Lox/LR/RuntimeExample.lean`
(`@start S = stmt*; stmt = A B? SEMI | @error SEMI`; ERROR is the ordinary terminal 1 of `G`), the
checks decided on them, and the run on `a c ;`. `cert` holds the LR(0) cores of the 12 states (computed
from the grammar along the transitions of the emitted tables; `checkSafe` ignores the lookahead
component). -/
namespace Lox.LR.Rt.Example

def G : Grammar := ⟨#[⟨0, [.n 1]⟩, ⟨1, [.n 3]⟩, ⟨2, [.t 2, .n 5, .t 5]⟩, ⟨2, [.t 1, .t 5]⟩,
  ⟨3, [.n 4]⟩, ⟨3, []⟩, ⟨4, [.n 4, .n 2]⟩, ⟨4, [.n 2]⟩, ⟨5, [.t 3]⟩, ⟨5, []⟩]⟩

def cert : Array (List Item) :=
 #[[⟨0,0,0⟩, ⟨1,0,0⟩, ⟨2,0,0⟩, ⟨3,0,0⟩, ⟨4,0,0⟩, ⟨5,0,0⟩, ⟨6,0,0⟩, ⟨7,0,0⟩],
   [⟨2,1,0⟩, ⟨8,0,0⟩, ⟨9,0,0⟩],
   [⟨3,1,0⟩],
   [⟨0,1,0⟩],
   [⟨7,1,0⟩],
   [⟨1,1,0⟩],
   [⟨2,0,0⟩, ⟨3,0,0⟩, ⟨4,1,0⟩, ⟨6,1,0⟩],
   [⟨8,1,0⟩],
   [⟨2,2,0⟩],
   [⟨3,2,0⟩],
   [⟨6,2,0⟩],
   [⟨2,3,0⟩]]

theorem checkSafe_ok : checkSafe G 6 6 T cert = .ok () := checkSafe_ok_iff.mpr (by decide +kernel)

/-- The LALR(1) item sets (canonical LR(1) sets merged by core, laid out along the emitted tables):
the certificate for the full validator `check`. -/
def certL : Array (List Item) :=
 #[[⟨0,0,0⟩, ⟨1,0,0⟩, ⟨2,0,0⟩, ⟨2,0,1⟩, ⟨2,0,2⟩, ⟨3,0,0⟩, ⟨3,0,1⟩, ⟨3,0,2⟩, ⟨4,0,0⟩, ⟨5,0,0⟩,
    ⟨6,0,0⟩, ⟨6,0,1⟩, ⟨6,0,2⟩, ⟨7,0,0⟩, ⟨7,0,1⟩, ⟨7,0,2⟩],
   [⟨2,1,0⟩, ⟨2,1,1⟩, ⟨2,1,2⟩, ⟨8,0,5⟩, ⟨9,0,5⟩],
   [⟨3,1,0⟩, ⟨3,1,1⟩, ⟨3,1,2⟩],
   [⟨0,1,0⟩],
   [⟨7,1,0⟩, ⟨7,1,1⟩, ⟨7,1,2⟩],
   [⟨1,1,0⟩],
   [⟨2,0,0⟩, ⟨2,0,1⟩, ⟨2,0,2⟩, ⟨3,0,0⟩, ⟨3,0,1⟩, ⟨3,0,2⟩, ⟨4,1,0⟩, ⟨6,1,0⟩, ⟨6,1,1⟩, ⟨6,1,2⟩],
   [⟨8,1,5⟩],
   [⟨2,2,0⟩, ⟨2,2,1⟩, ⟨2,2,2⟩],
   [⟨3,2,0⟩, ⟨3,2,1⟩, ⟨3,2,2⟩],
   [⟨6,2,0⟩, ⟨6,2,1⟩, ⟨6,2,2⟩],
   [⟨2,3,0⟩, ⟨2,3,1⟩, ⟨2,3,2⟩]]

theorem check_ok : check G 6 6 T certL = .ok () := check_ok_iff.mpr (by decide +kernel)

theorem termB_ok : termB G T cert = true := by decide +kernel

theorem recoveryOK : recoveryOKB T cert.size = true := by decide +kernel

theorem termB_okL : termB G T certL = true :=
  (termB_congr (show certL.size = cert.size from rfl)).trans termB_ok

theorem recoveryOKL : recoveryOKB T certL.size = true :=
  (show certL.size = cert.size from rfl) ▸ recoveryOK

/-- Both table-level hypotheses of the C09 theorems, by one pass over the cells of `_actions`
(`find_hit_of_cells`). -/
theorem eof_entries : NoShiftEOF T ∧ AcceptOnlyEOF T := by
  have h : ∀ {y x v : Int}, find T.actions y x = .hit v → _ :=
    find_hit_of_cells (tbl := T.actions) (P := fun key v =>
      (key != tEOF || v == acceptCode || decide (v < 0)) && (v != acceptCode || key == tEOF))
      (by decide +kernel)
  refine ⟨fun st v hf => ?_, fun st la hf => ?_⟩
  · simpa using (Bool.and_eq_true_iff.mp (h hf)).1
  · simpa using (Bool.and_eq_true_iff.mp (h hf)).2

/-- The run on `a c ;` (tokens 2 4 5) accepts after exactly one recovery, with `stmt → @error ;`
at the bottom of the tree on the accepting stack `[S-node, bottom]`. -/
theorem run_a_c_semi : (parseG T #[2, 4, 5] true 20).1 = .accept ∧
    (parseG T #[2, 4, 5] true 20).2.2 = 1 ∧
    (parseG T #[2, 4, 5] true 20).2.1.stack.map (·.sym) =
      [.node 1 [.node 4 [.node 7 [.node 3 [.err 1 4 [3, 5], .tok 2 5]]]], .nil] :=
  ⟨by decide +kernel, by decide +kernel, rfl⟩

/-- The first recovery of that run: plain for one iteration (shift `a`), then state 1 has no action
on `c` (token 1) and `_recover()` injects `Error{Token: c, Expected: [B, SEMI]}`. -/
theorem first_recover_a_c_semi : ∃ s1 s s', readToken T #[2, 4, 5] initState = .ok s1 ∧
    PlainReach T #[2, 4, 5] true 20 s1 s ∧ isRecoverStep T s = true ∧
    step T #[2, 4, 5] true 20 s = .cont s' ∧ lidx s.lasym = 1 ∧ s'.lasym = .err 1 4 [3, 5] :=
  ⟨_, _, _, rfl, .step (by decide +kernel) rfl (.refl _), by decide +kernel, rfl, rfl, rfl⟩

end Lox.LR.Rt.Example
