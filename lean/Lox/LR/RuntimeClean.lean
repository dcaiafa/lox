import Lox.LR.RuntimeSound
import Lox.LR.RuntimeSoundFirst
import Lox.LR.RuntimeProofsBounds
/-! Clean runs of the model of the generated `parse` – outcome `accept`, ghost counter of `parseG`
0 – on validated tables of any grammar: a sentence runs cleanly (`parseG_sentence_clean`); after a
clean accept the value left on the stack is a derivation tree of the input, its leaves are the
input tokens, the `_act` calls are its post-order with the children VALUES as arguments
(`clean_accept`), and every call spans a contiguous stretch of the input (`clean_bounds`).
`Lox/Props/C01.lean` and `C03.lean` put them together with completeness and
unambiguity (`sentence_clean`, `clean_accept_iff`, `clean_accept_unique`).

Specification level (read these): `Val.post` / `postVL`, `actCalls`, `tokAt`. -/
namespace Lox.LR.Rt
open Lox.LR.Abs (StackInv)

mutual
/-- Post-order listing of the production nodes of a value tree: children before the parent, left
to right; each entry is the production with the children VALUES (= the arguments of `_act`). The
value-level analogue of `Lox.LR.Tree.post`. -/
def _root_.Lox.LR.Val.post : Val → List (Nat × List Val)
  | .node p kids => postVL kids ++ [(p, kids)]
  | .nil => []
  | .tok _ _ => []
  | .err _ _ _ => []
def postVL : List Val → List (Nat × List Val)
  | [] => []
  | v :: vs => v.post ++ postVL vs
end

/-- The `_act` calls of an event log (newest first, like the log) with their argument values. -/
def actCalls : List Event → List (Nat × List Val)
  | [] => []
  | .act p kids :: r => (p, kids) :: actCalls r
  | .bounds _ _ _ _ :: r => actCalls r

/-- The `i`-th token the lexer returned for the input `w`: index and type. -/
def tokAt (w : List Nat) (i : Nat) : Val := .tok i (w.getD i 0)

section Sentence
variable {G : Grammar} {nTerms nRules : Nat} {T : Tables} {cert : Array (List Item)}

theorem parseG_sentence_clean (hc : SafeOK G nTerms nRules T cert) {w : List Nat} {n : Nat}
    {t : Tree} {lg} (hrun : Abs.run G (autoOf T cert) n (Abs.init w) = .acc t lg) (wb : Bool)
    (fuel : Nat) :
    (parseG T w.toArray wb fuel).2.2 = 0 ∧ (parseG T w.toArray wb fuel).1 ≠ .reject :=
  parseG_clean_of fun _ hr => sentence_run_plain hc hrun hr

end Sentence

theorem postVL_append (xs ys : List Val) : postVL (xs ++ ys) = postVL xs ++ postVL ys := by
  induction xs with
  | nil => rfl
  | cons x xs ih => simp [postVL, ih]

theorem post_of_isLeaf {v : Val} (h : v.isLeaf = true) : v.post = [] := by
  cases v with
  | nil => rfl
  | tok => rfl
  | err => rfl
  | node => cases h

theorem actCalls_reduce_log (wb : Bool) (lg : List Event) (p : Nat) (kids : List Val) (res : Val)
    (b : Bounds) :
    actCalls (if wb ∧ ¬ b.empty then Event.bounds p res b.b b.e :: Event.act p kids :: lg
              else Event.act p kids :: lg) = (p, kids) :: actCalls lg := by
  split <;> simp [actCalls]

theorem mem_actCalls {l : List Event} {p : Nat} {kids : List Val} :
    (p, kids) ∈ actCalls l ↔ Event.act p kids ∈ l := by
  induction l with
  | nil => simp [actCalls]
  | cons ev l ih =>
    cases ev with
    | act q ks => simp [actCalls, ih]
    | bounds q v b e => simp [actCalls, ih]

theorem actCalls_actEvents (l : List Event) : actCalls (actEvents l) = actCalls l := by
  induction l with
  | nil => rfl
  | cons ev l ih =>
    cases ev with
    | act p kids => exact congrArg ((p, kids) :: ·) ih
    | bounds p v b e => exact ih

/-- Invariant of the iterations that do not call `_recover()`: the `_act` calls so far, oldest first,
are the post-order of the values on the stack. -/
def ValLog (s : PState) : Prop :=
  (actCalls s.log).reverse = postVL (s.stack.reverse.map (·.sym))

/-- `ValLog` holds until a failed `_recover()` empties the stack. With it goes what makes a shift
add no call: the lookahead holds no production node (`nil` before the first `_readToken`, a leaf
after it). -/
theorem ValLog.pmoves (T : Tables) (inp : Array Nat) (wb : Bool) :
    PMoves T inp wb fun s => s.lasym.post = [] ∧ (s.qla ≠ -1 → s.qlasym.isLeaf = true) ∧
      (s.stack ≠ [] → ValLog s) where
  read hs h := by
    have hf := readToken_frame h
    have hl := readToken_LaOK hs.2.1 h
    refine ⟨post_of_isLeaf hl.1, hl.2, fun hne => ?_⟩
    rw [hf.stack] at hne
    simpa only [ValLog, hf.stack, hf.log] using hs.2.2 hne
  shift {s _ _} a hs htop _ := by
    have hv := hs.2.2 fun h => by rw [h] at htop; cases htop
    refine ⟨hs.1, hs.2.1, fun _ => ?_⟩
    simp only [ValLog, shiftState, List.reverse_cons, List.map_append, List.map_cons, List.map_nil,
      postVL_append, postVL, hs.1, List.append_nil]
    exact hv
  reduce {s _ n} prod ns hs htop := by
    have hv := hs.2.2 fun h => by rw [h, List.drop_nil] at htop; cases htop
    refine ⟨hs.1, hs.2.1, fun _ => ?_⟩
    simp only [ValLog, reduceState, actCalls_reduce_log, List.reverse_cons, List.map_append,
      List.map_cons, List.map_nil, postVL_append, postVL, Val.post, List.append_nil]
    rw [hv]
    have hsplit : s.stack.reverse = (s.stack.drop n).reverse ++ (s.stack.take n).reverse := by
      rw [← List.reverse_append, List.take_append_drop]
    rw [hsplit, List.map_append, postVL_append, List.append_assoc]
  clear hs := ⟨hs.1, hs.2.1, fun h => absurd rfl h⟩

section Clean
variable {G : Grammar} {nTerms nRules : Nat} {T : Tables} {cert : Array (List Item)}

/-- `h0`: `_recover()` never returned `true` (the ghost counter of `runLoopG`); `hw1`, `hw0`: the
lexer delivers neither ERROR (1) nor EOF (0) as a token type. -/
theorem clean_accept (hc : SafeOK G nTerms nRules T cert) {w : List Nat} {wb : Bool}
    {fuel : Nat} (hw1 : ∀ x ∈ w, x ≠ 1) (hw0 : ∀ x ∈ w, x ≠ 0)
    (hacc : (parseG T w.toArray wb fuel).1 = .accept)
    (h0 : (parseG T w.toArray wb fuel).2.2 = 0) :
    ∃ st0 v b bot, (parse T w.toArray wb fuel).2.stack = [{ state := st0, sym := v, bounds := b }, bot] ∧
      Der G [.n (startSym G)] w [v.toTree] ∧
      leaves v = (List.range w.length).map (tokAt w) ∧
      (actCalls (parse T w.toArray wb fuel).2.log).reverse = v.post := by
  have hinp : ∀ a, (∀ x ∈ w, x ≠ a) → ∀ i : Nat, w.toArray[i]? ≠ some a := fun a ha i hi =>
    ha a (List.mem_of_getElem? (l := w) (by simpa using hi)) rfl
  obtain ⟨st0, v, b, bot, hst, hnil, hder, hlen, hget⟩ :=
    clean_accept_leaves hc (hinp 1 hw1) (hinp 0 hw0) hacc h0
  have hleaves : leaves v = (List.range w.length).map (tokAt w) := by
    apply List.ext_getElem?
    intro i
    by_cases hi : i < w.length
    · rw [hget i (by simpa using hi)]
      simp [List.getElem?_range hi, tokAt, List.getD, List.getElem?_eq_getElem hi]
    · rw [List.getElem?_eq_none (by rw [hlen]; simp; omega),
        List.getElem?_eq_none (by simp; omega)]
  refine ⟨st0, v, b, bot, hst, hder, hleaves, ?_⟩
  have hvl := ((ValLog.pmoves T w.toArray wb).parseG_zero
    ⟨rfl, fun h => absurd rfl h, fun _ => rfl⟩ h0).2.2
  rw [parseG_snd, hst] at hvl
  simpa [ValLog, hst, hnil, postVL, Val.post] using hvl (List.cons_ne_nil _ _)

end Clean

mutual
theorem post_toTree : ∀ (v : Val),
    v.toTree.post = v.post.map (fun c => (c.1, c.2.map Val.toTree))
  | .nil => rfl
  | .tok _ _ => rfl
  | .err _ _ _ => rfl
  | .node p kids => by
    simp only [Val.toTree, Tree.post, Val.post, List.map_append, List.map_cons, List.map_nil]
    rw [postVL_toTree kids, toTreeList_eq_map]
theorem postVL_toTree : ∀ (vs : List Val),
    postList (toTreeList vs) = (postVL vs).map (fun c => (c.1, c.2.map Val.toTree))
  | [] => rfl
  | v :: vs => by
    simp only [toTreeList, postList, postVL, List.map_append, post_toTree v, postVL_toTree vs]
end

theorem actsOf_eq_actCalls (l : List Event) :
    actsOf l = (actCalls l).map (fun c => (c.1, c.2.map Val.toTree)) := by
  induction l with
  | nil => rfl
  | cons ev l ih => cases ev <;> simp [actsOf, actCalls, ih]

/- `der_post`, `der_call`, `der_args` serve `Lox/Props/C03_e2e.lean`: every `_act` call of a clean run
applies a production of the grammar to values that derive its right-hand side. -/
theorem der_post {G : Grammar} {α : List Sym} {w : List Nat} {ts : List Tree} (h : Der G α w ts) :
    ∀ {p : Nat} {kids : List Tree}, (p, kids) ∈ postList ts →
      ∃ pr w', G.prods[p]? = some pr ∧ Der G pr.rhs w' kids := by
  induction h with
  | nil => intro p kids hm; simp [postList] at hm
  | term _ ih =>
    intro p kids hm
    simp only [postList, Tree.post, List.nil_append] at hm
    exact ih hm
  | nonterm hq h1 _ ih1 ih2 =>
    intro p kids hm
    simp only [postList, Tree.post, List.mem_append, List.mem_singleton] at hm
    rcases hm with (hm | ⟨rfl, rfl⟩) | hm
    · exact ih1 hm
    · exact ⟨_, _, hq, h1⟩
    · exact ih2 hm

theorem der_call {G : Grammar} {X : Sym} {w : List Nat} {v : Val} (h : Der G [X] w [v.toTree])
    {p : Nat} {kids : List Val} (hm : (p, kids) ∈ v.post) :
    ∃ pr w', G.prods[p]? = some pr ∧ Der G pr.rhs w' (kids.map Val.toTree) := by
  apply der_post h
  simp only [postList, List.append_nil, post_toTree, List.mem_map]
  exact ⟨(p, kids), hm, rfl⟩

theorem der_args {G : Grammar} : ∀ {α : List Sym} {w : List Nat} {vs : List Val},
    Der G α w (vs.map Val.toTree) → vs.length = α.length ∧
      ∀ (i : Nat) (X : Sym) (v : Val), α[i]? = some X → vs[i]? = some v →
        ∃ wi, Der G [X] wi [v.toTree]
  | [], w, vs, h => by
    obtain ⟨rfl, -⟩ := Der.vals_nil h
    exact ⟨rfl, fun i X v hX => by simp at hX⟩
  | X :: β, w, vs, h => by
    obtain ⟨v, vs, w1, w2, rfl, -, h1, h2⟩ := Der.vals_cons h
    obtain ⟨hl, hrest⟩ := der_args h2
    refine ⟨by simp [hl], fun i Y u hY hu => ?_⟩
    cases i with
    | zero =>
      simp only [List.getElem?_cons_zero, Option.some.injEq] at hY hu
      subst hY; subst hu
      exact ⟨w1, h1⟩
    | succ i =>
      simp only [List.getElem?_cons_succ] at hY hu
      exact hrest i Y u hY hu

theorem leavesL_append' (xs ys : List Val) : leavesL (xs ++ ys) = leavesL xs ++ leavesL ys :=
  leavesL_append xs ys

mutual
theorem post_leaves : ∀ (v : Val) {p : Nat} {kids : List Val}, (p, kids) ∈ v.post →
    ∃ pre suf, leaves v = pre ++ leavesL kids ++ suf
  | .nil, _, _, h => by simp [Val.post] at h
  | .tok _ _, _, _, h => by simp [Val.post] at h
  | .err _ _ _, _, _, h => by simp [Val.post] at h
  | .node q ks, p, kids, h => by
    simp only [Val.post, List.mem_append, List.mem_singleton] at h
    rcases h with h | ⟨rfl, rfl⟩
    · obtain ⟨pre, suf, e⟩ := postVL_leaves ks h
      exact ⟨pre, suf, by rw [leaves, e]⟩
    · exact ⟨[], [], by simp [leaves]⟩
theorem postVL_leaves : ∀ (vs : List Val) {p : Nat} {kids : List Val}, (p, kids) ∈ postVL vs →
    ∃ pre suf, leavesL vs = pre ++ leavesL kids ++ suf
  | [], _, _, h => by simp [postVL] at h
  | v :: vs, p, kids, h => by
    simp only [postVL, List.mem_append] at h
    rcases h with h | h
    · obtain ⟨pre, suf, e⟩ := post_leaves v h
      exact ⟨pre, suf ++ leavesL vs, by rw [leavesL, e]; simp [List.append_assoc]⟩
    · obtain ⟨pre, suf, e⟩ := postVL_leaves vs h
      exact ⟨leaves v ++ pre, suf, by rw [leavesL, e]; simp [List.append_assoc]⟩
end

theorem infix_range_map {α} (f : Nat → α) {n : Nat} {pre mid suf : List α}
    (h : (List.range n).map f = pre ++ mid ++ suf) :
    mid = (List.range' pre.length mid.length).map f ∧ pre.length + mid.length ≤ n := by
  have hlen : n = pre.length + mid.length + suf.length := by
    have := congrArg List.length h
    simp only [List.length_map, List.length_range, List.length_append] at this
    omega
  refine ⟨?_, by omega⟩
  -- split `range n` at the lengths of `pre` and `mid` and compare piece by piece
  rw [List.range_eq_range', hlen, ← List.range'_append_1, ← List.range'_append_1, List.map_append,
    List.map_append, Nat.zero_add] at h
  exact ((List.append_inj (List.append_inj h (by simp)).1 (by simp)).2).symm

theorem call_span {w : List Nat} {v : Val} (hl : leaves v = (List.range w.length).map (tokAt w))
    {p : Nat} {kids : List Val} (hm : (p, kids) ∈ v.post) :
    ∃ b n, b + n ≤ w.length ∧ leaves (.node p kids) = (List.range' b n).map (tokAt w) := by
  obtain ⟨pre, suf, e⟩ := post_leaves v hm
  rw [hl] at e
  obtain ⟨h1, h2⟩ := infix_range_map (tokAt w) e
  exact ⟨pre.length, (leavesL kids).length, h2, by rw [leaves]; exact h1⟩

mutual
theorem yieldIdx_eq_leaves : ∀ (v : Val), yieldIdx v = (leaves v).map lidx
  | .nil => rfl
  | .tok _ _ => rfl
  | .err _ _ _ => rfl
  | .node _ kids => by rw [yieldIdx, leaves, yieldIdxs_eq_leaves kids]
theorem yieldIdxs_eq_leaves : ∀ (vs : List Val), yieldIdxs vs = (leavesL vs).map lidx
  | [] => rfl
  | v :: vs => by rw [yieldIdxs, leavesL, List.map_append, yieldIdx_eq_leaves v,
      yieldIdxs_eq_leaves vs]
end

theorem yieldIdx_of_span {w : List Nat} {u : Val} {b n : Nat}
    (h : leaves u = (List.range' b n).map (tokAt w)) : yieldIdx u = List.range' b n := by
  rw [yieldIdx_eq_leaves, h, List.map_map]
  have : (lidx ∘ tokAt w) = id := by funext i; simp [tokAt, lidx]
  rw [this, List.map_id]

theorem wordOf_of_span {w : List Nat} {u : Val} {b n : Nat} (hb : b + n ≤ w.length)
    (h : leaves u = (List.range' b n).map (tokAt w)) : wordOf u = (w.drop b).take n := by
  rw [wordOf, h, List.map_map]
  clear h
  induction n generalizing b with
  | zero => simp
  | succ n ih =>
    rw [List.range'_succ, List.map_cons, ih (b := b + 1) (by omega),
      List.drop_eq_getElem_cons (i := b) (by omega), List.take_succ_cons]
    simp [tokAt, leafNat, leafTy, List.getD, List.getElem?_eq_getElem (show b < w.length by omega)]

theorem range'_ends {b n b' e' : Nat} (hh : (List.range' b n).head? = some b')
    (hl : (List.range' b n).getLast? = some e') : 0 < n ∧ b' = b ∧ e' = b + n - 1 := by
  cases n with
  | zero => cases hh
  | succ n =>
    rw [List.head?_range', if_neg (Nat.succ_ne_zero n)] at hh
    rw [List.getLast?_range', if_neg (Nat.succ_ne_zero n)] at hl
    cases hh
    cases hl
    exact ⟨Nat.succ_pos n, rfl, rfl⟩

/-- The log of a run with `_onBounds` whose `_act` calls are the post-order of a value `v` over the
input tokens – a clean accepting run, by `clean_accept`. (a) Every call `_act(p, kids)` spans a
contiguous stretch of `n` input tokens from token `b`: the leaves of its result are exactly
`w[b], …, w[b+n-1]`. If `n > 0` it is IMMEDIATELY followed by
`_onBounds(result, token b, token b+n-1)`; if `n = 0` (the node derives nothing) the next event,
if any, is not an `_onBounds` call. (b) Every `_onBounds` call is such a follower. -/
theorem clean_bounds {T : Tables} {w : List Nat} {fuel : Nat} {v : Val}
    (hl : leaves v = (List.range w.length).map (tokAt w))
    (hlog : (actCalls (parse T w.toArray true fuel).2.log).reverse = v.post) :
    (∀ (pre post : List Event) (p : Nat) (kids : List Val),
      (parse T w.toArray true fuel).2.log.reverse = pre ++ .act p kids :: post →
        ∃ b n, b + n ≤ w.length ∧
          leaves (.node p kids) = (List.range' b n).map (tokAt w) ∧
          wordOf (.node p kids) = (w.drop b).take n ∧
          (0 < n → ∃ post', post = .bounds p (.node p kids) b (b + n - 1) :: post') ∧
          (n = 0 → ∀ ev, post.head? = some ev → ev.isBounds = false)) ∧
    (∀ (pre post : List Event) (p : Nat) (v : Val) (b e : Nat),
      (parse T w.toArray true fuel).2.log.reverse = pre ++ .bounds p v b e :: post →
        ∃ pre' kids, pre = pre' ++ [.act p kids] ∧ v = .node p kids ∧ b ≤ e ∧ e < w.length ∧
          leaves v = (List.range' b (e - b + 1)).map (tokAt w)) := by
  have hwf := (parse_BInv T w.toArray fuel).2
  have hspan : ∀ (pre post : List Event) (p : Nat) (kids : List Val),
      (parse T w.toArray true fuel).2.log.reverse = pre ++ .act p kids :: post →
      ∃ b n, b + n ≤ w.length ∧ leaves (.node p kids) = (List.range' b n).map (tokAt w) ∧
        yieldIdx (.node p kids) = List.range' b n := by
    intro pre post p kids hsplit
    have hev : Event.act p kids ∈ (parse T w.toArray true fuel).2.log := by
      rw [← List.mem_reverse, hsplit]; simp
    have hm : (p, kids) ∈ v.post := by
      rw [← hlog, List.mem_reverse]; exact mem_actCalls.2 hev
    obtain ⟨b, n, hbn, hlv⟩ := call_span hl hm
    exact ⟨b, n, hbn, hlv, yieldIdx_of_span hlv⟩
  constructor
  · intro pre post p kids hsplit
    obtain ⟨b, n, hbn, hlv, hy⟩ := hspan pre post p kids hsplit
    obtain ⟨h1, h2⟩ := hwf.act_follow pre post p kids hsplit
    rw [hy] at h1 h2
    refine ⟨b, n, hbn, hlv, wordOf_of_span hbn hlv, fun hn => ?_, fun hn => h2 (by rw [hn]; rfl)⟩
    obtain ⟨b', e', post', hp, hb', he'⟩ := h1 (by cases n with | zero => omega | succ n => simp)
    obtain ⟨-, rfl, rfl⟩ := range'_ends hb' he'
    exact ⟨post', hp⟩
  · intro pre post p u b e hsplit
    obtain ⟨pre', kids, hpre, rfl, hb', he'⟩ := hwf.bounds_pred pre post p u b e hsplit
    obtain ⟨b0, n, hbn, hlv, hy⟩ := hspan pre' (.bounds p (.node p kids) b e :: post) p kids
      (by rw [hsplit, hpre]; simp)
    rw [hy] at hb' he'
    obtain ⟨hn, rfl, rfl⟩ := range'_ends hb' he'
    refine ⟨pre', kids, hpre, rfl, by omega, by omega, ?_⟩
    rw [hlv]
    congr 2
    omega

end Lox.LR.Rt
