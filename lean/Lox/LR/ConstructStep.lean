import Lox.LR.ConstructInv
/-! One step of the `ConstructLALR` worklist (`stepSym`): what it does (`StepSpec`), and that it
preserves the invariant `Inv` (`StepSpec.inv`). -/
namespace Lox.LR.Cons
open Lox.LR Lox.LR.Gen

structure Inv (G : Grammar) (st : CState) : Prop where
  lenK : st.keys.length = st.states.length
  lenT : st.trans.length = st.states.length
  /-- the key a state was entered under is (still) its `LR0Key` -/
  key : ∀ (i : Nat) (I : List Item), st.states[i]? = some I → st.keys[i]? = some (lr0Key I)
  keysNodup : st.keys.Nodup
  closed : ∀ (i : Nat) (I : List Item), st.states[i]? = some I → ClosedSet G I
  /-- a transition on `X` leads to the state whose kernel cores are those of `Goto(·, X)` -/
  tgt : ∀ (i : Nat) (X : Sym) (t : Nat), lookupSym X (st.trans[i]?.getD []) = some t →
    ∃ I J, st.states[i]? = some I ∧ st.states[t]? = some J ∧ ∀ pd, KC G I X pd ↔ KJ J pd
  start : ∃ I0, st.states[0]? = some I0 ∧ (⟨0, 0, 0⟩ : Item) ∈ I0
  sound : ∀ (i : Nat) (I : List Item) (it : Item), st.states[i]? = some I → it ∈ I →
    LALRItem G (skelOf st) i it

/-- The key decides the state: states with the same kernel cores have the same index. -/
theorem Inv.eq_of_kj {G : Grammar} {st : CState} (hinv : Inv G st) {s s' : Nat} {I I' : List Item}
    (hI : st.states[s]? = some I) (hI' : st.states[s']? = some I')
    (h : ∀ pd, KJ I pd ↔ KJ I' pd) : s = s' :=
  Util.getElem?_inj_of_nodup hinv.keysNodup (hinv.key s I hI)
    (lr0Key_eq_iff.mpr h ▸ hinv.key s' I' hI')

theorem Inv.state_of_key {G : Grammar} {st : CState} (hinv : Inv G st) {i : Nat} {k : Key}
    (hk : st.keys[i]? = some k) : ∃ I, st.states[i]? = some I ∧ k = lr0Key I := by
  have hlt : i < st.states.length := hinv.lenK ▸ (List.getElem?_eq_some_iff.mp hk).1
  have hI := List.getElem?_eq_getElem hlt
  exact ⟨_, hI, Option.some.inj (hk.symm.trans (hinv.key i _ hI))⟩

/-- The termination measure: the number of (state, item) pairs plus the number of states. -/
def mu (st : CState) : Nat := (st.states.map fun I => I.length + 1).sum

structure StepSpec (G : Grammar) (st st' : CState) (i : Nat) (X : Sym) (I T : List Item) (j : Nat) :
    Prop where
  hI : st.states[i]? = some I
  spec : GotoSpec G I X T
  jle : j ≤ st.states.length
  len : st'.states.length = max st.states.length (j + 1)
  other : ∀ i', i' ≠ j → st'.states[i']? = st.states[i']?
  -- `M`, the target after the step, is as a set the old target (`[]` if `j` is new) joined with `T`;
  -- the disjunction reads "duplicate-free if the old target was", without a hypothesis to discharge
  atJ : ∃ M, st'.states[j]? = some M ∧ (M.Nodup ∨ ¬ (st.states[j]?.getD []).Nodup) ∧
    (st.states[j]?.getD []).length ≤ M.length ∧
    (∀ x, x ∈ M ↔ x ∈ st.states[j]?.getD [] ∨ x ∈ T)
  keyJ : st'.keys[j]? = some (lr0Key T)
  keysOld : j < st.states.length → st'.keys = st.keys
  keysNew : j = st.states.length → st'.keys = st.keys ++ [lr0Key T] ∧ lr0Key T ∉ st.keys
  transI : ∀ Y, lookupSym Y (st'.trans[i]?.getD []) =
    if X = Y then some j else lookupSym Y (st.trans[i]?.getD [])
  transOther : ∀ i', i' ≠ i → st'.trans[i']?.getD [] = st.trans[i']?.getD []
  lenT : st'.trans.length = st'.states.length
  pendMono : ∀ k ∈ st.pending, k ∈ st'.pending
  pendOnly : ∀ k ∈ st'.pending, k ∈ st.pending ∨ k = lr0Key T
  -- either `j` is an old state that the merge left as it was, or the key of `T` is queued and the
  -- target grew or is new: `st'.states.length - st.states.length` is 1 if `j` is new, else 0
  pendChanged : (j < st.states.length ∧ st'.states[j]? = st.states[j]?) ∨
    (lr0Key T ∈ st'.pending ∧
      (st.states[j]?.getD []).length < (st'.states[j]?.getD []).length + (st'.states.length - st.states.length))
  pendSorted : SSorted keyLt st.pending → SSorted keyLt st'.pending
  muStep : mu st ≤ mu st' ∧ (st'.pending = st.pending ∨ mu st < mu st')

theorem stepSym_spec {G : Grammar} {nT : Nat} (ht : TermsBelow G nT) {st st' : CState} {i : Nat}
    {X : Sym} (hinv : Inv G st) (h : stepSym G nT i st X = some st') :
    ∃ I T j, StepSpec G st st' i X I T j := by
  unfold stepSym at h
  split at h
  · cases h
  next I hI =>
  split at h
  · cases h
  next T hT =>
  have spec := goto_spec ht ((gotoGo_eq_some.mp hT).2.2)
  have hiT : i < st.trans.length := hinv.lenT ▸ (List.getElem?_eq_some_iff.mp hI).1
  have htransI : ∀ (j : Nat) (Y : Sym),
      lookupSym Y ((modAt st.trans i fun row => setTrans row X j)[i]?.getD []) =
        if X = Y then some j else lookupSym Y (st.trans[i]?.getD []) := by
    intro j Y
    rw [getElem?_modAt, if_pos rfl, List.getElem?_eq_getElem hiT]
    exact lookupSym_setTrans _ X j Y
  dsimp only at h
  split at h
  · -- the key is known: merge into the state entered under it
    next j hf =>
    cases h
    have hkj := findKey_some hf
    have hjlt : j < st.states.length := hinv.lenK ▸ (List.getElem?_eq_some_iff.mp hkj).1
    have hD : st.states[j]?.getD [] = st.states[j] := by rw [List.getElem?_eq_getElem hjlt]; rfl
    obtain ⟨m1, m2, m3, m4, m5⟩ := mergeInto_spec (st.states[j]?.getD []) (sortItems T)
    generalize mergeInto (st.states[j]?.getD []) (sortItems T) = m at m1 m2 m3 m4 m5
    have hMj : (st.states.set j m.1)[j]? = some m.1 := List.getElem?_set_self hjlt
    have hsum := Util.sum_map_set (fun I : List Item => I.length + 1) st.states j m.1 hjlt
    rw [← hD] at hsum
    exact ⟨I, T, j, {
      hI, spec
      jle := Nat.le_of_lt hjlt
      len := by rw [List.length_set, Nat.max_eq_left hjlt]
      other := fun i' hne => List.getElem?_set_ne (Ne.symm hne)
      atJ := ⟨m.1, hMj, (Classical.em _).imp m4 id, m5,
        fun x => (m1 x).trans (or_congr .rfl mem_sortItems)⟩
      keyJ := hkj
      keysOld := fun _ => rfl
      keysNew := fun e => absurd e (Nat.ne_of_lt hjlt)
      transI := htransI j
      transOther := fun i' hne => by rw [getElem?_modAt, if_neg (Ne.symm hne)]
      lenT := by rw [length_modAt, List.length_set]; exact hinv.lenT
      pendMono := fun k hk => mem_ite_sinsert.mpr (.inr hk)
      pendOnly := fun k hk => (mem_ite_sinsert.mp hk).symm.imp_right And.right
      pendChanged := by
        cases hm : m.2 with
        | false =>
          exact .inl ⟨hjlt, by rw [hMj, m2 hm, hD]; exact (List.getElem?_eq_getElem hjlt).symm⟩
        | true =>
          refine .inr ⟨mem_ite_sinsert.mpr (.inl ⟨rfl, rfl⟩), ?_⟩
          rw [hMj]
          exact Nat.lt_add_right _ (m3 hm)
      pendSorted := sorted_ite_sinsert
      muStep := by
        simp only [mu]
        cases hm : m.2 with
        | false => exact ⟨by omega, .inl (if_neg Bool.false_ne_true)⟩
        | true =>
          have := m3 hm
          exact ⟨by omega, .inr (by omega)⟩ }⟩
  · -- a new key: a new state
    next hf =>
    cases h
    have hlenT : (modAt st.trans i fun row => setTrans row X st.states.length).length =
        st.states.length := (length_modAt ..).trans hinv.lenT
    have hnone : st.states[st.states.length]? = none := List.getElem?_eq_none (Nat.le_refl _)
    exact ⟨I, T, st.states.length, {
      hI, spec
      jle := Nat.le_refl _
      len := by rw [List.length_append, Nat.max_eq_right (Nat.le_succ _)]; rfl
      other := fun i' hne => getElem?_concat_ne hne
      atJ := ⟨T, List.getElem?_concat_length, .inl (goto_nodup ((gotoGo_eq_some.mp hT).2.2)),
        by rw [hnone]; exact Nat.zero_le _,
        fun x => by rw [hnone]; exact ⟨.inr, fun h => h.resolve_left fun h => nomatch h⟩⟩
      keyJ := by rw [← hinv.lenK]; exact List.getElem?_concat_length
      keysOld := fun e => absurd e (Nat.lt_irrefl _)
      keysNew := fun _ => ⟨rfl, findKey_none hf⟩
      transI := fun Y => by
        rw [List.getElem?_append_left ((length_modAt ..).symm ▸ hiT)]
        exact htransI _ Y
      transOther := fun i' hne => by
        by_cases he : i' = (modAt st.trans i fun row => setTrans row X st.states.length).length
        · rw [he, List.getElem?_concat_length, length_modAt, List.getElem?_eq_none (Nat.le_refl _)]
          rfl
        · rw [getElem?_concat_ne he, getElem?_modAt, if_neg (Ne.symm hne)]
      lenT := by rw [List.length_append, hlenT, List.length_append]; rfl
      pendMono := fun k hk => (mem_sinsert keyLt_order).mpr (.inr hk)
      pendOnly := fun k hk => ((mem_sinsert keyLt_order).mp hk).symm
      pendChanged := .inr ⟨(mem_sinsert keyLt_order).mpr (.inl rfl), by
        rw [hnone, List.length_append, Nat.add_sub_cancel_left]
        exact Nat.lt_add_left _ Nat.one_pos⟩
      pendSorted := sorted_sinsert keyLt_order
      muStep := by
        simp only [mu, List.map_append, List.sum_append, List.map_cons, List.map_nil, List.sum_cons,
          List.sum_nil]
        exact ⟨by omega, .inr (by omega)⟩ }⟩

section
variable {G : Grammar} {nT : Nat} {st st' : CState} {i : Nat} {X : Sym} {I T : List Item} {j : Nat}

theorem StepSpec.ilt (hs : StepSpec G st st' i X I T j) : i < st.states.length :=
  (List.getElem?_eq_some_iff.mp hs.hI).1

theorem StepSpec.keys_cases (hs : StepSpec G st st' i X I T j) :
    (j < st.states.length ∧ st'.keys = st.keys) ∨
    (j = st.states.length ∧ st'.keys = st.keys ++ [lr0Key T] ∧ lr0Key T ∉ st.keys) :=
  (Nat.lt_or_eq_of_le hs.jle).imp (fun h => ⟨h, hs.keysOld h⟩) (fun h => ⟨h, hs.keysNew h⟩)

/-- An old target was entered under the key of `Goto(I, X)`: it has the same kernel cores. -/
theorem StepSpec.kj_oldJ (hinv : Inv G st) (hs : StepSpec G st st' i X I T j) {J : List Item}
    (hJ : st.states[j]? = some J) (pd : Nat × Nat) : KJ J pd ↔ KJ T pd :=
  lr0Key_eq_iff.mp (Option.some.inj ((hinv.key j J hJ).symm.trans
    (hs.keysOld (List.getElem?_eq_some_iff.mp hJ).1 ▸ hs.keyJ))) pd

theorem StepSpec.statesInv (hs : StepSpec G st st' i X I T j) (i' : Nat) (I'' : List Item)
    (h : st'.states[i']? = some I'') :
    (i' ≠ j ∧ st.states[i']? = some I'') ∨
    (i' = j ∧ ∀ x, x ∈ I'' ↔ x ∈ st.states[j]?.getD [] ∨ x ∈ T) := by
  by_cases hij : i' = j
  · subst hij
    obtain ⟨M, hM, _, _, hmem⟩ := hs.atJ
    cases hM.symm.trans h
    exact .inr ⟨rfl, hmem⟩
  · exact .inl ⟨hij, (hs.other i' hij).symm.trans h⟩

theorem StepSpec.mem_state (hs : StepSpec G st st' i X I T j) {i' : Nat} {I'' : List Item}
    (h : st'.states[i']? = some I'') (x : Item) :
    x ∈ I'' ↔ (∃ I', st.states[i']? = some I' ∧ x ∈ I') ∨ (i' = j ∧ x ∈ T) := by
  rcases hs.statesInv i' I'' h with ⟨hne, hold⟩ | ⟨rfl, hmem⟩
  · exact ⟨fun hx => .inl ⟨I'', hold, hx⟩, fun hx => hx.elim
      (fun ⟨I', hI', hx⟩ => Option.some.inj (hI'.symm.trans hold) ▸ hx) fun ⟨e, _⟩ => absurd e hne⟩
  · rw [hmem x, Util.mem_getD_nil]
    exact or_congr .rfl ⟨fun h => ⟨rfl, h⟩, And.right⟩

theorem StepSpec.grows (hs : StepSpec G st st' i X I T j) {i' : Nat} {I' : List Item}
    (h : st.states[i']? = some I') : ∃ I'', st'.states[i']? = some I'' ∧ ∀ x ∈ I', x ∈ I'' := by
  by_cases hij : i' = j
  · subst hij
    obtain ⟨M, hM, _, _, _⟩ := hs.atJ
    exact ⟨M, hM, fun x hx => (hs.mem_state hM x).mpr (.inl ⟨I', h, hx⟩)⟩
  · exact ⟨I', (hs.other i' hij).trans h, fun _ hx => hx⟩

/-- States only grow, and keep their cores. -/
theorem StepSpec.statesRel (hinv : Inv G st)
    (hs : StepSpec G st st' i X I T j) (i' : Nat) (I' : List Item)
    (h : st.states[i']? = some I') :
    ∃ I'', st'.states[i']? = some I'' ∧ (∀ x ∈ I', x ∈ I'') ∧ CoresSub I'' I' := by
  obtain ⟨I'', hI'', hsub⟩ := hs.grows h
  refine ⟨I'', hI'', hsub, fun x hx => ?_⟩
  rcases (hs.mem_state hI'' x).mp hx with ⟨I1, hI1, hx⟩ | ⟨rfl, hx⟩
  · cases h.symm.trans hI1
    exact ⟨x.a, hx⟩
  · exact hs.spec.coresSub (hinv.closed i' I' h)
      (fun pd => (hs.kj_oldJ hinv h pd).mpr) x hx

theorem StepSpec.keysPrefix (hs : StepSpec G st st' i X I T j) (i' : Nat) (k : Key)
    (h : st.keys[i']? = some k) : st'.keys[i']? = some k := by
  rcases hs.keys_cases with ⟨_, e⟩ | ⟨_, e, _⟩
  · rw [e]; exact h
  · rw [e, List.getElem?_append_left (List.getElem?_eq_some_iff.mp h).1]
    exact h

/-- The kernel cores of the (new) target state are those of `Goto(I, X)`. -/
theorem StepSpec.kjM (hinv : Inv G st) (hs : StepSpec G st st' i X I T j) {M : List Item}
    (hM : ∀ x, x ∈ M ↔ x ∈ st.states[j]?.getD [] ∨ x ∈ T) (pd : Nat × Nat) :
    KJ M pd ↔ KJ T pd := by
  constructor
  · rintro ⟨y, hy, hk, he⟩
    rcases (hM y).mp hy with hy | hy
    · obtain ⟨J, hJ, hy⟩ := Util.mem_getD_nil.mp hy
      exact (hs.kj_oldJ hinv hJ pd).mp ⟨y, hy, hk, he⟩
    · exact ⟨y, hy, hk, he⟩
  · rintro ⟨y, hy, hk, he⟩
    exact ⟨y, (hM y).mpr (.inr hy), hk, he⟩

/-- A transition that exists is not re-targeted. -/
theorem StepSpec.sameTarget (hinv : Inv G st) (hs : StepSpec G st st' i X I T j) {t : Nat}
    (h : lookupSym X (st.trans[i]?.getD []) = some t) : t = j := by
  obtain ⟨I0, J0, hI0, hJ0, hkc⟩ := hinv.tgt i X t h
  cases hs.hI.symm.trans hI0
  have hkj : ∀ pd, KJ J0 pd ↔ KJ T pd := fun pd => (hkc pd).symm.trans (hs.spec.kc pd)
  rcases hs.keys_cases with ⟨hj, _⟩ | ⟨_, _, hnew⟩
  · have hJ := List.getElem?_eq_getElem hj
    exact hinv.eq_of_kj hJ0 hJ fun pd => (hkj pd).trans (hs.kj_oldJ hinv hJ pd).symm
  · exact absurd (List.mem_of_getElem? (lr0Key_eq_iff.mpr hkj ▸ hinv.key t J0 hJ0)) hnew

theorem StepSpec.trans_cases (hs : StepSpec G st st' i X I T j) {i' : Nat} {Y : Sym} {t : Nat}
    (hl : lookupSym Y (st'.trans[i']?.getD []) = some t) :
    (i' = i ∧ X = Y ∧ t = j) ∨ lookupSym Y (st.trans[i']?.getD []) = some t := by
  by_cases hi : i' = i
  · subst hi
    rw [hs.transI Y] at hl
    split at hl
    · next e => exact .inl ⟨rfl, e, (Option.some.inj hl).symm⟩
    · exact .inr hl
  · exact .inr (hs.transOther i' hi ▸ hl)

theorem StepSpec.lookup_mono (hinv : Inv G st) (hs : StepSpec G st st' i X I T j) {s : Nat}
    {Y : Sym} {t : Nat} (h : lookupSym Y (st.trans[s]?.getD []) = some t) :
    lookupSym Y (st'.trans[s]?.getD []) = some t := by
  by_cases hsi : s = i
  · subst hsi
    rw [hs.transI Y]
    split
    · next e =>
      subst e
      rw [hs.sameTarget hinv h]
    · exact h
  · rw [hs.transOther s hsi]; exact h

theorem StepSpec.inv (hinv : Inv G st)
    (hs : StepSpec G st st' i X I T j) : Inv G st' := by
  have hsub : TransSub (skelOf st) (skelOf st') := fun s Y t h => by
    rw [trans_skelOf] at h ⊢
    exact hs.lookup_mono hinv h
  have hedge : trans (skelOf st') i X = some j := by
    rw [trans_skelOf, hs.transI X, if_pos rfl]
  obtain ⟨M, hM, _, _, hmemM⟩ := hs.atJ
  have hIsound : ∀ it ∈ I, LALRItem G (skelOf st') i it :=
    fun it hit => LALRItem.mono hsub (hinv.sound i I it hs.hI hit)
  -- the items of `Goto(I, X)` are LALR(1) items of the target state
  have hTsound : ∀ x, ClosureOf G (advance G I X) x → LALRItem G (skelOf st') j x := by
    refine fun x hx => hx.least (fun x hi => ?_) fun _ h _ hr => lalr_closure_step h hr
    obtain ⟨⟨p, d, a⟩, hit, had, rfl⟩ := mem_advance.mp hi
    obtain ⟨pr, hp, hX⟩ := afterDot_eq.mp had
    obtain ⟨γ, hpath, hl⟩ := hIsound _ hit
    exact ⟨γ ++ [X], .snoc hpath hedge, .goto hl hp hX⟩
  exact {
    lenK := by
      rcases hs.keys_cases with ⟨hj, e⟩ | ⟨hj, e, _⟩
      · rw [e, hs.len, hinv.lenK, Nat.max_eq_left hj]
      · rw [e, hs.len, List.length_append, hinv.lenK, hj, Nat.max_eq_right (Nat.le_succ _)]
        rfl
    lenT := hs.lenT
    key := fun i' I'' h => by
      rcases hs.statesInv i' I'' h with ⟨_, hold⟩ | ⟨rfl, hmem⟩
      · exact hs.keysPrefix i' _ (hinv.key i' I'' hold)
      · rw [hs.keyJ, lr0Key_eq_iff.mpr (hs.kjM hinv hmem)]
    keysNodup := by
      rcases hs.keys_cases with ⟨_, e⟩ | ⟨_, e, hnew⟩
      · rw [e]; exact hinv.keysNodup
      · rw [e, List.nodup_append]
        refine ⟨hinv.keysNodup, List.pairwise_singleton .., fun a ha b hb e => ?_⟩
        cases List.mem_singleton.mp hb
        exact hnew (e ▸ ha)
    closed := fun i' I'' h it hit new hr => by
      rcases (hs.mem_state h it).mp hit with ⟨I', hI', hx⟩ | ⟨rfl, hx⟩
      · exact (hs.mem_state h new).mpr (.inl ⟨I', hI', hinv.closed i' I' hI' it hx new hr⟩)
      · exact (hs.mem_state h new).mpr (.inr ⟨rfl, hs.spec.closed it hx new hr⟩)
    tgt := fun i' X' t h => by
      rcases hs.trans_cases h with ⟨rfl, rfl, rfl⟩ | hold
      · obtain ⟨I'', hI'', hsub1, hsub2⟩ := hs.statesRel hinv i' I hs.hI
        refine ⟨I'', M, hI'', hM, fun pd => ?_⟩
        rw [← KC_congr (CoresSub.of_subset hsub1) hsub2 X pd, hs.spec.kc pd, hs.kjM hinv hmemM pd]
      · obtain ⟨I0, J0, hI0, hJ0, hkc⟩ := hinv.tgt i' X' t hold
        obtain ⟨I0', hI0', a1, a2⟩ := hs.statesRel hinv i' I0 hI0
        obtain ⟨J0', hJ0', b1, b2⟩ := hs.statesRel hinv t J0 hJ0
        refine ⟨I0', J0', hI0', hJ0', fun pd => ?_⟩
        rw [← KC_congr (CoresSub.of_subset a1) a2 X' pd, hkc pd,
          KJ_congr (CoresSub.of_subset b1) b2 pd]
    start := by
      obtain ⟨I0, hI0, hmem⟩ := hinv.start
      obtain ⟨I0', hI0', hsub'⟩ := hs.grows hI0
      exact ⟨I0', hI0', hsub' _ hmem⟩
    sound := fun i' I'' it h hit => by
      rcases (hs.mem_state h it).mp hit with ⟨I', hI', hx⟩ | ⟨rfl, hx⟩
      · exact LALRItem.mono hsub (hinv.sound i' I' it hI' hx)
      · exact hTsound it ((hs.spec.mem it).mp hx) }

end

end Lox.LR.Cons
