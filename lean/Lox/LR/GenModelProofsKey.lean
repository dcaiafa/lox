import Lox.LR.GenModel
import Lox.Util.OrdInsert
/-! Canonical order in the generator model: `sinsert` / `ssort` produce THE strictly increasing
list of a set, hence `sortItems` (`ItemSet.Items()`), `lr0Key` (`ItemSet.LR0Key`) and `next`
(`Next`) depend only on the set of items. -/
namespace Lox.LR.Gen
open Lox.LR

structure StrictOrder {α : Type} (lt : α → α → Bool) : Prop where
  irrefl : ∀ a, lt a a = false
  trans : ∀ a b c, lt a b = true → lt b c = true → lt a c = true
  total : ∀ a b, lt a b = false → lt b a = false → a = b

def SSorted {α : Type} (lt : α → α → Bool) (l : List α) : Prop :=
  List.Pairwise (fun a b => lt a b = true) l

variable {α : Type} {lt : α → α → Bool}

theorem ordIns_sinsert (ho : StrictOrder lt) : Lox.Util.OrdIns (fun a b => lt a b = true) (sinsert lt) where
  nil _ := rfl
  cons a b l := by
    rw [sinsert]
    cases h1 : lt a b with
    | true => exact .inl ⟨rfl, if_pos rfl⟩
    | false =>
      cases h2 : lt b a with
      | true => exact .inr (.inl ⟨rfl, by rw [if_neg Bool.false_ne_true, if_pos rfl]⟩)
      | false =>
        exact .inr (.inr ⟨ho.total a b h1 h2, by rw [if_neg Bool.false_ne_true, if_neg Bool.false_ne_true]⟩)

theorem mem_sinsert (ho : StrictOrder lt) {a x : α} {l : List α} :
    x ∈ sinsert lt a l ↔ x = a ∨ x ∈ l :=
  (ordIns_sinsert ho).mem

theorem sorted_sinsert (ho : StrictOrder lt) {a : α} {l : List α} (h : SSorted lt l) :
    SSorted lt (sinsert lt a l) :=
  (ordIns_sinsert ho).pairwise (ho.trans _ _ _) h

theorem nodup_of_sorted (ho : StrictOrder lt) {l : List α} (h : SSorted lt l) : l.Nodup := by
  unfold SSorted at h
  refine List.Pairwise.imp ?_ h
  intro a b hab heq
  subst heq
  rw [ho.irrefl] at hab
  cases hab

theorem sorted_ext (ho : StrictOrder lt) {l1 l2 : List α} (h1 : SSorted lt l1) (h2 : SSorted lt l2)
    (hm : ∀ x, x ∈ l1 ↔ x ∈ l2) : l1 = l2 :=
  Lox.Util.pairwise_ext
    (fun a _ hab hba => absurd (ho.trans _ _ _ hab hba) (ho.irrefl a ▸ Bool.false_ne_true)) h1 h2 hm

theorem mem_ssort (ho : StrictOrder lt) {x : α} {l : List α} : x ∈ ssort lt l ↔ x ∈ l :=
  (ordIns_sinsert ho).mem_foldr

theorem sorted_ssort (ho : StrictOrder lt) (l : List α) : SSorted lt (ssort lt l) :=
  (ordIns_sinsert ho).pairwise_foldr (ho.trans _ _ _) l

theorem ssort_ext (ho : StrictOrder lt) {l1 l2 : List α} (hm : ∀ x, x ∈ l1 ↔ x ∈ l2) :
    ssort lt l1 = ssort lt l2 :=
  sorted_ext ho (sorted_ssort ho l1) (sorted_ssort ho l2)
    (fun x => by rw [mem_ssort ho, mem_ssort ho, hm x])

theorem foldr_sinsert_eq_ssort {β : Type} (lt : α → α → Bool) (f : β → Option α) (l : List β) :
    l.foldr (fun b acc => match f b with
      | some a => sinsert lt a acc
      | none => acc) [] = ssort lt (l.filterMap f) := by
  induction l with
  | nil => rfl
  | cons b l ih =>
    rw [List.foldr_cons, ih, List.filterMap_cons]
    cases f b <;> rfl

theorem natLt_order : StrictOrder (fun x y : Nat => decide (x < y)) where
  irrefl a := decide_eq_false (Nat.lt_irrefl a)
  trans _ _ _ h1 h2 := decide_eq_true (Nat.lt_trans (of_decide_eq_true h1) (of_decide_eq_true h2))
  total _ _ h1 h2 :=
    Nat.le_antisymm (Nat.le_of_not_lt (of_decide_eq_false h2)) (Nat.le_of_not_lt (of_decide_eq_false h1))

theorem StrictOrder.lex {β : Type} [DecidableEq α] {lt₂ : β → β → Bool} (h₁ : StrictOrder lt)
    (h₂ : StrictOrder lt₂) :
    StrictOrder (fun x y : α × β => lt x.1 y.1 || (x.1 == y.1 && lt₂ x.2 y.2)) where
  irrefl a := by simp [h₁.irrefl, h₂.irrefl]
  trans a b c h1 h2 := by
    simp only [Bool.or_eq_true, Bool.and_eq_true, beq_iff_eq] at h1 h2 ⊢
    rcases h1 with h1 | ⟨e1, h1⟩ <;> rcases h2 with h2 | ⟨e2, h2⟩
    · exact .inl (h₁.trans _ _ _ h1 h2)
    · exact .inl (e2 ▸ h1)
    · exact .inl (e1 ▸ h2)
    · exact .inr ⟨e1.trans e2, h₂.trans _ _ _ h1 h2⟩
  total a b h1 h2 := by
    simp only [Bool.or_eq_false_iff, Bool.and_eq_false_iff, beq_eq_false_iff_ne] at h1 h2
    have e := h₁.total _ _ h1.1 h2.1
    exact Prod.ext e (h₂.total _ _ (h1.2.resolve_left (absurd e)) (h2.2.resolve_left (absurd e.symm)))

theorem StrictOrder.comap {γ : Type} {f : γ → α} (hf : ∀ x y, f x = f y → x = y)
    (h : StrictOrder lt) : StrictOrder (fun x y => lt (f x) (f y)) where
  irrefl _ := h.irrefl _
  trans _ _ _ := h.trans _ _ _
  total a b h1 h2 := hf a b (h.total _ _ h1 h2)

theorem pairLt_order : StrictOrder pairLt := natLt_order.lex natLt_order

/-- `itemLt` is the lexicographic order on (production, dot, lookahead). -/
theorem itemLt_order : StrictOrder itemLt :=
  (natLt_order.lex (natLt_order.lex natLt_order)).comap (f := fun it : Item => (it.p, it.d, it.a))
    fun ⟨_, _, _⟩ ⟨_, _, _⟩ h => by cases h; rfl

theorem symLt_order : StrictOrder symLt where
  irrefl a := by cases a <;> exact decide_eq_false (Nat.lt_irrefl _)
  trans
    | .t _, .t _, .t _, h1, h2 => natLt_order.trans _ _ _ h1 h2
    | .n _, .n _, .n _, h1, h2 => natLt_order.trans _ _ _ h1 h2
    | .t _, _, .n _, _, _ => rfl
    | .n _, .t _, _, h1, _ => Bool.noConfusion h1
    | _, .n _, .t _, _, h2 => Bool.noConfusion h2
  total
    | .t _, .t _, h1, h2 => congrArg Sym.t (natLt_order.total _ _ h1 h2)
    | .n _, .n _, h1, h2 => congrArg Sym.n (natLt_order.total _ _ h1 h2)
    | .t _, .n _, h1, _ => Bool.noConfusion h1
    | .n _, .t _, _, h2 => Bool.noConfusion h2

theorem mem_sortItems {x : Item} {I : List Item} : x ∈ sortItems I ↔ x ∈ I := mem_ssort itemLt_order

theorem nodup_sortItems (I : List Item) : (sortItems I).Nodup :=
  nodup_of_sorted itemLt_order (sorted_ssort itemLt_order I)

/-- `ItemSet.Items()` is a function of the set. -/
theorem sortItems_ext {I J : List Item} (h : ∀ x, x ∈ I ↔ x ∈ J) : sortItems I = sortItems J :=
  ssort_ext itemLt_order h

theorem lr0Key_eq (I : List Item) :
    lr0Key I = ssort pairLt (I.filterMap fun it => if isKernel it then some (it.p, it.d) else none) := by
  rw [← foldr_sinsert_eq_ssort, lr0Key]
  congr 1
  funext it acc
  split <;> rfl

theorem mem_lr0Key {I : List Item} {pd : Nat × Nat} :
    pd ∈ lr0Key I ↔ ∃ it ∈ I, isKernel it = true ∧ (it.p, it.d) = pd := by
  simp only [lr0Key_eq, mem_ssort pairLt_order, List.mem_filterMap, Option.ite_none_right_eq_some,
    Option.some.injEq]

theorem sorted_lr0Key (I : List Item) : SSorted pairLt (lr0Key I) :=
  lr0Key_eq I ▸ sorted_ssort pairLt_order _

theorem lr0Key_eq_iff {I J : List Item} :
    lr0Key I = lr0Key J ↔
      ∀ pd : Nat × Nat, (∃ it ∈ I, isKernel it = true ∧ (it.p, it.d) = pd) ↔
        (∃ it ∈ J, isKernel it = true ∧ (it.p, it.d) = pd) := by
  constructor
  · intro h pd
    rw [← mem_lr0Key, ← mem_lr0Key, h]
  · intro h
    apply sorted_ext pairLt_order (sorted_lr0Key I) (sorted_lr0Key J)
    intro pd
    rw [mem_lr0Key, mem_lr0Key, h pd]

theorem afterDot_eq {G : Grammar} {it : Item} {X : Sym} :
    afterDot G it = some X ↔ ∃ pr, G.prods[it.p]? = some pr ∧ pr.rhs[it.d]? = some X := by
  unfold afterDot
  cases hp : G.prods[it.p]? with
  | none => simp
  | some pr => simp

theorem next_eq (G : Grammar) (I : List Item) : next G I = ssort symLt (I.filterMap (afterDot G)) := by
  rw [← foldr_sinsert_eq_ssort, next]
  congr 1
  funext it acc
  cases afterDot G it <;> rfl

theorem mem_next {G : Grammar} {I : List Item} {X : Sym} :
    X ∈ next G I ↔ ∃ it ∈ I, afterDot G it = some X := by
  rw [next_eq, mem_ssort symLt_order, List.mem_filterMap]

theorem sorted_next (G : Grammar) (I : List Item) : SSorted symLt (next G I) :=
  next_eq G I ▸ sorted_ssort symLt_order _

end Lox.LR.Gen
