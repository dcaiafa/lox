import Lox.LR.Abstract
import Lox.LR.RuntimeDefs
/-! Runtime values as derivation trees (`Val.toTree`; `toTreeList_eq_map`) and the `_act` calls of an
event log with the arguments as trees (`actsOf`): the words in which the run of `parse` is compared
with the abstract machine. Also `Rel`, exact agreement of an abstract configuration and a parser state
(stack, rest of the input, log) as a relation; no proof uses it, the simulation goes through the
function `Rt.absC` of `RuntimeSoundAbs.lean`. -/
namespace Lox.LR

mutual
/-- The derivation tree a runtime value stands for (token → leaf of its type). -/
def Val.toTree : Val → Tree
  | .nil => .leaf 0
  | .tok _ ty => .leaf ty
  | .err _ _ _ => .leaf 1
  | .node p kids => .node p (toTreeList kids)
def toTreeList : List Val → List Tree
  | [] => []
  | v :: vs => v.toTree :: toTreeList vs
end

theorem toTreeList_eq_map (vs : List Val) : toTreeList vs = vs.map Val.toTree := by
  induction vs with
  | nil => rfl
  | cons v vs ih => simp [toTreeList, ih]

/-- The `_act` calls of an event log (newest first), as (production, children trees). -/
def actsOf : List Event → List (Nat × List Tree)
  | [] => []
  | .act p kids :: r => (p, kids.map Val.toTree) :: actsOf r
  | .bounds _ _ _ _ :: r => actsOf r

/-- The refinement relation between an abstract configuration and a state of the generated parser
(over the token-type array `inp`). -/
structure Rel (inp : Array Nat) (c : Abs.Config) (s : PState) : Prop where
  states : s.stack.map (·.state) = c.stack.map (fun e => (e.state : Int))
  vals : s.stack.map (fun e => e.sym.toTree) = c.stack.map (·.val)
  input : ∃ k, k ≤ inp.size ∧ c.input = inp.toList.drop k ∧ s.pos = min (k + 1) inp.size ∧
    s.lasym = .tok k (Abs.la c.input)
  la : s.la = ((Abs.la c.input : Nat) : Int)
  qla : s.qla = -1
  recov : s.recovering = false
  log : (actsOf s.log).reverse = c.log

end Lox.LR
