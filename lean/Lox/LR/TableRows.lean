import Lox.LR.RowReaders
import Lox.Table.Proofs
import Lox.Util.Nodup
/-! The readers of `LR/RowReaders` on an array in which `Table.build` stored a key/value row (`HasRow a i (flattenPairs ps)`):
the validator's `rowOf` reads `ps` back and `_Find` is `firstMatch` in `ps`. Both rows `EmitParser`
writes list, for the indices `l` in name order, the value a partial function has there: first-match
lookup in such a row is that function on `l` (`firstMatch_filterMap`; `l` may repeat). -/
namespace Lox.Table

open Lox.LR in
/-- The answer of `_Find` on a row where first-match lookup gives `o`; never `oob`. -/
def lookResult : Option Int → Look
  | some v => .hit v
  | none => .miss

end Lox.Table

namespace Lox.LR.Emit
open Lox.Table

theorem lookResult_hit {o : Option Int} {v : Int} : lookResult o = .hit v ↔ o = some v := by
  cases o <;> simp [lookResult]

theorem lookResult_miss {o : Option Int} : lookResult o = .miss ↔ o = none := by
  cases o <;> simp [lookResult]

theorem lookResult_ne_oob (o : Option Int) : lookResult o ≠ .oob := by
  cases o <;> simp [lookResult]

theorem lookupI_eq_firstMatch (x : Int) : ∀ ps : List (Int × Int), lookupI x ps = firstMatch ps x
  | [] => rfl
  | (k, v) :: ps => by
    simp only [lookupI, firstMatch]
    split
    · rfl
    · exact lookupI_eq_firstMatch x ps

end Lox.LR.Emit

namespace Lox.Table

theorem rowScan_pairs (a : List Int) :
    ∀ (ps : List (Int × Int)) (p fuel : Nat) (rest : List Int),
      a.drop p = flattenPairs ps ++ rest → ps.length < fuel →
      Lox.LR.rowScan a.toArray fuel (p : Int) ((p + 2 * ps.length : Nat) : Int) = some ps
  | [], p, n + 1, _, _, _ => by
    unfold Lox.LR.rowScan
    exact if_neg (Int.lt_irrefl (p : Int))
  | (k, v) :: ps, p, n + 1, rest, hd, hf => by
    obtain ⟨hk, hd1⟩ := Util.getElem?_of_drop_eq_cons hd
    obtain ⟨hv, hd2⟩ := Util.getElem?_of_drop_eq_cons hd1
    have hlt : (p : Int) < ((p + 2 * ((k, v) :: ps).length : Nat) : Int) :=
      Int.ofNat_lt.mpr (Nat.lt_add_of_pos_right (Nat.mul_pos (by decide) (Nat.succ_pos _)))
    have e3 : p + 2 * ((k, v) :: ps).length = (p + 1 + 1) + 2 * ps.length :=
      (Nat.add_assoc p (2 * ps.length) 2).symm.trans (Nat.add_right_comm p (2 * ps.length) 2)
    unfold Lox.LR.rowScan
    rw [if_pos hlt, Lox.LR.geti_toArray, hk, show (p : Int) + 1 = ((p + 1 : Nat) : Int) from rfl,
      Lox.LR.geti_toArray, hv]
    simp only
    rw [show (p : Int) + 2 = ((p + 1 + 1 : Nat) : Int) from rfl, e3,
      rowScan_pairs a ps (p + 1 + 1) n rest hd2 (Nat.lt_of_succ_lt_succ hf)]
    rfl

theorem HasRow.rowOf {a : List Int} {i : Nat} {ps : List (Int × Int)} (h : HasRow a i (flattenPairs ps)) :
    Lox.LR.rowOf a.toArray (i : Int) = some ps := by
  obtain ⟨off, hget, hdrop⟩ := h
  obtain ⟨hc, hd1⟩ := Util.getElem?_of_drop_eq_cons hdrop
  unfold Lox.LR.rowOf
  rw [Lox.LR.geti_toArray, hget]
  simp only
  rw [Lox.LR.geti_toArray, hc]
  simp only
  rw [flattenPairs_length, show (off : Int) + 1 = ((off + 1 : Nat) : Int) from rfl,
    ← Int.natCast_add, Int.toNat_natCast]
  exact rowScan_pairs a ps (off + 1) (2 * ps.length + 1) _ hd1
    (Nat.lt_succ_of_le (Nat.le_mul_of_pos_left _ (by decide)))

/-- `_Find` on such an array: it scans the row `rowOf` reads. -/
theorem HasRow.find {a : List Int} {i : Nat} {ps : List (Int × Int)} (h : HasRow a i (flattenPairs ps))
    (x : Int) : Lox.LR.find a.toArray (i : Int) x = lookResult (firstMatch ps x) := by
  rw [Lox.LR.find_eq h.rowOf, Lox.LR.lookRow, Lox.LR.Emit.lookupI_eq_firstMatch]
  rfl

section
variable {β : Type} {f : Nat → Option β} {g : β → Int} {l : List Nat}

theorem firstMatch_filterMap (f : Nat → Option β) (g : β → Int) (a : Nat) : ∀ l : List Nat,
    firstMatch (l.filterMap fun b => (f b).map fun y => ((b : Int), g y)) (a : Int) =
      if a ∈ l then (f a).map g else none
  | [] => rfl
  | b :: l => by
    have ih := firstMatch_filterMap f g a l
    rw [List.filterMap_cons]
    by_cases hba : b = a
    · subst hba
      cases hf : f b with
      | none => simp [ih, hf]
      | some y => simp [firstMatch]
    · have hne : (b : Int) ≠ (a : Int) := fun e => hba (Int.ofNat_inj.mp e)
      cases hf : f b with
      | none => simpa [Ne.symm hba] using ih
      | some y => simpa [firstMatch, hne, Ne.symm hba] using ih

theorem mem_filterMap_row {k v : Int} :
    (k, v) ∈ (l.filterMap fun b => (f b).map fun y => ((b : Int), g y)) ↔
      ∃ b ∈ l, ∃ y, f b = some y ∧ k = (b : Int) ∧ v = g y := by
  simp only [List.mem_filterMap, Option.map_eq_some_iff, Prod.mk.injEq]
  exact exists_congr fun b => and_congr_right fun _ => exists_congr fun y =>
    and_congr_right fun _ => and_congr eq_comm eq_comm

theorem nodup_keys_filterMap (f : Nat → Option β) (g : β → Int) (h : l.Nodup) :
    ((l.filterMap fun b => (f b).map fun y => ((b : Int), g y)).map (·.1)).Nodup := by
  rw [List.map_filterMap]
  refine Util.nodup_filterMap_inj _ (fun b b' k hb hb' => ?_) h
  obtain ⟨_, _, rfl⟩ := Option.map_eq_some_iff.mp (Option.map_map .. ▸ hb)
  obtain ⟨_, _, e⟩ := Option.map_eq_some_iff.mp (Option.map_map .. ▸ hb')
  exact (Int.ofNat_inj.mp e).symm

end

end Lox.Table
