import Lox.LR.RuntimeClean
/-! Runs of `parse` on validated tables without ERROR actions (`NoErrorActions`: the grammar has no
`@error`), as a special case of the runs with recovery: `_recover()` cannot return `true` there, so
every run is clean in the sense of `RuntimeClean.lean` and an accepting one leaves the derivation
tree of the input (`accept_of_noerr`). Behind `parse_sound`, `parse_sound_safe`, `parse_decides` of
`Lox/Props/C01.lean`. -/
namespace Lox.LR.Rt

section
variable {G : Grammar} {nTerms nRules : Nat} {T : Tables} {cert : Array (List Item)}

/-- The stack search of `_recover()` needs a state with an action on ERROR. -/
theorem recover_ne_ok_of_noerr (hne : NoErrorActions T cert.size) {inp : Array Nat} {fuel : Nat}
    {s s' : PState} (hst : ∀ e ∈ s.stack, InR cert e.state) : recover T inp fuel s ≠ .ok s' := by
  intro h
  obtain ⟨-, s0, s1, st, -, h0, -, h1, hsearch, -, -⟩ := recover_ok h
  obtain ⟨hsuf, e, rest, rfl, hsim⟩ := searchStack_ok hsearch
  obtain ⟨v, hv⟩ := simulate_found _ hsim
  rw [(h0.trans h1).frame.stack] at hsuf
  have hin := hst e (hsuf.subset List.mem_cons_self)
  rw [← hin.cast, hne _ hin.2] at hv
  cases hv

/-- Without ERROR actions the simulation graph of `_recover` has no edge. -/
theorem recoveryOKB_of_noerr (hne : NoErrorActions T cert.size) : recoveryOKB T cert.size = true := by
  simp only [recoveryOKB, simRankOK, List.all_eq_true, List.mem_range]
  intro k hk
  simp only [simNext, hne k hk]

theorem cont_plain_of_noerr (hc : SafeOK G nTerms nRules T cert) (hne : NoErrorActions T cert.size)
    {inp : Array Nat} {wb : Bool} {fuel : Nat} {s s' : PState} (hs : SInv G (autoOf T cert) inp s)
    (h : step T inp wb fuel s = .cont s') : isRecoverStep T s = false := by
  cases step_cont h with
  | recover _ _ hr => exact absurd hr (recover_ne_ok_of_noerr hne (hs.stackR hc).2)
  | shift htop hf => exact isRecoverStep_hit htop hf
  | reduce htop hf => exact isRecoverStep_hit htop hf

theorem parseG_zero_of_noerr (hc : SafeOK G nTerms nRules T cert) (hne : NoErrorActions T cert.size)
    (inp : Array Nat) (wb : Bool) (fuel : Nat) : (parseG T inp wb fuel).2.2 = 0 := by
  rcases parseG_spec T inp wb fuel with ⟨w, -, h⟩ | ⟨s1, sl, h1, hr, -⟩
  · rw [h]
  · refine Nat.eq_zero_of_not_pos fun hk => ?_
    obtain ⟨s', s'', h2, h3, h4⟩ := hr.recover_state hk
    rw [cont_plain_of_noerr hc hne (h2.inv (fun _ _ => step_SInv hc) (init_SInv h1)) h4] at h3
    cases h3

/-- What an accepting run on tables without ERROR actions leaves: a derivation tree of the input on
top of the stack, with the `_act` calls logged in its post-order (`clean_accept`). -/
theorem accept_of_noerr (hc : SafeOK G nTerms nRules T cert) (hne : NoErrorActions T cert.size)
    {w : List Nat} (hw0 : eof ∉ w) (hw : ∀ x ∈ w, x ≠ 1) (wb : Bool) (fuel : Nat)
    (hacc : (parse T w.toArray wb fuel).1 = .accept) :
    ∃ t, Der G [.n (startSym G)] w [t] ∧
      (actsOf (parse T w.toArray wb fuel).2.log).reverse = t.post ∧
      (parse T w.toArray wb fuel).2.stack.head?.map (fun e => e.sym.toTree) = some t := by
  obtain ⟨st0, v, b, bot, hst, hder, -, hlog⟩ :=
    clean_accept hc hw (fun x hx h0 => hw0 (by subst h0; exact hx)) (by rw [parseG_fst]; exact hacc)
      (parseG_zero_of_noerr hc hne _ wb fuel)
  refine ⟨v.toTree, hder, ?_, by rw [hst]; rfl⟩
  rw [actsOf_eq_actCalls, ← List.map_reverse, hlog, post_toTree]

end
end Lox.LR.Rt
