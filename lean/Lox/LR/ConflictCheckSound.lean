import Lox.LR.SkelBasics
import Lox.LR.LALRExact
/-! Soundness of the table-free validator `conflictCheckB` (`Lox/LR/ConflictCheck.lean`):
`conflictCheckB_spec` gives `ConflictOK`; on a certificate and transitions that pass, the item set of
every state is its LALR(1) item set BY DEFINITION (`ConflictOK.items_exact`: `LALRItem` over the
skeleton `skelAuto tr cert`), the skeleton is deterministic and total on viable prefixes
(`ConflictOK.prefix_state`), and it satisfies `Closed`, `Safe`, `EdgesBacked`, `KernelsDistinct` (so
all lemmas of `LALRExact.lean` apply). Put together as `Lox.Props.C04.conflict_check_sound`. -/
namespace Lox.LR

theorem gotoCB_iff {tr : TransTab} {cert : Array (List Item)} {s : Nat} {it : Item} {X : Sym} :
    gotoCB tr cert s it X = true ↔
      ∃ s', lookupSym X (rowOfT tr s) = some s' ∧
        (⟨it.p, it.d + 1, it.a⟩ : Item) ∈ itemsOf cert s' := by
  unfold gotoCB
  cases lookupSym X (rowOfT tr s) with
  | none => simp
  | some s' => simp [hasItem_iff]

theorem closureCB_iff {G : Grammar} {F : FirstTab} {d0 : Array (List Nat)} {pr : Prod} {it : Item}
    {B : Nat} : closureCB G F d0 pr it B = true ↔ ∀ (q : Nat) (qr : Prod) (b : Nat),
      G.prods[q]? = some qr → qr.lhs = B →
      b ∈ firstOf F (pr.rhs.drop (it.d + 1)) it.a → b ∈ d0[q]?.getD [] := by
  simp only [closureCB, List.all_eq_true, List.mem_range]
  constructor
  · intro h q qr b hq hl hb
    have := h q (Array.getElem?_eq_some_iff.mp hq).1
    simp only [hq, Bool.or_eq_true, bne_iff_ne, ne_eq, List.all_eq_true, decide_eq_true_eq] at this
    exact this.elim (absurd hl) (· b hb)
  · intro h q _
    cases hq : G.prods[q]? with
    | none => rfl
    | some qr =>
      simp only [Bool.or_eq_true, bne_iff_ne, ne_eq, List.all_eq_true, decide_eq_true_eq]
      exact Decidable.not_or_of_imp fun hl b hb => h q qr b hq hl hb

structure ShapeOK (tr : TransTab) (s : Nat) (it : Item) (pr : Prod) : Prop where
  gotoDef : it.d = 0 → it.p ≠ 0 → ∃ s', lookupSym (.n pr.lhs) (rowOfT tr s) = some s'
  startOnly : it.p = 0 → it.d = 0 → s = 0
  s0 : s = 0 → it.d = 0
  p0 : it.p = 0 → it.a = 0

theorem shapeCB_iff {tr : TransTab} {s : Nat} {it : Item} {pr : Prod} :
    shapeCB tr s it pr = true ↔ ShapeOK tr s it pr := by
  rw [show ShapeOK tr s it pr ↔ _ from
    ⟨fun h => And.intro h.gotoDef (And.intro h.startOnly (And.intro h.s0 h.p0)),
      fun h => ⟨h.1, h.2.1, h.2.2.1, h.2.2.2⟩⟩]
  simp only [shapeCB, Bool.and_eq_true, Bool.or_eq_true, bne_iff_ne, ne_eq, beq_iff_eq,
    Bool.not_eq_true', Bool.and_eq_false_iff, beq_eq_false_iff_ne, Option.isSome_iff_exists,
    Decidable.imp_iff_not_or, Decidable.not_not, and_assoc, or_assoc]

structure ItemCOK (G : Grammar) (nTerms : Nat) (F : FirstTab) (tr : TransTab)
    (cert : Array (List Item)) (s : Nat) (it : Item) (pr : Prod) : Prop where
  la : it.a < nTerms
  step : ∀ X, pr.rhs[it.d]? = some X → ∃ s', lookupSym X (rowOfT tr s) = some s' ∧
    (⟨it.p, it.d + 1, it.a⟩ : Item) ∈ itemsOf cert s'
  closure : ∀ (B q : Nat) (qr : Prod) (b : Nat), pr.rhs[it.d]? = some (.n B) →
    G.prods[q]? = some qr → qr.lhs = B →
    b ∈ firstOf F (pr.rhs.drop (it.d + 1)) it.a → (⟨q, 0, b⟩ : Item) ∈ itemsOf cert s
  dot : it.d ≤ pr.rhs.length
  shape : ShapeOK tr s it pr

theorem itemCB_spec {G : Grammar} {nTerms : Nat} {F : FirstTab} {tr : TransTab}
    {cert : Array (List Item)} {s : Nat} {it : Item}
    (h : itemCB G nTerms F tr cert s (dot0Of (itemsOf cert s) G.prods.size) it = true) :
    ∃ pr, G.prods[it.p]? = some pr ∧ ItemCOK G nTerms F tr cert s it pr := by
  unfold itemCB at h
  simp only [Bool.and_eq_true, decide_eq_true_eq] at h
  obtain ⟨hla, h⟩ := h
  cases hp : G.prods[it.p]? with
  | none => simp [hp] at h
  | some pr =>
    refine ⟨pr, rfl, ?_⟩
    simp only [hp, Bool.and_eq_true] at h
    obtain ⟨h1, hsh⟩ := h
    have hshape := shapeCB_iff.mp hsh
    cases hx : pr.rhs[it.d]? with
    | none =>
      simp only [hx, beq_iff_eq] at h1
      exact ⟨hla, (by intro X h; rw [hx] at h; cases h), (by intro B q qr b h; rw [hx] at h; cases h),
        (by omega), hshape⟩
    | some X =>
      have hd : it.d ≤ pr.rhs.length := by
        rcases List.getElem?_eq_some_iff.mp hx with ⟨hlt, _⟩; omega
      cases X with
      | t x =>
        simp only [hx] at h1
        refine ⟨hla, ?_, (by intro B q qr b h; rw [hx] at h; cases h), hd, hshape⟩
        intro X hX
        rw [hx] at hX; cases hX
        exact gotoCB_iff.mp h1
      | n B =>
        simp only [hx, Bool.and_eq_true] at h1
        refine ⟨hla, ?_, ?_, hd, hshape⟩
        · intro X hX
          rw [hx] at hX; cases hX
          exact gotoCB_iff.mp h1.1
        · intro B' q qr b hB' hq hl hb
          rw [hx] at hB'; cases hB'
          exact (mem_dot0Of.mp (closureCB_iff.mp h1.2 q qr b hq hl hb)).2

theorem itemCB_of {G : Grammar} {nTerms : Nat} {F : FirstTab} {tr : TransTab}
    {cert : Array (List Item)} {s : Nat} {it : Item} {pr : Prod}
    (hp : G.prods[it.p]? = some pr) (h : ItemCOK G nTerms F tr cert s it pr) :
    itemCB G nTerms F tr cert s (dot0Of (itemsOf cert s) G.prods.size) it = true := by
  unfold itemCB
  simp only [hp]
  rw [Bool.and_eq_true, Bool.and_eq_true]
  refine ⟨by simpa using h.la, ?_, shapeCB_iff.mpr h.shape⟩
  cases hX : pr.rhs[it.d]? with
  | none =>
    have := List.getElem?_eq_none_iff.mp hX
    have := h.dot
    simp only [beq_iff_eq]
    omega
  | some X =>
    cases X with
    | t x => exact gotoCB_iff.mpr (h.step _ hX)
    | n B =>
      simp only [Bool.and_eq_true]
      exact ⟨gotoCB_iff.mpr (h.step _ hX), closureCB_iff.mpr fun q qr b hq hl hb =>
        mem_dot0Of.mpr ⟨(Array.getElem?_eq_some_iff.mp hq).1, h.closure B q qr b hX hq hl hb⟩⟩

structure EdgeOK (G : Grammar) (cert : Array (List Item)) (s : Nat) (X : Sym) (s' : Nat) : Prop where
  noEof : X ≠ .t 0
  back : backB G cert s X s' = true
  called : ∃ it ∈ itemsOf cert s, ∃ pr, G.prods[it.p]? = some pr ∧ pr.rhs[it.d]? = some X

theorem edgeCB_spec {G : Grammar} {cert : Array (List Item)} {s : Nat} {X : Sym} {s' : Nat}
    (h : edgeCB G cert s X s' = true) : EdgeOK G cert s X s' := by
  simp only [edgeCB, Bool.and_eq_true, bne_iff_ne, ne_eq] at h
  exact ⟨h.1.1, h.1.2, hasNext_spec h.2⟩

structure SkelOK (G : Grammar) (nTerms nRules : Nat) (tr : TransTab) (cert : Array (List Item)) :
    Prop where
  prod0 : prod0B G = true
  closedF : closedB G (firstFix G nTerms nRules) = true
  size : tr.size = cert.size
  start : (⟨0, 0, 0⟩ : Item) ∈ itemsOf cert 0
  items : ∀ s it, it ∈ itemsOf cert s →
    ∃ pr, G.prods[it.p]? = some pr ∧ ItemCOK G nTerms (firstFix G nTerms nRules) tr cert s it pr
  edges : ∀ s X s', lookupSym X (rowOfT tr s) = some s' → EdgeOK G cert s X s'

theorem closedSkelB_spec {G : Grammar} {nTerms nRules : Nat} {tr : TransTab}
    {cert : Array (List Item)} (h : closedSkelB G nTerms nRules tr cert = true) :
    SkelOK G nTerms nRules tr cert := by
  simp only [closedSkelB, Bool.and_eq_true, beq_iff_eq, List.all_eq_true, List.mem_range] at h
  obtain ⟨⟨⟨⟨h1, h2⟩, h3⟩, h4⟩, h5⟩ := h
  refine ⟨h1, h2, h3, hasItem_iff.mp h4, ?_, ?_⟩
  · intro s it hit
    have hs := h5 s (mem_itemsOf hit)
    simp only [skelStateB, Bool.and_eq_true, List.all_eq_true] at hs
    exact itemCB_spec (hs.1 it hit)
  · intro s X s' hl
    have hmem := lookupSym_mem hl
    have hslt : s < cert.size := h3 ▸ mem_rowOfT hmem
    have hs := h5 s hslt
    simp only [skelStateB, Bool.and_eq_true, List.all_eq_true] at hs
    exact edgeCB_spec (hs.2 _ hmem)

/-- The converse needs rows with pairwise different keys: `edgeCB` runs over every entry of a row,
`SkelOK.edges` only over what `lookupSym` finds, the first entry on a symbol. -/
theorem closedSkelB_of_skelOK {G : Grammar} {nTerms nRules : Nat} {tr : TransTab}
    {cert : Array (List Item)} (h : SkelOK G nTerms nRules tr cert)
    (hrows : ∀ s, ((rowOfT tr s).map (·.1)).Nodup) :
    closedSkelB G nTerms nRules tr cert = true := by
  unfold closedSkelB
  simp only [Bool.and_eq_true, beq_iff_eq, List.all_eq_true, List.mem_range]
  refine ⟨⟨⟨⟨h.prod0, h.closedF⟩, h.size⟩, hasItem_iff.mpr h.start⟩, fun s _ => ?_⟩
  unfold skelStateB
  simp only [Bool.and_eq_true, List.all_eq_true]
  constructor
  · intro it hit
    obtain ⟨pr, hp, hok⟩ := h.items s it hit
    exact itemCB_of hp hok
  · rintro ⟨X, t⟩ he
    have hl := lookupSym_of_mem (hrows s) he
    have hok := h.edges s X t hl
    unfold edgeCB
    simp only [Bool.and_eq_true, bne_iff_ne, ne_eq]
    exact ⟨⟨hok.noEof, hok.back⟩, hasNext_of hok.called⟩

section
variable {G : Grammar} {nTerms nRules : Nat} {tr : TransTab} {cert : Array (List Item)}

theorem SkelOK.item (h : SkelOK G nTerms nRules tr cert) {s : Nat} {it : Item} {pr : Prod}
    (hit : it ∈ itemsOf cert s) (hp : G.prods[it.p]? = some pr) :
    ItemCOK G nTerms (firstFix G nTerms nRules) tr cert s it pr := by
  obtain ⟨pr', hp', hok⟩ := h.items s it hit
  rw [hp] at hp'
  cases hp'
  exact hok

theorem SkelOK.closed (h : SkelOK G nTerms nRules tr cert) : Closed G (skelAuto tr cert) where
  start := h.start
  step := by
    intro s it pr X hit hp hX
    obtain ⟨s', hl, hmem⟩ := (h.item hit hp).step X hX
    exact ⟨s', by rw [trans_skel]; exact hl, hmem⟩
  closure := fun s it pr B q qr b hit hp hX hq hl hf =>
    (h.item hit hp).closure B q qr b hX hq hl (first_complete h.closedF hf)

theorem SkelOK.edgesBacked (h : SkelOK G nTerms nRules tr cert) :
    EdgesBacked G (skelAuto tr cert) := by
  intro s X s' htr
  rw [trans_skel] at htr
  exact (h.edges s X s' htr).called

theorem SkelOK.safe (h : SkelOK G nTerms nRules tr cert) : Safe G (skelAuto tr cert) where
  prod0 := prod0B_spec h.prod0
  s0 := by
    intro it hit
    obtain ⟨pr, _, hok⟩ := h.items 0 it hit
    exact hok.shape.s0 rfl
  noIn := by
    intro s X htr
    rw [trans_skel] at htr
    exact (backB_iff.mp (h.edges s X 0 htr).back).1 rfl
  back := by
    intro s X s' it htr hit hd
    rw [trans_skel] at htr
    exact (backB_iff.mp (h.edges s X s' htr).back).2.2 it hit hd
  red := by
    intro s a p hact
    simp only [skelAuto] at hact
    cases hl : lookupSym (.t a) (rowOfT tr s) <;> simp [hl] at hact
  acc := by
    intro s a hact
    simp only [skelAuto] at hact
    cases hl : lookupSym (.t a) (rowOfT tr s) <;> simp [hl] at hact
  startOnly := by
    intro s a hit
    obtain ⟨pr, _, hok⟩ := h.items s _ hit
    exact hok.shape.startOnly rfl rfl
  noShiftEof := by
    intro s s' hact
    simp only [skelAuto, eof] at hact
    cases hl : lookupSym (.t 0) (rowOfT tr s) with
    | none => simp [hl] at hact
    | some s'' => exact (h.edges s _ s'' hl).noEof rfl
  gotoDef := by
    intro s it pr hit hd hp0 hp
    exact (h.item hit hp).shape.gotoDef hd hp0

end

structure ConflictOK (G : Grammar) (nTerms nRules : Nat) (tr : TransTab)
    (cert : Array (List Item)) : Prop where
  skel : SkelOK G nTerms nRules tr cert
  justd : ∀ s it, it ∈ itemsOf cert s → Justd G (skelAuto tr cert) s it
  kernels : KernelsDistinct (skelAuto tr cert) cert.size

theorem justSkelWith_spec {G : Grammar} {tr : TransTab} {cert : Array (List Item)} {R : RankTab}
    {rk : Nat → Item → Nat} {jf : Nat → Item → Just} (h : justSkelWith G tr cert R rk jf = true) :
    (∀ s it, it ∈ itemsOf cert s → Justd G (skelAuto tr cert) s it) ∧
      KernelsDistinct (skelAuto tr cert) cert.size := by
  simp only [justSkelWith, Bool.and_eq_true] at h
  obtain ⟨⟨h1, h2⟩, h3⟩ := h
  refine ⟨itemsJustB_sound h1 (fun s it hit => mem_itemsOf hit) h2, ?_⟩
  exact kernelsDistinctB_sound (items_skel tr cert) h3

theorem conflictCheckB_spec {G : Grammar} {nTerms nRules : Nat} {tr : TransTab}
    {cert : Array (List Item)} (h : conflictCheckB G nTerms nRules tr cert = true) :
    ConflictOK G nTerms nRules tr cert := by
  simp only [conflictCheckB, Bool.and_eq_true] at h
  obtain ⟨h1, h2⟩ := h
  unfold justSkelB at h2
  obtain ⟨hj, hk⟩ := justSkelWith_spec h2
  exact ⟨closedSkelB_spec h1, hj, hk⟩

section
variable {G : Grammar} {nTerms nRules : Nat} {tr : TransTab} {cert : Array (List Item)}

/-- **Soundness of the table-free validator.** For every state `s`, the generator's item set is
the LALR(1) item set of `s` by definition. -/
theorem ConflictOK.items_exact (h : ConflictOK G nTerms nRules tr cert) (s : Nat) (it : Item) :
    it ∈ itemsOf cert s ↔ LALRItem G (skelAuto tr cert) s it :=
  h.skel.closed.mem_iff_lalr h.justd s it

theorem ConflictOK.prefix_state (h : ConflictOK G nTerms nRules tr cert) {γ : List Sym} {it : Item}
    (hit : LR1Item G γ it) :
    ∃ s, Path (skelAuto tr cert) 0 γ s ∧ (∀ s', Path (skelAuto tr cert) 0 γ s' → s' = s) ∧
      s < cert.size ∧ it ∈ itemsOf cert s := by
  obtain ⟨s, hpath, hmem⟩ := hit.in_state h.skel.closed
  exact ⟨s, hpath, fun s' hp' => hp'.det hpath, mem_itemsOf hmem, hmem⟩

/-- `Lox.Props.C04.skeleton_is_lr0_automaton` states it for a validator run. -/
theorem ConflictOK.lr0 (ok : ConflictOK G nTerms nRules tr cert) (hpr : Productive G) :
    IsLALRAutomaton G (skelAuto tr cert) :=
  ExactCert.lr0_automaton ⟨ok.skel.closed, ok.skel.safe, ok.justd, ok.skel.edgesBacked, ok.kernels,
    fun _ _ hit => mem_itemsOf hit, hpr⟩

end

end Lox.LR
