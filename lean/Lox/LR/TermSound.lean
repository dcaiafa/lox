import Lox.LR.CheckSound
import Lox.LR.Terminate
/-! `termB` (Check.lean) establishes `Abs.LocalTerm` for the automaton of validated tables. -/
namespace Lox.LR

theorem Abs.lrun_of_not_reduce {G : Grammar} {A : Auto} {a s : Nat} {L : List Nat} (n : Nat)
    (h : ∀ p, A.action s a ≠ some (.reduce p)) : Abs.lrun G A a (n + 1) (s :: L) = true := by
  unfold Abs.lrun
  split
  · rename_i p hact; exact absurd hact (h p)
  · rfl

theorem Abs.lrun_congr {G : Grammar} {A A' : Auto} (ha : A.action = A'.action)
    (hg : A.goto = A'.goto) (a : Nat) :
    ∀ (n : Nat) (L : List Nat), Abs.lrun G A a n L = Abs.lrun G A' a n L
  | 0, _ => rfl
  | _ + 1, [] => rfl
  | n + 1, s :: L => by
    unfold Abs.lrun
    rw [ha, hg]
    split
    · split
      · rfl
      · split
        · rfl
        · split
          · rfl
          · exact lrun_congr ha hg a n _
    · rfl

/-- `termB` reads of the certificate only its number of states. -/
theorem termB_congr {G : Grammar} {T : Tables} {c c' : Array (List Item)} (h : c.size = c'.size) :
    termB G T c = termB G T c' := by
  have ha : (autoOf T c).action = (autoOf T c').action := by simp only [autoOf, h]
  have hg : (autoOf T c).goto = (autoOf T c').goto := by simp only [autoOf, h]
  simp only [termB, termFuel, h, Abs.lrun_congr ha hg]

section
variable {G : Grammar} {nTerms nRules : Nat} {T : Tables} {cert : Array (List Item)}

theorem mem_keysOfRow (hc : SafeOK G nTerms nRules T cert) {s a : Nat} {act : Act}
    (h : (autoOf T cert).action s a = some act) : a ∈ keysOfRow T.actions s := by
  obtain ⟨_, v, row, hrow, hm, _⟩ := action_entry hc h
  simp only [keysOfRow, hrow, Option.getD_some, List.mem_map]
  exact ⟨_, hm, by simp⟩

theorem termB_spec (hc : SafeOK G nTerms nRules T cert) (h : termB G T cert = true) :
    Abs.LocalTerm G (autoOf T cert) (termFuel G cert) := by
  simp only [termB, Bool.and_eq_true, List.all_eq_true, List.mem_range] at h
  obtain ⟨h0, hq⟩ := h
  have hF : termFuel G cert = (cert.size + G.prods.size + 15) + 1 := rfl
  constructor
  · intro a
    cases hact : (autoOf T cert).action 0 a with
    | none => rw [hF]; exact Abs.lrun_of_not_reduce _ (by simp [hact])
    | some act => exact h0 a (mem_keysOfRow hc hact)
  · intro q X s htr a
    obtain ⟨hqs, _, hmem⟩ := trans_backB hc htr
    cases hact : (autoOf T cert).action s a with
    | none => rw [hF]; exact Abs.lrun_of_not_reduce _ (by simp [hact])
    | some act => exact hq q hqs s hmem a (mem_keysOfRow hc hact)

theorem safeOK_terminate (hc : SafeOK G nTerms nRules T cert) (ht : termB G T cert = true)
    (w : List Nat) : ∃ n, Abs.run G (autoOf T cert) n (Abs.init w) ≠ .timeout :=
  Abs.terminates (safe_of_safeOK hc) (termB_spec hc ht) w

/-- **Termination for validated tables**: if `checkSafe` (or `check`: `tables_terminate`) and `termB`
pass, the table-driven machine finishes (accepts or fails) on every token sequence. -/
theorem tables_terminate_safe (hc : checkSafe G nTerms nRules T cert = .ok ())
    (ht : termB G T cert = true) (w : List Nat) :
    ∃ n, Abs.run G (autoOf T cert) n (Abs.init w) ≠ .timeout :=
  safeOK_terminate (checkSafe_spec hc) ht w

theorem tables_terminate (hc : check G nTerms nRules T cert = .ok ())
    (ht : termB G T cert = true) (w : List Nat) :
    ∃ n, Abs.run G (autoOf T cert) n (Abs.init w) ≠ .timeout :=
  safeOK_terminate (check_spec hc).toSafeOK ht w

end
end Lox.LR
