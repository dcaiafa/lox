import Lox.LR.RowReaders
import Lox.LR.CheckFirst
import Lox.Util.List
/-! Soundness of the validator: `check … = .ok ()` implies `Valid`, `Safe`, `FirstOK` for the
automaton read off the emitted arrays. -/
namespace Lox.LR

theorem decodeAct_accept {v : Int} : decodeAct v = .accept ↔ v = acceptCode := by
  unfold decodeAct
  by_cases h : v = acceptCode
  · simp [h]
  · by_cases h2 : 0 ≤ v <;> simp [h, h2]

theorem decodeAct_shift {v : Int} {s : Nat} : decodeAct v = .shift s ↔
    v ≠ acceptCode ∧ 0 ≤ v ∧ v.toNat = s := by
  unfold decodeAct
  by_cases h : v = acceptCode
  · simp [h]
  · by_cases h2 : 0 ≤ v <;> simp [h, h2]

theorem decodeAct_reduce {v : Int} {p : Nat} : decodeAct v = .reduce p ↔
    v ≠ acceptCode ∧ v < 0 ∧ (-v).toNat = p := by
  unfold decodeAct
  by_cases h : v = acceptCode
  · simp [h]
  · by_cases h2 : 0 ≤ v
    · simp [h, h2]; omega
    · simp [h, h2]; omega

theorem hasItem_iff {items : List Item} {it : Item} : hasItem items it = true ↔ it ∈ items := by
  simp [hasItem]

theorem hasCore_iff {items : List Item} {p d : Nat} :
    hasCore items p d = true ↔ ∃ a, (⟨p, d, a⟩ : Item) ∈ items := by
  simp only [hasCore, List.any_eq_true, Bool.and_eq_true, beq_iff_eq]
  constructor
  · rintro ⟨⟨p', d', a'⟩, hm, hp, hd⟩
    simp at hp hd; subst hp hd
    exact ⟨a', hm⟩
  · rintro ⟨a, hm⟩
    exact ⟨_, hm, rfl, rfl⟩

theorem mem_dot0Of {items : List Item} {n q b : Nat} :
    b ∈ (dot0Of items n)[q]?.getD [] ↔ q < n ∧ (⟨q, 0, b⟩ : Item) ∈ items := by
  simp only [dot0Of, Array.getElem?_ofFn]
  by_cases hq : q < n
  · simp only [hq, dite_true, Option.getD_some, List.mem_map, List.mem_filter, Bool.and_eq_true,
      beq_iff_eq, true_and]
    constructor
    · rintro ⟨⟨p', d', a'⟩, ⟨hm, hp, hd⟩, ha⟩
      simp at hp hd ha
      subst hp hd ha
      exact hm
    · exact fun h => ⟨⟨q, 0, b⟩, ⟨h, rfl, rfl⟩, rfl⟩
  · simp [hq]

theorem mem_itemsOf {cert : Array (List Item)} {s : Nat} {it : Item} (h : it ∈ itemsOf cert s) :
    s < cert.size :=
  Util.lt_size_of_mem_getD h

theorem prod0B_spec {G : Grammar} (h : prod0B G = true) :
    ∃ S', G.prods[0]? = some ⟨S', [.n (startSym G)]⟩ := by
  simp only [prod0B] at h
  cases hp : G.prods[0]? with
  | none => simp [hp] at h
  | some pr =>
    obtain ⟨l, rhs⟩ := pr
    simp only [hp] at h
    match rhs, h with
    | [.n S], _ =>
      refine ⟨l, ?_⟩
      simp [startSym, hp]

theorem prod0B_of {G : Grammar} {S' : Nat} (h : G.prods[0]? = some ⟨S', [.n (startSym G)]⟩) :
    prod0B G = true := by
  unfold prod0B
  rw [h]

def Emit.NoStart (G : Grammar) : Prop :=
  ∀ (p : Nat) (pr pr0 : Prod), G.prods[p]? = some pr → G.prods[0]? = some pr0 →
    Sym.n pr0.lhs ∉ pr.rhs

theorem noStartB_spec {G : Grammar} (h : noStartB G = true) : Emit.NoStart G := by
  intro p pr pr0 hp h0
  simp only [noStartB, h0, List.all_eq_true, Bool.not_eq_true', List.contains_eq_mem,
    decide_eq_false_iff_not] at h
  exact h pr (Util.mem_toList_iff_getElem?.mpr ⟨_, hp⟩)

theorem noStartB_of {G : Grammar} {pr0 : Prod} (h0 : G.prods[0]? = some pr0) (h : Emit.NoStart G) :
    noStartB G = true := by
  simp only [noStartB, h0, List.all_eq_true, Bool.not_eq_true', List.contains_eq_mem,
    decide_eq_false_iff_not]
  intro pr hpr
  obtain ⟨p, hp⟩ := Util.mem_toList_iff_getElem?.mp hpr
  exact h p pr pr0 hp h0

structure StateOK (G : Grammar) (nTerms nRules : Nat) (F : FirstTab) (T : Tables)
    (cert : Array (List Item)) (s : Nat) : Prop where
  items : ∀ it ∈ itemsOf cert s, it.a < nTerms ∧
    itemB G F T cert s (dot0Of (itemsOf cert s) G.prods.size) it = true
  arow : ∃ row, rowOf T.actions (s : Int) = some row ∧ nodupKeys row = true ∧
    ∀ e ∈ row, actEntryB G nTerms cert s e.1 e.2 = true
  grow : ∃ row, rowOf T.gotos (s : Int) = some row ∧ nodupKeys row = true ∧
    ∀ e ∈ row, gotoEntryB G nRules cert s e.1 e.2 = true

theorem row_of_match {o : Option (List (Int × Int))} {f : Int × Int → Bool}
    (h : (match o with | none => false | some row => nodupKeys row && row.all f) = true) :
    ∃ row, o = some row ∧ nodupKeys row = true ∧ ∀ e ∈ row, f e = true := by
  cases o with
  | none => cases h
  | some row =>
    simp only [Bool.and_eq_true, List.all_eq_true] at h
    exact ⟨row, rfl, h⟩

theorem stateB_spec {G nTerms nRules F T cert s}
    (h : stateB G nTerms nRules F T cert s = true) : StateOK G nTerms nRules F T cert s := by
  simp only [stateB, Bool.and_eq_true, List.all_eq_true, decide_eq_true_eq] at h
  exact ⟨h.1.1, row_of_match h.1.2, row_of_match h.2⟩

structure CheckOK (G : Grammar) (nTerms nRules : Nat) (T : Tables) (cert : Array (List Item)) :
    Prop where
  prod0 : prod0B G = true
  noStart : noStartB G = true
  prods : prodsB G nTerms nRules T = true
  closed : closedB G (firstFix G nTerms nRules) = true
  start : (⟨0, 0, 0⟩ : Item) ∈ itemsOf cert 0
  states : ∀ s, s < cert.size → StateOK G nTerms nRules (firstFix G nTerms nRules) T cert s

theorem checkB_spec {G nTerms nRules T cert} (h : checkB G nTerms nRules T cert = true) :
    CheckOK G nTerms nRules T cert := by
  simp only [checkB, Bool.and_eq_true, List.all_eq_true, List.mem_range] at h
  obtain ⟨⟨⟨⟨⟨h1, h2⟩, h3⟩, h4⟩, h5⟩, h6⟩ := h
  exact ⟨h1, h2, h3, h4, hasItem_iff.mp h5, fun s hs => stateB_spec (h6 s hs)⟩

theorem check_ok_iff {G nTerms nRules T cert} :
    check G nTerms nRules T cert = .ok () ↔ checkB G nTerms nRules T cert = true := by
  unfold check
  by_cases h : checkB G nTerms nRules T cert = true <;> simp [h]

theorem check_spec {G nTerms nRules T cert} (h : check G nTerms nRules T cert = .ok ()) :
    CheckOK G nTerms nRules T cert :=
  checkB_spec (check_ok_iff.mp h)

section
variable {G : Grammar} {nTerms nRules : Nat} {T : Tables} {cert : Array (List Item)}

theorem action_eq {s a : Nat} {act : Act} (h : (autoOf T cert).action s a = some act) :
    s < cert.size ∧ ∃ v, find T.actions (s : Int) (a : Int) = .hit v ∧ decodeAct v = act := by
  simp only [autoOf] at h
  by_cases hs : s < cert.size
  · simp only [hs, if_true] at h
    cases hf : find T.actions (s : Int) (a : Int) with
    | hit v => simp [hf] at h; exact ⟨hs, v, rfl, h⟩
    | miss => simp [hf] at h
    | oob => simp [hf] at h
  · simp [hs] at h

theorem goto_eq {s B s' : Nat} (h : (autoOf T cert).goto s B = some s') :
    s < cert.size ∧ ∃ v, find T.gotos (s : Int) (B : Int) = .hit v ∧ v.toNat = s' := by
  simp only [autoOf] at h
  by_cases hs : s < cert.size
  · simp only [hs, if_true] at h
    cases hf : find T.gotos (s : Int) (B : Int) with
    | hit v => simp [hf] at h; exact ⟨hs, v, rfl, h⟩
    | miss => simp [hf] at h
    | oob => simp [hf] at h
  · simp [hs] at h

theorem action_of_find {s a : Nat} {v : Int} (hs : s < cert.size)
    (h : find T.actions (s : Int) (a : Int) = .hit v) :
    (autoOf T cert).action s a = some (decodeAct v) := by
  simp [autoOf, hs, h]

theorem goto_of_find {s B : Nat} {v : Int} (hs : s < cert.size)
    (h : find T.gotos (s : Int) (B : Int) = .hit v) :
    (autoOf T cert).goto s B = some v.toNat := by
  simp [autoOf, hs, h]

end

theorem hit_of_match {l : Look} {P : Int → Bool}
    (h : (match l with | .hit v => P v | _ => false) = true) : ∃ v, l = .hit v ∧ P v = true := by
  cases l <;> simp_all

structure ItemSafeOK (G : Grammar) (T : Tables) (s : Nat) (it : Item) (pr : Prod) : Prop where
  gotoDef : it.d = 0 → it.p ≠ 0 → ∃ v, find T.gotos (s : Int) (pr.lhs : Int) = .hit v
  startOnly : it.p = 0 → it.d = 0 → s = 0
  s0 : s = 0 → it.d = 0

theorem itemSafeB_iff {G : Grammar} {T : Tables} {s : Nat} {it : Item} :
    itemSafeB G T s it = true ↔ ∃ pr, G.prods[it.p]? = some pr ∧ ItemSafeOK G T s it pr := by
  unfold itemSafeB
  cases G.prods[it.p]? with
  | none => simp
  | some pr =>
    simp only [Option.some.injEq, exists_eq_left']
    rw [show ItemSafeOK G T s it pr ↔ _ from
      ⟨fun h => And.intro h.gotoDef (And.intro h.startOnly h.s0), fun h => ⟨h.1, h.2.1, h.2.2⟩⟩]
    cases find T.gotos (s : Int) (pr.lhs : Int) <;>
    simp only [Bool.and_eq_true, Bool.or_eq_true, bne_iff_ne, ne_eq, beq_iff_eq,
      Bool.not_eq_true', Bool.and_eq_false_iff, beq_eq_false_iff_ne, reduceCtorEq, exists_false,
      Look.hit.injEq, exists_eq', Bool.false_eq_true, or_false, or_true,
      Decidable.imp_iff_not_or, Decidable.not_not, and_assoc, or_assoc]

/-- The conditions of `itemSafeB` are the last three of `itemB`. -/
theorem itemSafeB_of_itemB {G F T cert s d0 it} (h : itemB G F T cert s d0 it = true) :
    itemSafeB G T s it = true := by
  unfold itemB at h
  unfold itemSafeB
  cases hp : G.prods[it.p]? with
  | none => simp [hp] at h
  | some pr =>
    simp only [hp, Bool.and_eq_true] at h ⊢
    exact ⟨⟨h.1.1.2, h.1.2⟩, h.2⟩

structure ItemOK (G : Grammar) (F : FirstTab) (T : Tables) (cert : Array (List Item)) (s : Nat)
    (d0 : Array (List Nat)) (it : Item) (pr : Prod) : Prop where
  shift : ∀ x, pr.rhs[it.d]? = some (.t x) → ∃ v, find T.actions (s : Int) (x : Int) = .hit v ∧
    v ≠ acceptCode ∧ 0 ≤ v ∧ (⟨it.p, it.d + 1, it.a⟩ : Item) ∈ itemsOf cert v.toNat
  goto : ∀ B, pr.rhs[it.d]? = some (.n B) → ∃ v, find T.gotos (s : Int) (B : Int) = .hit v ∧
    (⟨it.p, it.d + 1, it.a⟩ : Item) ∈ itemsOf cert v.toNat
  closure : ∀ (B q : Nat) (qr : Prod) (b : Nat), pr.rhs[it.d]? = some (.n B) →
    G.prods[q]? = some qr → qr.lhs = B →
    b ∈ firstOf F (pr.rhs.drop (it.d + 1)) it.a → b ∈ d0[q]?.getD []
  reduce : pr.rhs[it.d]? = none → it.p ≠ 0 →
    find T.actions (s : Int) (it.a : Int) = .hit (-(it.p : Int))
  accept : pr.rhs[it.d]? = none → it.p = 0 →
    it.a = 0 ∧ find T.actions (s : Int) 0 = .hit acceptCode
  gotoDef : it.d = 0 → it.p ≠ 0 → ∃ v, find T.gotos (s : Int) (pr.lhs : Int) = .hit v
  startOnly : it.p = 0 → it.d = 0 → s = 0
  s0 : s = 0 → it.d = 0

theorem itemB_spec {G F T cert s d0 it} (h : itemB G F T cert s d0 it = true) :
    ∃ pr, G.prods[it.p]? = some pr ∧ ItemOK G F T cert s d0 it pr := by
  obtain ⟨pr, hp, safe⟩ := itemSafeB_iff.mp (itemSafeB_of_itemB h)
  refine ⟨pr, hp, ?_⟩
  unfold itemB at h
  simp only [hp, Bool.and_eq_true] at h
  have h1 := h.1.1.1
  cases hx : pr.rhs[it.d]? with
  | none =>
    simp only [hx, Bool.and_eq_true, beq_iff_eq] at h1
    have no {X} : pr.rhs[it.d]? ≠ some X := by simp [hx]
    refine ⟨fun _ h => absurd h no, fun _ h => absurd h no, fun _ _ _ _ h => absurd h no,
      fun _ hp0 => ?_, fun _ hp0 => ?_, safe.gotoDef, safe.startOnly, safe.s0⟩
    · rw [if_neg hp0] at h1
      obtain ⟨v, hf, hv⟩ := hit_of_match h1.2
      rw [hf, beq_iff_eq.mp hv]
    · simp only [hp0, if_true, Bool.and_eq_true, beq_iff_eq] at h1
      obtain ⟨v, hf, hv⟩ := hit_of_match h1.2.2
      exact ⟨h1.2.1, by rw [hf, beq_iff_eq.mp hv]⟩
  | some X =>
    have is {Y} (h : pr.rhs[it.d]? = some Y) : Y = X := Option.some.inj (h.symm.trans hx)
    have some : pr.rhs[it.d]? ≠ none := by simp [hx]
    cases X with
    | t x =>
      simp only [hx] at h1
      obtain ⟨v, hf, hv⟩ := hit_of_match h1
      simp only [Bool.and_eq_true, bne_iff_ne, ne_eq, decide_eq_true_eq] at hv
      refine ⟨fun x' hx' => ?_, fun _ h => (nomatch is h), fun _ _ _ _ h => (nomatch is h),
        fun h => absurd h some, fun h => absurd h some, safe.gotoDef, safe.startOnly, safe.s0⟩
      cases is hx'
      exact ⟨v, hf, hv.1.1, hv.1.2, hasItem_iff.mp hv.2⟩
    | n B =>
      simp only [hx, Bool.and_eq_true, List.all_eq_true, List.mem_range] at h1
      obtain ⟨h1a, h1b⟩ := h1
      refine ⟨fun _ h => (nomatch is h), fun B' hB' => ?_, fun B' q qr b hB' hq hl hb => ?_,
        fun h => absurd h some, fun h => absurd h some, safe.gotoDef, safe.startOnly, safe.s0⟩
      · cases is hB'
        obtain ⟨v, hf, hv⟩ := hit_of_match h1a
        exact ⟨v, hf, hasItem_iff.mp hv⟩
      · cases is hB'
        have := h1b q (Array.getElem?_eq_some_iff.mp hq).1
        simp only [hq, Bool.or_eq_true, bne_iff_ne, ne_eq, List.all_eq_true,
          decide_eq_true_eq] at this
        exact this.elim (absurd hl) (· b hb)

theorem backB_iff {G : Grammar} {cert : Array (List Item)} {s : Nat} {X : Sym} {s' : Nat} :
    backB G cert s X s' = true ↔
    s' ≠ 0 ∧ s' < cert.size ∧ ∀ it ∈ itemsOf cert s', 0 < it.d →
      ∃ pr, G.prods[it.p]? = some pr ∧ pr.rhs[it.d - 1]? = some X ∧
        ∃ a', (⟨it.p, it.d - 1, a'⟩ : Item) ∈ itemsOf cert s := by
  simp only [backB, Bool.and_eq_true, bne_iff_ne, ne_eq, decide_eq_true_eq, List.all_eq_true,
    Bool.or_eq_true, beq_iff_eq, and_assoc, Nat.pos_iff_ne_zero, Decidable.imp_iff_not_or,
    Decidable.not_not]
  refine and_congr_right fun _ => and_congr_right fun _ => forall_congr' fun it =>
    or_congr_right (or_congr_right ?_)
  cases G.prods[it.p]? with
  | none => simp
  | some pr => simp [hasCore_iff]

structure ActEntryOK (G : Grammar) (nTerms : Nat) (cert : Array (List Item)) (s : Nat)
    (k v : Int) : Prop where
  key : 0 ≤ k ∧ k.toNat < nTerms
  acc : v = acceptCode → k = 0 ∧ ∃ a', (⟨0, 1, a'⟩ : Item) ∈ itemsOf cert s
  shift : v ≠ acceptCode → 0 ≤ v → k ≠ 0 ∧ backB G cert s (.t k.toNat) v.toNat = true
  red : v ≠ acceptCode → v < 0 → ∃ pr, G.prods[(-v).toNat]? = some pr ∧
    ∃ a', (⟨(-v).toNat, pr.rhs.length, a'⟩ : Item) ∈ itemsOf cert s

theorem actEntryB_iff {G : Grammar} {nTerms : Nat} {cert : Array (List Item)} {s : Nat}
    {k v : Int} : actEntryB G nTerms cert s k v = true ↔ ActEntryOK G nTerms cert s k v := by
  rw [show ActEntryOK G nTerms cert s k v ↔ _ from
    ⟨fun h => And.intro h.key (And.intro h.acc (And.intro h.shift h.red)),
      fun h => ⟨h.1, h.2.1, h.2.2.1, h.2.2.2⟩⟩]
  unfold actEntryB
  by_cases ha : v = acceptCode
  · simp only [ha, ↓reduceIte, Bool.and_eq_true, decide_eq_true_eq, beq_iff_eq, hasCore_iff,
      and_assoc, forall_const, ne_eq, not_true_eq_false, false_implies, and_self, and_true]
  · by_cases hv : 0 ≤ v
    · simp only [ha, ↓reduceIte, hv, Bool.and_eq_true, decide_eq_true_eq, bne_iff_ne, ne_eq,
        and_assoc, false_implies, not_false_eq_true, forall_const, Int.not_lt.mpr hv, and_true,
        true_and]
    · cases hp : G.prods[(-v).toNat]?
      · simp only [ha, ↓reduceIte, hv, Bool.and_false, Bool.false_eq_true, false_implies, ne_eq,
          not_false_eq_true, imp_self, Int.not_le.mp hv, reduceCtorEq, false_and, exists_const,
          imp_false, not_true_eq_false, and_false]
      · simp only [ha, ↓reduceIte, hv, Bool.and_eq_true, decide_eq_true_eq, hasCore_iff, and_assoc,
          false_implies, ne_eq, not_false_eq_true, imp_self, Int.not_le.mp hv, Option.some.injEq,
          exists_eq_left', forall_const, true_and]

theorem gotoEntryB_iff {G : Grammar} {nRules : Nat} {cert : Array (List Item)} {s : Nat}
    {k v : Int} : gotoEntryB G nRules cert s k v = true ↔
      0 ≤ k ∧ k.toNat < nRules ∧ 0 ≤ v ∧ backB G cert s (.n k.toNat) v.toNat = true := by
  simp only [gotoEntryB, Bool.and_eq_true, decide_eq_true_eq, and_assoc]

section
variable {G : Grammar} {nTerms nRules : Nat} {T : Tables} {cert : Array (List Item)}

structure StateSafeOK (G : Grammar) (nTerms nRules : Nat) (T : Tables)
    (cert : Array (List Item)) (s : Nat) : Prop where
  items : ∀ it ∈ itemsOf cert s, ∃ pr, G.prods[it.p]? = some pr ∧ ItemSafeOK G T s it pr
  arow : ∃ row, rowOf T.actions (s : Int) = some row ∧ nodupKeys row = true ∧
    ∀ e ∈ row, actEntryB G nTerms cert s e.1 e.2 = true
  grow : ∃ row, rowOf T.gotos (s : Int) = some row ∧ nodupKeys row = true ∧
    ∀ e ∈ row, gotoEntryB G nRules cert s e.1 e.2 = true

/-- What `checkSafeB` establishes (also a consequence of `checkB`: `CheckOK.toSafeOK`). It is all
that the run-time side knows of the tables: the theorems about `parse` (`RuntimeSound*.lean`,
`ParseClean.lean`, `PrefixSound.lean`) take `SafeOK`, never a validator run. -/
structure SafeOK (G : Grammar) (nTerms nRules : Nat) (T : Tables) (cert : Array (List Item)) :
    Prop where
  prod0 : prod0B G = true
  prods : prodsB G nTerms nRules T = true
  nonempty : 0 < cert.size
  states : ∀ s, s < cert.size → StateSafeOK G nTerms nRules T cert s

theorem stateSafeB_spec {s : Nat} (h : stateSafeB G nTerms nRules T cert s = true) :
    StateSafeOK G nTerms nRules T cert s := by
  simp only [stateSafeB, Bool.and_eq_true, List.all_eq_true] at h
  exact ⟨fun it hit => itemSafeB_iff.mp (h.1.1 it hit), row_of_match h.1.2, row_of_match h.2⟩

theorem checkSafeB_spec (h : checkSafeB G nTerms nRules T cert = true) :
    SafeOK G nTerms nRules T cert := by
  simp only [checkSafeB, Bool.and_eq_true, List.all_eq_true, List.mem_range,
    decide_eq_true_eq] at h
  obtain ⟨⟨⟨h1, h2⟩, h3⟩, h4⟩ := h
  exact ⟨h1, h2, h3, fun s hs => stateSafeB_spec (h4 s hs)⟩

theorem checkSafe_ok_iff :
    checkSafe G nTerms nRules T cert = .ok () ↔ checkSafeB G nTerms nRules T cert = true := by
  unfold checkSafe
  by_cases h : checkSafeB G nTerms nRules T cert = true <;> simp [h]

theorem checkSafe_spec (h : checkSafe G nTerms nRules T cert = .ok ()) :
    SafeOK G nTerms nRules T cert :=
  checkSafeB_spec (checkSafe_ok_iff.mp h)

theorem CheckOK.toSafeOK (h : CheckOK G nTerms nRules T cert) : SafeOK G nTerms nRules T cert where
  prod0 := h.prod0
  prods := h.prods
  nonempty := mem_itemsOf h.start
  states := fun s hs =>
    { items := fun it hit => itemSafeB_iff.mp (itemSafeB_of_itemB ((h.states s hs).items it hit).2)
      arow := (h.states s hs).arow
      grow := (h.states s hs).grow }

theorem CheckOK.item (h : CheckOK G nTerms nRules T cert) {s : Nat} {it : Item} {pr : Prod}
    (hit : it ∈ itemsOf cert s) (hp : G.prods[it.p]? = some pr) :
    s < cert.size ∧ ItemOK G (firstFix G nTerms nRules) T cert s
      (dot0Of (itemsOf cert s) G.prods.size) it pr := by
  have hs := mem_itemsOf hit
  obtain ⟨pr', hp', ok⟩ := itemB_spec ((h.states s hs).items it hit).2
  cases hp.symm.trans hp'
  exact ⟨hs, ok⟩

theorem valid_of_checkOK (h : CheckOK G nTerms nRules T cert) :
    Valid G (autoOf T cert) (firstOf (firstFix G nTerms nRules)) where
  prod0 := prod0B_spec h.prod0
  start := h.start
  shift := by
    intro s it pr x hit hp hx
    obtain ⟨hs, ok⟩ := h.item hit hp
    obtain ⟨v, hf, hna, hv, hmem⟩ := ok.shift x hx
    exact ⟨v.toNat, (action_of_find hs hf).trans
      (congrArg some (decodeAct_shift.mpr ⟨hna, hv, rfl⟩)), hmem⟩
  goto := by
    intro s it pr B hit hp hx
    obtain ⟨hs, ok⟩ := h.item hit hp
    obtain ⟨v, hf, hmem⟩ := ok.goto B hx
    exact ⟨v.toNat, goto_of_find hs hf, hmem⟩
  closure := by
    intro s it pr B q qr b hit hp hx hq hl hb
    exact (mem_dot0Of.mp ((h.item hit hp).2.closure B q qr b hx hq hl hb)).2
  reduce := by
    intro s it pr hit hp hd hp0
    obtain ⟨hs, ok⟩ := h.item hit hp
    rw [action_of_find hs (ok.reduce (by rw [hd]; simp) hp0)]
    refine congrArg some (decodeAct_reduce.mpr ⟨?_, by omega, by simp⟩)
    simp only [acceptCode]; omega
  accept := by
    intro s hit
    obtain ⟨S', hp0⟩ := prod0B_spec h.prod0
    obtain ⟨hs, ok⟩ := h.item hit hp0
    have := action_of_find (a := 0) hs (ok.accept (by simp) rfl).2
    simpa [eof, decodeAct] using this
  noStart := noStartB_spec h.noStart

theorem action_entry (h : SafeOK G nTerms nRules T cert) {s a : Nat} {act : Act}
    (hact : (autoOf T cert).action s a = some act) :
    s < cert.size ∧ ∃ v row, rowOf T.actions (s : Int) = some row ∧ ((a : Int), v) ∈ row ∧
      decodeAct v = act ∧ ActEntryOK G nTerms cert s a v := by
  obtain ⟨hs, v, hf, hdec⟩ := action_eq hact
  obtain ⟨row, hrow, _, hall⟩ := (h.states s hs).arow
  have hm := find_hit_mem hrow hf
  exact ⟨hs, v, row, hrow, hm, hdec, actEntryB_iff.mp (hall _ hm)⟩

/-- An edge of the automaton is an entry of its source state's row, so it passed `backB`. -/
theorem trans_backB (h : SafeOK G nTerms nRules T cert) {s : Nat} {X : Sym} {s' : Nat}
    (htr : trans (autoOf T cert) s X = some s') :
    s < cert.size ∧ backB G cert s X s' = true ∧ s' ∈ targetsOf T s := by
  cases X with
  | t x =>
    simp only [trans] at htr
    split at htr
    · next s'' hact =>
      cases htr
      obtain ⟨hs, v, row, hrow, hm, hdec, ok⟩ := action_entry h hact
      obtain ⟨hna, hv, rfl⟩ := decodeAct_shift.mp hdec
      refine ⟨hs, by simpa using (ok.shift hna hv).2, ?_⟩
      simp only [targetsOf, hrow, Option.getD_some, List.mem_append, List.mem_filterMap]
      exact .inl ⟨_, hm, by simp [hna, hv]⟩
    · cases htr
  | n B =>
    obtain ⟨hs, v, hf, rfl⟩ := goto_eq htr
    obtain ⟨row, hrow, _, hall⟩ := (h.states s hs).grow
    have hm := find_hit_mem hrow hf
    refine ⟨hs, by simpa using (gotoEntryB_iff.mp (hall _ hm)).2.2.2, ?_⟩
    simp only [targetsOf, hrow, Option.getD_some, List.mem_append, List.mem_map]
    exact .inr ⟨_, hm, rfl⟩

theorem safe_of_safeOK (h : SafeOK G nTerms nRules T cert) : Safe G (autoOf T cert) where
  prod0 := prod0B_spec h.prod0
  s0 := fun it hit =>
    let ⟨_, _, ok⟩ := (h.states 0 (mem_itemsOf hit)).items it hit
    ok.s0 rfl
  noIn := fun s X htr => (backB_iff.mp (trans_backB h htr).2.1).1 rfl
  back := fun s X s' it htr hit hd => (backB_iff.mp (trans_backB h htr).2.1).2.2 it hit hd
  red := by
    intro s a p hact
    obtain ⟨_, v, _, _, _, hdec, ok⟩ := action_entry h hact
    obtain ⟨hna, hv, rfl⟩ := decodeAct_reduce.mp hdec
    obtain ⟨pr, hp, a', hmem⟩ := ok.red hna hv
    exact ⟨pr, a', hp, hmem⟩
  acc := by
    intro s a hact
    obtain ⟨_, v, _, _, _, hdec, ok⟩ := action_entry h hact
    obtain ⟨hk, hmem⟩ := ok.acc (decodeAct_accept.mp hdec)
    exact ⟨Int.ofNat_eq_zero.mp hk, hmem⟩
  startOnly := fun s a hit =>
    let ⟨_, _, ok⟩ := (h.states s (mem_itemsOf hit)).items _ hit
    ok.startOnly rfl rfl
  noShiftEof := by
    intro s s' hact
    obtain ⟨_, v, _, _, _, hdec, ok⟩ := action_entry h hact
    obtain ⟨hna, hv, _⟩ := decodeAct_shift.mp hdec
    exact (ok.shift hna hv).1 rfl
  gotoDef := by
    intro s it pr hit hd hp0 hp
    have hs := mem_itemsOf hit
    obtain ⟨pr', hp', ok⟩ := (h.states s hs).items it hit
    rw [hp] at hp'; cases hp'
    obtain ⟨v, hf⟩ := ok.gotoDef hd hp0
    exact ⟨v.toNat, goto_of_find hs hf⟩

theorem safe_of_checkOK (h : CheckOK G nTerms nRules T cert) : Safe G (autoOf T cert) :=
  safe_of_safeOK h.toSafeOK

theorem checkSafe_sound (h : checkSafe G nTerms nRules T cert = .ok ()) :
    Safe G (autoOf T cert) :=
  safe_of_safeOK (checkSafe_spec h)

theorem check_sound (h : check G nTerms nRules T cert = .ok ()) :
    Valid G (autoOf T cert) (firstOf (firstFix G nTerms nRules)) ∧ Safe G (autoOf T cert) ∧
      FirstOK G (firstOf (firstFix G nTerms nRules)) := by
  have hc := check_spec h
  exact ⟨valid_of_checkOK hc, safe_of_checkOK hc, closed_firstOK hc.closed⟩

theorem autoOf_no_reduce0 (s a : Nat) : (autoOf T cert).action s a ≠ some (.reduce 0) := by
  intro h
  obtain ⟨_, v, _, hdec⟩ := action_eq h
  obtain ⟨_, hv, hto⟩ := decodeAct_reduce.mp hdec
  omega

theorem find_actions_cases (h : SafeOK G nTerms nRules T cert) {s : Nat} (hs : s < cert.size)
    (a : Int) : (∃ v, find T.actions (s : Int) a = .hit v) ∨ find T.actions (s : Int) a = .miss := by
  obtain ⟨row, hrow, _, _⟩ := (h.states s hs).arow
  exact find_hit_or_miss hrow a

theorem prodsB_spec (h : prodsB G nTerms nRules T = true) {p : Nat} {pr : Prod}
    (hp : G.prods[p]? = some pr) :
    T.rules[p]? = some (pr.lhs : Int) ∧ T.termCounts[p]? = some (pr.rhs.length : Int) := by
  simp only [prodsB, Bool.and_eq_true, List.all_eq_true, List.mem_range] at h
  have hlt : p < G.prods.size := by
    rcases Array.getElem?_eq_some_iff.mp hp with ⟨hlt, _⟩; exact hlt
  have := h.2 p hlt
  simp only [hp, Bool.and_eq_true, beq_iff_eq] at this
  exact ⟨this.1.1.1, this.1.1.2⟩

theorem noErrorB_spec {T : Tables} {n : Nat} (h : noErrorB T n = true) : NoErrorActions T n := by
  intro s hs
  simp only [noErrorB, List.all_eq_true, List.mem_range, beq_iff_eq] at h
  exact h s hs

end

end Lox.LR
