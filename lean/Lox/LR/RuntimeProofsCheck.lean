import Lox.LR.RuntimeDefs
/-! Soundness of the table checkers `noShiftEOFB` / `acceptOnlyEOFB` behind the table-level
hypotheses `NoShiftEOF` / `AcceptOnlyEOF` of the C09 theorems, and of a check by adjacent cells
(`find_hit_of_cells`). -/
namespace Lox.LR.Rt

theorem rowAll_sound {tbl : Array Int} {P : Int → Int → Bool} {x v : Int} :
    ∀ (n : Nat) (i stop : Int), findScan tbl x n i stop = .hit v →
      rowAll tbl P n i stop = true → P x v = true
  | 0, _, _ => nofun
  | n + 1, i, stop => by
    unfold findScan rowAll
    by_cases hlt : i < stop
    · rw [if_pos hlt, if_pos hlt]
      cases geti tbl i with
      | none => exact nofun
      | some k =>
        dsimp only
        by_cases hkx : k = x
        · rw [if_pos hkx]
          cases geti tbl (i + 1) with
          | none => exact nofun
          | some w =>
            intro h ha
            cases h
            exact hkx ▸ (Bool.and_eq_true _ _ ▸ ha).1
        · rw [if_neg hkx]
          exact fun h ha => rowAll_sound n (i + 2) stop h (Bool.and_eq_true _ _ ▸ ha).2
    · rw [if_neg hlt]
      exact nofun

theorem findAll_sound {tbl : Array Int} {P : Int → Int → Bool} {y x v : Int}
    (h : find tbl y x = .hit v) (ha : findAll tbl P y = true) : P x v = true := by
  unfold find at h
  unfold findAll at ha
  cases hy : geti tbl y with
  | none => simp only [hy] at h; cases h
  | some i =>
    simp only [hy] at h ha
    cases hc : geti tbl i with
    | none => simp only [hc] at h; cases h
    | some count =>
      simp only [hc] at h ha
      exact rowAll_sound _ _ _ h ha

theorem geti_some {tbl : Array Int} {i k : Int} (h : geti tbl i = some k) :
    0 ≤ i ∧ tbl[i.toNat]? = some k := by
  unfold geti at h
  split at h
  · cases h
  · exact ⟨by omega, h⟩

theorem find_hit_in_range {tbl : Array Int} {y x v : Int} (h : find tbl y x = .hit v) :
    0 ≤ y ∧ y.toNat < tbl.size := by
  unfold find at h
  cases hy : geti tbl y with
  | none => simp only [hy] at h; cases h
  | some i => exact (geti_some hy).imp_right fun hi => (Array.getElem?_eq_some_iff.mp hi).1

theorem allStates_sound {tbl : Array Int} {P : Int → Int → Bool}
    (hall : ((List.range tbl.size).all fun k => findAll tbl P (k : Int)) = true)
    {y x v : Int} (h : find tbl y x = .hit v) : P x v = true := by
  obtain ⟨h0, hlt⟩ := find_hit_in_range h
  have := List.all_eq_true.mp hall y.toNat (List.mem_range.mpr hlt)
  rw [Int.toNat_of_nonneg h0] at this
  exact findAll_sound h this

theorem noShiftEOFB_sound {T : Tables} (h : noShiftEOFB T = true) : NoShiftEOF T := by
  intro st v hf
  have := allStates_sound (P := fun key v => key != tEOF || v == acceptCode || decide (v < 0)) h hf
  simp only [bne_self_eq_false, Bool.false_or, Bool.or_eq_true, beq_iff_eq, decide_eq_true_eq] at this
  exact this

theorem acceptOnlyEOFB_sound {T : Tables} (h : acceptOnlyEOFB T = true) : AcceptOnlyEOF T := by
  intro st la hf
  have := allStates_sound (P := fun key v => v != acceptCode || key == tEOF) h hf
  simpa using this

theorem findScan_hit_cells {tbl : Array Int} {x v : Int} :
    ∀ (n : Nat) (i stop : Int), findScan tbl x n i stop = .hit v →
      ∃ j : Nat, tbl[j]? = some x ∧ tbl[j + 1]? = some v
  | 0, _, _, h => by simp [findScan] at h
  | n + 1, i, stop, h => by
    unfold findScan at h
    split at h
    · cases hk : geti tbl i with
      | none => simp only [hk] at h; cases h
      | some k =>
        simp only [hk] at h
        split at h
        · cases hv : geti tbl (i + 1) with
          | none => simp only [hv] at h; cases h
          | some w =>
            simp only [hv] at h
            cases h
            obtain ⟨h0, hk'⟩ := geti_some hk
            obtain ⟨-, hv'⟩ := geti_some hv
            rw [show (i + 1).toNat = i.toNat + 1 by omega] at hv'
            exact ⟨i.toNat, by rw [hk']; congr, hv'⟩
        · exact findScan_hit_cells n (i + 2) stop h
    · cases h

theorem find_hit_cells {tbl : Array Int} {y x v : Int} (h : find tbl y x = .hit v) :
    ∃ j : Nat, tbl[j]? = some x ∧ tbl[j + 1]? = some v := by
  unfold find at h
  split at h
  · cases h
  · split at h
    · cases h
    · exact findScan_hit_cells _ _ _ h

/-- A table-level condition on `_Find` hits can be checked by one pass over adjacent cells instead
of a scan of the row reached from every index (`findAll`): a hit returns the cell after a cell that
holds the key. -/
theorem find_hit_of_cells {tbl : Array Int} {P : Int → Int → Bool}
    (hall : ((List.range tbl.size).all fun j =>
      match tbl[j]?, tbl[j + 1]? with
      | some k, some v => P k v
      | _, _ => true) = true)
    {y x v : Int} (h : find tbl y x = .hit v) : P x v = true := by
  obtain ⟨j, hk, hv⟩ := find_hit_cells h
  have := List.all_eq_true.mp hall j (List.mem_range.mpr (Array.getElem?_eq_some_iff.mp hk).1)
  simpa only [hk, hv] using this

end Lox.LR.Rt
