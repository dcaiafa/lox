import Lox.LR.SugarSpec
import Lox.LR.DerBasics
import Lox.LR.DesugarProofs
/-! Helper lemmas for `Lox.Props.C01.sugar_lang`: the two inclusions between `SDer` and
`Der (desugar SG).1`. From `SDer`, a list of repetitions is folded into the left-recursive chain of
the helper rule (`der_chain`); from `Der`, every nonterminal is read as the sugar term it stands for
(`SymLang`) and every production is sound for that reading (`prod_sound`). -/
namespace Lox.LR

theorem der_chain {G : Grammar} {P : Nat} {X : Sym} {β : List Sym}
    (h1 : (⟨P, .n P :: β⟩ : Prod) ∈ G.prods.toList) (h2 : (⟨P, [X]⟩ : Prod) ∈ G.prods.toList)
    {v : List Nat} (hv : ∃ ts, Der G [X] v ts) (ws : List (List Nat))
    (hws : ∀ u ∈ ws, ∃ ts, Der G β u ts) : ∃ t, Der G [.n P] (v ++ ws.flatten) [t] := by
  obtain ⟨ts, hv⟩ := hv
  obtain ⟨t0, h0⟩ := Der.of_mem h2 hv
  clear hv
  induction ws generalizing v t0 with
  | nil => exact ⟨t0, by simpa using h0⟩
  | cons u ws ih =>
    obtain ⟨tu, hu⟩ := hws u List.mem_cons_self
    obtain ⟨t1, h1'⟩ := Der.of_mem h1 (h0.append hu)
    obtain ⟨t, ht⟩ := ih (fun u' hu' => hws u' (List.mem_cons_of_mem _ hu')) t1 h1'
    exact ⟨t, by simpa [List.append_assoc] using ht⟩

namespace SGrammar
variable {SG : SGrammar}

theorem user_prod_mem {A : Nat} {r : SRule} {p : SProd} (hr : SG.rules[A]? = some r)
    (hp : p ∈ r.prods) :
    (⟨A + 1, p.terms.map SG.symOf⟩ : Prod) ∈ (desugar SG).1.prods.toList := by
  rw [desugar_prods, mem_prodList]
  exact .inr (.inl ⟨A, r, p, hr, hp, rfl⟩)

theorem body_mem (hw : SG.WF) {k : HKey} (hm : k ∈ SG.helpers) {pr : Prod}
    (hb : pr ∈ SG.helperBody (SG.ruleIdx k) k) : pr ∈ (desugar SG).1.prods.toList := by
  obtain ⟨i, hi, e⟩ := ruleIdx_of_mem hw hm
  rw [desugar_prods, mem_prodList]
  exact .inr (.inr ⟨i, k, hi, e ▸ hb⟩)

/-! A helper's body has one of four forms (`HKey.form`): `x?` wraps its element, a key with a `dep`
(`x*`, `x*!`, `@list(..)?`) wraps the helper `dep`, `x+`/`x+!` and `@list` are the left-recursive
repetitions. -/

theorem _root_.Lox.LR.HKey.form (k : HKey) : k.kind = .opt ∨ (∃ d, k.dep = some d) ∨
    (k.kind = .plus ∨ k.kind = .plusF) ∨ k.kind = .list := by
  obtain ⟨kind, x, sep⟩ := k
  cases kind <;> simp [HKey.dep]

theorem helperBody_opt (self : Nat) {k : HKey} (hk : k.kind = .opt) :
    SG.helperBody self k = [⟨self, [symOfAtom k.x]⟩, ⟨self, []⟩] := by
  simp only [helperBody, hk]

theorem helperBody_dep (self : Nat) {k d : HKey} (hd : k.dep = some d) :
    SG.helperBody self k = [⟨self, [.n (SG.ruleIdx d)]⟩, ⟨self, []⟩] := by
  obtain ⟨kind, x, sep⟩ := k
  cases kind <;> simp only [HKey.dep, Option.some.injEq, reduceCtorEq] at hd <;> subst hd <;> rfl

theorem helperBody_rep (self : Nat) {k : HKey} (hk : k.kind = .plus ∨ k.kind = .plusF) :
    SG.helperBody self k = [⟨self, [.n self, symOfAtom k.x]⟩, ⟨self, [symOfAtom k.x]⟩] := by
  rcases hk with hk | hk <;> simp only [helperBody, hk]

theorem helperBody_list (self : Nat) {k : HKey} (hk : k.kind = .list) :
    SG.helperBody self k =
      [⟨self, [.n self, symOfAtom k.sep, symOfAtom k.x]⟩, ⟨self, [symOfAtom k.x]⟩] := by
  simp only [helperBody, hk]

/-- `SDer` speaks of any term, the desugared grammar has a helper only for the terms that occur in
`SG` (`key_mem`): the side condition of `sder_to_der`. -/
def Occ (SG : SGrammar) (t : STerm) : Prop := ∀ k, t.key = some k → k ∈ SG.helpers

theorem occ_atom (x : Atom) : ∀ t ∈ [STerm.atom x], Occ SG t := fun t ht k hk => by
  rw [List.mem_singleton.1 ht] at hk
  cases hk

theorem der_helper (hw : SG.WF) {k : HKey} (hm : k ∈ SG.helpers) {rhs : List Sym} {w ts}
    (hb : ⟨SG.ruleIdx k, rhs⟩ ∈ SG.helperBody (SG.ruleIdx k) k)
    (hd : Der (desugar SG).1 rhs w ts) : ∃ t, Der (desugar SG).1 [.n (SG.ruleIdx k)] w [t] :=
  Der.of_mem (body_mem hw hm hb) hd

theorem der_helper_nil (hw : SG.WF) {k : HKey} (hm : k ∈ SG.helpers)
    (hk : k.kind = .opt ∨ ∃ d, k.dep = some d) :
    ∃ t, Der (desugar SG).1 [.n (SG.ruleIdx k)] [] [t] := by
  refine der_helper hw hm ?_ Der.nil
  rcases hk with hk | ⟨d, hd⟩
  · simp [helperBody_opt _ hk]
  · simp [helperBody_dep _ hd]

theorem der_helper_dep (hw : SG.WF) {k d : HKey} (hm : k ∈ SG.helpers) (hd : k.dep = some d)
    {w : List Nat} (h : ∃ t, Der (desugar SG).1 [.n (SG.ruleIdx d)] w [t]) :
    ∃ t, Der (desugar SG).1 [.n (SG.ruleIdx k)] w [t] := by
  obtain ⟨t, h⟩ := h
  exact der_helper hw hm (by simp [helperBody_dep _ hd]) h

theorem der_helper_rep (hw : SG.WF) {k : HKey} (hm : k ∈ SG.helpers)
    (hk : k.kind = .plus ∨ k.kind = .plusF) {ws : List (List Nat)} (hne : ws ≠ [])
    (hall : ∀ v ∈ ws, ∃ ts, Der (desugar SG).1 [symOfAtom k.x] v ts) :
    ∃ t, Der (desugar SG).1 [.n (SG.ruleIdx k)] ws.flatten [t] :=
  match ws, hne, hall with
  | v :: ws, _, hall =>
    der_chain (body_mem hw hm (by simp [helperBody_rep _ hk]))
      (body_mem hw hm (by simp [helperBody_rep _ hk])) (hall v List.mem_cons_self) ws
      fun u hu => hall u (List.mem_cons_of_mem _ hu)

theorem der_helper_star (hw : SG.WF) {k d : HKey} (hm : k ∈ SG.helpers) (hd : k.dep = some d)
    (hk : d.kind = .plus ∨ d.kind = .plusF) (ws : List (List Nat))
    (hall : ∀ v ∈ ws, ∃ ts, Der (desugar SG).1 [symOfAtom d.x] v ts) :
    ∃ t, Der (desugar SG).1 [.n (SG.ruleIdx k)] ws.flatten [t] := by
  by_cases hne : ws = []
  · subst hne
    exact der_helper_nil hw hm (.inr ⟨d, hd⟩)
  · exact der_helper_dep hw hm hd (der_helper_rep hw (dep_mem hw hm hd) hk hne hall)

theorem sder_to_der (hw : SG.WF) {ts : List STerm} {w : List Nat} (h : SDer SG ts w) :
    (∀ t ∈ ts, Occ SG t) → ∃ trees, Der (desugar SG).1 (ts.map SG.symOf) w trees := by
  have one : ∀ {t : STerm} {k : HKey} {w : List Nat}, t.key = some k →
      (∃ u, Der (desugar SG).1 [.n (SG.ruleIdx k)] w [u]) →
      ∃ trees, Der (desugar SG).1 ([t].map SG.symOf) w trees := fun hk ⟨u, hu⟩ =>
    ⟨[u], by rw [List.map_singleton, symOf_key hk]; exact hu⟩
  induction h with
  | nil => intro _; exact ⟨[], Der.nil⟩
  | cons _ _ ih1 ih2 =>
    intro hocc
    obtain ⟨t1, h1⟩ := ih1 (fun t ht => hocc t (List.mem_singleton.1 ht ▸ List.mem_cons_self))
    obtain ⟨t2, h2⟩ := ih2 (fun t ht => hocc t (List.mem_cons_of_mem _ ht))
    exact ⟨t1 ++ t2, by simpa using h1.append h2⟩
  | tok a => intro _; exact ⟨_, Der.term Der.nil⟩
  | err => intro _; exact ⟨_, Der.term Der.nil⟩
  | rule hr hp _ ih =>
    intro _
    obtain ⟨trees, hd⟩ := ih (fun t ht k hk => key_mem hw (term_mem_allTerms hr hp ht) hk)
    obtain ⟨t, ht⟩ := Der.of_mem (user_prod_mem hr hp) hd
    exact ⟨[t], ht⟩
  | optNone x =>
    intro hocc
    exact one rfl (der_helper_nil hw (hocc (.opt x) List.mem_cons_self _ rfl) (.inl rfl))
  | @optSome x w _ ih =>
    intro hocc
    obtain ⟨trees, hd⟩ := ih (occ_atom x)
    exact one rfl (der_helper hw (hocc (.opt x) List.mem_cons_self _ rfl) (by simp [helperBody, symOf]) hd)
  | @star x ws _ ih =>
    intro hocc
    exact one rfl (der_helper_star hw (hocc (.star x) List.mem_cons_self _ rfl) rfl (.inl rfl) ws
      fun v hv => ih v hv (occ_atom x))
  | @starF x ws _ ih =>
    intro hocc
    exact one rfl (der_helper_star hw (hocc (.starF x) List.mem_cons_self _ rfl) rfl (.inr rfl) ws
      fun v hv => ih v hv (occ_atom x))
  | @plus x ws hne _ ih =>
    intro hocc
    exact one rfl (der_helper_rep hw (hocc (.plus x) List.mem_cons_self _ rfl) (.inl rfl) hne
      fun v hv => ih v hv (occ_atom x))
  | @list x s v ws _ _ _ ihv ihs ihx =>
    intro hocc
    have hm := hocc (.list x s) List.mem_cons_self _ rfl
    refine one rfl (der_chain (X := symOfAtom x) (β := [symOfAtom s, symOfAtom x])
      (body_mem hw hm (by simp [helperBody])) (body_mem hw hm (by simp [helperBody]))
      (ihv (occ_atom x)) _ fun u hu => ?_)
    obtain ⟨p, hp, rfl⟩ := List.mem_map.1 hu
    obtain ⟨ts1, hp1⟩ := ihs p hp (occ_atom s)
    obtain ⟨ts2, hp2⟩ := ihx p hp (occ_atom x)
    exact ⟨_, hp1.append hp2⟩
  | listOptNone x s =>
    intro hocc
    exact one rfl (der_helper_nil hw (hocc (.listOpt x s) List.mem_cons_self _ rfl) (.inr ⟨_, rfl⟩))
  | @listOptSome x s w _ ih =>
    intro hocc
    have hm := hocc (.listOpt x s) List.mem_cons_self _ rfl
    have hd := dep_mem hw hm (d := ⟨.list, x, s⟩) rfl
    obtain ⟨trees, h1⟩ := ih (fun t ht k hk => by
      rw [List.mem_singleton.1 ht] at hk; cases hk; exact hd)
    obtain ⟨u, rfl⟩ := h1.one_inv
    exact one rfl (der_helper_dep hw hm rfl ⟨u, h1⟩)

theorem _root_.Lox.LR.SDer.nil_inv {w : List Nat} (h : SDer SG [] w) : w = [] := by
  cases h; rfl

theorem _root_.Lox.LR.SDer.cons' {t : STerm} {ts : List STerm} {w1 w2 : List Nat}
    (h1 : SDer SG [t] w1) (h2 : SDer SG ts w2) : SDer SG (t :: ts) (w1 ++ w2) := by
  cases ts with
  | nil => rw [h2.nil_inv]; simpa using h1
  | cons t' ts => exact .cons h1 h2

theorem _root_.Lox.LR.SDer.cons_inv {t t' : STerm} {ts : List STerm} {w : List Nat}
    (h : SDer SG (t :: t' :: ts) w) : ∃ w1 w2, w = w1 ++ w2 ∧ SDer SG [t] w1 ∧ SDer SG (t' :: ts) w2 := by
  cases h with
  | cons h1 h2 => exact ⟨_, _, rfl, h1, h2⟩

theorem _root_.Lox.LR.SDer.tok_inv {a : Nat} {w : List Nat} (h : SDer SG [.atom (.tok a)] w) :
    w = [a + 2] := by
  cases h; rfl

theorem _root_.Lox.LR.SDer.err_inv {w : List Nat} (h : SDer SG [.atom .err] w) : w = [1] := by
  cases h; rfl

theorem _root_.Lox.LR.SDer.rule_inv {A : Nat} {w : List Nat} (h : SDer SG [.atom (.rule A)] w) :
    ∃ r p, SG.rules[A]? = some r ∧ p ∈ r.prods ∧ SDer SG p.terms w := by
  cases h with
  | rule hr hp hd => exact ⟨_, _, hr, hp, hd⟩

theorem _root_.Lox.LR.SDer.opt_inv {x : Atom} {w : List Nat} (h : SDer SG [.opt x] w) :
    w = [] ∨ SDer SG [.atom x] w := by
  cases h with
  | optNone => exact .inl rfl
  | optSome h => exact .inr h

theorem plus_one {x : Atom} {w : List Nat} (h : SDer SG [.atom x] w) : SDer SG [.plus x] w := by
  have := SDer.plus (SG := SG) (x := x) [w] (by simp) (by simpa using h)
  simpa using this

theorem plus_snoc {x : Atom} {wa wb : List Nat} (h1 : SDer SG [.plus x] wa)
    (h2 : SDer SG [.atom x] wb) : SDer SG [.plus x] (wa ++ wb) := by
  cases h1 with
  | plus ws hne hall =>
    have := SDer.plus (SG := SG) (x := x) (ws ++ [wb]) (by simp)
      (List.forall_mem_append.2 ⟨hall, List.forall_mem_singleton.2 h2⟩)
    simpa using this

theorem list_one {x s : Atom} {w : List Nat} (h : SDer SG [.atom x] w) : SDer SG [.list x s] w := by
  have := SDer.list (SG := SG) (x := x) (s := s) w [] h (by simp) (by simp)
  simpa using this

theorem list_snoc {x s : Atom} {wa wb wc : List Nat} (h1 : SDer SG [.list x s] wa)
    (h2 : SDer SG [.atom s] wb) (h3 : SDer SG [.atom x] wc) :
    SDer SG [.list x s] (wa ++ (wb ++ wc)) := by
  cases h1 with
  | list v ws hv hs hx =>
    have := SDer.list (SG := SG) (x := x) (s := s) v (ws ++ [(wb, wc)]) hv
      (List.forall_mem_append.2 ⟨hs, List.forall_mem_singleton.2 h2⟩)
      (List.forall_mem_append.2 ⟨hx, List.forall_mem_singleton.2 h3⟩)
    simpa [List.append_assoc] using this

/-- The sugar term a helper rule stands for (`x+!` has the language of `x+`). -/
def _root_.Lox.LR.HKey.term (k : HKey) : STerm :=
  match k.kind with
  | .opt => .opt k.x
  | .star => .star k.x
  | .starF => .starF k.x
  | .plus => .plus k.x
  | .plusF => .plus k.x
  | .list => .list k.x k.sep
  | .listOpt => .listOpt k.x k.sep

theorem term_key {t : STerm} {k : HKey} (hk : t.key = some k) : k.term = t := by
  cases t <;> simp only [STerm.key, Option.some.injEq, reduceCtorEq] at hk <;> subst hk <;> rfl

theorem term_of_dep {k d : HKey} (hd : k.dep = some d) {w : List Nat} (h : SDer SG [d.term] w) :
    SDer SG [k.term] w := by
  obtain ⟨kind, x, sep⟩ := k
  cases kind <;> simp only [HKey.dep, Option.some.injEq, reduceCtorEq] at hd <;> subst hd
  · cases h with | plus ws _ hall => exact .star ws hall
  · cases h with | plus ws _ hall => exact .starF ws hall
  · exact .listOptSome h

theorem term_nil {k : HKey} (hk : k.kind = .opt ∨ ∃ d, k.dep = some d) : SDer SG [k.term] [] := by
  obtain ⟨kind, x, sep⟩ := k
  cases kind <;> simp only [HKey.dep, reduceCtorEq, exists_false, or_self] at hk
  · exact .optNone x
  · exact .star [] (by simp)
  · exact .starF [] (by simp)
  · exact .listOptNone x sep

/-- The sugar-level meaning of rule `B` of the desugared grammar (`S'` has the language of the start
rule). `SymLang` and `SeqLang` carry it through the induction on `Der` in `der_to_seqLang`. -/
def nontermTerm (SG : SGrammar) (B : Nat) : Option STerm :=
  if B = 0 then some (.atom (.rule 0))
  else if B ≤ SG.nUser then some (.atom (.rule (B - 1)))
  else (SG.helpers[B - SG.nUser - 1]?).map HKey.term

def SymLang (SG : SGrammar) : Sym → List Nat → Prop
  | .t a, w => w = [a]
  | .n B, w => ∃ t, nontermTerm SG B = some t ∧ SDer SG [t] w

def SeqLang (SG : SGrammar) : List Sym → List Nat → Prop
  | [], w => w = []
  | X :: α, w => ∃ w1 w2, w = w1 ++ w2 ∧ SymLang SG X w1 ∧ SeqLang SG α w2

theorem seqLang_one {X : Sym} {w : List Nat} : SeqLang SG [X] w ↔ SymLang SG X w := by
  simp only [SeqLang]
  constructor
  · rintro ⟨w1, w2, rfl, h, rfl⟩; simpa using h
  · intro h; exact ⟨w, [], by simp, h, rfl⟩

theorem nontermTerm_user {A : Nat} (hA : A < SG.rules.length) :
    nontermTerm SG (A + 1) = some (.atom (.rule A)) := by
  have h2 : A + 1 ≤ SG.nUser := hA
  simp [nontermTerm, h2]

theorem nontermTerm_helper {i : Nat} :
    nontermTerm SG (SG.nUser + 1 + i) = (SG.helpers[i]?).map HKey.term := by
  have h2 : ¬ (SG.nUser + 1 + i ≤ SG.nUser) := by omega
  have h3 : SG.nUser + 1 + i - SG.nUser - 1 = i := by omega
  simp [nontermTerm, h2, h3]

theorem symLang_atom {x : Atom} (hx : x.inRange SG = true) {w : List Nat}
    (h : SymLang SG (symOfAtom x) w) : SDer SG [.atom x] w := by
  cases x with
  | tok a => simp only [symOfAtom, SymLang] at h; subst h; exact .tok a
  | err => simp only [symOfAtom, SymLang] at h; subst h; exact .err
  | rule A =>
    simp [Atom.inRange] at hx
    simp only [symOfAtom, SymLang, nontermTerm_user hx] at h
    obtain ⟨t, e, hd⟩ := h
    cases e
    exact hd

theorem symLang_helper (hw : SG.WF) {k : HKey} (hm : k ∈ SG.helpers) {w : List Nat} :
    SymLang SG (.n (SG.ruleIdx k)) w ↔ SDer SG [k.term] w := by
  obtain ⟨i, hi, e⟩ := ruleIdx_of_mem hw hm
  simp only [SymLang, e, nontermTerm_helper, hi, Option.map_some, Option.some.injEq,
    exists_eq_left']

/-- A term the desugared grammar can express: its atoms are declared and its helper rule
exists. Every term of `SG` is one (`Known.of_mem`), and so is the start rule. -/
structure Known (SG : SGrammar) (t : STerm) : Prop where
  inr : t.atoms.all (Atom.inRange SG) = true
  occ : Occ SG t

theorem Known.of_mem (hw : SG.WF) {t : STerm} (ht : t ∈ SG.allTerms) : Known SG t :=
  ⟨hw.inr t ht, fun _ hk => key_mem hw ht hk⟩

theorem Known.start (hw : SG.WF) : Known SG (.atom (.rule 0)) :=
  ⟨List.all_eq_true.2 fun x hx => by
    rw [List.mem_singleton.1 hx]
    exact decide_eq_true (List.length_pos_iff.2 hw.ne), fun _ hk => nomatch hk⟩

theorem symLang_symOf (hw : SG.WF) {t : STerm} (ht : Known SG t) {w : List Nat}
    (h : SymLang SG (SG.symOf t) w) : SDer SG [t] w := by
  rcases t.atom_or_key with ⟨x, rfl⟩ | ⟨k, hk⟩
  · exact symLang_atom (by simpa [STerm.atoms] using ht.inr) h
  · rw [symOf_key hk, symLang_helper hw (ht.occ k hk), term_key hk] at h
    exact h

theorem seqLang_terms (hw : SG.WF) {ts : List STerm} (hts : ∀ t ∈ ts, Known SG t)
    {w : List Nat} (h : SeqLang SG (ts.map SG.symOf) w) : SDer SG ts w := by
  induction ts generalizing w with
  | nil => simp only [List.map_nil, SeqLang] at h; subst h; exact .nil
  | cons t ts ih =>
    simp only [List.map_cons, SeqLang] at h
    obtain ⟨w1, w2, rfl, h1, h2⟩ := h
    exact SDer.cons' (symLang_symOf hw (hts t (by simp)) h1)
      (ih (fun t' ht' => hts t' (by simp [ht'])) h2)

theorem helperBody_sound (hw : SG.WF) {k : HKey} (hm : k ∈ SG.helpers) {pr : Prod}
    (hb : pr ∈ SG.helperBody (SG.ruleIdx k) k) {w : List Nat} (h : SeqLang SG pr.rhs w) :
    SDer SG [k.term] w := by
  have hok := (helpers_inv hw).ok k hm
  have hself := fun w => (symLang_helper hw hm (w := w)).1
  rcases k.form with hk | ⟨d, hd⟩ | hk | hk
  · rw [helperBody_opt _ hk] at hb
    obtain ⟨kind, x, sep⟩ := k
    subst hk
    simp only [List.mem_cons, List.not_mem_nil, or_false] at hb
    rcases hb with rfl | rfl
    · exact .optSome (symLang_atom hok.1 (seqLang_one.1 h))
    · cases h; exact .optNone x
  · rw [helperBody_dep _ hd] at hb
    simp only [List.mem_cons, List.not_mem_nil, or_false] at hb
    rcases hb with rfl | rfl
    · exact term_of_dep hd ((symLang_helper hw (dep_mem hw hm hd)).1 (seqLang_one.1 h))
    · cases h; exact term_nil (.inr ⟨d, hd⟩)
  · rw [helperBody_rep _ hk] at hb
    have ht : k.term = .plus k.x := by
      obtain ⟨kind, x, sep⟩ := k
      rcases hk with hk | hk <;> subst hk <;> rfl
    rw [ht] at hself ⊢
    simp only [List.mem_cons, List.not_mem_nil, or_false] at hb
    rcases hb with rfl | rfl
    · obtain ⟨w1, w2, rfl, h1, w3, w4, rfl, h3, rfl⟩ := h
      simpa using plus_snoc (hself _ h1) (symLang_atom hok.1 h3)
    · exact plus_one (symLang_atom hok.1 (seqLang_one.1 h))
  · rw [helperBody_list _ hk] at hb
    have ht : k.term = .list k.x k.sep := by
      obtain ⟨kind, x, sep⟩ := k
      subst hk
      rfl
    rw [ht] at hself ⊢
    simp only [List.mem_cons, List.not_mem_nil, or_false] at hb
    rcases hb with rfl | rfl
    · obtain ⟨w1, w2, rfl, h1, w3, w4, rfl, h3, w5, w6, rfl, h5, rfl⟩ := h
      simpa using list_snoc (hself _ h1) (symLang_atom hok.2 h3) (symLang_atom hok.1 h5)
    · exact list_one (symLang_atom hok.1 (seqLang_one.1 h))

theorem prod_sound (hw : SG.WF) {pr : Prod} (hm : pr ∈ SG.prodList) {w : List Nat}
    (h : SeqLang SG pr.rhs w) : SymLang SG (.n pr.lhs) w := by
  have hpos : 0 < SG.rules.length := List.length_pos_iff.2 hw.ne
  rw [mem_prodList] at hm
  rcases hm with rfl | ⟨A, r, p, hr, hp, rfl⟩ | ⟨i, k, hi, hb⟩
  · rw [seqLang_one] at h
    simp only [SymLang, nontermTerm_user hpos] at h
    obtain ⟨t, e, hd⟩ := h
    cases e
    exact ⟨_, by simp [nontermTerm], hd⟩
  · have hA : A < SG.rules.length := (List.getElem?_eq_some_iff.1 hr).1
    have := seqLang_terms hw (fun t ht => .of_mem hw (term_mem_allTerms hr hp ht)) h
    exact ⟨_, nontermTerm_user hA, .rule hr hp this⟩
  · have hm : k ∈ SG.helpers := List.mem_of_getElem? hi
    rw [← ruleIdx_of_get hw hi] at hb
    rw [(helperBody_syms hb).1]
    exact (symLang_helper hw hm).2 (helperBody_sound hw hm hb h)

theorem der_to_seqLang (hw : SG.WF) {α : List Sym} {w : List Nat} {ts : List Tree}
    (h : Der (desugar SG).1 α w ts) : SeqLang SG α w := by
  induction h with
  | nil => rfl
  | term _ ih => exact ⟨_, _, by simp, rfl, ih⟩
  | nonterm hq _ _ ih1 ih2 =>
    refine ⟨_, _, rfl, prod_sound hw ?_ ih1, ih2⟩
    rw [← desugar_prods]
    rw [← Array.getElem?_toList] at hq
    exact List.mem_of_getElem? hq

theorem sder_iff_der (hw : SG.WF) {ts : List STerm} (hts : ∀ t ∈ ts, Known SG t) (w : List Nat) :
    SDer SG ts w ↔ ∃ trees, Der (desugar SG).1 (ts.map SG.symOf) w trees :=
  ⟨fun h => sder_to_der hw h fun t ht => (hts t ht).occ,
   fun ⟨_, hd⟩ => seqLang_terms hw hts (der_to_seqLang hw hd)⟩

end SGrammar

end Lox.LR
