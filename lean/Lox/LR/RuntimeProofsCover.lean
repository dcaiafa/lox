import Lox.LR.RuntimeProofs
/-! C09: the coverage invariant `Cov` – the symbols consumed by `parse` (leaves of the stack,
bottom to top) followed by the pending lookaheads are the input tokens in order, with stretches
replaced by `Error`s. Runtime-only; the only table-level hypothesis is `NoShiftEOF`. -/
namespace Lox.LR.Rt

theorem leavesL_append : ∀ (a b : List Val), leavesL (a ++ b) = leavesL a ++ leavesL b
  | [], _ => rfl
  | v :: a, b => by simp only [List.cons_append, leavesL, leavesL_append a b, List.append_assoc]

theorem leaves_of_isLeaf {v : Val} (h : v.isLeaf = true) : leaves v = [v] := by
  obtain ⟨i, ty, rfl⟩ | ⟨i, ty, ex, rfl⟩ := leaf_cases h <;> rfl

theorem stackLeaves_cons (e : Entry) (st : List Entry) :
    stackLeaves (e :: st) = stackLeaves st ++ leaves e.sym := by
  simp only [stackLeaves, List.reverse_cons, List.map_append, leavesL_append, List.map_cons,
    List.map_nil, leavesL, List.append_nil]

theorem stackLeaves_append (a b : List Entry) :
    stackLeaves (a ++ b) = stackLeaves b ++ stackLeaves a := by
  simp only [stackLeaves, List.reverse_append, List.map_append, leavesL_append]

theorem stackLeaves_reduce (st : List Entry) (n : Nat) (ns : Int) (p : Nat) (b : Bounds) :
    stackLeaves ({ state := ns, sym := .node p ((st.take n).reverse.map (·.sym)), bounds := b } ::
      st.drop n) = stackLeaves st := by
  rw [stackLeaves_cons]
  conv => rhs; rw [← List.take_append_drop n st, stackLeaves_append]
  rfl

theorem stackLeaves_suffix {st st' : List Entry} (h : st' <:+ st) :
    ∃ rest, stackLeaves st = stackLeaves st' ++ rest := by
  obtain ⟨pre, rfl⟩ := h
  exact ⟨stackLeaves pre, stackLeaves_append pre st'⟩

theorem chain_cons {x : Val} {l : List Val} :
    Chain (x :: l) ↔ (∀ y, l.head? = some y → LinkR x y) ∧ Chain l := by
  cases l with
  | nil => simp [Chain]
  | cons y r => simp [Chain]

theorem chain_append {a b : List Val} :
    Chain (a ++ b) ↔ Chain a ∧ Chain b ∧
      ∀ x y, a.getLast? = some x → b.head? = some y → LinkR x y := by
  induction a with
  | nil => simp [Chain]
  | cons x a ih =>
    rw [List.cons_append, chain_cons, chain_cons, ih]
    cases a with
    | nil =>
      simp only [List.nil_append, List.head?_nil, List.getLast?_singleton, Option.some.injEq]
      constructor
      · rintro ⟨h1, -, h2, -⟩
        exact ⟨⟨fun _ hc => (by cases hc), trivial⟩, h2, fun x' y hx hy => hx ▸ h1 y hy⟩
      · rintro ⟨-, h2, h3⟩
        exact ⟨fun y hy => h3 x y rfl hy, trivial, h2, fun _ _ hc => (by cases hc)⟩
    | cons z r =>
      simp only [List.cons_append, List.head?_cons, Option.some.injEq, List.getLast?_cons_cons]
      constructor
      · rintro ⟨h1, h2, h3, h4⟩
        exact ⟨⟨h1, h2⟩, h3, h4⟩
      · rintro ⟨⟨h1, h2⟩, h3, h4⟩
        exact ⟨h1, h2, h3, h4⟩

theorem LinkR.le {x y : Val} (h : LinkR x y) : lidx x ≤ lidx y := h.1

theorem chain_le_last : ∀ {l : List Val} {z : Val}, Chain (l ++ [z]) →
    ∀ x ∈ l, lidx x ≤ lidx z ∧ (x.isErr = false → lidx x < lidx z)
  | [], _, _, _, hx => by cases hx
  | a :: l, z, h, x, hx => by
    rw [List.cons_append, chain_cons] at h
    have hrest := chain_le_last h.2
    cases l with
    | nil =>
      have hl := h.1 z rfl
      rcases List.mem_cons.mp hx with rfl | hx
      · exact ⟨hl.1, hl.2.1⟩
      · cases hx
    | cons b r =>
      have hab := h.1 b rfl
      have hb := hrest b List.mem_cons_self
      rcases List.mem_cons.mp hx with rfl | hx
      · exact ⟨Nat.le_trans hab.1 hb.1, fun hne => Nat.lt_of_lt_of_le (hab.2.1 hne) hb.1⟩
      · exact hrest x hx

theorem PInv.congr {inp : Array Nat} {s t : PState} (h : PInv inp s) (h1 : t.la = s.la)
    (h2 : t.lasym = s.lasym) (h3 : t.qla = s.qla) (h4 : t.qlasym = s.qlasym) (h5 : t.pos = s.pos) :
    PInv inp t := by
  obtain ⟨a1, a2, a3, a4, a5, a6⟩ := h
  refine ⟨?_, ?_, ?_, ?_, ?_, ?_⟩
  · unfold LaOK; rw [h2, h3, h4]; exact a1
  · rw [h1, h2]; exact a2
  · rw [h1, h2, h3, h4]; exact a3
  · rw [h2]; exact a4
  · rw [h3, h4]; exact a5
  · unfold PosOK lastRead; rw [h2, h3, h4, h5]; exact a6

theorem lexRead_fst (inp : Array Nat) (pos : Nat) :
    (lexRead inp pos).1 = .tok (if pos < inp.size then pos else inp.size) ((lexRead inp pos).2.toNat) ∧
    TokOK inp (lexRead inp pos).1 ∧ (lexRead inp pos).2 = leafTy (lexRead inp pos).1 := by
  unfold lexRead
  cases hi : inp[pos]? with
  | none =>
    have : ¬ pos < inp.size := by
      intro hlt
      rw [Array.getElem?_eq_getElem hlt] at hi; cases hi
    simp only [this, if_false]
    exact ⟨rfl, .inr ⟨rfl, rfl⟩, rfl⟩
  | some ty =>
    have hlt : pos < inp.size := (Array.getElem?_eq_some_iff.mp hi).1
    simp only [hlt, if_true]
    exact ⟨by simp, .inl hi, rfl⟩

theorem lastRead_noq {s : PState} (h : s.qla = -1) : lastRead s = s.lasym := by
  simp [lastRead, h]

theorem lastRead_q {s : PState} (h : s.qla ≠ -1) : lastRead s = s.qlasym := by
  simp [lastRead, h]

/-- No `PInv` is asked of `s`: this also serves the first `_readToken()` of `parse` (`init_Cov`). -/
theorem readToken_lex {T : Tables} {inp : Array Nat} {s s' : PState} (hq : s.qla = -1)
    (hpos : s.pos ≤ inp.size) (h : readToken T inp s = .ok s') :
    PInv inp s' ∧ s'.qla = -1 ∧ lidx s'.lasym = s.pos := by
  have hlaok := readToken_LaOK (fun hc => absurd hq hc) h
  obtain ⟨hfst, htok, hty⟩ := lexRead_fst inp s.pos
  have hidx : lidx (lexRead inp s.pos).1 = s.pos := by
    rw [hfst]
    show (if _ then _ else _) = _
    split
    · rfl
    · exact Nat.le_antisymm (Nat.le_of_not_lt ‹_›) hpos
  have hpos' : ∀ t : PState, t.qla = -1 → lidx t.lasym = s.pos →
      t.pos = (if s.pos < inp.size then s.pos + 1 else s.pos) → PosOK inp t := by
    intro t h1 h2 h3
    unfold PosOK
    rw [lastRead_noq h1, h2, h3]
    split
    · exact .inl ⟨‹_›, rfl⟩
    · exact .inr ⟨Nat.le_antisymm hpos (Nat.le_of_not_lt ‹_›), Nat.le_antisymm hpos (Nat.le_of_not_lt ‹_›)⟩
  rcases readToken_eq_ok h with ⟨hq', -⟩ | ⟨-, -, rfl⟩ | ⟨-, hE, -, ks, rfl⟩
  · exact absurd hq hq'
  · exact ⟨⟨hlaok, hty, fun hc => absurd hq hc, htok, fun hc => absurd hq hc,
      hpos' _ hq hidx rfl⟩, hq, hidx⟩
  · rw [(lexRead_error hE).1] at htok
    exact ⟨⟨hlaok, hE, fun hc => absurd hq hc, htok, fun hc => absurd hq hc,
      hpos' _ hq rfl rfl⟩, hq, rfl⟩

theorem readToken_PInv {T : Tables} {inp : Array Nat} {s s' : PState} (hs : PInv inp s)
    (h : readToken T inp s = .ok s') :
    PInv inp s' ∧ s'.qla = -1 ∧
    ((s.qla ≠ -1 ∧ s'.lasym = s.qlasym) ∨ (s.qla = -1 ∧ AdvR inp s.lasym s'.lasym)) := by
  have hpos := hs.pos
  unfold PosOK at hpos
  by_cases hq : s.qla = -1
  · rw [lastRead_noq hq] at hpos
    have hle : s.pos ≤ inp.size := by
      rcases hpos with ⟨h1, h2⟩ | ⟨-, h2⟩
      · exact h2 ▸ h1
      · exact Nat.le_of_eq h2
    obtain ⟨hp, hq', hi⟩ := readToken_lex hq hle h
    refine ⟨hp, hq', .inr ⟨hq, ?_⟩⟩
    rcases hpos with ⟨-, h2⟩ | ⟨h1, h2⟩
    · exact .inl (hi.trans h2)
    · exact .inr ⟨h1, hi.trans h2⟩
  · rcases readToken_eq_ok h with ⟨-, rfl⟩ | ⟨hq', -⟩ | ⟨hq', -⟩
    · rw [lastRead_q hq] at hpos
      exact ⟨⟨⟨hs.laok.2 hq, fun hc => absurd rfl hc⟩, (hs.qty hq).1, fun hc => absurd rfl hc,
        hs.tokQ hq, fun hc => absurd rfl hc, hpos⟩, rfl, .inl ⟨hq, rfl⟩⟩
    · exact absurd hq' hq
    · exact absurd hq' hq

theorem AdvR.le {inp : Array Nat} {x y : Val} (h : AdvR inp x y) : lidx x ≤ lidx y := by
  unfold AdvR at h; omega

theorem readToken_lidx_le {T : Tables} {inp : Array Nat} {s s' : PState} (hs : PInv inp s)
    (h : readToken T inp s = .ok s') : lidx s.lasym ≤ lidx s'.lasym := by
  rcases (readToken_PInv hs h).2.2 with ⟨hq, hl⟩ | ⟨-, hadv⟩
  · rw [hl]; exact (hs.qty hq).2.2.2
  · exact hadv.le

theorem Reads.PInv {T : Tables} {inp : Array Nat} {a b : PState} (h : Reads T inp a b)
    (ha : PInv inp a) : PInv inp b ∧ lidx a.lasym ≤ lidx b.lasym ∧ (a.qla = -1 → b.qla = -1) :=
  h.inv (P := fun x => Rt.PInv inp x ∧ lidx a.lasym ≤ lidx x.lasym ∧ (a.qla = -1 → x.qla = -1))
    (fun _ _ hp hr => ⟨(readToken_PInv hp.1 hr).1, Nat.le_trans hp.2.1 (readToken_lidx_le hp.1 hr),
      fun _ => (readToken_PInv hp.1 hr).2.1⟩) ⟨ha, Nat.le_refl _, id⟩

theorem pending_noq {s : PState} (h : s.qla = -1) : pending s = [s.lasym] := by
  simp [pending, h]

theorem pending_q {s : PState} (h : s.qla ≠ -1) : pending s = [s.lasym, s.qlasym] := by
  simp [pending, h]

theorem init_Cov {T : Tables} {inp : Array Nat} {s1 : PState}
    (h : readToken T inp initState = .ok s1) : Cov inp s1 := by
  obtain ⟨hp, hq, hi⟩ := readToken_lex (s := initState) rfl (Nat.zero_le _) h
  have hsl : stackLeaves s1.stack = [] := by rw [(readToken_frame h).stack]; rfl
  refine ⟨hp, ?_, ?_, ?_⟩
  · rw [hsl, pending_noq hq]; trivial
  · rw [hsl, pending_noq hq]
    intro x hx _
    cases hx; exact hi
  · rw [hsl]; intro x hx; cases hx

theorem reduce_Cov {inp : Array Nat} {s : PState} (hs : Cov inp s) (wb : Bool) (prod : Int) (n : Nat)
    (ns : Int) : Cov inp (reduceState s wb prod n ns) := by
  have hsl : stackLeaves (reduceState s wb prod n ns).stack = stackLeaves s.stack :=
    stackLeaves_reduce s.stack n ns prod.toNat _
  have hp : pending (reduceState s wb prod n ns) = pending s := rfl
  refine ⟨hs.pinv.congr rfl rfl rfl rfl rfl, ?_, ?_, ?_⟩
  · rw [hsl, hp]; exact hs.chain
  · rw [hsl, hp]; exact hs.head
  · rw [hsl]; exact hs.tok

theorem leafTy_ne_neg_one {v : Val} (h : v.isLeaf = true) : leafTy v ≠ -1 :=
  fun hc => absurd (leafTy_nonneg h) (by rw [hc]; decide)

theorem la_eof_of_idx_size {inp : Array Nat} {s : PState} (hp : PInv inp s)
    (he : s.lasym.isErr = false) (hi : lidx s.lasym = inp.size) : s.la = tEOF := by
  have hty := hp.laty
  have htok := hp.tokLa
  obtain ⟨i, ty, hl⟩ := tok_of_leaf hp.laok.1 he
  rw [hl] at hi htok hty
  obtain rfl : i = inp.size := hi
  rcases htok with h1 | ⟨-, h2⟩
  · rw [Array.getElem?_eq_none (Nat.le_refl _)] at h1; cases h1
  · rw [hty, h2]; rfl

/-- `hx` excludes the EOF token as predecessor: the lexer answers EOF again, with the same index,
which is no `LinkR`. `shift_Cov` has `hx` from `hE`: the shifted lookahead is not EOF. -/
theorem AdvR.link {inp : Array Nat} {x y : Val} (h : AdvR inp x y)
    (hx : x.isErr = false → lidx x ≠ inp.size) : LinkR x y := by
  rcases h with h1 | ⟨h1, h2⟩
  · exact ⟨h1 ▸ Nat.le_succ _, fun _ => h1 ▸ Nat.lt_succ_self _, fun _ _ => h1⟩
  · exact ⟨Nat.le_of_eq (h1.trans h2.symm), fun he => absurd h1 (hx he), fun he => absurd h1 (hx he)⟩

theorem head?_append_cons {α : Type} (l : List α) (a : α) (r r' : List α) :
    (l ++ a :: r).head? = (l ++ a :: r').head? := by
  cases l <;> rfl

theorem shift_Cov {T : Tables} {inp : Array Nat} {s s' : PState} (hs : Cov inp s) (a : Int) (ti : Nat)
    (hE : s.la ≠ tEOF) (hr : readToken T inp (shiftState s a ti) = .ok s') : Cov inp s' := by
  obtain ⟨hp', hq', hcase⟩ :=
    readToken_PInv (s := shiftState s a ti) (hs.pinv.congr rfl rfl rfl rfl rfl) hr
  have hsl : stackLeaves s'.stack = stackLeaves s.stack ++ [s.lasym] := by
    rw [(readToken_frame hr).stack]
    exact (stackLeaves_cons _ _).trans (congrArg _ (leaves_of_isLeaf hs.pinv.laok.1))
  refine ⟨hp', ?_, ?_, ?_⟩
  · rw [hsl, pending_noq hq']
    rcases hcase with ⟨hq, hl⟩ | ⟨hq, hadv⟩
    · have := hs.chain
      rw [pending_q (s := s) hq] at this
      rw [hl, List.append_assoc]
      exact this
    · rw [chain_append]
      refine ⟨pending_noq (s := s) hq ▸ hs.chain, trivial, fun x y hx hy => ?_⟩
      rw [List.getLast?_concat] at hx
      cases hx; cases hy
      exact hadv.link fun he h1 => hE (la_eof_of_idx_size hs.pinv he h1)
  · rw [hsl, pending_noq hq', List.append_assoc]
    exact fun x hx => hs.head x ((head?_append_cons ..).trans hx)
  · rw [hsl]
    intro x hx
    rcases List.mem_append.mp hx with hx | hx
    · exact hs.tok x hx
    · rw [List.mem_singleton.mp hx]; exact hs.pinv.tokLa

/-- The chain survives the cut to a suffix and the `Error` put before the queued lookahead because
everything consumed is at or before the old lookahead, `Token`s strictly (`chain_le_last`), and the
`Error` carries the token of the old lookahead (`hidx`). -/
theorem Cov.inject {inp : Array Nat} {s t : PState} (hs : Cov inp s) (ht : PInv inp t)
    (hsuf : t.stack <:+ s.stack) (hq : t.qla ≠ -1) (hidx : lidx t.lasym = lidx s.lasym) :
    Cov inp t := by
  obtain ⟨rest, hrest⟩ := stackLeaves_suffix hsuf
  obtain ⟨-, -, hErr, hle⟩ := ht.qty hq
  have hcl : Chain (stackLeaves s.stack ++ [s.lasym]) := by
    have := hs.chain
    rw [show pending s = [s.lasym] ++ (if s.qla ≠ -1 then [s.qlasym] else []) from rfl,
      ← List.append_assoc] at this
    exact (chain_append.mp this).1
  have hbound := chain_le_last hcl
  have hC : Chain (stackLeaves t.stack) := by
    have := (chain_append.mp hcl).1
    rw [hrest] at this
    exact (chain_append.mp this).1
  refine ⟨ht, ?_, ?_, fun x hx => hs.tok x (hrest ▸ List.mem_append_left _ hx)⟩
  · rw [pending_q hq, chain_append]
    refine ⟨hC, ⟨⟨hle, fun hc => ?_, fun hc => ?_⟩, trivial⟩, fun x y hx hy => ?_⟩
    · rw [hErr] at hc; cases hc
    · rw [hErr] at hc; cases hc
    · cases hy
      obtain ⟨b1, b2⟩ := hbound x (hrest ▸ List.mem_append_left _ (List.mem_of_getLast? hx))
      exact ⟨hidx ▸ b1, fun hne => hidx ▸ b2 hne, fun _ hc => by rw [hErr] at hc; cases hc⟩
  · rw [pending_q hq]
    intro x hx hne
    cases hC : stackLeaves t.stack with
    | nil =>
      rw [hC] at hx
      cases hx
      rw [hErr] at hne; cases hne
    | cons c r =>
      rw [hC] at hx
      apply hs.head x _ hne
      rw [hrest, hC]
      exact hx

theorem recover_Cov {T : Tables} {inp : Array Nat} {fuel : Nat} {s s' : PState} (hs : Cov inp s)
    (h : recover T inp fuel s = .ok s') : Cov inp s' := by
  obtain ⟨e, s0, s1, st, he, h0, hl0, h1, hst, rfl, -⟩ := recover_ok h
  obtain ⟨hp0, hle0, -⟩ := h0.PInv hs.pinv
  have hq0 : s0.qla = -1 := Decidable.byContradiction fun hq => hl0 (hp0.qty hq).2.1
  obtain ⟨hp1, hle1, hq1⟩ := h1.PInv hp0
  have hq1 := hq1 hq0
  have hla1 : (injectErr s1 st e).qla ≠ -1 := by
    show s1.la ≠ -1
    rw [hp1.laty]; exact leafTy_ne_neg_one hp1.laok.1
  have hsuf : st <:+ s.stack := (h0.trans h1).frame.stack ▸ (searchStack_ok hst).1
  -- `errSym` carries the token of the old lookahead
  have htok := hs.pinv.tokLa
  obtain ⟨i, ty, ex, rfl, hl | ⟨hl, -⟩⟩ := errSymOf_spec he <;> rw [hl] at htok hle0
  all_goals
    refine hs.inject ⟨⟨rfl, fun _ => hp1.laok.1⟩, rfl,
      fun _ => ⟨hp1.laty, rfl, rfl, Nat.le_trans hle0 hle1⟩, htok, fun _ => hp1.tokLa, ?_⟩
      hsuf hla1 (by rw [hl]; rfl)
    have := hp1.pos
    unfold PosOK at this ⊢
    rw [lastRead_noq hq1] at this
    rw [lastRead_q hla1]
    exact this

theorem step_Cov {T : Tables} {inp : Array Nat} {wb : Bool} {fuel : Nat} {s s' : PState}
    (hE : NoShiftEOFAt T s) (hs : Cov inp s) (h : step T inp wb fuel s = .cont s') : Cov inp s' := by
  cases step_cont h with
  | recover _ _ hr => exact recover_Cov hs hr
  | shift htop hf hacc hsh _ hr => exact shift_Cov hs _ _ (hE _ _ htop hf hacc hsh) hr
  | reduce => exact reduce_Cov hs wb _ _ _

theorem parseReach_Cov {T : Tables} (hT : NoShiftEOF T) {inp : Array Nat} {wb : Bool} {fuel : Nat}
    {s : PState} (h : ParseReach T inp wb fuel s) : Cov inp s := by
  obtain ⟨s1, h1, hr⟩ := h
  exact hr.inv (fun s _ hp hs => step_Cov (hT.at s) hp hs) (init_Cov h1)

mutual
theorem leaves_isLeaf : ∀ (v : Val), ∀ x ∈ leaves v, x.isLeaf = true
  | .nil, x, hx => by cases hx
  | .tok _ _, x, hx => by rw [leaves, List.mem_singleton] at hx; rw [hx]; rfl
  | .err _ _ _, x, hx => by rw [leaves, List.mem_singleton] at hx; rw [hx]; rfl
  | .node _ kids, x, hx => by rw [leaves] at hx; exact leavesL_isLeaf kids x hx
theorem leavesL_isLeaf : ∀ (l : List Val), ∀ x ∈ leavesL l, x.isLeaf = true
  | [], x, hx => by cases hx
  | v :: vs, x, hx => by
    rw [leavesL] at hx
    rcases List.mem_append.mp hx with hx | hx
    · exact leaves_isLeaf v x hx
    · exact leavesL_isLeaf vs x hx
end

theorem chain_tok_range : ∀ (L : List Val) (k : Nat), Chain L → (∀ x ∈ L, x.isErr = false) →
    (∀ x, L.head? = some x → lidx x = k) → L.map lidx = List.range' k L.length
  | [], _, _, _, _ => rfl
  | x :: r, k, hc, hne, hh => by
    rw [chain_cons] at hc
    have hx : lidx x = k := hh x rfl
    have ih := chain_tok_range r (k + 1) hc.2 (fun y hy => hne y (List.mem_cons_of_mem _ hy))
      (fun y hy => hx ▸ (hc.1 y hy).2.2 (hne x List.mem_cons_self)
        (hne y (List.mem_cons_of_mem _ (List.mem_of_mem_head? hy))))
    simp only [List.map_cons, List.length_cons, List.range'_succ, hx, ih]

theorem Cov.lidx_getElem {inp : Array Nat} {s : PState} (hs : Cov inp s) (hq : s.qla = -1)
    (hall : ∀ x ∈ stackLeaves s.stack ++ [s.lasym], x.isErr = false) (i : Nat)
    (h : i < (stackLeaves s.stack ++ [s.lasym]).length) :
    lidx (stackLeaves s.stack ++ [s.lasym])[i] = i := by
  have hc := hs.chain
  have hh := hs.head
  rw [pending_noq hq] at hc hh
  have hr := chain_tok_range _ 0 hc hall (fun x hx => hh x hx (hall x (List.mem_of_mem_head? hx)))
  have := List.getElem_of_eq hr (by rwa [List.length_map])
  rwa [List.getElem_map, List.getElem_range', Nat.zero_add, Nat.one_mul] at this

theorem Cov.consumed_prefix {inp : Array Nat} {s : PState} (hs : Cov inp s)
    (hq : s.qla = -1) (hla : s.lasym.isErr = false)
    (hne : ∀ x ∈ stackLeaves s.stack, x.isErr = false) :
    (stackLeaves s.stack).length = lidx s.lasym ∧ lidx s.lasym ≤ inp.size ∧
    ∀ (i : Nat) (h : i < inp.size), i < lidx s.lasym →
      (stackLeaves s.stack)[i]? = some (.tok i inp[i]) := by
  have key := hs.lidx_getElem hq fun x hx => by
    rcases List.mem_append.mp hx with hx | hx
    · exact hne x hx
    · rw [List.mem_singleton.mp hx]; exact hla
  have hlen : (stackLeaves s.stack).length = lidx s.lasym := by
    have := key (stackLeaves s.stack).length (by rw [List.length_append]; exact Nat.lt_succ_self _)
    rw [List.getElem_concat_length rfl] at this
    exact this.symm
  have hj : lidx s.lasym ≤ inp.size := by
    obtain ⟨i, ty, hl⟩ := tok_of_leaf hs.pinv.laok.1 hla
    have htok := hs.pinv.tokLa
    rw [hl] at htok ⊢
    rcases htok with h | ⟨h, -⟩
    · exact Nat.le_of_lt (Array.getElem?_eq_some_iff.mp h).1
    · exact Nat.le_of_eq h
  refine ⟨hlen, hj, fun i hi hil => ?_⟩
  have hi' : i < (stackLeaves s.stack).length := hlen ▸ hil
  have hx : (stackLeaves s.stack)[i] ∈ stackLeaves s.stack := List.getElem_mem hi'
  have hidx' := key i (by rw [List.length_append]; exact Nat.lt_succ_of_lt hi')
  rw [List.getElem_append_left hi'] at hidx'
  have htok := hs.tok _ hx
  obtain ⟨j, ty, hv⟩ := tok_of_leaf (leavesL_isLeaf _ _ hx) (hne _ hx)
  rw [List.getElem?_eq_getElem hi', hv]
  rw [hv] at hidx' htok
  obtain rfl : j = i := hidx'
  rcases htok with h1 | ⟨h1, -⟩
  · rw [Array.getElem?_eq_getElem hi] at h1
    cases h1; rfl
  · exact absurd h1 (Nat.ne_of_lt hi)

/-- Restated as `C09.consumed_eq_input`. -/
theorem Cov.consumed_eq_input {inp : Array Nat} {s : PState} (hs : Cov inp s)
    (hq : s.qla = -1) (hla : s.lasym.isErr = false) (hidx : lidx s.lasym = inp.size)
    (hne : ∀ x ∈ stackLeaves s.stack, x.isErr = false) :
    (stackLeaves s.stack).length = inp.size ∧
    ∀ (i : Nat) (h : i < inp.size), (stackLeaves s.stack)[i]? = some (.tok i inp[i]) :=
  let ⟨hlen, _, hget⟩ := hs.consumed_prefix hq hla hne
  ⟨hlen.trans hidx, fun i h => hget i h (hidx ▸ h)⟩

/-- `hinp0`: `TokOK` lets a `tok i 0` be an input token of type 0 as well as the EOF the lexer
answers at `|inp|`. -/
theorem eof_lookahead {inp : Array Nat} {s : PState} (hp : PInv inp s) (hla : s.la = tEOF)
    (hinp0 : ∀ i : Nat, inp[i]? ≠ some 0) : s.qla = -1 ∧ s.lasym = .tok inp.size 0 := by
  refine ⟨Decidable.byContradiction fun hq => ?_, ?_⟩
  · have := (hp.qty hq).2.1
    rw [hla] at this
    cases this
  · have hty := hp.laty
    have htok := hp.tokLa
    rw [hla] at hty
    cases hl : s.lasym with
    | nil => rw [hl] at hty; cases hty
    | node => rw [hl] at hty; cases hty
    | err => rw [hl] at hty; cases hty
    | tok i ty =>
      rw [hl] at hty htok
      have h0 : ty = 0 := by simp only [leafTy, tEOF] at hty; omega
      subst h0
      rcases htok with h1 | ⟨h1, -⟩
      · exact absurd h1 (hinp0 i)
      · rw [h1]

end Lox.LR.Rt
