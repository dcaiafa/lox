import Lox.LR.GenModelProofsKey
import Lox.Util.Nodup
/-! `createActions` of the generator model: the action cell of (item set, terminal) holds exactly
the textbook candidate actions. Specification: `Cand`, `CandOf`. -/
namespace Lox.LR.Gen
open Lox.LR
open Lox.Dec (Action Call Panic buildCell applyCall addShift addReduce addAccept)

/-- The kinds of candidate actions of a state on one terminal. -/
inductive Cand where
  | accept
  | reduce (p : Nat)
  | shift
  deriving DecidableEq, Repr

def kindOf : Action → Cand
  | .accept => .accept
  | .reduce p => .reduce p
  | .shift _ _ => .shift

/-- The textbook definition: accept on the lookahead of `S' → S·`, reduce `p` on the lookahead of
a completed item of `p ≠ 0`, shift on the terminal after a dot. -/
def CandOf (G : Grammar) (I : List Item) (a : Nat) : Cand → Prop
  | .accept => ∃ pr0 : Prod, G.prods[0]? = some pr0 ∧ (⟨0, pr0.rhs.length, a⟩ : Item) ∈ I
  | .reduce p => p ≠ 0 ∧ ∃ pr : Prod, G.prods[p]? = some pr ∧ (⟨p, pr.rhs.length, a⟩ : Item) ∈ I
  | .shift => ∃ it ∈ I, afterDot G it = some (.t a)

def isShift : Action → Bool
  | .shift _ _ => true
  | .reduce _ => false
  | .accept => false

@[simp] theorem isShift_shift (t : Nat) (ps : List Nat) : isShift (.shift t ps) = true := rfl
@[simp] theorem isShift_reduce (p : Nat) : isShift (.reduce p) = false := rfl
@[simp] theorem isShift_accept : isShift .accept = false := rfl

def callAction : Call → Option Action
  | .reduce p => some (.reduce p)
  | .accept => some .accept
  | .shift _ _ => none

def callProd : Call → Option Nat
  | .shift _ p => some p
  | .reduce _ => none
  | .accept => none

@[simp] theorem callAction_reduce (p : Nat) : callAction (.reduce p) = some (.reduce p) := rfl
@[simp] theorem callAction_accept : callAction .accept = some .accept := rfl
@[simp] theorem callAction_shift (t p : Nat) : callAction (.shift t p) = none := rfl
@[simp] theorem callProd_reduce (p : Nat) : callProd (.reduce p) = none := rfl
@[simp] theorem callProd_accept : callProd .accept = none := rfl
@[simp] theorem callProd_shift (t p : Nat) : callProd (.shift t p) = some p := rfl
@[simp] theorem kindOf_reduce (p : Nat) : kindOf (.reduce p) = .reduce p := rfl
@[simp] theorem kindOf_accept : kindOf .accept = .accept := rfl
@[simp] theorem kindOf_shift (t : Nat) (ps : List Nat) : kindOf (.shift t ps) = .shift := rfl

/-- The shift actions of a cell whose shift calls brought the productions `Q`. -/
def shiftList (s0 : Nat) (Q : List Nat) : List Action := if Q = [] then [] else [.shift s0 Q]

theorem addShift_cons_of_not_shift {x : Action} (hx : isShift x = false) (s0 p : Nat)
    (rest : List Action) : addShift s0 p (x :: rest) = (addShift s0 p rest).map (x :: ·) := by
  cases x with
  | shift => cases hx
  | reduce => rfl
  | accept => rfl

theorem addShift_spec (s0 p : Nat) (cell : List Action) (Q : List Nat)
    (h : cell.filter isShift = shiftList s0 Q) :
    ∃ cell', addShift s0 p cell = .ok cell' ∧
      cell'.filter (fun a => !isShift a) = cell.filter (fun a => !isShift a) ∧
      cell'.filter isShift = [.shift s0 (Q ++ [p])] := by
  induction cell with
  | nil =>
    have hQ : Q = [] := by
      unfold shiftList at h
      split at h
      · assumption
      · cases h
    subst hQ
    exact ⟨[.shift s0 [p]], rfl, rfl, rfl⟩
  | cons x cell ih =>
    cases hx : isShift x with
    | true =>
      rw [List.filter_cons_of_pos hx] at h
      unfold shiftList at h
      split at h
      · cases h
      · obtain ⟨rfl, h2⟩ := List.cons.inj h
        exact ⟨.shift s0 (Q ++ [p]) :: cell, by simp [addShift], by simp,
          by rw [List.filter_cons_of_pos rfl, h2]⟩
    | false =>
      rw [List.filter_cons_of_neg (by simp [hx])] at h
      obtain ⟨c', h1, h2, h3⟩ := ih h
      refine ⟨x :: c', by rw [addShift_cons_of_not_shift hx, h1]; rfl, ?_, ?_⟩
      · simp [hx, h2]
      · simpa [hx] using h3

theorem foldlM_applyCall (s0 : Nat) (L : List Call) (cell : List Action) (Q : List Nat)
    (hL : ∀ t p, Call.shift t p ∈ L → t = s0)
    (hs : cell.filter isShift = shiftList s0 Q)
    (hn : (cell.filter (fun a => !isShift a) ++ L.filterMap callAction).Nodup) :
    ∃ cell', L.foldlM applyCall cell = .ok cell' ∧
      cell'.filter (fun a => !isShift a) =
        cell.filter (fun a => !isShift a) ++ L.filterMap callAction ∧
      cell'.filter isShift = shiftList s0 (Q ++ L.filterMap callProd) := by
  induction L generalizing cell Q with
  | nil => exact ⟨cell, rfl, by simp, by simpa using hs⟩
  | cons c L ih =>
    have hL' : ∀ t p, Call.shift t p ∈ L → t = s0 := fun t p h => hL t p (by simp [h])
    -- one call, then the rest: `c1` is the cell after the call `c`
    have step : ∀ c1, applyCall cell c = .ok c1 →
        c1.filter (fun a => !isShift a) =
          cell.filter (fun a => !isShift a) ++ (callAction c).toList →
        c1.filter isShift = shiftList s0 (Q ++ (callProd c).toList) →
        ∃ cell', (c :: L).foldlM applyCall cell = .ok cell' ∧
          cell'.filter (fun a => !isShift a) =
            cell.filter (fun a => !isShift a) ++ (c :: L).filterMap callAction ∧
          cell'.filter isShift = shiftList s0 (Q ++ (c :: L).filterMap callProd) := by
      intro c1 e1 e2 e3
      obtain ⟨c', h1, h2, h3⟩ := ih c1 _ hL' e3 (by
        rw [e2]; cases c <;> simpa [List.filterMap_cons, List.append_assoc] using hn)
      refine ⟨c', by rw [List.foldlM_cons, e1]; exact h1, ?_, ?_⟩
      · rw [h2, e2]; cases c <;> simp [List.filterMap_cons]
      · rw [h3]; cases c <;> simp [List.filterMap_cons]
    cases c with
    | reduce p => exact step (cell ++ [.reduce p]) rfl (by simp) (by simpa using hs)
    | accept =>
      have hnot : Action.accept ∉ cell := fun hmem =>
        (List.nodup_append.mp hn).2.2 _ (List.mem_filter.mpr ⟨hmem, rfl⟩) _ (by simp) rfl
      refine step (cell ++ [.accept]) ?_ (by simp) (by simpa using hs)
      simp only [applyCall, addAccept]
      rw [if_neg]
      simp only [List.any_eq_true, beq_iff_eq, not_exists, not_and]
      exact fun x hx hxa => hnot (hxa ▸ hx)
    | shift t p =>
      obtain rfl : t = s0 := hL t p (by simp)
      obtain ⟨c1, e1, e2, e3⟩ := addShift_spec t p cell Q hs
      exact step c1 e1 (by simpa using e2) (by simpa [shiftList] using e3)

theorem mem_shiftList {s0 : Nat} {Q : List Nat} {x : Action} :
    x ∈ shiftList s0 Q ↔ Q ≠ [] ∧ x = .shift s0 Q := by
  unfold shiftList
  split <;> simp [*]

theorem callAction_inj {c c' : Call} {act : Action} (h : callAction c = some act)
    (h' : callAction c' = some act) : c = c' := by
  cases c <;> cases h <;> cases c' <;> cases h' <;> rfl

theorem mem_filterMap_callAction {L : List Call} {c : Call} {act : Action}
    (h : callAction c = some act) : act ∈ L.filterMap callAction ↔ c ∈ L := by
  rw [List.mem_filterMap]
  exact ⟨fun ⟨_, hc', h'⟩ => callAction_inj h' h ▸ hc', fun hc => ⟨c, hc, h⟩⟩

theorem mem_filterMap_callProd {L : List Call} {q : Nat} :
    q ∈ L.filterMap callProd ↔ ∃ s, Call.shift s q ∈ L := by
  rw [List.mem_filterMap]
  constructor
  · rintro ⟨c, hc, h⟩
    cases c <;> cases h
    exact ⟨_, hc⟩
  · exact fun ⟨s, h⟩ => ⟨_, h, rfl⟩

theorem buildCell_mem (s0 : Nat) (L : List Call) (hL : ∀ t p, Call.shift t p ∈ L → t = s0)
    (hn : (L.filterMap callAction).Nodup) :
    ∃ cell, buildCell L = .ok cell ∧ (cell.map kindOf).Nodup ∧
      (Action.accept ∈ cell ↔ Call.accept ∈ L) ∧
      (∀ p, Action.reduce p ∈ cell ↔ Call.reduce p ∈ L) ∧
      (∀ s ps, Action.shift s ps ∈ cell ↔ (∃ q, Call.shift s q ∈ L) ∧ ps = L.filterMap callProd) := by
  obtain ⟨cell, hb, hns, hsh⟩ := foldlM_applyCall s0 L [] [] hL (by simp [shiftList]) (by simpa using hn)
  simp only [List.filter_nil, List.nil_append] at hns hsh
  have hmem : ∀ act, act ∈ cell ↔ act ∈ (if isShift act then shiftList s0 (L.filterMap callProd)
      else L.filterMap callAction) := by
    intro act
    rw [← hns, ← hsh]
    cases h : isShift act <;> simp [List.mem_filter, h]
  refine ⟨cell, hb, ?_, ?_, ?_, ?_⟩
  · -- the shift part and the rest: each free of repeated kinds, and no kind in both
    rw [← ((List.filter_append_perm isShift cell).map kindOf).nodup_iff, List.map_append, hsh, hns,
      List.nodup_append]
    refine ⟨?_, ?_, fun k hk k' hk' => ?_⟩
    · unfold shiftList
      split <;> simp
    · rw [List.Nodup, List.pairwise_map]
      refine List.Pairwise.imp_of_mem (fun {x y} hx _ hne hk => hne ?_) hn
      obtain ⟨c, _, hc⟩ := List.mem_filterMap.mp hx
      cases c <;> cases hc <;> cases y <;> cases hk <;> rfl
    · obtain ⟨x, hx, rfl⟩ := List.mem_map.mp hk
      obtain ⟨y, hy, rfl⟩ := List.mem_map.mp hk'
      cases (mem_shiftList.mp hx).2
      obtain ⟨c, _, hc⟩ := List.mem_filterMap.mp hy
      cases c <;> cases hc <;> exact fun h => Cand.noConfusion h
  · rw [hmem, isShift_accept, if_neg Bool.false_ne_true,
      mem_filterMap_callAction callAction_accept]
  · intro p
    rw [hmem, isShift_reduce, if_neg Bool.false_ne_true,
      mem_filterMap_callAction (callAction_reduce p)]
  · intro s ps
    rw [hmem, isShift_shift, if_pos rfl, mem_shiftList]
    constructor
    · rintro ⟨hne, h⟩
      cases h
      obtain ⟨q, hq⟩ := List.exists_mem_of_ne_nil _ hne
      exact ⟨⟨q, by
        obtain ⟨t, ht⟩ := mem_filterMap_callProd.mp hq
        exact hL t q ht ▸ ht⟩, rfl⟩
    · rintro ⟨⟨q, hq⟩, rfl⟩
      exact ⟨List.ne_nil_of_mem (mem_filterMap_callProd.mpr ⟨s, hq⟩), by rw [hL s q hq]⟩

theorem ne_nil_iff_of_mem {L : List Call} {cell : List Action}
    (hacc : Action.accept ∈ cell ↔ Call.accept ∈ L)
    (hred : ∀ p, Action.reduce p ∈ cell ↔ Call.reduce p ∈ L)
    (hsh : ∀ s ps, Action.shift s ps ∈ cell ↔ (∃ q, Call.shift s q ∈ L) ∧ ps = L.filterMap callProd) :
    cell ≠ [] ↔ L ≠ [] := by
  constructor
  · intro h
    obtain ⟨x, hx⟩ := List.exists_mem_of_ne_nil _ h
    cases x with
    | accept => exact List.ne_nil_of_mem (hacc.mp hx)
    | reduce p => exact List.ne_nil_of_mem ((hred p).mp hx)
    | shift s ps =>
      obtain ⟨⟨q, hq⟩, _⟩ := (hsh s ps).mp hx
      exact List.ne_nil_of_mem hq
  · intro h
    obtain ⟨c, hc⟩ := List.exists_mem_of_ne_nil _ h
    cases c with
    | accept => exact List.ne_nil_of_mem (hacc.mpr hc)
    | reduce p => exact List.ne_nil_of_mem ((hred p).mpr hc)
    | shift s q => exact List.ne_nil_of_mem ((hsh s _).mpr ⟨⟨q, hc⟩, rfl⟩)

/-- The calls `createActions` makes for an item: on the lookahead of a completed item (accept
for production 0, reduce otherwise), on the terminal after the dot (shift along its transition). -/
theorem want_eq_call_iff {G : Grammar} {nT : Nat} {tr : Nat → Option Nat} {it : Item} {b : Nat}
    {c : Call} :
    want G nT tr it = .call b c ↔
      ∃ pr : Prod, G.prods[it.p]? = some pr ∧
        ((it.d = pr.rhs.length ∧ it.a < nT ∧ b = it.a ∧
            c = if it.p = 0 then .accept else .reduce it.p) ∨
          ∃ s, pr.rhs[it.d]? = some (.t b) ∧ tr b = some s ∧ c = .shift s it.p) := by
  unfold want
  cases hp : G.prods[it.p]? with
  | none => simp
  | some pr =>
    simp only [Option.some.injEq, exists_eq_left']
    by_cases hd : it.d = pr.rhs.length
    · simp only [hd, if_true, true_and]
      by_cases ha : nT ≤ it.a
      · simp [ha, Nat.not_lt.mpr ha]
      · by_cases h0 : it.p = 0 <;> simp [ha, h0, Nat.lt_of_not_le ha, eq_comm]
    · simp only [hd, if_false, false_and, false_or]
      cases hx : pr.rhs[it.d]? with
      | none => simp
      | some X =>
        cases X with
        | n B => simp
        | t x =>
          dsimp only
          refine ⟨fun h => ?_, fun ⟨s, hxb, hs, hc⟩ => ?_⟩
          · cases htr : tr x with
            | none => rw [htr] at h; cases h
            | some s => rw [htr] at h; cases h; exact ⟨s, rfl, htr, rfl⟩
          · cases hxb
            rw [hc, hs]

theorem want_accept {G : Grammar} {nT : Nat} {tr : Nat → Option Nat} {it : Item} {b : Nat} :
    want G nT tr it = .call b .accept ↔
      ∃ pr : Prod, G.prods[it.p]? = some pr ∧ it.d = pr.rhs.length ∧ it.a < nT ∧ it.p = 0 ∧ b = it.a := by
  rw [want_eq_call_iff]
  refine exists_congr fun pr => and_congr_right fun _ => ?_
  by_cases h0 : it.p = 0 <;> simp [h0, and_comm]

theorem want_reduce {G : Grammar} {nT : Nat} {tr : Nat → Option Nat} {it : Item} {b p : Nat} :
    want G nT tr it = .call b (.reduce p) ↔
      ∃ pr : Prod, G.prods[it.p]? = some pr ∧ it.d = pr.rhs.length ∧ it.a < nT ∧ it.p ≠ 0 ∧
        p = it.p ∧ b = it.a := by
  rw [want_eq_call_iff]
  refine exists_congr fun pr => and_congr_right fun _ => ?_
  by_cases h0 : it.p = 0 <;> simp [h0, and_comm]

theorem want_shift {G : Grammar} {nT : Nat} {tr : Nat → Option Nat} {it : Item} {b s p : Nat} :
    want G nT tr it = .call b (.shift s p) ↔
      afterDot G it = some (.t b) ∧ tr b = some s ∧ p = it.p := by
  rw [want_eq_call_iff, afterDot_eq]
  constructor
  · rintro ⟨pr, hp, ⟨_, _, _, h⟩ | ⟨s', hx, hs, h⟩⟩
    · split at h <;> cases h
    · cases h
      exact ⟨⟨pr, hp, hx⟩, hs, rfl⟩
  · rintro ⟨⟨pr, hp, hx⟩, hs, rfl⟩
    exact ⟨pr, hp, .inr ⟨s, hx, hs, rfl⟩⟩

/-- The per-item function behind `callsOn`. -/
def callFor (G : Grammar) (nT : Nat) (tr : Nat → Option Nat) (a : Nat) (it : Item) : Option Call :=
  match want G nT tr it with
  | .call b c => if b = a then some c else none
  | _ => none

theorem callsOn_eq (G : Grammar) (nT : Nat) (tr : Nat → Option Nat) (I : List Item) (a : Nat) :
    callsOn G nT tr I a = (sortItems I).filterMap (callFor G nT tr a) := rfl

theorem callFor_eq_some {G : Grammar} {nT : Nat} {tr : Nat → Option Nat} {a : Nat} {it : Item}
    {c : Call} : callFor G nT tr a it = some c ↔ want G nT tr it = .call a c := by
  unfold callFor
  cases h : want G nT tr it with
  | nothing => simp
  | panic => simp
  | call b c' =>
    by_cases hb : b = a
    · subst hb; simp
    · simp [hb]

theorem mem_callsOn {G : Grammar} {nT : Nat} {tr : Nat → Option Nat} {I : List Item} {a : Nat}
    {c : Call} : c ∈ callsOn G nT tr I a ↔ ∃ it ∈ I, want G nT tr it = .call a c := by
  rw [callsOn_eq, List.mem_filterMap]
  constructor
  · rintro ⟨it, hit, h⟩
    exact ⟨it, mem_sortItems.mp hit, callFor_eq_some.mp h⟩
  · rintro ⟨it, hit, h⟩
    exact ⟨it, mem_sortItems.mpr hit, callFor_eq_some.mpr h⟩

/-- An accept or reduce call determines the item it comes from: production, completed dot, and
the lookahead is the terminal of the cell. -/
theorem want_call_inj {G : Grammar} {nT : Nat} {tr : Nat → Option Nat} {it it' : Item} {a : Nat}
    {c : Call} {act : Action} (hc : callAction c = some act) (w : want G nT tr it = .call a c)
    (w' : want G nT tr it' = .call a c) : it = it' := by
  obtain ⟨p, d, b⟩ := it
  obtain ⟨p', d', b'⟩ := it'
  have key : ∀ {p d b : Nat}, want G nT tr ⟨p, d, b⟩ = .call a c →
      ∃ pr, G.prods[p]? = some pr ∧ d = pr.rhs.length ∧ a = b ∧
        c = if p = 0 then .accept else .reduce p := by
    intro p d b w
    obtain ⟨pr, hp, ⟨hd, _, ha, hc'⟩ | ⟨s, _, _, rfl⟩⟩ := want_eq_call_iff.mp w
    · exact ⟨pr, hp, hd, ha, hc'⟩
    · cases hc
  obtain ⟨pr, hp, rfl, rfl, e⟩ := key w
  obtain ⟨pr', hp', rfl, rfl, e'⟩ := key w'
  obtain rfl : p = p' := by
    rw [e] at e'
    clear key w w' hc hp hp' e -- `simp_all` is ten times slower with these in the context
    by_cases h0 : p = 0 <;> by_cases h0' : p' = 0 <;> simp_all
  cases hp.symm.trans hp'
  rfl

/-- The non-shift calls on a cell come from different items, hence are different. -/
theorem nodup_nonshift_calls (G : Grammar) (nT : Nat) (tr : Nat → Option Nat) (I : List Item)
    (a : Nat) : ((callsOn G nT tr I a).filterMap callAction).Nodup := by
  rw [callsOn_eq, List.filterMap_filterMap]
  refine Util.nodup_filterMap_inj _ (fun it it' act h1 h2 => ?_) (nodup_sortItems I)
  obtain ⟨c, hc, hca⟩ := Option.bind_eq_some_iff.mp h1
  obtain ⟨c', hc', hca'⟩ := Option.bind_eq_some_iff.mp h2
  cases callAction_inj hca hca'
  exact want_call_inj hca (callFor_eq_some.mp hc) (callFor_eq_some.mp hc')

theorem accept_mem_callsOn {G : Grammar} {nT : Nat} {tr : Nat → Option Nat} {I : List Item}
    (hI : ∀ it ∈ I, it.a < nT) {a : Nat} :
    Call.accept ∈ callsOn G nT tr I a ↔ CandOf G I a .accept := by
  rw [mem_callsOn]
  constructor
  · rintro ⟨⟨p, d, b⟩, hit, hw⟩
    obtain ⟨pr, e1, e2, _, e4, e5⟩ := want_accept.mp hw
    simp only at e1 e2 e4 e5
    subst e4 e5 e2
    exact ⟨pr, e1, hit⟩
  · rintro ⟨pr0, h0, hit⟩
    exact ⟨_, hit, want_accept.mpr ⟨pr0, h0, rfl, hI _ hit, rfl, rfl⟩⟩

theorem reduce_mem_callsOn {G : Grammar} {nT : Nat} {tr : Nat → Option Nat} {I : List Item}
    (hI : ∀ it ∈ I, it.a < nT) {a p : Nat} :
    Call.reduce p ∈ callsOn G nT tr I a ↔ CandOf G I a (.reduce p) := by
  rw [mem_callsOn]
  constructor
  · rintro ⟨⟨p', d, b⟩, hit, hw⟩
    obtain ⟨pr, e1, e2, _, e4, e5, e6⟩ := want_reduce.mp hw
    simp only at e1 e2 e4 e5 e6
    subst e5 e6 e2
    exact ⟨e4, pr, e1, hit⟩
  · rintro ⟨hp0, pr, hpr, hit⟩
    exact ⟨_, hit, want_reduce.mpr ⟨pr, hpr, rfl, hI _ hit, hp0, rfl, rfl⟩⟩

theorem shift_mem_callsOn {G : Grammar} {nT : Nat} {tr : Nat → Option Nat} {I : List Item}
    {a s q : Nat} :
    Call.shift s q ∈ callsOn G nT tr I a ↔
      tr a = some s ∧ ∃ it ∈ I, afterDot G it = some (.t a) ∧ it.p = q := by
  rw [mem_callsOn]
  constructor
  · rintro ⟨it, hit, hw⟩
    obtain ⟨h1, h2, h3⟩ := want_shift.mp hw
    exact ⟨h2, it, hit, h1, h3.symm⟩
  · rintro ⟨hs, it, hit, had, rfl⟩
    exact ⟨it, hit, want_shift.mpr ⟨had, hs, rfl⟩⟩

/-- `(tr a).getD 0` is the one target of the shift calls on `a` (`shift_mem_callsOn`). Where `a` has
no transition there is no shift call, and the default is never looked at. -/
theorem cellOn_calls (G : Grammar) (nT : Nat) (tr : Nat → Option Nat) (I : List Item) (a : Nat) :
    ∃ cell, cellOn G nT tr I a = .ok cell ∧ (cell.map kindOf).Nodup ∧
      (Action.accept ∈ cell ↔ Call.accept ∈ callsOn G nT tr I a) ∧
      (∀ p, Action.reduce p ∈ cell ↔ Call.reduce p ∈ callsOn G nT tr I a) ∧
      (∀ s ps, Action.shift s ps ∈ cell ↔ (∃ q, Call.shift s q ∈ callsOn G nT tr I a) ∧
        ps = (callsOn G nT tr I a).filterMap callProd) :=
  buildCell_mem ((tr a).getD 0) _
    (fun t p h => by rw [(shift_mem_callsOn.mp h).1]; rfl) (nodup_nonshift_calls G nT tr I a)

/-- The cell of terminal `a` after `createActions`. The `.error` branch is never taken, whatever the
item set and the transitions (`cellOn_eq`): the Go panics "impossible shift-shift conflict" and
"impossible accept-accept conflict" cannot happen, because the shift calls on one terminal all go
along its one transition and an accept call comes from the one item `S' → S·` with this lookahead. -/
def cellAt (G : Grammar) (nT : Nat) (tr : Nat → Option Nat) (I : List Item) (a : Nat) : List Action :=
  match cellOn G nT tr I a with
  | .ok c => c
  | .error _ => []

theorem cellTerminals_eq (G : Grammar) (nT : Nat) (tr : Nat → Option Nat) (I : List Item) :
    cellTerminals G nT tr I = ssort (fun x y : Nat => decide (x < y))
      (I.filterMap fun it => match want G nT tr it with
        | .call b _ => some b
        | _ => none) := by
  rw [← foldr_sinsert_eq_ssort, cellTerminals]
  congr 1
  funext it acc
  cases want G nT tr it <;> rfl

theorem mem_cellTerminals {G : Grammar} {nT : Nat} {tr : Nat → Option Nat} {I : List Item}
    {a : Nat} : a ∈ cellTerminals G nT tr I ↔
      ∃ it ∈ I, ∃ c, want G nT tr it = .call a c := by
  rw [cellTerminals_eq, mem_ssort natLt_order, List.mem_filterMap]
  refine exists_congr fun it => and_congr_right fun _ => ?_
  cases want G nT tr it <;> simp

section
variable {G : Grammar} {nT : Nat} {tr : Nat → Option Nat} {I : List Item}

theorem cellAt_of {a : Nat} {P : List Action → Prop} (h : ∃ cell, cellOn G nT tr I a = .ok cell ∧ P cell) :
    P (cellAt G nT tr I a) := by
  obtain ⟨cell, hc, hP⟩ := h
  rwa [cellAt, hc]

theorem cellOn_eq (G : Grammar) (nT : Nat) (tr : Nat → Option Nat) (I : List Item) (a : Nat) :
    cellOn G nT tr I a = .ok (cellAt G nT tr I a) := by
  obtain ⟨cell, h, _⟩ := cellOn_calls G nT tr I a
  rw [cellAt, h]

theorem cellAt_eq {a : Nat} {cell : List Action} (h : cellOn G nT tr I a = .ok cell) :
    cellAt G nT tr I a = cell :=
  Except.ok.inj ((cellOn_eq ..).symm.trans h)

/-- **The cell of (item set, terminal)**: every kind of action occurs at most once in it, the kinds
that occur are exactly the textbook candidates, and a shift goes along the transition. Hypotheses =
the Go code does not panic: lookaheads are terminals, every terminal after a dot has a transition. -/
theorem cellAt_spec (hI : ∀ it ∈ I, it.a < nT)
    (htr : ∀ it ∈ I, ∀ x, afterDot G it = some (.t x) → tr x ≠ none) (a : Nat) :
    ((cellAt G nT tr I a).map kindOf).Nodup ∧
      (∀ c, c ∈ (cellAt G nT tr I a).map kindOf ↔ CandOf G I a c) ∧
      (∀ s ps, Action.shift s ps ∈ cellAt G nT tr I a → tr a = some s) := by
  obtain ⟨hnd, hacc, hred, hsh⟩ := cellAt_of (cellOn_calls G nT tr I a)
  refine ⟨hnd, fun c => ?_, fun s ps h => ?_⟩
  · rw [List.mem_map]
    cases c with
    | accept =>
      rw [← accept_mem_callsOn hI, ← hacc]
      exact ⟨fun ⟨x, hx, hk⟩ => by cases x <;> cases hk; exact hx, fun h => ⟨_, h, rfl⟩⟩
    | reduce p =>
      rw [← reduce_mem_callsOn hI, ← hred]
      exact ⟨fun ⟨x, hx, hk⟩ => by cases x <;> cases hk; exact hx, fun h => ⟨_, h, rfl⟩⟩
    | shift =>
      constructor
      · rintro ⟨x, hx, hk⟩
        cases x <;> cases hk
        obtain ⟨⟨q, hq⟩, _⟩ := (hsh _ _).mp hx
        obtain ⟨_, it, hit, had, _⟩ := shift_mem_callsOn.mp hq
        exact ⟨it, hit, had⟩
      · rintro ⟨it, hit, had⟩
        cases hs : tr a with
        | none => exact absurd hs (htr it hit a had)
        | some s =>
          exact ⟨.shift s _, (hsh s _).mpr ⟨⟨_, shift_mem_callsOn.mpr ⟨hs, it, hit, had, rfl⟩⟩, rfl⟩, rfl⟩
  · obtain ⟨⟨q, hq⟩, _⟩ := (hsh s ps).mp h
    exact (shift_mem_callsOn.mp hq).1

theorem cellAt_ne_nil_iff {a : Nat} : cellAt G nT tr I a ≠ [] ↔ a ∈ cellTerminals G nT tr I := by
  obtain ⟨_, hacc, hred, hsh⟩ := cellAt_of (cellOn_calls G nT tr I a)
  rw [ne_nil_iff_of_mem hacc hred hsh, mem_cellTerminals]
  constructor
  · intro hne
    obtain ⟨c, hc⟩ := List.exists_mem_of_ne_nil _ hne
    obtain ⟨it, hit, hw⟩ := mem_callsOn.mp hc
    exact ⟨it, hit, c, hw⟩
  · rintro ⟨it, hit, c, hw⟩
    exact List.ne_nil_of_mem (mem_callsOn.mpr ⟨it, hit, hw⟩)

/-- The test at the head of `actionsOf`: `createActions` indexes out of range (`g.Prods[item.Prod]`,
`g.Terminals[item.Lookahead]`) or finds no transition (`TransitionMap.Get`) on some item. -/
def panics (G : Grammar) (nT : Nat) (tr : Nat → Option Nat) (I : List Item) : Bool :=
  I.any fun it => want G nT tr it == .panic

theorem actionsOf_eq (G : Grammar) (nT : Nat) (tr : Nat → Option Nat) (I : List Item) :
    actionsOf G nT tr I = if panics G nT tr I then none
      else some ((cellTerminals G nT tr I).map fun a => (a, cellAt G nT tr I a)) := by
  simp only [actionsOf, cellOn_eq, panics]
  congr 1
  exact List.mapM_pure (m := Option)

end

end Lox.LR.Gen
