import Lox.LR.Sound
/-! Termination of the abstract LR machine.

`Valid ∧ Safe` alone do NOT imply termination (see `Lox/LR/TermCounter.lean`: tables that pass
`check` and loop forever on a non-sentence). The extra, checkable hypothesis is `LocalTerm`: every
reduce-only run on a local stack `[s, q]` (`q → s` an edge) or `[0]` leaves the local stack within
`F` steps (`Abs.lrun`). Then a stretch of reductions shortens the stack within `F` steps or ends, and
every input is processed in finitely many steps (`terminates`; no bound on their number is stated). -/
namespace Lox.LR
namespace Abs

/-- Hypothesis established by `termB` (Check.lean). -/
structure LocalTerm (G : Grammar) (A : Auto) (F : Nat) : Prop where
  init : ∀ a, lrun G A a F [0] = true
  edge : ∀ q X s, trans A q X = some s → ∀ a, lrun G A a F [s, q] = true

def Term (G : Grammar) (A : Auto) (c : Config) : Prop := ∃ n, run G A n c ≠ .timeout

theorem Term.of_fail {G A} {c : Config} (h : step G A c = .fail) : Term G A c :=
  ⟨1, by simp [run, h]⟩

theorem Term.of_acc {G A} {c : Config} {t} (h : step G A c = .acc t) : Term G A c :=
  ⟨1, by simp [run, h]⟩

theorem Term.of_cont {G A} {c c' : Config} (h : step G A c = .cont c') (ht : Term G A c') :
    Term G A c := by
  obtain ⟨n, hn⟩ := ht
  exact ⟨n + 1, by simpa [run, h] using hn⟩

def Inv (G : Grammar) (A : Auto) (c : Config) : Prop := ∃ syms w, StackInv G A c.stack syms w

theorem Inv.step {G A} (hs : Safe G A) {c c' : Config} (hi : Inv G A c)
    (h : step G A c = .cont c') : Inv G A c' := by
  obtain ⟨syms, w, hinv⟩ := hi
  obtain ⟨syms', u, hinv', _⟩ := step_inv hs h hinv
  exact ⟨syms', _, hinv'⟩

def sts (c : Config) : List Nat := c.stack.map (·.state)

/-- Local simulation: while the local run stays inside `L`, the machine does the same reductions;
when it leaves, either the machine stops reducing or the stack got shorter than `R.length + 2`. -/
theorem lsim {G : Grammar} {A : Auto} (hs : Safe G A) (m : Nat) (R : List Nat)
    (H1 : ∀ c, Inv G A c → c.input.length < m → Term G A c)
    (H2 : R ≠ [] → ∀ c, Inv G A c → c.input.length = m → c.stack.length ≤ R.length + 1 →
      Term G A c) :
    ∀ (n : Nat) (L : List Nat) (c : Config), Inv G A c → c.input.length = m → L ≠ [] →
      sts c = L ++ R → lrun G A (la c.input) n L = true → Term G A c := by
  intro n
  induction n with
  | zero => intro L c _ _ _ _ h; simp [lrun] at h
  | succ n ih =>
    intro L c hi hm hL hsts hl
    cases hstep : step G A c with
    | fail => exact Term.of_fail hstep
    | acc t => exact Term.of_acc hstep
    | cont c' =>
      have hi' := hi.step hs hstep
      refine Term.of_cont hstep ?_
      obtain ⟨_, ⟨s', hact, rfl⟩ | ⟨p, pr, e', rest, s'', hact, hp, hd, hgo, rfl⟩⟩ :=
        step_cont_inv hstep
      · -- a shift consumes a token
        refine H1 _ hi' ?_
        cases hin : c.input with
        | nil => rw [hin] at hact; exact absurd hact (hs.noShiftEof _ s')
        | cons x xs => simp [hin] at hm ⊢; omega
      · obtain ⟨s, L', rfl⟩ := List.exists_cons_of_ne_nil hL
        have htop : topState c.stack = s := by
          simp [topState, ← List.head?_map, show c.stack.map _ = _ from hsts]
        rw [htop] at hact
        rw [lrun, hact] at hl
        simp only [hp] at hl
        have hdsts : (e'.state :: rest.map (·.state)) = (s :: L').drop pr.rhs.length ++
            R.drop (pr.rhs.length - (s :: L').length) := by
          have := congrArg (List.map (·.state)) hd
          rwa [List.map_drop, show c.stack.map _ = _ from hsts, List.drop_append, eq_comm] at this
        by_cases hk : pr.rhs.length < (s :: L').length
        · obtain ⟨s1, r, hld⟩ :=
            List.exists_cons_of_ne_nil (mt List.drop_eq_nil_iff.mp (Nat.not_le.mpr hk))
          rw [hld] at hdsts hl
          rw [Nat.sub_eq_zero_of_le (Nat.le_of_lt hk)] at hdsts
          simp only [List.drop_zero, List.cons_append, List.cons.injEq] at hdsts
          rw [← hdsts.1] at hl
          simp only [hgo] at hl
          exact ih (s'' :: e'.state :: r) _ hi' hm (by simp) (by simp [sts, hdsts.2]) hl
        · -- the local run leaves: the stack got short
          rw [List.drop_eq_nil_iff.mpr (Nat.le_of_not_lt hk), List.nil_append] at hdsts
          have hlen := congrArg List.length hdsts
          rw [List.length_cons, List.length_map, List.length_drop] at hlen
          exact H2 (by rintro rfl; simp at hdsts) _ hi' hm
            (Nat.succ_le_succ (Nat.le_trans (Nat.le_of_eq hlen) (Nat.sub_le _ _)))

/-- The measure is lexicographic: the length of the input (a shift shortens it, `H1`), then the height
of the stack (a local run on the two topmost states that leaves them has shortened the stack, `H2`
of `lsim`), then the fuel `F` of that local run (the induction inside `lsim`). -/
theorem term_of_inv {G : Grammar} {A : Auto} {F : Nat} (hs : Safe G A) (hl : LocalTerm G A F) :
    ∀ (m : Nat) (c : Config), Inv G A c → c.input.length = m → Term G A c := by
  intro m
  induction m using Nat.strongRecOn with
  | _ m ihm =>
    have H1 : ∀ c, Inv G A c → c.input.length < m → Term G A c :=
      fun c hi hlt => ihm _ hlt c hi rfl
    have inner : ∀ (h : Nat) (c : Config), Inv G A c → c.input.length = m →
        c.stack.length ≤ h → Term G A c := by
      intro h
      induction h with
      | zero =>
        intro c hi _ hh
        obtain ⟨syms, w, hinv⟩ := hi
        have := hinv.ne_nil
        cases hc : c.stack with
        | nil => exact absurd hc this
        | cons e st => rw [hc] at hh; simp at hh
      | succ h ihh =>
        intro c hi hm hh
        obtain ⟨syms, w, hinv⟩ := hi
        obtain ⟨stack, input, lg⟩ := c
        simp only at hinv hh
        cases hinv with
        | base v0 =>
          exact lsim hs m [] H1 (fun h0 => absurd rfl h0) F [0] _ ⟨_, _, .base v0⟩ hm
            (by simp) (by simp [sts]) (hl.init _)
        | @push e st syms' w' X s' u v hinv' htr hder =>
          refine lsim hs m (st.map (·.state)) H1 ?_ F [s', e.state] _
            ⟨_, _, .push hinv' htr hder⟩ hm (by simp) (by simp [sts])
            (hl.edge _ _ _ htr _)
          intro _ c' hi' hm' hlen
          refine ihh c' hi' hm' ?_
          simp at hlen hh
          omega
    intro c hi hm
    exact inner c.stack.length c hi hm (Nat.le_refl _)

/-- **Termination**: under `Safe` and the local-run condition, the machine finishes on every input. -/
theorem terminates {G : Grammar} {A : Auto} {F : Nat} (hs : Safe G A) (hl : LocalTerm G A F)
    (w : List Nat) : ∃ n, run G A n (init w) ≠ .timeout :=
  term_of_inv hs hl w.length (init w) ⟨_, _, .base (.leaf 0)⟩ rfl

end Abs
end Lox.LR
