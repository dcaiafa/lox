import Lox.LR.EmitProofsCells
import Lox.LR.EmitProofsAuto
/-! For any grammar: tables emitted for a grammar that does not use a terminal hold no action on it,
since lookaheads of LALR(1) items are EOF or terminals of right-hand sides (`lr1_la`,
`emitted_unused_miss`).

Specification level (read this): `TermUsed`. -/
namespace Lox.LR
open Lox.LR.Gen Lox.LR.Cons Lox.LR.Emit

def TermUsed (G : Grammar) (a : Nat) : Prop :=
  ∃ (q : Nat) (qr : Prod), G.prods[q]? = some qr ∧ Sym.t a ∈ qr.rhs

theorem derives_mem {G : Grammar} {α β : List Sym} (h : Derives G α β) :
    ∀ X ∈ β, X ∈ α ∨ ∃ (q : Nat) (qr : Prod), G.prods[q]? = some qr ∧ X ∈ qr.rhs := by
  induction h with
  | refl α => exact fun X hX => .inl hX
  | @step α₁ α₂ β q qr hq _ ih =>
    intro X hX
    rcases ih X hX with h | h
    · simp only [List.mem_append] at h
      rcases h with (h | h) | h
      · exact .inl (by simp [h])
      · exact .inr ⟨q, qr, hq, h⟩
      · exact .inl (by simp [h])
    · exact .inr h

theorem lr1_la {G : Grammar} {γ : List Sym} {it : Item} (h : LR1Item G γ it) :
    it.a = eof ∨ TermUsed G it.a := by
  induction h with
  | start => exact .inl rfl
  | goto _ _ _ ih => exact ih
  | @closure γ p d a pr B q qr b _ hp _ _ _ hf ih =>
    rcases hf with ⟨δ, hd⟩ | ⟨_, rfl⟩
    · rcases derives_mem hd (.t b) (by simp) with hm | ⟨q', qr', hq', hm⟩
      · exact .inr ⟨p, pr, hp, List.mem_of_mem_drop hm⟩
      · exact .inr ⟨q', qr', hq', hm⟩
    · exact ih

theorem emitted_unused_miss {info : Nat → Lox.Dec.ProdInfo} {G : Grammar} {nT : Nat}
    {ord : List Sym} {st : CState} {T : Tables} (hb : Built G nT st)
    (he : Emitted info G nT ord st T) {a : Nat} (ha0 : a ≠ 0) (hu : ¬ TermUsed G a) {s : Nat}
    (hs : s < st.states.length) : find T.actions (s : Int) (a : Int) = .miss := by
  suffices hnil : Gen.cellAt G nT (trTerm st.transTab s) (st.states[s]?.getD []) a = [] by
    rw [he.find_actions hs, hnil]
    split <;> rfl
  refine Classical.not_not.mp fun hne => ?_
  have hI : st.states[s]? = some (st.states[s]?.getD []) := by
    rw [List.getElem?_eq_getElem hs]; rfl
  rcases cellTerminals_cases (Gen.cellAt_ne_nil_iff.mp hne) with ⟨it, hit, hia, _⟩ | ⟨it, hit, had⟩
  · obtain ⟨γ, _, hl⟩ := hb.lr1 hI hit
    rcases lr1_la hl with h0 | hused
    · rw [hia] at h0; exact ha0 h0
    · rw [hia] at hused; exact hu hused
  · obtain ⟨pr, hp, hX⟩ := afterDot_eq.mp had
    exact hu ⟨it.p, pr, hp, List.mem_of_getElem? hX⟩

end Lox.LR
