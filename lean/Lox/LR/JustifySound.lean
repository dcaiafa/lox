import Lox.LR.Justify
import Lox.LR.LALRBasics
import Lox.LR.CheckSound
import Lox.Util.Nat
/-! Soundness of the ⊆ validator `justify` (`Lox/LR/Justify.lean`): `justify_sound`, with
`JustifyOK` (all that `justify` establishes) and `productiveB_sound`. The ranked FIRST table is sound
by induction on the rank; the witness walks `nullWit`, `firstWit`, `firstSeqB` are read as what the
semantic table `Gen.FView.sem` yields, so that no derivation is composed here. -/
namespace Lox.LR

theorem nullWit_sem {G : Grammar} {R : RankTab} {r : Nat}
    (ih : ∀ C, 0 < R.nullR C → R.nullR C < r → Gen.SNull G [.n C]) :
    ∀ α, nullWit R r α = true → (Gen.FView.sem G).NulSeq α
  | [], _ => trivial
  | .t _ :: _, h => by simp [nullWit] at h
  | .n C :: rest, h => by
    simp only [nullWit, Bool.and_eq_true, decide_eq_true_eq] at h
    exact ⟨ih C h.1.1 h.1.2, nullWit_sem ih rest h.2⟩

theorem rankOKB_null {G : Grammar} {R : RankTab} (h : rankOKB G R = true) :
    ∀ B, 0 < R.nullR B → Gen.SNull G [.n B] := by
  simp only [rankOKB, Bool.and_eq_true, List.all_eq_true, List.mem_range, Bool.or_eq_true,
    beq_iff_eq, List.any_eq_true] at h
  refine Util.rank_induction R.nullR fun B h0 ih => ?_
  rcases h.1 B (Util.lt_size_of_getD_pos h0) with h0' | ⟨pr, hmem, hw⟩
  · exact absurd h0' (Nat.ne_of_gt h0)
  · exact hw.1 ▸ (Gen.FView.sem_holds G pr hmem).2 (nullWit_sem ih _ hw.2)

theorem firstWit_sem {G : Grammar} {R : RankTab} {r b : Nat}
    (hn : ∀ C, 0 < R.nullR C → Gen.SNull G [.n C])
    (ih : ∀ C, 0 < R.firstR C b → R.firstR C b < r → Gen.SFirst G [.n C] b) :
    ∀ α, firstWit R r b α = true → (Gen.FView.sem G).FstSeq α b
  | [], h => by simp [firstWit] at h
  | .t x :: _, h => (beq_iff_eq.mp h).symm
  | .n C :: rest, h => by
    simp only [firstWit, Bool.or_eq_true, Bool.and_eq_true, decide_eq_true_eq] at h
    exact h.imp (fun h => ih C h.1 h.2) fun h => ⟨hn C h.1, firstWit_sem hn ih rest h.2⟩

theorem rankOKB_first {G : Grammar} {R : RankTab} (h : rankOKB G R = true) (B b : Nat) :
    0 < R.firstR B b → Gen.SFirst G [.n B] b := by
  have hnull := rankOKB_null h
  simp only [rankOKB, Bool.and_eq_true, List.all_eq_true, List.mem_range, Bool.or_eq_true,
    beq_iff_eq, List.any_eq_true] at h
  revert B
  refine Util.rank_induction (R.firstR · b) fun B h0 ih => ?_
  have hlt : B < R.first.size := Nat.lt_of_not_le fun hle => by
    simp [RankTab.firstR, Array.getElem?_eq_none hle] at h0
  rcases h.2 B hlt b (Util.lt_size_of_getD_pos h0) with h0' | ⟨pr, hmem, hw⟩
  · exact absurd h0' (Nat.ne_of_gt h0)
  · exact hw.1 ▸ (Gen.FView.sem_holds G pr hmem).1 b (firstWit_sem hnull ih _ hw.2)

theorem firstSeqB_sem {G : Grammar} {R : RankTab} (h : rankOKB G R = true) {a b : Nat} :
    ∀ α, firstSeqB R a b α = true →
      (Gen.FView.sem G).FstSeq α b ∨ ((Gen.FView.sem G).NulSeq α ∧ b = a)
  | [], hb => .inr ⟨trivial, beq_iff_eq.mp hb⟩
  | .t x :: _, hb => .inl (beq_iff_eq.mp hb).symm
  | .n C :: rest, hb => by
    simp only [firstSeqB, Bool.or_eq_true, Bool.and_eq_true, decide_eq_true_eq] at hb
    rcases hb with hb | hb
    · exact .inl (.inl (rankOKB_first h C b hb))
    · have hC := rankOKB_null h C hb.1
      exact (firstSeqB_sem h rest hb.2).imp (fun h' => .inr ⟨hC, h'⟩) fun h' => ⟨⟨hC, h'.1⟩, h'.2⟩

theorem firstSeqB_sound {G : Grammar} {R : RankTab} (h : rankOKB G R = true) {a b : Nat}
    (α : List Sym) (hb : firstSeqB R a b α = true) : First G α a b :=
  have hs := Gen.FView.sem_exact G α
  Gen.first_iff.mpr ((firstSeqB_sem h α hb).imp (hs.1 b).mp (.imp_left hs.2.mp))

theorem itemsJustB_sound {G : Grammar} {A : Auto} {R : RankTab} {rk : Nat → Item → Nat}
    {jf : Nat → Item → Just} {n : Nat} (hR : rankOKB G R = true)
    (hn : ∀ s it, it ∈ A.items s → s < n) (h : itemsJustB G A R rk jf n = true) :
    ∀ s it, it ∈ A.items s → Justd G A s it := by
  simp only [itemsJustB, List.all_eq_true, List.mem_range] at h
  suffices hm : ∀ m s it, it ∈ A.items s → rk s it = m → Justd G A s it from
    fun s it hit => hm _ s it hit rfl
  intro m
  induction m using Nat.strongRecOn with
  | _ m ih =>
    intro s it hit hrk
    have hj := h s (hn s it hit) it hit
    unfold justItemB at hj
    cases hjf : jf s it with
    | start =>
      simp only [hjf, Bool.and_eq_true, beq_iff_eq, decide_eq_true_eq] at hj
      obtain ⟨rfl, rfl⟩ := hj
      exact .start hit
    | goto s' =>
      simp only [hjf] at hj
      obtain ⟨p, d, a⟩ := it
      cases d with
      | zero => simp at hj
      | succ d =>
        cases hp : G.prods[p]? with
        | none => simp [hp] at hj
        | some pr =>
          simp only [hp, Bool.and_eq_true, decide_eq_true_eq] at hj
          obtain ⟨⟨hX, hmem⟩, hlt⟩ := hj
          cases hx : pr.rhs[d]? with
          | none => simp [hx] at hX
          | some X =>
            simp only [hx, beq_iff_eq] at hX
            have hmem' := hasItem_iff.mp hmem
            have hpar := ih _ (hrk ▸ hlt) s' ⟨p, d, a⟩ hmem' rfl
            exact .goto hpar hp hx hX hit
    | clos p' d' a' =>
      simp only [hjf, Bool.and_eq_true, beq_iff_eq, decide_eq_true_eq] at hj
      obtain ⟨⟨⟨hd, hmem⟩, hlt⟩, hrest⟩ := hj
      obtain ⟨p, d, a⟩ := it
      simp only at hd
      subst hd
      have hmem' := hasItem_iff.mp hmem
      have hpar := ih _ (hrk ▸ hlt) s ⟨p', d', a'⟩ hmem' rfl
      cases hp' : G.prods[p']? with
      | none => simp [hp'] at hrest
      | some pr' =>
        cases hp : G.prods[p]? with
        | none => simp [hp', hp] at hrest
        | some pr =>
          simp only [hp', hp, Bool.and_eq_true, beq_iff_eq] at hrest
          exact .closure hpar hp' hrest.1 hp rfl (firstSeqB_sound hR _ hrest.2) hit

theorem hasNext_spec {G : Grammar} {items : List Item} {X : Sym} (h : hasNext G items X = true) :
    ∃ it ∈ items, ∃ pr, G.prods[it.p]? = some pr ∧ pr.rhs[it.d]? = some X := by
  simp only [hasNext, List.any_eq_true] at h
  obtain ⟨it, hmem, hit⟩ := h
  cases hp : G.prods[it.p]? with
  | none => simp [hp] at hit
  | some pr =>
    simp only [hp, beq_iff_eq] at hit
    exact ⟨it, hmem, pr, hp, hit⟩

theorem hasNext_of {G : Grammar} {items : List Item} {X : Sym}
    (h : ∃ it ∈ items, ∃ pr, G.prods[it.p]? = some pr ∧ pr.rhs[it.d]? = some X) :
    hasNext G items X = true := by
  obtain ⟨it, hit, pr, hp, hX⟩ := h
  simp only [hasNext, List.any_eq_true]
  exact ⟨it, hit, by simp [hp, hX]⟩

theorem all_of_match {o : Option (List (Int × Int))} {f : Int × Int → Bool}
    (h : (match o with | none => false | some row => row.all f) = true) :
    ∃ row, o = some row ∧ ∀ e ∈ row, f e = true := by
  cases o with
  | none => cases h
  | some row => exact ⟨row, rfl, List.all_eq_true.mp h⟩

theorem edgesB_actions {G : Grammar} {T : Tables} {cert : Array (List Item)}
    (h : edgesB G T cert = true) : ActionsBacked G (autoOf T cert) := by
  simp only [edgesB, List.all_eq_true, List.mem_range] at h
  intro s a act hact
  obtain ⟨hs, v, hf, hdec⟩ := action_eq hact
  have hst := h s hs
  simp only [edgesStateB, Bool.and_eq_true] at hst
  obtain ⟨row, hrow, hall⟩ := all_of_match hst.1
  have hent := hall _ (find_hit_mem hrow hf)
  simp only [Bool.and_eq_true, decide_eq_true_eq, Int.toNat_natCast] at hent
  replace hent := hent.2
  cases act with
  | accept =>
    rw [if_pos (decodeAct_accept.mp hdec)] at hent
    simp only [Bool.and_eq_true, beq_iff_eq] at hent
    exact .accept (hasItem_iff.mp hent.2) (Int.ofNat_eq_zero.mp hent.1)
  | shift s' =>
    obtain ⟨hna, hv, _⟩ := decodeAct_shift.mp hdec
    rw [if_neg hna, if_pos hv] at hent
    obtain ⟨it, hmem, pr, hp, hX⟩ := hasNext_spec hent
    exact .shift hmem hp hX (by simp only [trans, hact])
  | reduce p =>
    obtain ⟨hna, hv, rfl⟩ := decodeAct_reduce.mp hdec
    rw [if_neg hna, if_neg (Int.not_le.mpr hv)] at hent
    cases hpr : G.prods[(-v).toNat]? with
    | none => simp [hpr] at hent
    | some pr =>
      simp only [hpr] at hent
      exact .reduce (hasItem_iff.mp hent) hpr (by omega)

theorem edgesB_gotos {G : Grammar} {T : Tables} {cert : Array (List Item)}
    (h : edgesB G T cert = true) : GotosBacked G (autoOf T cert) := by
  simp only [edgesB, List.all_eq_true, List.mem_range] at h
  intro s B s' htr
  obtain ⟨hs, v, hf, _⟩ := goto_eq htr
  have hst := h s hs
  simp only [edgesStateB, Bool.and_eq_true] at hst
  obtain ⟨row, hrow, hall⟩ := all_of_match hst.2
  have h2 := hasNext_spec (hall _ (find_hit_mem hrow hf))
  rwa [Int.toNat_natCast] at h2

theorem mem_kernelCores {items : List Item} {p d : Nat} :
    (p, d) ∈ kernelCores items ↔ HasCore items p d ∧ isKernel ⟨p, d, 0⟩ = true := by
  simp only [kernelCores, List.mem_map, List.mem_filter, HasCore]
  constructor
  · rintro ⟨⟨p', d', a'⟩, ⟨hm, hk⟩, he⟩
    simp only at he
    obtain ⟨rfl, rfl⟩ := he
    exact ⟨⟨a', hm⟩, by simpa [isKernel] using hk⟩
  · rintro ⟨⟨a, hm⟩, hk⟩
    exact ⟨⟨p, d, a⟩, ⟨hm, by simpa [isKernel] using hk⟩, rfl⟩

theorem coresDiffer_false {k k' : List (Nat × Nat)} :
    coresDiffer k k' = false ↔ ∀ pd, pd ∈ k ↔ pd ∈ k' := by
  simp only [coresDiffer, Bool.or_eq_false_iff, List.any_eq_false, Bool.not_eq_true',
    List.contains_eq_mem, decide_eq_false_iff_not, Decidable.not_not]
  exact ⟨fun h pd => ⟨h.1 pd, h.2 pd⟩, fun h => ⟨fun pd => (h pd).1, fun pd => (h pd).2⟩⟩

theorem kernelsDistinctB_sound {A : Auto} {cert : Array (List Item)}
    (hA : ∀ s, A.items s = itemsOf cert s) (h : kernelsDistinctB cert = true) :
    KernelsDistinct A cert.size := by
  simp only [kernelsDistinctB, List.all_eq_true, List.mem_range] at h
  -- states with the same cores have the same kernel cores, which `coresDiffer` excludes
  have key : ∀ s s', s < cert.size → s' < s →
      ¬ (∀ p d, HasCore (itemsOf cert s) p d ↔ HasCore (itemsOf cert s') p d) := by
    intro s s' hs hlt hsame
    have hd := h s hs s' hlt
    simp only [Array.getElem?_map, Array.getElem?_eq_getElem hs,
      Array.getElem?_eq_getElem (Nat.lt_trans hlt hs), Option.map_some, Option.getD_some] at hd
    rw [← Bool.not_eq_false, coresDiffer_false] at hd
    refine hd fun ⟨p, d⟩ => ?_
    rw [mem_kernelCores, mem_kernelCores]
    exact and_congr_left fun _ => by simpa [itemsOf, hs, Nat.lt_trans hlt hs] using hsame p d
  intro s s' hs hs' hsame
  simp only [hA] at hsame
  rcases Nat.lt_trichotomy s s' with hlt | heq | hgt
  · exact absurd (fun p d => (hsame p d).symm) (key s' s hs' hlt)
  · exact heq
  · exact absurd hsame (key s s' hs hgt)

structure JustifyOK (G : Grammar) (T : Tables) (cert : Array (List Item)) : Prop where
  justd : ∀ s it, it ∈ itemsOf cert s → Justd G (autoOf T cert) s it
  actions : ActionsBacked G (autoOf T cert)
  gotos : GotosBacked G (autoOf T cert)
  kernels : KernelsDistinct (autoOf T cert) cert.size

theorem JustifyOK.edges {G : Grammar} {T : Tables} {cert : Array (List Item)}
    (h : JustifyOK G T cert) : EdgesBacked G (autoOf T cert) :=
  edges_of_backed h.actions h.gotos

theorem justifyWith_spec {G : Grammar} {T : Tables} {cert : Array (List Item)} {R : RankTab}
    {rk : Nat → Item → Nat} {jf : Nat → Item → Just} (h : justifyWith G T cert R rk jf = true) :
    JustifyOK G T cert := by
  simp only [justifyWith, Bool.and_eq_true] at h
  obtain ⟨⟨⟨h1, h2⟩, h3⟩, h4⟩ := h
  exact ⟨itemsJustB_sound h1 (fun s it hit => mem_itemsOf hit) h2, edgesB_actions h3,
    edgesB_gotos h3, kernelsDistinctB_sound (fun _ => rfl) h4⟩

theorem justify_ok_iff {G : Grammar} {nTerms nRules : Nat} {T : Tables} {cert : Array (List Item)} :
    justify G nTerms nRules T cert = .ok () ↔ justifyB G nTerms nRules T cert = true := by
  unfold justify
  by_cases h : justifyB G nTerms nRules T cert = true <;> simp [h]

theorem justify_spec {G : Grammar} {nTerms nRules : Nat} {T : Tables} {cert : Array (List Item)}
    (h : justify G nTerms nRules T cert = .ok ()) : JustifyOK G T cert := by
  have hb := justify_ok_iff.mp h
  unfold justifyB at hb
  exact justifyWith_spec hb

/-- **Soundness of the ⊆ validator**: every item of the certificate is an LALR(1) item of its
state (w.r.t. the automaton skeleton read off the emitted tables). -/
theorem justify_sound {G : Grammar} {nTerms nRules : Nat} {T : Tables} {cert : Array (List Item)}
    (h : justify G nTerms nRules T cert = .ok ()) :
    ∀ s it, it ∈ itemsOf cert s → LALRItem G (autoOf T cert) s it :=
  fun s it hit => ((justify_spec h).justd s it hit).lalr

theorem prodWit_sound {G : Grammar} {P : Array Nat} {r : Nat}
    (ih : ∀ C, 0 < P[C]?.getD 0 → P[C]?.getD 0 < r → ∃ w ts, Der G [.n C] w ts) :
    ∀ α, prodWit P r α = true → ∃ w ts, Der G α w ts
  | [], _ => ⟨[], [], .nil⟩
  | .t x :: rest, h => by
    simp only [prodWit] at h
    obtain ⟨w, ts, hd⟩ := prodWit_sound ih rest h
    exact ⟨_, _, .term hd⟩
  | .n C :: rest, h => by
    simp only [prodWit, Bool.and_eq_true, decide_eq_true_eq] at h
    obtain ⟨w1, ts1, h1⟩ := ih C h.1.1 h.1.2
    obtain ⟨w2, ts2, h2⟩ := prodWit_sound ih rest h.2
    have := Der.append h1 h2
    exact ⟨_, _, by simpa using this⟩

theorem prodRankOKB_sound {G : Grammar} {P : Array Nat} (h : prodRankOKB G P = true) :
    ∀ B, 0 < P[B]?.getD 0 → ∃ w ts, Der G [.n B] w ts := by
  simp only [prodRankOKB, List.all_eq_true, List.mem_range, Bool.or_eq_true, beq_iff_eq,
    List.any_eq_true, Bool.and_eq_true] at h
  refine Util.rank_induction (fun B => P[B]?.getD 0) fun B h0 ih => ?_
  rcases h B (Util.lt_size_of_getD_pos h0) with h0' | ⟨pr, hmem, hw⟩
  · exact absurd h0' (Nat.ne_of_gt h0)
  · obtain ⟨q, hq⟩ := Util.mem_toList_iff_getElem?.mp hmem
    obtain ⟨w, ts, hd⟩ := prodWit_sound ih _ hw.2
    exact ⟨_, _, hw.1 ▸ Der.single hq hd⟩

theorem productiveB_sound {G : Grammar} {nRules : Nat} (h : productiveB G nRules = true) :
    Productive G := by
  simp only [productiveB, Bool.and_eq_true] at h
  obtain ⟨h1, h2⟩ := h
  have hs := prodRankOKB_sound h1
  simp only [allProductiveB, List.all_eq_true, Bool.and_eq_true, decide_eq_true_eq] at h2
  intro p pr hp
  obtain ⟨ha, hb⟩ := h2 pr (Util.mem_toList_iff_getElem?.mpr ⟨p, hp⟩)
  refine ⟨hs _ ha, fun B hB => ?_⟩
  have := hb _ hB
  simp only [decide_eq_true_eq] at this
  exact hs _ this

end Lox.LR
