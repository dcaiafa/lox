import Lox.LR.RuntimeSoundAbs
/-! On validated tables (`SafeOK`) the generated `parse` never panics, error recovery included:
every `Peek`/`Pop`/`_Find`/`_rules[…]`/`_termCounts[…]` index is in range and the type assertions
on `_lasym` hold. Here `_recover` (stack search and reduce simulation); the shift and the reduce
branch of the main loop are part of the simulation (`step_absC`), `_readToken`/`_makeError` are
`readToken_ok` (`RuntimeSound.lean`). -/
namespace Lox.LR.Rt

section
variable {G : Grammar} {nTerms nRules : Nat} {T : Tables} {cert : Array (List Item)}

theorem simulate_no_oob (hc : SafeOK G nTerms nRules T cert) (la : Int) :
    ∀ (n : Nat) {st : Int}, InR cert st → simulate T la n st ≠ .oob
  | 0, _, _ => by simp [simulate]
  | n + 1, st, h => by
    unfold simulate
    rcases find_actions_inR hc h tERROR with ⟨action, hf⟩ | hf
    · rw [hf]
      dsimp only
      by_cases hneg : action < 0
      · simp only [hneg, if_true]
        obtain ⟨pr, -, hru, -⟩ := reduce_entry hc h hf hneg
        rw [hru]
        dsimp only
        rcases find_gotos_inR hc h (pr.lhs : Int) with ⟨st', hg⟩ | hg
        · rw [hg]; exact simulate_no_oob hc la n (goto_entry hc h hg)
        · rw [hg]; intro hc'; cases hc'
      · simp only [hneg, if_false]
        obtain ⟨-, hin⟩ := shift_entry hc h hf (by omega) (by decide)
        rcases find_actions_inR hc hin la with ⟨v, hv⟩ | hv
        · rw [hv]; intro hc'; cases hc'
        · rw [hv]; intro hc'; cases hc'
    · rw [hf]; intro hc'; cases hc'

theorem searchStack_no_panic (hc : SafeOK G nTerms nRules T cert) {la : Int} {fuel : Nat} :
    ∀ {st : List Entry}, (∀ e ∈ st, InR cert e.state) → ∀ w, searchStack T la fuel st = .error w →
      w = "TIMEOUT"
  | [], _, w, h => by simp [searchStack] at h
  | e :: rest, hin, w, h => by
    unfold searchStack at h
    cases hs : simulate T la fuel e.state with
    | found => rw [hs] at h; cases h
    | notFound =>
      rw [hs] at h
      exact searchStack_no_panic hc (fun x hx => hin x (List.mem_cons_of_mem _ hx)) w h
    | oob => exact absurd hs (simulate_no_oob hc la fuel (hin e List.mem_cons_self))
    | timeout => rw [hs] at h; cases h; rfl

theorem recover_no_panic (hc : SafeOK G nTerms nRules T cert) {inp : Array Nat} {fuel : Nat}
    {s : PState} (hst : StackR cert s.stack) (hla : s.lasym.isLeaf = true) :
    ∀ w, recover T inp fuel s ≠ .panic w := by
  intro w h
  obtain ⟨top, htop, hin⟩ := hst.top
  rcases recover_panic h with he | ⟨s1, h1, hr | ⟨hs, hw⟩⟩
  · unfold errSymOf at he
    obtain ⟨i, ty, hl⟩ | ⟨i, ty, ex, hl⟩ := leaf_cases hla
    · obtain ⟨v, hv⟩ := makeError_ok hc hl htop hin
      rw [hl, hv] at he; cases he
    · rw [hl] at he; cases he
  · obtain ⟨s2, h2⟩ := readToken_ok hc (inp := inp) (h1.frame.stack ▸ htop) hin
    cases h2.symm.trans hr
  · exact hw (searchStack_no_panic hc (h1.frame.stack ▸ hst.2) w hs)

/-- The iterations that shift, reduce or accept are those of `step_absC`; the others call
`_recover()`. -/
theorem step_no_panic (hc : SafeOK G nTerms nRules T cert) {inp : Array Nat} {wb : Bool}
    {fuel : Nat} {s : PState} (hs : SInv G (autoOf T cert) inp s) :
    ∀ w s', step T inp wb fuel s ≠ .done (.panic w) s' := by
  intro w s' hstep
  rcases step_absC hc hs wb fuel with ⟨hrec, -⟩ | ⟨-, s2, h2, -⟩ | ⟨-, hacc, -⟩
  · obtain ⟨top, htop, hf⟩ := isRecoverStep_true hrec
    obtain ⟨h1, h2, -, h4⟩ := step_miss (inp := inp) (wb := wb) (fuel := fuel) htop hf
    cases hr : recover T inp fuel s with
    | ok s1 => rw [h1 _ hr] at hstep; cases hstep
    | fail s1 => rw [h2 _ hr] at hstep; cases hstep
    | timeout => rw [h4 hr] at hstep; cases hstep
    | panic w' => exact recover_no_panic hc (hs.stackR hc) hs.cov.pinv.laok.1 w' hr
  · cases hstep.symm.trans h2
  · cases hstep.symm.trans hacc

/-- C09 `parse_no_panic`: on validated tables the generated `parse` never panics, whatever the
input (lexer ERROR tokens included) and however often it recovers. -/
theorem parse_no_panic (hc : SafeOK G nTerms nRules T cert) (inp : Array Nat) (wb : Bool)
    (fuel : Nat) : ∀ w, (parse T inp wb fuel).1 ≠ .panic w := by
  intro w
  obtain ⟨s1, h1⟩ := readToken_init_ok hc inp
  rcases parse_spec T inp wb fuel with ⟨w', h, -⟩ | ⟨s1', sl, h1', hr, he⟩
  · cases h1.symm.trans h
  · have hinv : SInv G (autoOf T cert) inp sl := parseReach_SInv hc ⟨s1', h1', hr⟩
    rcases he with ⟨ht, -⟩ | hd
    · rw [ht]; intro h; cases h
    · intro hp
      rw [hp] at hd
      exact step_no_panic hc hinv _ _ hd

end

end Lox.LR.Rt
