import Lox.LR.GenModel
import Lox.LR.FirstTheory
import Lox.Util.Fresh
import Lox.Util.Nat
/-! FIRST of the generator model (`Lox/LR/GenModel.lean`) as an instance of `Lox/LR/FirstTheory.lean`:
what a table says (`view`, `firstSeq_view`), one step of a pass (`stepProd_sound`, `stepProd_grows`),
hence `firstSets_sound`, `firstSets_spec` (the fuel suffices, the result satisfies the inequations),
`firstSets_exact`. -/
namespace Lox.LR.Gen
open Lox.LR

/-- Every terminal on a right-hand side is below `nT` (`len(g.Terminals)`). -/
def TermsBelow (G : Grammar) (nT : Nat) : Prop :=
  ∀ pr ∈ G.prods.toList, ∀ a, Sym.t a ∈ pr.rhs → a < nT


theorem mem_addT {a x : Nat} {l : List Nat} : x ∈ addT a l ↔ x = a ∨ x ∈ l := by
  unfold addT
  split
  · exact ⟨Or.inr, fun h => h.elim (· ▸ ‹a ∈ l›) id⟩
  · simp [or_comm]

theorem union_eq (l r : List Nat) : union l r = l ++ Util.fresh l r := by
  rw [← Util.foldl_add_eq]
  induction r generalizing l with
  | nil => rfl
  | cons a r ih => exact ih _

theorem mem_union {x : Nat} {l r : List Nat} : x ∈ union l r ↔ x ∈ l ∨ x ∈ r :=
  union_eq l r ▸ Util.mem_append_fresh

theorem union_eq_self {l r : List Nat} (h : ∀ x ∈ r, x ∈ l) : union l r = l := by
  rw [union_eq, Util.fresh_eq_nil h, List.append_nil]

theorem nodup_union {l r : List Nat} (h : l.Nodup) : (union l r).Nodup :=
  union_eq l r ▸ Util.nodup_append_fresh h r

theorem firstSeq_nil (F : Tab) : firstSeq F [] = ([], true) := rfl

theorem mem_firstSeq_cons {F : Tab} {s : Sym} {r : List Sym} {x : Nat} :
    x ∈ (firstSeq F (s :: r)).1 ↔
      x ∈ (firstSym F s).1 ∨ ((firstSym F s).2 = true ∧ x ∈ (firstSeq F r).1) := by
  simp only [firstSeq]
  split
  · rename_i h
    simp [mem_union, h]
  · rename_i h
    simp [h]

theorem eps_firstSeq_cons {F : Tab} {s : Sym} {r : List Sym} :
    (firstSeq F (s :: r)).2 = ((firstSym F s).2 && (firstSeq F r).2) := by
  simp only [firstSeq]
  split
  · rename_i h
    simp [h]
  · rename_i h
    simp [h]


def view (F : Tab) : FView := ⟨fun B x => x ∈ (tget F B).1, fun B => (tget F B).2 = true⟩

theorem firstSeq_view (F : Tab) : ∀ α : List Sym,
    (∀ x, x ∈ (firstSeq F α).1 ↔ (view F).FstSeq α x) ∧ ((firstSeq F α).2 = true ↔ (view F).NulSeq α)
  | [] => ⟨fun _ => ⟨fun h => (nomatch h), False.elim⟩, fun _ => trivial, fun _ => rfl⟩
  | .t a :: r => ⟨fun x => by simp [mem_firstSeq_cons, firstSym, FView.FstSeq],
      by simp [eps_firstSeq_cons, firstSym, FView.NulSeq]⟩
  | .n B :: r => by
    have ih := firstSeq_view F r
    exact ⟨fun x => by rw [mem_firstSeq_cons, ih.1]; rfl,
      by rw [eps_firstSeq_cons, Bool.and_eq_true, ih.2]; rfl⟩

theorem mem_firstSeq {F : Tab} {α : List Sym} {x : Nat} :
    x ∈ (firstSeq F α).1 ↔ (view F).FstSeq α x := (firstSeq_view F α).1 x

theorem eps_firstSeq {F : Tab} {α : List Sym} :
    (firstSeq F α).2 = true ↔ (view F).NulSeq α := (firstSeq_view F α).2

theorem firstLA_no_eps (F : Tab) (β : List Sym) (a : Nat) :
    (firstSeq F (β ++ [.t a])).2 = false :=
  Bool.eq_false_iff.mpr fun h => FView.not_nulSeq_snoc_t β a (eps_firstSeq.mp h)

theorem mem_firstLA {F : Tab} {β : List Sym} {a x : Nat} :
    x ∈ firstLA F β a ↔ x ∈ (firstSeq F β).1 ∨ ((firstSeq F β).2 = true ∧ x = a) := by
  rw [firstLA, mem_firstSeq, FView.fstSeq_snoc_t, mem_firstSeq, eps_firstSeq]

def SoundTab (G : Grammar) (F : Tab) : Prop := (view F).Sound G

theorem firstSeq_sound {G : Grammar} {F : Tab} (hF : SoundTab G F) (α : List Sym) :
    (∀ x ∈ (firstSeq F α).1, SFirst G α x) ∧ ((firstSeq F α).2 = true → SNull G α) :=
  ⟨fun x hx => (hF.seq α).1 x (mem_firstSeq.mp hx), fun h => (hF.seq α).2 (eps_firstSeq.mp h)⟩

def Closed (G : Grammar) (F : Tab) : Prop := (view F).Holds G

theorem tget_setIfInBounds (F : Tab) (i : Nat) (v : Entry) (B : Nat) (hi : i < F.size) :
    tget (F.setIfInBounds i v) B = if i = B then v else tget F B := by
  unfold tget
  rw [Array.getElem?_setIfInBounds]
  split
  · simp
  · rfl

theorem setIfInBounds_self (F : Tab) (i : Nat) (hi : i < F.size) :
    F.setIfInBounds i (tget F i) = F := by
  apply Array.ext_getElem?
  intro j
  rw [Array.getElem?_setIfInBounds]
  split
  · rename_i h
    subst h
    simp [tget, hi]
  · rfl

/-- The entry of `pr.lhs` after the production `pr` has been walked. -/
def stepEntry (F : Tab) (pr : Prod) : Entry :=
  (union (tget F pr.lhs).1 (firstSeq F pr.rhs).1, (tget F pr.lhs).2 || (firstSeq F pr.rhs).2)

theorem stepProd_of_lt {F : Tab} {pr : Prod} (hlt : pr.lhs < F.size) :
    stepProd F pr = (F.setIfInBounds pr.lhs (stepEntry F pr), stepEntry F pr != tget F pr.lhs) :=
  if_pos hlt

theorem stepProd_of_not_lt {F : Tab} {pr : Prod} (h : ¬ pr.lhs < F.size) :
    stepProd F pr = (F, false) :=
  if_neg h

theorem size_stepProd (F : Tab) (pr : Prod) : (stepProd F pr).1.size = F.size := by
  unfold stepProd
  split <;> simp

theorem tget_stepProd (F : Tab) (pr : Prod) (B : Nat) :
    tget (stepProd F pr).1 B = if pr.lhs = B ∧ pr.lhs < F.size then stepEntry F pr else tget F B := by
  by_cases hlt : pr.lhs < F.size
  · rw [stepProd_of_lt hlt, tget_setIfInBounds _ _ _ _ hlt]
    simp only [hlt, and_true]
  · rw [stepProd_of_not_lt hlt, if_neg fun h => hlt h.2]

/-- The production adds nothing: the table satisfies its FIRST inequation. -/
theorem stepEntry_eq_iff {F : Tab} {pr : Prod} :
    stepEntry F pr = tget F pr.lhs ↔
      (∀ x ∈ (firstSeq F pr.rhs).1, x ∈ (tget F pr.lhs).1) ∧
        ((firstSeq F pr.rhs).2 = true → (tget F pr.lhs).2 = true) := by
  rw [stepEntry, Prod.ext_iff]
  constructor
  · rintro ⟨h1, h2⟩
    simp only at h1 h2
    exact ⟨fun x hx => h1 ▸ mem_union.mpr (.inr hx), fun he => by rw [← h2, he, Bool.or_true]⟩
  · rintro ⟨h1, h2⟩
    refine ⟨union_eq_self h1, ?_⟩
    cases he : (firstSeq F pr.rhs).2
    · exact Bool.or_false _
    · simp [h2 he]

theorem stepProd_snd_eq_false {F : Tab} {pr : Prod} (h : (stepProd F pr).2 = false) :
    stepProd F pr = (F, false) := by
  by_cases hlt : pr.lhs < F.size
  · rw [stepProd_of_lt hlt] at h ⊢
    have he : stepEntry F pr = tget F pr.lhs := by simpa using h
    rw [he, setIfInBounds_self F _ hlt, bne_self_eq_false]
  · exact stepProd_of_not_lt hlt

theorem round_induction {G : Grammar} {F : Tab} (P : Tab × Bool → Prop) (h0 : P (F, false))
    (hstep : ∀ st, ∀ pr ∈ G.prods.toList, P st →
      P ((stepProd st.1 pr).1, st.2 || (stepProd st.1 pr).2)) : P (round G F) :=
  List.foldlRecOn _ _ h0 fun st h pr hpr => hstep st pr hpr h

theorem size_round (G : Grammar) (F : Tab) : (round G F).1.size = F.size :=
  round_induction (fun st => st.1.size = F.size) rfl fun st pr _ h => (size_stepProd st.1 pr).trans h

theorem iter_eq (G : Grammar) : ∀ (n : Nat) (F : Tab), iter G n F = fixIter (round G) n F
  | 0, _ => rfl
  | n + 1, F => by rw [iter, fixIter, iter_eq G n]

theorem tget_firstInit (G : Grammar) (B : Nat) : tget (firstInit G) B = ([], false) := by
  unfold tget firstInit
  rw [Array.getElem?_replicate]
  split <;> rfl

theorem stepProd_sound {G : Grammar} {F : Tab} (hF : SoundTab G F) {pr : Prod}
    (hpr : pr ∈ G.prods.toList) : SoundTab G (stepProd F pr).1 := by
  obtain ⟨q, hq⟩ := Util.mem_toList_iff_getElem?.mp hpr
  refine hF.add hq (fun B x hx => ?_) fun B hB => ?_
  · simp only [view, tget_stepProd] at hx
    split at hx
    · next h =>
      obtain ⟨rfl, _⟩ := h
      exact (mem_union.mp hx).imp_right fun h' => ⟨rfl, mem_firstSeq.mp h'⟩
    · exact .inl hx
  · simp only [view, tget_stepProd] at hB
    split at hB
    · next h =>
      obtain ⟨rfl, _⟩ := h
      exact (Bool.or_eq_true_iff.mp hB).imp_right fun h' => ⟨rfl, eps_firstSeq.mp h'⟩
    · exact .inl hB

theorem firstSets_sound (G : Grammar) (nT : Nat) : SoundTab G (firstSets G nT) := by
  rw [firstSets, iter_eq]
  exact fixIter_induction (SoundTab G)
    (fun _ hF => round_induction (fun st => SoundTab G st.1) hF fun _ _ hpr h => stepProd_sound h hpr)
    _ fun B => by simp [view, tget_firstInit]

theorem lt_numRules {G : Grammar} {pr : Prod} (h : pr ∈ G.prods.toList) : pr.lhs < numRules G :=
  Util.lt_foldl_of_mem (g := fun m (pr : Prod) => max m (pr.lhs + 1)) (fun _ _ => Nat.le_max_left ..) h
    (fun _ => Nat.lt_of_lt_of_le (Nat.lt_succ_self _) (Nat.le_max_right ..)) 0

def esize (e : Entry) : Nat := e.1.length + (if e.2 then 1 else 0)

def WFTab (nT : Nat) (F : Tab) : Prop := ∀ B, (tget F B).1.Nodup ∧ ∀ x ∈ (tget F B).1, x < nT

theorem esize_le {nT : Nat} {e : Entry} (hn : e.1.Nodup) (hb : ∀ x ∈ e.1, x < nT) :
    esize e ≤ nT + 1 := by
  have := Util.length_le_of_nodup_lt hn hb
  unfold esize
  split <;> omega

theorem esize_stepEntry (F : Tab) (pr : Prod) :
    esize (tget F pr.lhs) ≤ esize (stepEntry F pr) ∧
      (stepEntry F pr ≠ tget F pr.lhs → esize (tget F pr.lhs) < esize (stepEntry F pr)) := by
  unfold stepEntry
  generalize tget F pr.lhs = cur
  generalize firstSeq F pr.rhs = e
  obtain ⟨l, b⟩ := cur
  obtain ⟨el, eb⟩ := e
  obtain ⟨d, hd⟩ : ∃ d, union l el = l ++ d := ⟨_, union_eq l el⟩
  have hb : (if b then 1 else 0) ≤ (if (b || eb) then 1 else 0) := by
    cases b <;> cases eb <;> decide
  simp only [esize, hd, List.length_append]
  refine ⟨by omega, fun hne => ?_⟩
  cases d with
  | nil =>
    have : (b || eb) ≠ b := fun h => hne (by rw [List.append_nil, h])
    cases b <;> cases eb <;> simp at this ⊢
  | cons x d =>
    rw [List.length_cons]
    omega

theorem firstSeq_below {nT : Nat} {F : Tab} (hw : WFTab nT F) {α : List Sym}
    (hα : ∀ a, Sym.t a ∈ α → a < nT) : ∀ x ∈ (firstSeq F α).1, x < nT :=
  fun x hx => FView.fstSeq_below (V := view F) (fun B => (hw B).2) hα x (mem_firstSeq.mp hx)

theorem stepProd_wf {nT : Nat} {F : Tab} (hw : WFTab nT F) {pr : Prod}
    (hpr : ∀ a, Sym.t a ∈ pr.rhs → a < nT) : WFTab nT (stepProd F pr).1 := by
  intro B
  rw [tget_stepProd]
  split
  · rename_i hB
    obtain ⟨rfl, _⟩ := hB
    refine ⟨nodup_union (hw pr.lhs).1, fun x hx => ?_⟩
    rcases mem_union.mp hx with h | h
    · exact (hw pr.lhs).2 x h
    · exact firstSeq_below hw hpr x h
  · exact hw B

def TabInv (G : Grammar) (nT : Nat) (F : Tab) : Prop := F.size = numRules G ∧ WFTab nT F

def tsize (G : Grammar) (F : Tab) : Nat := Util.msum (fun B => esize (tget F B)) (numRules G)

theorem stepProd_grows {G : Grammar} {nT : Nat} {F : Tab} (hF : TabInv G nT F) {pr : Prod}
    (hl : pr.lhs < numRules G) (hr : ∀ a, Sym.t a ∈ pr.rhs → a < nT) (c : Bool) :
    Grows (TabInv G nT) (tsize G)
      (fun F => (∀ x, (view F).FstSeq pr.rhs x → (view F).fst pr.lhs x) ∧
        ((view F).NulSeq pr.rhs → (view F).nul pr.lhs))
      (F, c) ((stepProd F pr).1, c || (stepProd F pr).2) := by
  have hlt : pr.lhs < F.size := hF.1 ▸ hl
  refine .step (B := pr.lhs) ⟨(size_stepProd F pr).trans hF.1, stepProd_wf hF.2 hr⟩ (fun B => ?_) hl
    (fun hch => ?_) fun hch => ?_
  · rw [tget_stepProd]
    split
    · next h => exact h.1 ▸ (esize_stepEntry F pr).1
    · exact Nat.le_refl _
  · rw [tget_stepProd, if_pos ⟨rfl, hlt⟩]
    exact (esize_stepEntry F pr).2 (by rw [stepProd_of_lt hlt] at hch; simpa using hch)
  · have h := stepProd_snd_eq_false hch
    have he : stepEntry F pr = tget F pr.lhs := by
      rw [stepProd_of_lt hlt] at hch
      simpa using hch
    have h2 := stepEntry_eq_iff.mp he
    exact ⟨congrArg Prod.fst h, fun x hx => h2.1 x (mem_firstSeq.mpr hx),
      fun hn => h2.2 (eps_firstSeq.mpr hn)⟩

theorem round_grows {G : Grammar} {nT : Nat} (ht : TermsBelow G nT) {F : Tab} (hF : TabInv G nT F) :
    Grows (TabInv G nT) (tsize G) (Closed G) (F, false) (round G F) :=
  Grows.foldl (P := fun (pr : Prod) F => (∀ x, (view F).FstSeq pr.rhs x → (view F).fst pr.lhs x) ∧
      ((view F).NulSeq pr.rhs → (view F).nul pr.lhs)) _ _ hF
    fun pr hpr a ha => stepProd_grows ha (lt_numRules hpr) (ht pr hpr) a.2

/-- **The fuel of `firstSets` suffices**, and the table it returns is one a pass leaves unchanged
and satisfies the inequations. -/
theorem firstSets_spec {G : Grammar} {nT : Nat} (ht : TermsBelow G nT) :
    firstConverged G nT = true ∧ TabInv G nT (firstSets G nT) ∧ Closed G (firstSets G nT) ∧
      round G (firstSets G nT) = (firstSets G nT, false) := by
  rw [firstConverged, firstSets, iter_eq]
  refine fixIter_spec (fun _ => round_grows ht)
    (fun F hF => Util.msum_bound fun B _ => esize_le (hF.2 B).1 (hF.2 B).2) _ _
    ⟨Array.size_replicate .., fun B => by simp [tget_firstInit]⟩ ?_
  exact Nat.lt_add_left _ (Nat.lt_succ_self _)

theorem iter_converges {G : Grammar} {nT : Nat} (ht : TermsBelow G nT) :
    firstConverged G nT = true := (firstSets_spec ht).1

theorem firstSets_wf {G : Grammar} {nT : Nat} (ht : TermsBelow G nT) : WFTab nT (firstSets G nT) :=
  (firstSets_spec ht).2.1.2

theorem firstSets_closed {G : Grammar} {nT : Nat} (ht : TermsBelow G nT) :
    Closed G (firstSets G nT) := (firstSets_spec ht).2.2.1

theorem size_firstSets (G : Grammar) (nT : Nat) : (firstSets G nT).size = numRules G := by
  rw [firstSets, iter_eq]
  exact fixIter_induction (fun F => F.size = numRules G) (fun F h => (size_round G F).trans h) _
    (Array.size_replicate ..)

theorem iter_mono {G : Grammar} (n m : Nat) (F : Tab) (h : (iter G n F).2 = true) (hm : n ≤ m) :
    iter G m F = iter G n F := by
  rw [iter_eq] at h ⊢
  rw [iter_eq]
  exact fixIter_mono n m F h hm

theorem termsBelowB_iff {G : Grammar} {nT : Nat} : termsBelowB G nT = true ↔ TermsBelow G nT := by
  unfold termsBelowB TermsBelow
  simp only [List.all_eq_true]
  constructor
  · intro h pr hpr a ha
    have := h pr hpr (.t a) ha
    simpa using this
  · intro h pr hpr s hs
    cases s with
    | t a => simpa using h pr hpr a hs
    | n _ => rfl

theorem termBound_spec (G : Grammar) : TermsBelow G (termBound G) := by
  intro pr hpr a ha
  have hin : ∀ (m : Nat) (s : Sym), m ≤ (match s with | .t a => max m (a + 1) | .n _ => m) := by
    intro m s
    cases s
    · exact Nat.le_max_left ..
    · exact Nat.le_refl _
  exact Util.lt_foldl_of_mem (fun m pr => Util.le_foldl hin pr.rhs m) hpr
    (fun m => Util.lt_foldl_of_mem hin ha (fun m => Nat.lt_of_lt_of_le (Nat.lt_succ_self a) (Nat.le_max_right ..)) m) 0

/-- **The model's FIRST is the semantic FIRST**, for every grammar and every symbol string. -/
theorem firstSets_exact {G : Grammar} {nT : Nat} (ht : TermsBelow G nT) (α : List Sym) :
    (∀ b, b ∈ (firstOfSyms G nT α).1 ↔ SFirst G α b) ∧
      ((firstOfSyms G nT α).2 = true ↔ SNull G α) := by
  have h := FView.exact (firstSets_sound G nT) (firstSets_closed ht) α
  exact ⟨fun b => mem_firstSeq.trans (h.1 b), eps_firstSeq.trans h.2⟩

end Lox.LR.Gen
