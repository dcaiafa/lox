import Lox.LR.ConstructStep
import Lox.Util.FoldM
/-! The loop of the model of `ConstructLALR`: what every call of `stepSym` by the loop preserves
holds of the result (`construct_invariant`), in particular the invariant `Inv` (`construct_inv`)
and `EdgesCalled`; and the worklist discipline (`WL`: every state is done or queued) makes the
item sets CLOSED when the loop ends with an empty `pendingSet` (`closed_of_between`). -/
namespace Lox.LR.Cons
open Lox.LR Lox.LR.Gen
open Lox.Util (foldlM_inv)

section
variable {G : Grammar} {nT : Nat} {ord : List Sym}

theorem initState_some {st : CState} (h : initState G nT = some st) :
    ∃ I0, closureGo G nT [⟨0, 0, 0⟩] = some I0 ∧
      st = { states := [I0], keys := [lr0Key I0], trans := [[]], pending := [lr0Key I0] } := by
  unfold initState at h
  split at h
  · cases h
  · next I0 hc => exact ⟨I0, hc, (Option.some.inj h).symm⟩

theorem procKey_some {st st' : CState} {k : Key} (h : procKey G nT ord st k = some st') :
    ∃ i0 I0, findKey k st.keys = some i0 ∧ st.states[i0]? = some I0 ∧
      (nextOrd G ord I0).foldlM (stepSym G nT i0) st = some st' := by
  unfold procKey at h
  split at h
  · cases h
  · next i0 hf =>
    split at h
    · cases h
    · next I0 hI0 => exact ⟨i0, I0, hf, hI0, h⟩

theorem loop_invariant (Q : CState → Prop)
    (hround : ∀ st st', Q st → procRound G nT ord st = some st' → Q st') :
    ∀ (n : Nat) {st st' : CState}, Q st → loop G nT ord n st = some st' → Q st' ∧ st'.pending = []
  | 0, _, _, _, h => by simp [loop] at h
  | n + 1, st, st', hq, h => by
    simp only [loop] at h
    split at h
    · next he =>
      cases h
      exact ⟨hq, by simpa using he⟩
    · split at h
      · cases h
      · next st1 hr => exact loop_invariant Q hround n (hround st st1 hq hr) h

theorem constructWith_invariant (Q : CState → Prop)
    (hinit : ∀ st0, initState G nT = some st0 → Q st0)
    (hround : ∀ st st', Q st → procRound G nT ord st = some st' → Q st') {fuel : Nat} {st : CState}
    (h : constructWith G nT ord fuel = some st) : Q st ∧ st.pending = [] := by
  unfold constructWith at h
  split at h
  · cases h
  · next st0 hi => exact loop_invariant Q hround fuel (hinit st0 hi) h

end

section
variable {G : Grammar} {nT : Nat}

theorem initState_inv (ht : TermsBelow G nT) {st : CState} (h : initState G nT = some st) :
    Inv G st := by
  obtain ⟨I0, hc, rfl⟩ := initState_some h
  have hcl := (closureGo_eq_some.mp hc).2
  have hone : ∀ {i : Nat} {I : List Item}, [I0][i]? = some I → i = 0 ∧ I = I0 := by
    intro i I hi
    cases i with
    | zero => exact ⟨rfl, (Option.some.inj hi).symm⟩
    | succ n => cases hi
  refine ⟨rfl, rfl, ?_, by simp, ?_, ?_, ⟨I0, rfl, (mem_closure_iff ht hcl _).mpr (.base (by simp))⟩,
    ?_⟩
  · intro i I hi
    obtain ⟨rfl, rfl⟩ := hone hi
    rfl
  · intro i I hi
    obtain ⟨rfl, rfl⟩ := hone hi
    exact closedSet_closure ht hcl
  · intro i X t hl
    cases i <;> cases hl
  · intro i I it hi hit
    obtain ⟨rfl, rfl⟩ := hone hi
    refine ((mem_closure_iff ht hcl it).mp hit).least (fun x hx => ?_) fun _ h _ hr =>
      lalr_closure_step h hr
    cases List.mem_singleton.mp hx
    exact ⟨[], .nil 0, .start⟩

/-- The invariant does not speak about `pendingSet`. -/
theorem Inv.clearPending {st : CState} (hinv : Inv G st) : Inv G { st with pending := [] } :=
  ⟨hinv.lenK, hinv.lenT, hinv.key, hinv.keysNodup, hinv.closed, hinv.tgt, hinv.start, hinv.sound⟩

/-- How the loop calls `stepSym`: on a table with `Inv`, for a state `i` that exists and a symbol
after a dot of one of its items (`Next` was taken from an earlier, smaller version of the state).
What every such call preserves holds, with `Inv`, after `procKey`. -/
theorem procKey_invariant (ht : TermsBelow G nT) {ord : List Sym} (Q : CState → Prop)
    (hstep : ∀ {st st' i X I T j}, Inv G st → Q st → stepSym G nT i st X = some st' →
      StepSpec G st st' i X I T j → (∃ it ∈ I, afterDot G it = some X) → Q st')
    {st st' : CState} {k : Key} (hq : Inv G st ∧ Q st) (h : procKey G nT ord st k = some st') :
    Inv G st' ∧ Q st' := by
  obtain ⟨i0, I0, _, hI0, h⟩ := procKey_some h
  refine (foldlM_inv (stepSym G nT i0) (fun todo s => (Inv G s ∧ Q s) ∧
      (∃ I, s.states[i0]? = some I ∧ ∀ x ∈ I0, x ∈ I) ∧ ∀ Y ∈ todo, Y ∈ next G I0) ?_ _ _ _
    ⟨hq, ⟨I0, hI0, fun _ hx => hx⟩, fun Y hY => of_decide_eq_true (List.mem_filter.mp hY).2⟩ h).1
  rintro X todo s s' ⟨⟨hinv, hq⟩, ⟨I, hI, hsub⟩, hnext⟩ hs
  obtain ⟨it, hit, had⟩ := mem_next.mp (hnext X (List.mem_cons_self ..))
  obtain ⟨I1, T, j, hsp⟩ := stepSym_spec ht hinv hs
  cases hI.symm.trans hsp.hI
  obtain ⟨I', hI', hsub'⟩ := hsp.grows hI
  exact ⟨⟨hsp.inv hinv, hstep hinv hq hs hsp ⟨it, hsub it hit, had⟩⟩,
    ⟨I', hI', fun x hx => hsub' x (hsub x hx)⟩, fun Y hY => hnext Y (List.mem_cons_of_mem _ hY)⟩

/-- What every call of `stepSym` by the loop preserves, and the emptying of `pendingSet` at the
start of a round does not disturb, holds with `Inv` of the table `constructWith` returns, for
every name order and fuel. -/
theorem construct_invariant (ht : TermsBelow G nT) {ord : List Sym} (Q : CState → Prop)
    (hinit : ∀ st0, initState G nT = some st0 → Q st0)
    (hclear : ∀ st, Q st → Q { st with pending := [] })
    (hstep : ∀ {st st' i X I T j}, Inv G st → Q st → stepSym G nT i st X = some st' →
      StepSpec G st st' i X I T j → (∃ it ∈ I, afterDot G it = some X) → Q st')
    {fuel : Nat} {st : CState} (h : constructWith G nT ord fuel = some st) : Inv G st ∧ Q st :=
  (constructWith_invariant (fun s => Inv G s ∧ Q s)
    (fun st0 hi => ⟨initState_inv ht hi, hinit st0 hi⟩)
    (fun s _ hq hr => foldlM_inv (procKey G nT ord) (fun _ s => Inv G s ∧ Q s)
      (fun _ _ _ _ hq hk => procKey_invariant ht Q hstep hq hk) _ _ _
      ⟨hq.1.clearPending, hclear s hq.2⟩ hr) h).1

theorem construct_inv (ht : TermsBelow G nT) {ord : List Sym} {fuel : Nat} {st : CState}
    (h : constructWith G nT ord fuel = some st) : Inv G st :=
  (construct_invariant ht (fun _ => True) (fun _ _ => trivial) (fun _ _ => trivial)
    (fun _ _ _ _ _ => trivial) h).1

end

section
variable {G : Grammar} {nT : Nat}

def EdgeDone (G : Grammar) (st : CState) (i : Nat) (X : Sym) : Prop :=
  ∃ I j J, st.states[i]? = some I ∧ lookupSym X (st.trans[i]?.getD []) = some j ∧
    st.states[j]? = some J ∧ ∀ x ∈ advance G I X, x ∈ J

def Done (G : Grammar) (st : CState) (i : Nat) : Prop :=
  ∀ I X, st.states[i]? = some I → (∃ it ∈ I, afterDot G it = some X) → EdgeDone G st i X

/-- The key of state `i` is in `pendingSet` or among the keys still to be processed in this
round. -/
def Queued (st : CState) (i : Nat) (rem : List Key) : Prop :=
  ∃ k, st.keys[i]? = some k ∧ (k ∈ st.pending ∨ k ∈ rem)

/-- The worklist discipline: a state that is not `Done` is `Queued`. It survives a merge that adds
items to a finished state, because `stepSym` then puts the key of that state back into
`pendingSet`. -/
def WL (G : Grammar) (st : CState) (rem : List Key) : Prop :=
  ∀ i, i < st.states.length → Done G st i ∨ Queued st i rem

variable {st st' : CState} {i : Nat} {X : Sym} {I T : List Item} {j : Nat}

theorem StepSpec.queued_mono (hs : StepSpec G st st' i X I T j) {i' : Nat} {rem : List Key}
    (h : Queued st i' rem) : Queued st' i' rem := by
  obtain ⟨k, hk, hq⟩ := h
  refine ⟨k, hs.keysPrefix i' k hk, ?_⟩
  rcases hq with hq | hq
  · exact .inl (hs.pendMono k hq)
  · exact .inr hq

theorem StepSpec.unchanged_or_queued (hs : StepSpec G st st' i X I T j) (i' : Nat)
    (rem : List Key) : st'.states[i']? = st.states[i']? ∨ Queued st' i' rem := by
  by_cases hij : i' = j
  · subst hij
    rcases hs.pendChanged with ⟨_, h⟩ | ⟨h, _⟩
    · exact .inl h
    · exact .inr ⟨_, hs.keyJ, .inl h⟩
  · exact .inl (hs.other i' hij)

theorem StepSpec.edgeDone_keep (hinv : Inv G st)
    (hs : StepSpec G st st' i X I T j) {i' : Nat} {Y : Sym}
    (hun : st'.states[i']? = st.states[i']?) (h : EdgeDone G st i' Y) : EdgeDone G st' i' Y := by
  obtain ⟨I1, j1, J1, hI1, hl, hJ1, hadv⟩ := h
  obtain ⟨J1', hJ1', hsub⟩ := hs.grows hJ1
  exact ⟨I1, j1, J1', hun.trans hI1, hs.lookup_mono hinv hl, hJ1', fun x hx => hsub x (hadv x hx)⟩

theorem StepSpec.edgeDone_new (hs : StepSpec G st st' i X I T j)
    (hun : st'.states[i]? = st.states[i]?) : EdgeDone G st' i X := by
  obtain ⟨M, hM, _, _, hmem⟩ := hs.atJ
  refine ⟨I, j, M, by rw [hun]; exact hs.hI, by rw [hs.transI X, if_pos rfl], hM, fun x hx => ?_⟩
  exact (hmem x).mpr (.inr ((hs.spec.mem x).mpr (.base hx)))

/-- The state of the invariant while the symbols of state `i0` are being processed: `todo` are
the symbols still to come, `all` the ones `Next` returned. -/
structure Mid (G : Grammar) (st : CState) (rem : List Key) (i0 : Nat) (I0 : List Item)
    (all todo : List Sym) : Prop where
  inv : Inv G st
  others : ∀ i', i' < st.states.length → i' ≠ i0 → Done G st i' ∨ Queued st i' rem
  self : Queued st i0 rem ∨
    (st.states[i0]? = some I0 ∧ ∀ Y ∈ all, Y ∉ todo → EdgeDone G st i0 Y)
  sorted : SSorted keyLt st.pending

theorem Mid.step (ht : TermsBelow G nT) {rem : List Key} {i0 : Nat} {I0 : List Item}
    {all todo : List Sym} (hm : Mid G st rem i0 I0 all (X :: todo))
    (h : stepSym G nT i0 st X = some st') : Mid G st' rem i0 I0 all todo := by
  obtain ⟨I, T, j, hs⟩ := stepSym_spec ht hm.inv h
  refine ⟨hs.inv hm.inv, ?_, ?_, hs.pendSorted hm.sorted⟩
  · intro i' hlt hne
    by_cases hold : i' < st.states.length
    · rcases hm.others i' hold hne with hd | hq
      · rcases hs.unchanged_or_queued i' rem with hun | hq
        · exact .inl fun I1 Y hI1 hit => hs.edgeDone_keep hm.inv hun (hd I1 Y (hun ▸ hI1) hit)
        · exact .inr hq
      · exact .inr (hs.queued_mono hq)
    · -- the state is new
      have hlen := hs.len
      have hjle := hs.jle
      have hij : i' = j := by omega
      subst hij
      rcases hs.pendChanged with ⟨hlt', _⟩ | ⟨hp, _⟩
      · exact absurd hlt' hold
      · exact .inr ⟨_, hs.keyJ, .inl hp⟩
  · rcases hm.self with hq | ⟨hI0, hdone⟩
    · exact .inl (hs.queued_mono hq)
    · rcases hs.unchanged_or_queued i0 rem with hun | hq
      · right
        refine ⟨by rw [hun]; exact hI0, fun Y hY hnot => ?_⟩
        by_cases hXY : Y = X
        · subst hXY
          exact hs.edgeDone_new hun
        · exact hs.edgeDone_keep hm.inv hun (hdone Y hY (by simp [hXY, hnot]))
      · exact .inl hq

/-- Every symbol that occurs after a dot is listed in `ord` (the harness lists all symbols). -/
def OrdCovers (G : Grammar) (ord : List Sym) : Prop :=
  ∀ (p : Nat) (pr : Prod) (d : Nat) (X : Sym), G.prods[p]? = some pr → pr.rhs[d]? = some X → X ∈ ord

def ordCoversB (G : Grammar) (ord : List Sym) : Bool :=
  G.prods.toList.all fun pr => pr.rhs.all fun X => decide (X ∈ ord)

theorem ordCoversB_sound {G : Grammar} {ord : List Sym} (h : ordCoversB G ord = true) :
    OrdCovers G ord := by
  intro p pr d X hp hX
  simp only [ordCoversB, List.all_eq_true, decide_eq_true_eq] at h
  exact h pr (Util.mem_toList_iff_getElem?.mpr ⟨_, hp⟩) X
    (List.mem_of_getElem? hX)

/-- The invariant between two keys of a round. -/
structure Between (G : Grammar) (st : CState) (rem : List Key) : Prop where
  inv : Inv G st
  wl : WL G st rem
  sorted : SSorted keyLt st.pending

theorem Between.procKey (ht : TermsBelow G nT) {ord : List Sym} (hord : OrdCovers G ord)
    {k : Key} {rem : List Key} (hb : Between G st (k :: rem))
    (h : procKey G nT ord st k = some st') : Between G st' rem := by
  obtain ⟨i0, I0, hf, hI0, h⟩ := procKey_some h
  have hk0 := findKey_some hf
  have hstart : Mid G st rem i0 I0 (nextOrd G ord I0) (nextOrd G ord I0) := by
    refine ⟨hb.inv, ?_, .inr ⟨hI0, fun Y hY hnot => absurd hY hnot⟩, hb.sorted⟩
    intro i' hlt hne
    rcases hb.wl i' hlt with hd | ⟨k', hk', hq⟩
    · exact .inl hd
    · right
      refine ⟨k', hk', ?_⟩
      rcases hq with hq | hq
      · exact .inl hq
      · rcases List.mem_cons.mp hq with rfl | hq
        · exact absurd (Util.getElem?_inj_of_nodup hb.inv.keysNodup hk' hk0) hne
        · exact .inr hq
  have hend := foldlM_inv (stepSym G nT i0)
    (fun todo s => Mid G s rem i0 I0 (nextOrd G ord I0) todo)
    (fun a todo s s' hq hs => Mid.step ht hq hs) _ _ _ hstart h
  refine ⟨hend.inv, ?_, hend.sorted⟩
  intro i' hlt
  by_cases hne : i' = i0
  · subst hne
    rcases hend.self with hq | ⟨hI, hdone⟩
    · exact .inr hq
    · left
      intro I1 Y hI1 ⟨it, hit, had⟩
      rw [hI] at hI1
      cases hI1
      apply hdone Y _ (by simp)
      obtain ⟨pr, hp, hX⟩ := afterDot_eq.mp had
      simp only [nextOrd, List.mem_filter, decide_eq_true_eq]
      exact ⟨hord _ _ _ _ hp hX, mem_next.mpr ⟨it, hit, had⟩⟩
  · exact hend.others i' hlt hne

theorem Between.procRound (ht : TermsBelow G nT) {ord : List Sym} (hord : OrdCovers G ord)
    (hb : Between G st []) (h : procRound G nT ord st = some st') : Between G st' [] := by
  have hstart : Between G { st with pending := [] } st.pending := by
    refine ⟨hb.inv.clearPending, fun i hlt => ?_, .nil⟩
    rcases hb.wl i hlt with hd | ⟨k, hk, hq | hq⟩
    · exact .inl hd
    · exact .inr ⟨k, hk, .inr hq⟩
    · cases hq
  exact foldlM_inv (Cons.procKey G nT ord) (fun rem s => Between G s rem)
    (fun k rem s s' hq hs => Between.procKey ht hord hq hs) _ _ _ hstart h

theorem construct_between (ht : TermsBelow G nT) {ord : List Sym} (hord : OrdCovers G ord)
    {fuel : Nat} {st : CState} (h : constructWith G nT ord fuel = some st) :
    Between G st [] ∧ st.pending = [] := by
  refine constructWith_invariant (fun s => Between G s []) (fun st0 hi => ?_)
    (fun _ _ hb hr => hb.procRound ht hord hr) h
  -- initially the one state is queued
  obtain ⟨I0, _, rfl⟩ := initState_some hi
  refine ⟨initState_inv ht hi, fun i hlt => ?_, List.pairwise_singleton ..⟩
  cases Nat.lt_one_iff.mp hlt
  exact .inr ⟨_, rfl, .inl (List.mem_singleton_self _)⟩

theorem closed_of_between {st : CState} (hb : Between G st [])
    (hp : st.pending = []) : Closed G (skelOf st) where
  start := by
    obtain ⟨I0, hI0, hmem⟩ := hb.inv.start
    exact mem_items_skelOf.mpr ⟨I0, hI0, hmem⟩
  step := by
    intro s it pr X hit hpr hX
    obtain ⟨Is, hs, hit⟩ := mem_items_skelOf.mp hit
    have had : afterDot G it = some X := afterDot_eq.mpr ⟨pr, hpr, hX⟩
    rcases hb.wl s (List.getElem?_eq_some_iff.mp hs).1 with hd | ⟨k, _, hq⟩
    · obtain ⟨I1, j, J, hI1, hl, hJ, hadv⟩ := hd Is X hs ⟨it, hit, had⟩
      cases hs.symm.trans hI1
      exact ⟨j, (trans_skelOf ..).trans hl,
        mem_items_skelOf.mpr ⟨J, hJ, hadv _ (mem_advance.mpr ⟨it, hit, had, rfl⟩)⟩⟩
    · -- nothing is queued any more
      rw [hp] at hq
      exact hq.elim (nomatch ·) (nomatch ·)
  closure := by
    intro s it pr B q qr b hit hpr hX hq hl hf
    obtain ⟨Is, hs, hit⟩ := mem_items_skelOf.mp hit
    exact mem_items_skelOf.mpr ⟨Is, hs, hb.inv.closed s Is hs it hit ⟨q, 0, b⟩
      ⟨pr, B, qr, hpr, hX, hq, hl, rfl, (sfirst_iff_first _ _ _).mpr hf⟩⟩

theorem kernelsDistinct_of_inv {st : CState} (hinv : Inv G st) :
    KernelsDistinct (skelOf st) st.states.length := by
  intro s s' hs hs' hsame
  have hI := List.getElem?_eq_getElem hs
  have hI' := List.getElem?_eq_getElem hs'
  simp only [items_skelOf, hI, hI', Option.getD_some] at hsame
  exact hinv.eq_of_kj hI hI' (KJ_congr (fun x hx => (hsame x.p x.d).mp ⟨x.a, hx⟩)
    fun x hx => (hsame x.p x.d).mpr ⟨x.a, hx⟩)

end

/-! `EdgesCalled`: every recorded transition `i --X--> t` is called for by an item of state `i` that
has `X` after its dot (`ConstructLALR` only records transitions for the symbols `Next` returns, and
states only grow). It is what the validator of `Lox/LR/ConflictCheck.lean` checks with `hasNext`
(`EdgeOK.called`), here for ALL grammars. -/

def EdgesCalled (G : Grammar) (st : CState) : Prop :=
  ∀ (i : Nat) (X : Sym) (t : Nat), lookupSym X (st.trans[i]?.getD []) = some t →
    ∃ I, st.states[i]? = some I ∧ ∃ it ∈ I, afterDot G it = some X

section
variable {G : Grammar} {nT : Nat}

theorem StepSpec.edgesCalled {st st' : CState} {i : Nat} {X : Sym} {I T : List Item} {j : Nat}
    (hs : StepSpec G st st' i X I T j) (hec : EdgesCalled G st)
    (hX : ∃ it ∈ I, afterDot G it = some X) : EdgesCalled G st' := by
  intro i' Y t hl
  rcases hs.trans_cases hl with ⟨rfl, rfl, rfl⟩ | hold
  · obtain ⟨I', hI', hsub⟩ := hs.grows hs.hI
    obtain ⟨it, hit, had⟩ := hX
    exact ⟨I', hI', it, hsub it hit, had⟩
  · obtain ⟨I1, hI1, it, hit, had⟩ := hec i' Y t hold
    obtain ⟨I1', hI1', hsub⟩ := hs.grows hI1
    exact ⟨I1', hI1', it, hsub it hit, had⟩

theorem construct_edgesCalled (ht : TermsBelow G nT) {ord : List Sym} {fuel : Nat} {st : CState}
    (h : constructWith G nT ord fuel = some st) : EdgesCalled G st := by
  refine (construct_invariant ht (EdgesCalled G) (fun st0 hi i X t hl => ?_) (fun _ hq => hq)
    (fun _ hec _ hs hX => hs.edgesCalled hec hX) h).2
  -- initially there is no transition
  obtain ⟨I0, _, rfl⟩ := initState_some hi
  cases i <;> cases hl

end

end Lox.LR.Cons
