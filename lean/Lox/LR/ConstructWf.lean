import Lox.LR.ConstructLoop
/-! Well-formed tables of the model of `ConstructLALR` (`Wf`): every state is a duplicate-free list
of items the Go code can index with, and a pending key is the key of a state. `initState` returns
such a table (`initState_wf`) and `stepSym` keeps it so (`StepSpec.wf`). -/
namespace Lox.LR.Cons
open Lox.LR Lox.LR.Gen

/-- An item the Go code can index with: production in range, dot within the right-hand side,
lookahead a terminal. -/
def WfItem (G : Grammar) (nT : Nat) (x : Item) : Prop :=
  ∃ pr, G.prods[x.p]? = some pr ∧ x.d ≤ pr.rhs.length ∧ x.a < nT

structure Wf (G : Grammar) (nT : Nat) (st : CState) : Prop where
  items : ∀ (i : Nat) (I : List Item), st.states[i]? = some I → I.Nodup ∧ ∀ x ∈ I, WfItem G nT x
  pend : ∀ k ∈ st.pending, k ∈ st.keys

section
variable {G : Grammar} {nT : Nat}

theorem wf_advance {I : List Item} (hI : ∀ x ∈ I, WfItem G nT x) (X : Sym) :
    ∀ x ∈ advance G I X, WfItem G nT x := by
  intro x hx
  obtain ⟨it, hit, had, rfl⟩ := mem_advance.mp hx
  obtain ⟨pr, hp, hX⟩ := afterDot_eq.mp had
  obtain ⟨pr', hp', _, ha⟩ := hI it hit
  rw [hp] at hp'; cases hp'
  have : it.d < pr.rhs.length := by
    rcases List.getElem?_eq_some_iff.mp hX with ⟨hlt, _⟩; exact hlt
  exact ⟨pr, hp, by simp only; omega, ha⟩

theorem wf_closureOf (ht : TermsBelow G nT) {K : List Item} (hK : ∀ x ∈ K, WfItem G nT x)
    {x : Item} (hx : ClosureOf G K x) : WfItem G nT x := by
  refine hx.least hK fun it ⟨_, _, _, ha⟩ new hr => ?_
  have hnew : new ∈ expand G (firstSets G nT) it := (mem_expand (exactTab_firstSets ht)).mpr hr
  obtain ⟨hp, hd, hla⟩ := mem_newItems.mp (expand_in_newItems ht (firstSets_wf ht) ha hnew)
  exact ⟨_, Array.getElem?_eq_getElem hp, by omega, hla⟩

variable {st st' : CState} {i : Nat} {X : Sym} {I T : List Item} {j : Nat}

theorem StepSpec.keysMem (hs : StepSpec G st st' i X I T j) {k : Key} (h : k ∈ st.keys) :
    k ∈ st'.keys := by
  obtain ⟨n, hn⟩ := List.mem_iff_getElem?.mp h
  exact List.mem_of_getElem? (hs.keysPrefix n k hn)

theorem StepSpec.wf (ht : TermsBelow G nT) (hw : Wf G nT st) (hs : StepSpec G st st' i X I T j) :
    Wf G nT st' := by
  have hIw := (hw.items i I hs.hI).2
  have hTw : ∀ x ∈ T, WfItem G nT x :=
    fun x hx => wf_closureOf ht (wf_advance hIw X) ((hs.spec.mem x).mp hx)
  refine ⟨fun i' I'' h => ⟨?_, fun x hx => ?_⟩, fun k hk => ?_⟩
  · rcases hs.statesInv i' I'' h with ⟨_, hold⟩ | ⟨rfl, _⟩
    · exact (hw.items i' I'' hold).1
    · obtain ⟨M, hM, hnd, _, _⟩ := hs.atJ
      cases hM.symm.trans h
      refine hnd.resolve_right (not_not_intro ?_)
      cases hJ : st.states[i']? with
      | none => exact List.nodup_nil
      | some J => exact (hw.items i' J hJ).1
  · rcases (hs.mem_state h x).mp hx with ⟨I', hI', hx⟩ | ⟨_, hx⟩
    · exact (hw.items i' I' hI').2 x hx
    · exact hTw x hx
  · rcases hs.pendOnly k hk with h | rfl
    · exact hs.keysMem (hw.pend k h)
    · exact List.mem_of_getElem? hs.keyJ

theorem wf_startItem (hp0 : ∃ pr, G.prods[0]? = some pr) (hnT : 0 < nT) :
    ∀ x ∈ [(⟨0, 0, 0⟩ : Item)], WfItem G nT x := by
  intro x hx
  cases List.mem_singleton.mp hx
  exact ⟨hp0.choose, hp0.choose_spec, Nat.zero_le _, hnT⟩

theorem initState_wf (ht : TermsBelow G nT) (hp0 : ∃ pr, G.prods[0]? = some pr) (hnT : 0 < nT)
    {st0 : CState} (h : initState G nT = some st0) : Wf G nT st0 := by
  obtain ⟨I0, hc, rfl⟩ := initState_some h
  have hcl := (closureGo_eq_some.mp hc).2
  refine ⟨fun i I hi => ?_, fun k hk => hk⟩
  cases i with
  | zero =>
    cases hi
    exact ⟨closure_nodup hcl, fun x hx =>
      wf_closureOf ht (wf_startItem hp0 hnT) ((mem_closure_iff ht hcl x).mp hx)⟩
  | succ n => cases hi

end

end Lox.LR.Cons
