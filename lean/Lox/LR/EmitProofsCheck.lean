import Lox.LR.EmitProofsCells
import Lox.LR.EmitProofsAuto
/-! The tables the model of the generator emits (`Cons.construct`, then `Emit.emitParserP`) pass the
validators, for all well-formed grammars: `checkSafe` whatever the precedences and the conflicts
(`RunS.checkSafeB`), `check` when no precedence is given and every action cell holds one action
(`conflictFreeB`; `Run.checkB`). The hypotheses are the Booleans the `Props` theorems take
(`symsInRangeB`, `noEofB`, `ordOKB`; all together: `GrammarWf`, `VerdictE2E.lean`). The conditions on
the table itself are those of the table-free validator (`Built.itemCOK`, `Built.backB`), read through
`_Find` on the emitted arrays (`Run.find_cand`, `RunS.find_goto`). `itemB_of`, the converse of
`itemB_spec`, stands here because it reads the closure part of `itemB` as `closureCB`. -/
namespace Lox.LR.Emit
open Lox.LR Lox.LR.Gen Lox.LR.Cons Lox.LR.FixFirst
open Lox.Dec (Action ProdInfo)
open Lox.Table

/-- `SymsInRange` (`CheckFirst.lean`) as a Boolean: the part of `prodsB` that is about the grammar. -/
def symsInRangeB (G : Grammar) (nT nR : Nat) : Bool :=
  G.prods.toList.all fun pr =>
    decide (pr.lhs < nR) && pr.rhs.all fun
      | .t x => decide (x < nT)
      | .n B => decide (B < nR)

/-- EOF is terminal 0. On a right-hand side it would make a shift on EOF, which `check` refuses
(`Safe.noShiftEof`). -/
def noEofB (G : Grammar) : Bool :=
  G.prods.toList.all fun pr => !pr.rhs.contains (.t 0)

/-- The harness passes all symbols sorted by name; that they are sorted is not used. -/
def ordOKB (nT nR : Nat) (ord : List Sym) : Bool :=
  decide ord.Nodup &&
  (ord.all fun
    | .t a => decide (a < nT)
    | .n B => decide (B < nR)) &&
  ((List.range nT).all fun a => ord.contains (.t a)) &&
  ((List.range nR).all fun B => ord.contains (.n B))

structure OrdOK (nT nR : Nat) (ord : List Sym) : Prop where
  nodup : ord.Nodup
  terms : ∀ a, Sym.t a ∈ ord ↔ a < nT
  rules : ∀ B, Sym.n B ∈ ord ↔ B < nR

theorem ordOKB_spec {nT nR : Nat} {ord : List Sym} (h : ordOKB nT nR ord = true) :
    OrdOK nT nR ord := by
  simp only [ordOKB, Bool.and_eq_true, decide_eq_true_eq, List.all_eq_true, List.mem_range,
    List.contains_eq_mem] at h
  obtain ⟨⟨⟨h1, h2⟩, h3⟩, h4⟩ := h
  refine ⟨h1, fun a => ⟨fun hm => ?_, h3 a⟩, fun B => ⟨fun hm => ?_, h4 B⟩⟩
  · simpa using h2 _ hm
  · simpa using h2 _ hm

theorem symsInRangeB_spec {G : Grammar} {nT nR : Nat} (h : symsInRangeB G nT nR = true) :
    SymsInRange G nT nR := by
  intro pr hpr
  simp only [symsInRangeB, List.all_eq_true, Bool.and_eq_true, decide_eq_true_eq] at h
  obtain ⟨h1, h2⟩ := h pr hpr
  refine ⟨h1, fun s hs => ?_⟩
  have := h2 s hs
  cases s <;> simpa using this

theorem SymsInRange.termsBelow {G : Grammar} {nT nR : Nat} (h : SymsInRange G nT nR) :
    TermsBelow G nT := by
  intro pr hpr a ha
  exact (h pr hpr).2 (.t a) ha

theorem SymsInRange.ordCovers {G : Grammar} {nT nR : Nat} {ord : List Sym}
    (h : SymsInRange G nT nR) (ho : OrdOK nT nR ord) : OrdCovers G ord := by
  intro p pr d X hp hX
  have := (h pr (Util.mem_toList_iff_getElem?.mpr ⟨_, hp⟩)).2 X (List.mem_of_getElem? hX)
  cases X with
  | t a => exact (ho.terms a).mpr this
  | n B => exact (ho.rules B).mpr this

theorem noEofB_spec {G : Grammar} (h : noEofB G = true) {p : Nat} {pr : Prod}
    (hp : G.prods[p]? = some pr) : Sym.t 0 ∉ pr.rhs := by
  simp only [noEofB, List.all_eq_true, Bool.not_eq_true', List.contains_eq_mem,
    decide_eq_false_iff_not] at h
  exact h pr (Util.mem_toList_iff_getElem?.mpr ⟨_, hp⟩)

theorem symsInRangeB_of {G : Grammar} {nT nR : Nat} (h : SymsInRange G nT nR) :
    symsInRangeB G nT nR = true := by
  simp only [symsInRangeB, List.all_eq_true, Bool.and_eq_true, decide_eq_true_eq]
  refine fun pr hpr => ⟨(h pr hpr).1, fun s hs => ?_⟩
  have := (h pr hpr).2 s hs
  cases s <;> simpa using this

theorem nodupKeys_of_nodup : ∀ {row : List (Int × Int)}, (row.map (·.1)).Nodup → nodupKeys row = true
  | [], _ => rfl
  | (k, v) :: r, h => by
    simp only [List.map_cons, List.nodup_cons] at h
    simp only [nodupKeys, Bool.and_eq_true, List.all_eq_true, bne_iff_ne, ne_eq]
    refine ⟨fun e he hk => h.1 (List.mem_map.mpr ⟨e, he, hk⟩), nodupKeys_of_nodup h.2⟩

theorem prodsB_emit {G : Grammar} {nT nR : Nat} {T : Tables} (hsyms : symsInRangeB G nT nR = true)
    (h1 : T.rules = rulesArr G) (h2 : T.termCounts = termCountsArr G) :
    prodsB G nT nR T = true := by
  unfold prodsB
  simp only [h1, h2, rulesArr, termCountsArr, Array.size_map, beq_self_eq_true, Bool.true_and,
    List.all_eq_true, List.mem_range]
  intro p hp
  have hget : G.prods[p]? = some G.prods[p] := by simp [hp]
  simp only [hget, Array.getElem?_map, Option.map_some, beq_self_eq_true, Bool.true_and]
  simp only [symsInRangeB, List.all_eq_true] at hsyms
  exact hsyms G.prods[p] (Array.getElem_mem_toList hp)

theorem itemB_of {G : Grammar} {F : FirstTab} {T : Tables} {cert : Array (List Item)} {s : Nat}
    {d0 : Array (List Nat)} {it : Item} {pr : Prod} (hp : G.prods[it.p]? = some pr)
    (hd : it.d ≤ pr.rhs.length) (h : ItemOK G F T cert s d0 it pr) :
    itemB G F T cert s d0 it = true := by
  have hsafe := itemSafeB_iff.mpr ⟨pr, hp, h.gotoDef, h.startOnly, h.s0⟩
  simp only [itemSafeB, hp, Bool.and_eq_true] at hsafe
  simp only [itemB, hp, Bool.and_eq_true]
  refine ⟨⟨⟨?_, hsafe.1.1⟩, hsafe.1.2⟩, hsafe.2⟩
  cases hX : pr.rhs[it.d]? with
  | none =>
    have hd' : it.d = pr.rhs.length := Nat.le_antisymm hd (List.getElem?_eq_none_iff.mp hX)
    by_cases hp0 : it.p = 0
    · simp [hd', hp0, (h.accept hX hp0).1, (h.accept hX hp0).2]
    · simp [hd', hp0, h.reduce hX hp0]
  | some X =>
    cases X with
    | t x =>
      obtain ⟨v, hf, hna, hv, hmem⟩ := h.shift x hX
      simp [hf, hna, hv, hasItem_iff.mpr hmem]
    | n B =>
      obtain ⟨v, hf, hmem⟩ := h.goto B hX
      simp only [hf, hasItem_iff.mpr hmem, Bool.true_and]
      exact closureCB_iff.mpr fun q qr b hq hl hb => h.closure B q qr b hX hq hl hb

/-- The hypotheses and the derived facts the per-state lemmas use, for tables emitted with the
precedences `info` (conflicts allowed). -/
structure RunS (info : Nat → ProdInfo) (G : Grammar) (nT nR : Nat) (ord : List Sym) (st : CState)
    (T : Tables) : Prop where
  syms : SymsInRange G nT nR
  ordOK : OrdOK nT nR ord
  noStart : NoStart G
  noEof : ∀ (p : Nat) (pr : Prod), G.prods[p]? = some pr → Sym.t 0 ∉ pr.rhs
  p0 : ∃ S', G.prods[0]? = some ⟨S', [.n (startSym G)]⟩
  built : Built G nT st
  emitted : Emitted info G nT ord st T
  /-- a shift to state 2147483647 would be emitted as `MaxInt32`, which is the accept code -/
  small : st.states.length ≤ 2147483647

structure Run (G : Grammar) (nT nR : Nat) (ord : List Sym) (st : CState) (T : Tables) : Prop
    extends RunS noPrec G nT nR ord st T where
  free : conflictFreeB G nT st = true

section
variable {info : Nat → ProdInfo} {G : Grammar} {nT nR : Nat} {ord : List Sym} {st : CState}
  {T : Tables}

theorem trTerm_eq (st : CState) (s x : Nat) :
    trTerm st.transTab s x = lookupSym (.t x) (st.trans[s]?.getD []) := by
  simp [trTerm, rowOfT, CState.transTab]

theorem RunS.stateWf (hr : RunS info G nT nR ord st T) {s : Nat} {I : List Item}
    (hs : st.states[s]? = some I) : StateWf G nT ord (trTerm st.transTab s) I where
  la := fun it hit => by
    obtain ⟨_, _, _, h⟩ := hr.built.item_wf hs hit
    exact h
  trs := fun it hit x hx => by
    obtain ⟨pr, hp, hX⟩ := afterDot_eq.mp hx
    obtain ⟨t, _, htr, _, _⟩ := hr.built.step hs hit hp hX
    rw [trTerm_eq, htr]
    simp
  below := fun it hit x hx => by
    obtain ⟨pr, hp, hX⟩ := afterDot_eq.mp hx
    exact (hr.syms pr (Util.mem_toList_iff_getElem?.mpr ⟨_, hp⟩)).2 (.t x) (List.mem_of_getElem? hX)
  ordNodup := hr.ordOK.nodup
  ordTerms := fun a ha => (hr.ordOK.terms a).mpr ha

theorem Run.stateOK (hr : Run G nT nR ord st T) {s : Nat} {I : List Item}
    (hs : st.states[s]? = some I) : StateOK G nT ord (trTerm st.transTab s) I where
  toStateWf := hr.toRunS.stateWf hs
  single := by
    have := conflictFreeB_iff_cells.mp hr.free s (List.getElem?_eq_some_iff.mp hs).1
    rw [hs, Option.getD_some] at this
    refine ⟨_, by rw [actionsOf_eq, this.1]; rfl, fun e he => ?_⟩
    obtain ⟨a, ha, rfl⟩ := List.mem_map.mp he
    exact this.2 a ha

theorem Run.find_cand (hr : Run G nT nR ord st T) {s : Nat} {I : List Item}
    (hs : st.states[s]? = some I) {a : Nat} {c : Gen.Cand} (hc : CandOf G I a c) :
    match c with
    | .accept => find T.actions (s : Int) (a : Int) = .hit acceptCode
    | .reduce p => find T.actions (s : Int) (a : Int) = .hit (-(p : Int))
    | .shift => ∃ t, lookupSym (.t a) (st.trans[s]?.getD []) = some t ∧
        find T.actions (s : Int) (a : Int) = .hit (t : Int) := by
  obtain ⟨act, hcell, rfl, hat, hsh⟩ := cand_single (hr.stateOK hs) hc
  have hwf := hr.toRunS.stateWf hs
  have hf : find T.actions (s : Int) (a : Int) = .hit (actCode act) := by
    rw [hr.emitted.find_actions (List.getElem?_eq_some_iff.mp hs).1,
      if_pos (hwf.ordTerms a (hwf.lt hat)), hs, Option.getD_some, resolveCell_noPrec, hcell]
    rfl
  cases act with
  | accept => exact hf
  | reduce p => exact hf
  | shift t ps => exact ⟨t, trTerm_eq st s a ▸ hsh t ps rfl, hf⟩

theorem RunS.find_goto (hr : RunS info G nT nR ord st T) {s : Nat} (hlt : s < st.states.length)
    {B t : Nat} (hB : B < nR) (htr : lookupSym (.n B) (st.trans[s]?.getD []) = some t) :
    find T.gotos (s : Int) (B : Int) = .hit (t : Int) := by
  rw [hr.emitted.find_gotos hlt, if_pos ((hr.ordOK.rules B).mpr hB), htr]
  rfl

theorem reduceCode_neg {p : Nat} (hp : p ≠ 0) : ¬ (-(p : Int) = acceptCode) ∧ ¬ (0 ≤ -(p : Int)) := by
  unfold acceptCode
  omega

theorem RunS.lt_accept (hr : RunS info G nT nR ord st T) {t : Nat} (ht : t < st.states.length) :
    (t : Int) ≠ acceptCode := by
  have := hr.small
  unfold acceptCode
  omega

theorem Built.backB (hb : Built G nT st) (hns : NoStart G) {s : Nat} {X : Sym} {t : Nat}
    (htr : lookupSym X (st.trans[s]?.getD []) = some t) : Lox.LR.backB G st.cert s X t = true := by
  obtain ⟨I, J, hI, hJ, hback⟩ := hb.back htr
  refine backB_iff.mpr ⟨fun e => hb.noInto0 hns s X (e ▸ htr),
    size_cert st ▸ (List.getElem?_eq_some_iff.mp hJ).1, fun it hit hd => ?_⟩
  rw [itemsOf_cert, hJ] at hit
  rw [itemsOf_cert, hI]
  exact hback it hit hd

theorem RunS.lhs_lt (hr : RunS info G nT nR ord st T) {p : Nat} {pr : Prod} (hp : G.prods[p]? = some pr) :
    pr.lhs < nR :=
  (hr.syms pr (Util.mem_toList_iff_getElem?.mpr ⟨_, hp⟩)).1

theorem RunS.rule_lt (hr : RunS info G nT nR ord st T) {p : Nat} {pr : Prod} (hp : G.prods[p]? = some pr)
    {d B : Nat} (hX : pr.rhs[d]? = some (.n B)) : B < nR :=
  (hr.syms pr (Util.mem_toList_iff_getElem?.mpr ⟨_, hp⟩)).2 (.n B) (List.mem_of_getElem? hX)

theorem Built.itemCOK (hb : Built G nT st) (hns : NoStart G) (nR : Nat) {s : Nat} {it : Item}
    (hit : it ∈ itemsOf st.cert s) :
    ∃ pr, G.prods[it.p]? = some pr ∧
      ItemCOK G nT (firstFix G nT nR) st.transTab st.cert s it pr := by
  rw [itemsOf_cert, Util.mem_getD_nil] at hit
  obtain ⟨I, hs, hit⟩ := hit
  obtain ⟨pr, hp, hdle, hla⟩ := hb.item_wf hs hit
  refine ⟨pr, hp, hla, ?_, ?_, hdle, ?_, ?_, ?_, ?_⟩
  · intro X hX
    obtain ⟨t, J, htr, hJ, hadv⟩ := hb.step hs hit hp hX
    refine ⟨t, by rw [rowOfT_transTab]; exact htr, ?_⟩
    rw [itemsOf_cert, hJ]
    exact hadv
  · intro B q qr b hX hq hl hf
    rw [itemsOf_cert, hs]
    exact hb.closure hs hit hp hX hq hl (firstFix_sound G nT nR hf)
  · intro hd hp0
    obtain ⟨t, htr, _⟩ := hb.gotoDef hs hit hd hp0 hp
    exact ⟨t, by rw [rowOfT_transTab]; exact htr⟩
  · exact fun hp0 hd => hb.startOnly hns hs hit hp0 hd
  · intro hs0
    subst hs0
    exact hb.s0 hns hs hit
  · exact fun hp0 => hb.p0_la hns hs hit hp0

/-- The shape conditions of `itemSafeB` read `_goto` where `shapeCB` reads the transitions. -/
theorem RunS.itemSafeOK (hr : RunS info G nT nR ord st T) {s : Nat} {it : Item} {pr : Prod}
    (hp : G.prods[it.p]? = some pr)
    (hok : ItemCOK G nT (firstFix G nT nR) st.transTab st.cert s it pr)
    (hlt : s < st.states.length) : ItemSafeOK G T s it pr where
  gotoDef hd hp0 :=
    let ⟨t, htr⟩ := hok.shape.gotoDef hd hp0
    ⟨t, hr.find_goto hlt (hr.lhs_lt hp) (rowOfT_transTab st s ▸ htr)⟩
  startOnly := hok.shape.startOnly
  s0 := hok.shape.s0

/-- The conditions of `itemB` on a conflict-free table: those of `itemCB`, with `_Find` on the
emitted arrays where `itemCB` reads the transitions, and the reduce and accept entries. -/
theorem Run.itemOK (hr : Run G nT nR ord st T) {s : Nat} {I : List Item}
    (hs : st.states[s]? = some I) {it : Item} (hit : it ∈ I) {pr : Prod}
    (hp : G.prods[it.p]? = some pr)
    (hok : ItemCOK G nT (firstFix G nT nR) st.transTab st.cert s it pr) :
    ItemOK G (firstFix G nT nR) T st.cert s (dot0Of (itemsOf st.cert s) G.prods.size) it pr := by
  have hlt : s < st.states.length := (List.getElem?_eq_some_iff.mp hs).1
  have hend (hX : pr.rhs[it.d]? = none) : it = ⟨it.p, pr.rhs.length, it.a⟩ := by
    rw [← Nat.le_antisymm hok.dot (List.getElem?_eq_none_iff.mp hX)]
  refine { hr.toRunS.itemSafeOK hp hok hlt with
    shift := fun x hX => ?_, goto := fun B hX => ?_, closure := fun B q qr b hX hq hl hb => ?_,
    reduce := fun hX hp0 => ?_, accept := fun hX hp0 => ?_ }
  · obtain ⟨t, htr, hmem⟩ := hok.step _ hX
    obtain ⟨t', htr', hf⟩ := hr.find_cand hs (c := .shift) ⟨it, hit, afterDot_eq.mpr ⟨pr, hp, hX⟩⟩
    cases htr'.symm.trans (rowOfT_transTab st s ▸ htr)
    exact ⟨t, hf, hr.lt_accept (size_cert st ▸ mem_itemsOf hmem), Int.natCast_nonneg _, hmem⟩
  · obtain ⟨t, htr, hmem⟩ := hok.step _ hX
    exact ⟨t, hr.find_goto hlt (hr.rule_lt hp hX) (rowOfT_transTab st s ▸ htr), hmem⟩
  · exact mem_dot0Of.mpr ⟨(Array.getElem?_eq_some_iff.mp hq).1, hok.closure B q qr b hX hq hl hb⟩
  · exact hr.find_cand hs (c := .reduce it.p) ⟨hp0, pr, hp, hend hX ▸ hit⟩
  · have ha := hok.shape.p0 hp0
    have hit' := hend hX ▸ hit
    rw [hp0, ha] at hit'
    exact ⟨ha, hr.find_cand hs (a := 0) (c := .accept) ⟨pr, hp0 ▸ hp, hit'⟩⟩

theorem RunS.actEntryOK (hr : RunS info G nT nR ord st T) {s : Nat} {I : List Item}
    (hs : st.states[s]? = some I) {a : Nat} {act : Action}
    (hact : act ∈ cellAt G nT (trTerm st.transTab s) I a) :
    ActEntryOK G nT st.cert s (a : Int) (actCode act) := by
  have hso := hr.stateWf hs
  obtain ⟨hcand, hsh⟩ := mem_cand hso hact
  have key : 0 ≤ (a : Int) ∧ (a : Int).toNat < nT :=
    ⟨Int.natCast_nonneg a, hso.lt (cellAt_ne_nil_iff.mp (List.ne_nil_of_mem hact))⟩
  cases act with
  | accept =>
    obtain ⟨pr0, h0, hmem⟩ := hcand
    obtain ⟨S', hp0⟩ := hr.p0
    cases hp0.symm.trans h0
    have ha : a = 0 := hr.built.p0_la hr.noStart hs hmem rfl
    subst ha
    exact ⟨key, fun _ => ⟨rfl, 0, by rw [itemsOf_cert, hs]; exact hmem⟩, fun h => absurd rfl h,
      fun h => absurd rfl h⟩
  | reduce p =>
    obtain ⟨hpne, pr, hpr, hmem⟩ := hcand
    obtain ⟨h1, h2⟩ := reduceCode_neg hpne
    have h3 : (- -(p : Int)).toNat = p := by simp
    refine ⟨key, fun h => absurd h h1, fun _ h => absurd h h2, fun _ _ => ?_⟩
    simp only [actCode, h3]
    exact ⟨pr, hpr, a, by rw [itemsOf_cert, hs]; exact hmem⟩
  | shift t ps =>
    obtain ⟨it, hit, had⟩ := hcand
    have htr : lookupSym (.t a) (st.trans[s]?.getD []) = some t := by
      rw [← trTerm_eq]; exact hsh t ps rfl
    have hb := hr.built.backB hr.noStart htr
    have ha0 : a ≠ 0 := by
      rintro rfl
      obtain ⟨pr, hp, hX⟩ := afterDot_eq.mp had
      exact hr.noEof _ _ hp (List.mem_of_getElem? hX)
    exact ⟨key, fun h => absurd h (hr.lt_accept (size_cert st ▸ (backB_iff.mp hb).2.1)),
      fun _ _ => ⟨Int.natCast_ne_zero.mpr ha0, hb⟩,
      fun _ h => absurd (Int.natCast_nonneg t) (Int.not_le.mpr h)⟩

theorem RunS.gotoEntryB (hr : RunS info G nT nR ord st T) {s B t : Nat} (hB : B < nR)
    (htr : lookupSym (.n B) (st.trans[s]?.getD []) = some t) :
    Lox.LR.gotoEntryB G nR st.cert s (B : Int) (t : Int) = true :=
  gotoEntryB_iff.mpr ⟨Int.natCast_nonneg B, hB, Int.natCast_nonneg t, hr.built.backB hr.noStart htr⟩

theorem RunS.stateSafeB (hr : RunS info G nT nR ord st T) {s : Nat} (hlt : s < st.states.length) :
    Lox.LR.stateSafeB G nT nR T st.cert s = true := by
  obtain ⟨I, hs⟩ : ∃ I, st.states[s]? = some I := ⟨_, List.getElem?_eq_some_iff.mpr ⟨hlt, rfl⟩⟩
  obtain ⟨arow, harow, hrowA, _⟩ := hr.emitted.arow s hlt
  obtain ⟨hrowG, _⟩ := hr.emitted.grow s hlt
  unfold stateActionRow at harow
  simp only [hs, Option.getD_some] at harow
  unfold Lox.LR.stateSafeB
  simp only [hrowA, hrowG]
  rw [Bool.and_eq_true, Bool.and_eq_true]
  refine ⟨⟨?_, ?_⟩, ?_⟩
  · rw [List.all_eq_true]
    intro it hit
    obtain ⟨pr, hp, hok⟩ := hr.built.itemCOK hr.noStart nR hit
    exact itemSafeB_iff.mpr ⟨pr, hp, hr.itemSafeOK hp hok hlt⟩
  · rw [Bool.and_eq_true]
    refine ⟨nodupKeys_of_nodup ?_, ?_⟩
    · rw [actionRow_eq harow]
      exact nodup_keys_filterMap _ _ (nodup_termsOf hr.ordOK.nodup)
    rw [List.all_eq_true]
    rintro ⟨k, v⟩ he
    obtain ⟨a, act, rfl, hact, rfl⟩ := actionRow_entries harow he
    exact actEntryB_iff.mpr (hr.actEntryOK hs hact)
  · rw [Bool.and_eq_true]
    refine ⟨nodupKeys_of_nodup (nodup_keys_filterMap _ _ (nodup_rulesOf hr.ordOK.nodup)), ?_⟩
    rw [List.all_eq_true]
    rintro ⟨k, v⟩ he
    obtain ⟨B, hB, t, htr, rfl, rfl⟩ := mem_filterMap_row.mp he
    exact hr.gotoEntryB ((hr.ordOK.rules B).mp (mem_rulesOf.mp hB)) htr

/-- Everything `check` demands of state `s`: the rows as for `stateSafeB`, the items by
`Run.itemOK`. -/
theorem Run.stateB (hr : Run G nT nR ord st T) {s : Nat} (hlt : s < st.states.length) :
    Lox.LR.stateB G nT nR (firstFix G nT nR) T st.cert s = true := by
  obtain ⟨I, hs⟩ : ∃ I, st.states[s]? = some I := ⟨_, List.getElem?_eq_some_iff.mpr ⟨hlt, rfl⟩⟩
  have hsafe := hr.toRunS.stateSafeB hlt
  unfold Lox.LR.stateSafeB at hsafe
  unfold Lox.LR.stateB
  rw [Bool.and_eq_true, Bool.and_eq_true] at hsafe ⊢
  refine ⟨⟨?_, hsafe.1.2⟩, hsafe.2⟩
  rw [List.all_eq_true]
  intro it hit
  obtain ⟨pr, hp, hok⟩ := hr.built.itemCOK hr.noStart nR hit
  rw [Bool.and_eq_true]
  exact ⟨by simpa using hok.la,
    itemB_of hp hok.dot (hr.itemOK hs (by rw [itemsOf_cert, hs] at hit; exact hit) hp hok)⟩

theorem RunS.checkSafeB (hr : RunS info G nT nR ord st T) :
    Lox.LR.checkSafeB G nT nR T st.cert = true := by
  obtain ⟨S', h0⟩ := hr.p0
  unfold Lox.LR.checkSafeB
  simp only [prod0B_of h0, prodsB_emit (symsInRangeB_of hr.syms) hr.emitted.rules
    hr.emitted.termCounts, Bool.true_and, Bool.and_eq_true, List.all_eq_true, List.mem_range,
    decide_eq_true_eq]
  constructor
  · obtain ⟨I0, hI0, _⟩ := hr.built.inv.start
    have := (List.getElem?_eq_some_iff.mp hI0).1
    simpa [CState.cert] using this
  · intro s hs
    exact hr.stateSafeB (by simpa [CState.cert] using hs)

theorem Run.checkB (hr : Run G nT nR ord st T) : Lox.LR.checkB G nT nR T st.cert = true := by
  obtain ⟨S', h0⟩ := hr.p0
  unfold Lox.LR.checkB
  simp only [prod0B_of h0, noStartB_of h0 hr.noStart, prodsB_emit (symsInRangeB_of hr.syms)
    hr.emitted.rules hr.emitted.termCounts, firstFix_closed hr.syms, Bool.true_and,
    Bool.and_eq_true, List.all_eq_true, List.mem_range]
  constructor
  · obtain ⟨I0, hI0, hmem⟩ := hr.built.inv.start
    rw [itemsOf_cert, hI0]
    exact hasItem_iff.mpr hmem
  · intro s hs
    exact hr.stateB (by simpa [CState.cert] using hs)

end

end Lox.LR.Emit
