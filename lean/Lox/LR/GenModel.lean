import Lox.LR.Abstract
import Lox.Dec.Resolve
/-! Executable model of the generator's own LALR(1) lookahead machinery
(`/repo/internal/parsergen/lr1`): the pure functions that decide which lookaheads an item set
carries and which actions a state gets.

| Go                                             | model                                   |
|------------------------------------------------|-----------------------------------------|
| `first.go`   `firstSets` (fixpoint loop)       | `stepProd`, `round`, `iter`, `firstSets`|
| `first.go`   `first`, `First`                  | `firstSym`, `firstSeq`, `firstOfSyms`   |
| `closure.go` `Closure` (rounds over `pending`) | `expand`, `closureRound`, `closureLoop`, `closure?` |
| `goto.go`    `Goto`                            | `advance`, `goto?`                      |
| `next.go`    `Next`                            | `next` (canonical order, see there)     |
| `item.go`    `Item.IsKernel`, `SortItems`      | `isKernel`, `itemLt`, `sortItems`       |
| `item_set.go` `ItemSet.LR0Key`                 | `lr0Key`                                |
| `construct.go` `createActions` + `action.go`   | `want`, `cellOn`, `actionsOf`           |

Conventions (as in `Model.lean` / `Abstract.lean`): terminals and rules are numbers, terminal 0 is
EOF, production 0 is `S' → start`; an item is `Lox.LR.Item` (`p`, `d`, `a`). Go's `set.Set[T]` is a
duplicate-free list here (iteration order of a Go set is unspecified; every answer that leaves the
model is put in canonical order). The pseudo-terminal `Epsilon` of `first.go` is the `Bool`
component of an `Entry`. Go panics (index out of range, `TransitionMap.Get`, `AddShift`,
`AddAccept`) are the `none` answers of the `…Go` functions. Core Lean only. -/
namespace Lox.LR.Gen
open Lox.LR

/-! ## FIRST (`first.go`) -/

/-- A FIRST set: the terminals and whether `Epsilon` is a member. -/
abbrev Entry := List Nat × Bool

/-- `ruleFirst`: one entry per rule (`map[*Rule]*set.Set[*Terminal]`, keyed by rule number). -/
abbrev Tab := Array Entry

/-- `ruleFirst[rule]`; a rule that is not in the map has the empty set (the `nil` branch of
`first`). -/
def tget (F : Tab) (B : Nat) : Entry := F[B]?.getD ([], false)

/-- `first(ruleFirst, s)`: a terminal is its own FIRST set, a rule is looked up. -/
def firstSym (F : Tab) : Sym → Entry
  | .t a => ([a], false)
  | .n B => tget F B

/-- `set.Add`. -/
def addT (a : Nat) (l : List Nat) : List Nat := if a ∈ l then l else l ++ [a]

/-- Add every element of the second list to the first. -/
def union (l : List Nat) : List Nat → List Nat
  | [] => l
  | a :: r => union (addT a l) r

/-- The walk over a symbol string shared by `First` (over `syms`) and by the inner loop of
`firstSets` (over `prod.Terms`): collect the non-ε members of the FIRST set of each symbol while
the symbols so far all contain ε; the flag says whether the walk fell off the end (`addEpsilon` /
the final `firstSet.Add(Epsilon)`). -/
def firstSeq (F : Tab) : List Sym → Entry
  | [] => ([], true)
  | s :: r =>
    if (firstSym F s).2 then (union (firstSym F s).1 (firstSeq F r).1, (firstSeq F r).2)
    else ((firstSym F s).1, false)

/-- Number of rules that own a production (`len(g.Rules)` for the purposes of FIRST: a rule without
productions has the empty FIRST set either way). -/
def numRules (G : Grammar) : Nat := G.prods.toList.foldl (fun m pr => max m (pr.lhs + 1)) 0

/-- The body of `for _, prod := range g.Prods` in `firstSets`: the walk over `prod.Terms`, its
results added to `ruleFirst[prod.Rule]`; the flag is what the iteration contributes to `changed`.
(The Go loop adds to the set while it walks; what it reads back from the set being modified are
only elements it has just added to that same set, so walking first and adding afterwards yields
the same set.) -/
def stepProd (F : Tab) (pr : Prod) : Tab × Bool :=
  if pr.lhs < F.size then
    let cur := tget F pr.lhs
    let e := firstSeq F pr.rhs
    let new : Entry := (union cur.1 e.1, cur.2 || e.2)
    (F.setIfInBounds pr.lhs new, new != cur)
  else (F, false)

/-- One pass over all productions. -/
def round (G : Grammar) (F : Tab) : Tab × Bool :=
  G.prods.toList.foldl (fun st pr => ((stepProd st.1 pr).1, st.2 || (stepProd st.1 pr).2)) (F, false)

/-- `for changed := true; changed; { … }` with fuel; the flag says that a pass without change was
reached (the loop exited by itself). -/
def iter (G : Grammar) : Nat → Tab → Tab × Bool
  | 0, F => (F, false)
  | n + 1, F => if (round G F).2 then iter G n (round G F).1 else ((round G F).1, true)

def firstInit (G : Grammar) : Tab := Array.replicate (numRules G) ([], false)

/-- (#rules × (#terminals + 1)) + 1 passes: every pass but the last adds a fact. -/
def firstFuel (G : Grammar) (nT : Nat) : Nat := numRules G * (nT + 1) + 1

/-- `firstSets(g)`. `nT` = `len(g.Terminals)` (used for the fuel only). -/
def firstSets (G : Grammar) (nT : Nat) : Tab := (iter G (firstFuel G nT) (firstInit G)).1

/-- The loop of `firstSets` stopped by itself within the fuel. -/
def firstConverged (G : Grammar) (nT : Nat) : Bool := (iter G (firstFuel G nT) (firstInit G)).2

/-- `First(g, syms)`. -/
def firstOfSyms (G : Grammar) (nT : Nat) (α : List Sym) : Entry := firstSeq (firstSets G nT) α

/-- Every terminal on a right-hand side is below `nT`. -/
def termsBelowB (G : Grammar) (nT : Nat) : Bool :=
  G.prods.toList.all fun pr => pr.rhs.all fun s => match s with
    | .t a => decide (a < nT)
    | .n _ => true

/-- A bound that always works: one more than the largest terminal of a right-hand side. -/
def termBound (G : Grammar) : Nat :=
  G.prods.toList.foldl (fun m pr => pr.rhs.foldl (fun m s => match s with
    | .t a => max m (a + 1)
    | .n _ => m) m) 0

/-- FIRST(α a) as the list of lookaheads `Closure` iterates over: `First(g, append(beta, a))`. -/
def firstLA (F : Tab) (β : List Sym) (a : Nat) : List Nat := (firstSeq F (β ++ [.t a])).1

/-! ## Canonical order (`SortItems`, sorted keys) -/

/-- Insert into a strictly increasing list (no duplicates). -/
def sinsert {α : Type} (lt : α → α → Bool) (a : α) : List α → List α
  | [] => [a]
  | b :: r => if lt a b then a :: b :: r else if lt b a then b :: sinsert lt a r else b :: r

def ssort {α : Type} (lt : α → α → Bool) (l : List α) : List α := l.foldr (sinsert lt) []

/-- The order of `SortItems` (item.go): by production, dot, lookahead. -/
def itemLt (x y : Item) : Bool :=
  x.p < y.p || (x.p == y.p && (x.d < y.d || (x.d == y.d && x.a < y.a)))

/-- `ItemSet.Items()`: the elements of the set in `SortItems` order. -/
def sortItems (I : List Item) : List Item := ssort itemLt I

def pairLt (x y : Nat × Nat) : Bool := x.1 < y.1 || (x.1 == y.1 && x.2 < y.2)

/-- Terminals before rules, each by number. (`Next` sorts by NAME; names are not part of
`Lox.LR.Grammar`, the order of `Next` only decides in which order states are numbered.) -/
def symLt : Sym → Sym → Bool
  | .t a, .t b => a < b
  | .t _, .n _ => true
  | .n _, .t _ => false
  | .n a, .n b => a < b

/-! ## Closure (`closure.go`) -/

/-- `ruleB.Prods`: the productions of rule `B`, by index. -/
def prodsOf (G : Grammar) (B : Nat) : List Nat :=
  (List.range G.prods.size).filter fun q => match G.prods[q]? with
    | some pr => pr.lhs == B
    | none => false

/-- The symbol after the dot. -/
def afterDot (G : Grammar) (it : Item) : Option Sym :=
  match G.prods[it.p]? with
  | some pr => pr.rhs[it.d]?
  | none => none

/-- What one pending item `[A → α·Bβ, a]` asks for: `[B → ·γ, x]` for every production of `B` and
every `x ∈ FIRST(βa)` (the body of `for _, item := range pendingItems`). -/
def expand (G : Grammar) (F : Tab) (it : Item) : List Item :=
  match G.prods[it.p]? with
  | none => []
  | some pr =>
    match pr.rhs[it.d]? with
    | some (.n B) =>
      (prodsOf G B).flatMap fun q => (firstLA F (pr.rhs.drop (it.d + 1)) it.a).map fun x => ⟨q, 0, x⟩
    | _ => []

/-- `if result.Add(newItem) { pending.Add(newItem) }` on the pair (result, pending). -/
def addNew (st : List Item × List Item) (x : Item) : List Item × List Item :=
  if x ∈ st.1 then st else (x :: st.1, x :: st.2)

/-- One pass of `for !pending.Empty()`: all items of `pending` are expanded, what is new goes to
`result` and to the next `pending`. -/
def closureRound (G : Grammar) (F : Tab) (R P : List Item) : List Item × List Item :=
  (P.flatMap (expand G F)).foldl addNew (R, [])

/-- The loop with fuel; `none` = fuel exhausted. -/
def closureLoop (G : Grammar) (F : Tab) : Nat → List Item → List Item → Option (List Item)
  | 0, _, _ => none
  | n + 1, R, P =>
    if P.isEmpty then some R
    else closureLoop G F n (closureRound G F R P).1 (closureRound G F R P).2

/-- Every pass but the first and the last adds one of the `#prods × #terminals` items
`[q, 0, x]`. -/
def closureFuel (G : Grammar) (nT : Nat) : Nat := G.prods.size * nT + 2

/-- `Closure(g, i)` over a given FIRST table. `result.AddSet(i); pending.AddSet(i)`, then the loop. -/
def closureWith (G : Grammar) (F : Tab) (fuel : Nat) (I : List Item) : Option (List Item) :=
  closureLoop G F fuel (I.foldl addNew ([], [])).1 (I.foldl addNew ([], [])).2

/-- `Closure(g, i)`; `none` only if the fuel ran out (never for well-formed arguments:
`closure_isSome`). -/
def closure? (G : Grammar) (nT : Nat) (I : List Item) : Option (List Item) :=
  closureWith G (firstSets G nT) (closureFuel G nT) I

def closure (G : Grammar) (nT : Nat) (I : List Item) : List Item := (closure? G nT I).getD []

/-- Would the Go code panic on this item when `Closure` processes it? (`g.Prods[item.Prod]`,
`prod.Terms[item.Dot]`, `g.Terminals[item.Lookahead]`: index out of range.) -/
def itemPanics (G : Grammar) (nT : Nat) (it : Item) : Bool :=
  match G.prods[it.p]? with
  | none => true
  | some pr =>
    if it.d = pr.rhs.length then false
    else match pr.rhs[it.d]? with
      | none => true
      | some (.t _) => false
      | some (.n _) => decide (nT ≤ it.a)

/-- `Closure` including the panics of the Go code (`none`). -/
def closureGo (G : Grammar) (nT : Nat) (I : List Item) : Option (List Item) :=
  if I.any (itemPanics G nT) then none else closure? G nT I

/-! ## Goto (`goto.go`) -/

/-- The items of `from` with `sym` after the dot, advanced over it. -/
def advance (G : Grammar) (I : List Item) (X : Sym) : List Item :=
  I.filterMap fun it => if afterDot G it = some X then some ⟨it.p, it.d + 1, it.a⟩ else none

/-- `Goto(g, from, sym)`. -/
def goto? (G : Grammar) (nT : Nat) (I : List Item) (X : Sym) : Option (List Item) :=
  closure? G nT (advance G I X)

def goto (G : Grammar) (nT : Nat) (I : List Item) (X : Sym) : List Item := (goto? G nT I X).getD []

/-- The panics of `Goto` itself: `g.Prods[i.Prod]`, `prod.Terms[i.Dot]` with the dot beyond the
end. -/
def gotoItemPanics (G : Grammar) (it : Item) : Bool :=
  match G.prods[it.p]? with
  | none => true
  | some pr => decide (pr.rhs.length < it.d)

def gotoGo (G : Grammar) (nT : Nat) (I : List Item) (X : Sym) : Option (List Item) :=
  if I.any (gotoItemPanics G) then none else closureGo G nT (advance G I X)

/-! ## Next (`next.go`) -/

/-- The symbols after a dot, without duplicates, in the order `symLt`. -/
def next (G : Grammar) (I : List Item) : List Sym :=
  I.foldr (fun it acc => match afterDot G it with
    | some X => sinsert symLt X acc
    | none => acc) []

/-- `Next` including its only panic: `g.Prods[i.Prod]` out of range (a dot beyond the end is
skipped by `i.Dot >= len(prod.Terms)`). -/
def nextGo (G : Grammar) (I : List Item) : Option (List Sym) :=
  if I.any (fun it => (G.prods[it.p]?).isNone) then none else some (next G I)

/-! ## LR0Key (`item_set.go`) -/

/-- `Item.IsKernel`. -/
def isKernel (it : Item) : Bool := it.p == 0 || it.d != 0

/-- `ItemSet.LR0Key`: the (production, dot) pairs of the kernel items, each once, in `SortItems`
order (the Go key is this list written as big-endian `uint32`s). -/
def lr0Key (I : List Item) : List (Nat × Nat) :=
  I.foldr (fun it acc => if isKernel it then sinsert pairLt (it.p, it.d) acc else acc) []

/-! ## createActions (`construct.go`) -/

open Lox.Dec (Action Call Panic buildCell)

/-- What `createActions` does for one item. -/
inductive Want where
  | nothing                       -- a rule after the dot
  | panic                         -- index out of range / `TransitionMap.Get`: no transition
  | call (a : Nat) (c : Call)     -- a call on the action cell of terminal `a`
  deriving DecidableEq, Repr

/-- The body of `for _, item := range state.Items()` in `createActions`; `tr` is
`t.Transitions(state)` restricted to terminals. -/
def want (G : Grammar) (nT : Nat) (tr : Nat → Option Nat) (it : Item) : Want :=
  match G.prods[it.p]? with
  | none => .panic
  | some pr =>
    if it.d = pr.rhs.length then
      if nT ≤ it.a then .panic
      else if it.p = 0 then .call it.a .accept else .call it.a (.reduce it.p)
    else match pr.rhs[it.d]? with
      | none => .panic
      | some (.n _) => .nothing
      | some (.t x) =>
        match tr x with
        | some s => .call x (.shift s it.p)
        | none => .panic

/-- The calls on the cell of terminal `a`, in the order `createActions` makes them. -/
def callsOn (G : Grammar) (nT : Nat) (tr : Nat → Option Nat) (I : List Item) (a : Nat) : List Call :=
  (sortItems I).filterMap fun it => match want G nT tr it with
    | .call b c => if b = a then some c else none
    | _ => none

/-- The action cell (state, `a`) after `createActions`: the candidate actions before
`resolveConflicts`. -/
def cellOn (G : Grammar) (nT : Nat) (tr : Nat → Option Nat) (I : List Item) (a : Nat) :
    Except Panic (List Action) :=
  buildCell (callsOn G nT tr I a)

/-- The terminals that get a cell, increasing. -/
def cellTerminals (G : Grammar) (nT : Nat) (tr : Nat → Option Nat) (I : List Item) : List Nat :=
  I.foldr (fun it acc => match want G nT tr it with
    | .call b _ => sinsert (fun x y : Nat => decide (x < y)) b acc
    | _ => acc) []

/-- All cells of a state; `none` = the Go code panics. -/
def actionsOf (G : Grammar) (nT : Nat) (tr : Nat → Option Nat) (I : List Item) :
    Option (List (Nat × List Action)) :=
  if I.any (fun it => want G nT tr it == .panic) then none
  else (cellTerminals G nT tr I).mapM fun a => match cellOn G nT tr I a with
    | .ok c => some (a, c)
    | .error _ => none

end Lox.LR.Gen
