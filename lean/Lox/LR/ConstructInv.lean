import Lox.LR.ConstructBasics
/-! What the loop invariant of the model of `ConstructLALR` (`Lox/LR/ConstructModel.lean`) is
stated with: the automaton skeleton `skelOf` of a table (its edges are the recorded transitions),
monotonicity of paths and LALR(1) items in the edges, the kernel cores of a state and of a `Goto`
(`KJ`, `KC`: they decide which state a transition leads to), and what `Goto` returns
(`GotoSpec`). -/
namespace Lox.LR.Cons
open Lox.LR Lox.LR.Gen

def skelOf (st : CState) : Auto := skelAuto st.transTab st.cert

theorem trans_skelOf (st : CState) (s : Nat) (X : Sym) :
    trans (skelOf st) s X = lookupSym X (st.trans[s]?.getD []) := by
  unfold skelOf
  rw [trans_skel]
  simp [rowOfT, CState.transTab]

theorem items_skelOf (st : CState) (s : Nat) : (skelOf st).items s = st.states[s]?.getD [] := by
  simp [skelOf, skelAuto, itemsOf, CState.cert]

theorem mem_items_skelOf {st : CState} {s : Nat} {it : Item} :
    it ∈ (skelOf st).items s ↔ ∃ I, st.states[s]? = some I ∧ it ∈ I := by
  rw [items_skelOf]
  exact Util.mem_getD_nil

def TransSub (A A' : Auto) : Prop := ∀ s X t, trans A s X = some t → trans A' s X = some t

theorem Path.mono {A A' : Auto} (h : TransSub A A') {s : Nat} {γ : List Sym} {t : Nat}
    (hp : Path A s γ t) : Path A' s γ t := by
  induction hp with
  | nil => exact .nil _
  | snoc _ htr ih => exact .snoc ih (h _ _ _ htr)

theorem LALRItem.mono {G : Grammar} {A A' : Auto} (h : TransSub A A') {s : Nat} {it : Item}
    (hi : LALRItem G A s it) : LALRItem G A' s it := by
  obtain ⟨γ, hp, hl⟩ := hi
  exact ⟨γ, Path.mono h hp, hl⟩

theorem _root_.Lox.LR.Cand.mono_trans {G : Grammar} {A B : Auto} {I : Nat → Item → Prop} {s a : Nat}
    {act : Act} (hsub : TransSub A B) (h : Cand G A I s a act) : Cand G B I s a act := by
  cases h with
  | shift hmem hp hX htr => exact .shift hmem hp hX (hsub _ _ _ htr)
  | reduce hmem hp hp0 => exact .reduce hmem hp hp0
  | accept hmem ha => exact .accept hmem ha

/-- The closure rule of the generator (`SFirst`) is the closure clause of the definition
(`First`). -/
theorem lalr_closure_step {G : Grammar} {A : Auto} {s : Nat}
    {it new : Item} (h : LALRItem G A s it) (hr : ClosureRule G it new) : LALRItem G A s new := by
  obtain ⟨γ, hpath, hl⟩ := h
  obtain ⟨pr, B, qr, hp, hX, hq, hlhs, hd, hf⟩ := hr
  obtain ⟨np, nd, na⟩ := new
  cases hd
  exact ⟨γ, hpath, .closure hl hp hX hq hlhs ((sfirst_iff_first _ _ _).mp hf)⟩

/-- `pd` is a kernel core of `Goto(I, X)` (semantically: of the closure of the advanced items). -/
def KC (G : Grammar) (I : List Item) (X : Sym) (pd : Nat × Nat) : Prop :=
  ∃ x, ClosureOf G (advance G I X) x ∧ isKernel x = true ∧ (x.p, x.d) = pd

/-- `pd` is a kernel core of the item list `J` (the members of `lr0Key J`). -/
def KJ (J : List Item) (pd : Nat × Nat) : Prop := ∃ y ∈ J, isKernel y = true ∧ (y.p, y.d) = pd

theorem mem_kernelCores_KJ {J : List Item} {pd : Nat × Nat} :
    pd ∈ kernelCores J ↔ KJ J pd := by
  unfold kernelCores KJ
  simp only [List.mem_map, List.mem_filter]
  constructor
  · rintro ⟨y, ⟨hy, hk⟩, he⟩
    exact ⟨y, hy, hk, he⟩
  · rintro ⟨y, hy, hk, he⟩
    exact ⟨y, ⟨hy, hk⟩, he⟩

theorem isKernel_core (x : Item) (a : Nat) : isKernel ⟨x.p, x.d, a⟩ = isKernel x := rfl

theorem KJ_mono {J J' : List Item} (h : CoresSub J J') (pd : Nat × Nat) (hk : KJ J pd) :
    KJ J' pd := by
  obtain ⟨y, hy, hk, he⟩ := hk
  obtain ⟨a, ha⟩ := h y hy
  exact ⟨⟨y.p, y.d, a⟩, ha, hk, he⟩

theorem KJ_congr {J J' : List Item} (h1 : CoresSub J J') (h2 : CoresSub J' J) (pd : Nat × Nat) :
    KJ J pd ↔ KJ J' pd :=
  ⟨KJ_mono h1 pd, KJ_mono h2 pd⟩

theorem KC_mono {G : Grammar} {I I' : List Item}
    (h : CoresSub I I') (X : Sym) (pd : Nat × Nat) (hk : KC G I X pd) : KC G I' X pd := by
  obtain ⟨x, hx, hker, he⟩ := hk
  have := closureOf_cores (K := advance G I X) (ClosureOf G (advance G I' X))
    (fun it new h1 h2 => .step h1 h2)
    (fun y hy => by
      obtain ⟨a, ha⟩ := advance_cores h X y hy
      exact ⟨a, .base ha⟩) hx
  obtain ⟨a, ha⟩ := this
  exact ⟨⟨x.p, x.d, a⟩, ha, hker, he⟩

theorem KC_congr {G : Grammar} {I I' : List Item}
    (h1 : CoresSub I I') (h2 : CoresSub I' I) (X : Sym) (pd : Nat × Nat) :
    KC G I X pd ↔ KC G I' X pd :=
  ⟨KC_mono h1 X pd, KC_mono h2 X pd⟩

structure GotoSpec (G : Grammar) (I : List Item) (X : Sym) (T : List Item) : Prop where
  mem : ∀ x, x ∈ T ↔ ClosureOf G (advance G I X) x
  closed : ClosedSet G T

theorem goto_spec {G : Grammar} {nT : Nat} (ht : TermsBelow G nT) {I T : List Item} {X : Sym}
    (h : goto? G nT I X = some T) : GotoSpec G I X T :=
  ⟨mem_closure_iff ht h, closedSet_closure ht h⟩

theorem GotoSpec.kc {G : Grammar} {I T : List Item} {X : Sym} (h : GotoSpec G I X T)
    (pd : Nat × Nat) : KC G I X pd ↔ KJ T pd := by
  constructor
  · rintro ⟨x, hx, hk, he⟩
    exact ⟨x, (h.mem x).mpr hx, hk, he⟩
  · rintro ⟨x, hx, hk, he⟩
    exact ⟨x, (h.mem x).mp hx, hk, he⟩

theorem GotoSpec.coresSub {G : Grammar} {I T J : List Item}
    {X : Sym} (h : GotoSpec G I X T) (hJ : ClosedSet G J) (hk : ∀ pd, KJ T pd → KJ J pd) :
    CoresSub T J := by
  intro x hx
  refine closureOf_cores (K := advance G I X) (· ∈ J) (fun it new h r => hJ it h new r) ?_
    ((h.mem x).mp hx)
  intro y hy
  obtain ⟨it, _, _, rfl⟩ := mem_advance.mp hy
  have hyT : (⟨it.p, it.d + 1, it.a⟩ : Item) ∈ T := (h.mem _).mpr (.base hy)
  obtain ⟨⟨zp, zd, za⟩, hz, _, he⟩ := hk (it.p, it.d + 1) ⟨_, hyT, by simp [isKernel], rfl⟩
  cases he
  exact ⟨za, hz⟩

end Lox.LR.Cons
