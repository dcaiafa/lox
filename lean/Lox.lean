-- Root of the `Lox` library: everything that must be kernel-checked is imported here.
import Lox.Drv.Common
import Lox.Rang3.Drv
import Lox.Table.Drv
import Lox.LR.Drv
import Lox.Lex.Drv
import Lox.Dec.Drv
import Lox.LR.Model
import Lox.LR.Sugar
import Lox.Lex.Model
import Lox.Props.C15
import Lox.Util.OrdInsert
import Lox.Util.List
import Lox.Util.Fresh
import Lox.Util.PowerSet
import Lox.Util.FoldM
import Lox.Util.Nat
import Lox.Util.Nodup
import Lox.Table.Model
import Lox.Table.Proofs
import Lox.Props.C10
import Lox.Dec.DrvTerminals
import Lox.Props.C19
import Lox.Lex.Actions
import Lox.Lex.Regex
import Lox.Lex.RegexProofs
import Lox.Lex.Bisim
import Lox.Lex.Runtime
import Lox.Lex.DrvRuntime
import Lox.Rang3.ClassExpr
import Lox.Props.C01
import Lox.Props.C03
import Lox.Dec.DrvResolve
import Lox.Dec.Interleave
import Lox.Dec.AssocList
import Lox.Dec.Order
import Lox.Dec.Resolve
import Lox.Dec.ResolveProofs
import Lox.Dec.Terminals
import Lox.Dec.TerminalsProofs
import Lox.LR.Abstract
import Lox.LR.Check
import Lox.LR.RowReaders
import Lox.LR.TableRows
import Lox.LR.CheckSound
import Lox.LR.DerBasics
import Lox.LR.Complete
import Lox.LR.DrvValidate
import Lox.LR.Example
import Lox.LR.Sound
import Lox.Lex.BsearchProofs
import Lox.Lex.CursorProofs
import Lox.Lex.RuntimeWF
import Lox.Lex.RuntimeDecode
import Lox.Lex.RuntimeModeActs
import Lox.Lex.RuntimeStep
import Lox.Lex.RuntimeActions
import Lox.Lex.RuntimeDriver
import Lox.Lex.RuntimeProofs
import Lox.Props.C04
import Lox.Props.C11
import Lox.Props.C18
import Lox.Rang3.Model
import Lox.Rang3.Proofs
import Lox.Rang3.Proofs.Defs
import Lox.Rang3.Proofs.Flatten
import Lox.Rang3.Proofs.Heap
import Lox.Rang3.Proofs.Normalize
import Lox.Rang3.Proofs.Subtract
import Lox.Dec.OpPrec
import Lox.Dec.OpPrecProofs
import Lox.Props.C05
import Lox.Props.C13
import Lox.Rang3.Proofs.Canonical
import Lox.Rang3.Proofs.FlattenLog
import Lox.LR.ParseClean
import Lox.LR.Refine
import Lox.LR.ValTree
import Lox.LR.TermCounter
import Lox.LR.TermSound
import Lox.LR.Terminate
import Lox.Lex.StepWProofs
import Lox.Lex.TableSpecProofs
import Lox.Lex.BisimProofs
import Lox.Lex.MunchProofs
import Lox.Lex.Spec
import Lox.Lex.SpecProofs
import Lox.Lex.TableProofs
import Lox.Props.C02
import Lox.Props.C07
import Lox.Props.C10_lex
import Lox.Rang3.Proofs.Relabel
import Lox.Dec.Analyze
import Lox.Dec.Assign
import Lox.Dec.DrvAnalyze
import Lox.Dec.DrvAssign
import Lox.LR.Desugar
import Lox.LR.DrvDesugar
import Lox.LR.SoundLog
import Lox.Lex.BisimNG
import Lox.Lex.BisimNGProofs
import Lox.Props.C08
import Lox.LR.DesugarProofs
import Lox.LR.DesugarLang
import Lox.LR.RuntimeDefs
import Lox.LR.RuntimeExample
import Lox.LR.RuntimeProofs
import Lox.LR.RuntimeProofsBounds
import Lox.LR.RuntimeProofsErase
import Lox.LR.RuntimeProofsRecover
import Lox.LR.SugarSpec
import Lox.Lex.NGShapeProofs
import Lox.Props.C16
import Lox.LR.RuntimeProofsCheck
import Lox.LR.RuntimeProofsErrors
import Lox.LR.RuntimeProofsTerm
import Lox.LR.SugarValues
import Lox.Props.C01_sugar
import Lox.Props.C09
import Lox.Dec.AssignBind
import Lox.Dec.AssignDerive
import Lox.Dec.AssignProofs
import Lox.Dec.AssignRun
import Lox.Dec.AssignShape
import Lox.Dec.AssignSpec
import Lox.Props.C03_sugar
import Lox.Props.C06
import Lox.Dec.AnalyzeTraverse
import Lox.Dec.AnalyzeNames
import Lox.Dec.AnalyzeCheck
import Lox.Dec.AnalyzeGenerate
import Lox.Dec.AnalyzeStages
import Lox.Dec.AnalyzeItems
import Lox.Dec.AnalyzeProofs
import Lox.Dec.AnalyzeWhere
import Lox.Dec.AssignNames
import Lox.LR.RuntimeProofsCover
import Lox.Dec.AnalyzeDecide
import Lox.Dec.AnalyzeFaults
import Lox.Dec.DrvFrontText
import Lox.Dec.FrontText
import Lox.LR.DrvRecovery
import Lox.LR.RuntimeSound
import Lox.LR.RuntimeSoundExample
import Lox.LR.RuntimeSoundPanic
import Lox.LR.RuntimeSoundAbs
import Lox.LR.RuntimeSoundTerm
import Lox.Props.C12
import Lox.Props.C17
import Lox.Props.C18_runtime
import Lox.LR.RuntimeSoundFirst
import Lox.LR.DrvJustify
import Lox.LR.Justify
import Lox.LR.JustifySound
import Lox.LR.LALR
import Lox.LR.LALRBasics
import Lox.LR.DrvGenModel
import Lox.LR.GenModel
import Lox.LR.FirstTheory
import Lox.LR.GenModelProofs
import Lox.LR.GenModelProofsActions
import Lox.LR.GenModelProofsClosure
import Lox.LR.GenModelProofsKey
import Lox.LR.LALRExact
import Lox.LR.PrefixSound
import Lox.Lex.DrvGen
import Lox.Lex.GenDFA
import Lox.Lex.GenDFAProofs
import Lox.Lex.GenLabelProofs
import Lox.Lex.GenRangesProofs
import Lox.Lex.GenNFA
import Lox.Lex.GenNFAProofs
import Lox.Lex.GenNFASound
import Lox.Lex.GenNFAViable
import Lox.Lex.GenNormProofs
import Lox.Lex.GenOpt
import Lox.Props.C01_gen
import Lox.Props.C04_exact
import Lox.Props.C04_gen
import Lox.Props.C09_prefix
import Lox.Lex.GenBuildProofs
import Lox.Lex.GenOptProofs
import Lox.Lex.GenTotalProofs
import Lox.Props.C02_gen
import Lox.Props.C10_gen
import Lox.LR.ConflictCheck
import Lox.LR.SkelBasics
import Lox.LR.ConflictCheckSound
import Lox.LR.ConflictSpec
import Lox.LR.ConflictVerdict
import Lox.LR.ConstructBasics
import Lox.LR.ConstructInv
import Lox.LR.ConstructLoop
import Lox.LR.ConstructModel
import Lox.LR.ConstructStep
import Lox.LR.ConstructTerm
import Lox.LR.ConstructWf
import Lox.LR.DrvConflict
import Lox.LR.DrvConstruct
import Lox.Props.C04_construct
import Lox.Props.C04_verdict
import Lox.Rang3.ClassText
import Lox.Lex.EmitModel
import Lox.Lex.DrvEmit
import Lox.Lex.EmitRowProofs
import Lox.Lex.EmitArrayProofs
import Lox.Lex.GenShapeProofs
import Lox.Lex.GenModeProofs
import Lox.Props.C02_e2e
import Lox.Props.C10_e2e
import Lox.LR.EmitModel
import Lox.LR.DrvEmit
import Lox.LR.EmitProofsTable
import Lox.LR.EmitProofsCells
import Lox.LR.EmitProofsAuto
import Lox.LR.CheckFirst
import Lox.LR.EmitProofsCheck
import Lox.Props.C01_e2e
import Lox.Dec.Containers
import Lox.Dec.DrvContainers
import Lox.Dec.ContainersHeap
import Lox.Dec.ContainersChain
import Lox.Dec.ContainersProofs
import Lox.Dec.ContainersOps
import Lox.Dec.ContainersSetProofs
import Lox.Dec.ContainersMultiProofs
import Lox.Props.C13_containers
import Lox.LR.VerdictE2E
import Lox.LR.VerdictE2ECells
import Lox.LR.VerdictE2EBool
import Lox.Props.C04_e2e
import Lox.LR.UnusedTerminals
import Lox.LR.DesugarGrammar
import Lox.LR.RuntimeClean
import Lox.Props.C01_sugar_e2e
import Lox.Props.C03_e2e
import Lox.Props.C16_e2e
import Lox.Lex.GenSpecModel
import Lox.Lex.GenSpecProofs
import Lox.Lex.GenSpecMunch
import Lox.Lex.GenSpecRun
import Lox.Lex.DrvGenSpec
import Lox.Props.C07_e2e
import Lox.Props.C11_e2e
import Lox.Props.C19_e2e
import Lox.LR.EmitProofsJustify
import Lox.Props.C09_e2e
import Lox.Examples.ConflictRuns
import Lox.Examples.KwLexer
import Lox.Examples.SugarList
import Lox.Examples.SugarError
import Lox.Examples.GrammarD1
import Lox.Examples.GrammarD30
import Lox.Examples.GrammarNoEof
